/-
  Well-formed histories and reachable states.

  The environment assumptions of the theorems live here, and only here:
  * connection ids are fresh at `connect` (Autobahn creates a new protocol object);
  * times never go back (`recv`, `sweep`, `restart` carry the server clock);
  * the id returned by `generate_mailbox_id()` (`fresh`) has never been seen before, in any
    role -- the model's rendering of "64 random bits do not collide and cannot be guessed";
  * a `crashIn` wraps a plain operation.
  `GSys` adds the two ghost components these conditions talk about (the latest time and
  the mailbox ids seen so far); they never influence `Sys.step`.
-/
import Wormhole.Inv.Defs

namespace Wormhole

def Op.time? : Op → Option Time
  | .recv _ t _ _ => some t
  | .sweep now _ => some now
  | .restart t => some t
  | .crashIn _ op => op.time?
  | _ => none

/-- mailbox ids an operation mentions (generated or client-chosen) -/
def Cmd.mailboxIds : Cmd → List String
  | .allocate _ _ fresh => [fresh]
  | .claim _ fresh => [fresh]
  | .open_ (some m) => [m]
  | .close (some m) _ => [m]
  | _ => []

def Op.mailboxIds : Op → List String
  | .recv _ _ _ cmd => cmd.mailboxIds
  | .crashIn _ op => op.mailboxIds
  | _ => []

/-- the id `generate_mailbox_id()` would return in this operation, if it may be asked -/
def Op.fresh? : Op → Option String
  | .recv _ _ _ (.allocate _ _ fresh) => some fresh
  | .recv _ _ _ (.claim _ fresh) => some fresh
  | .crashIn _ op => op.fresh?
  | _ => none

structure GSys where
  sys : Sys
  clock : Time
  used : List String

namespace GSys

def init (cfg : Cfg) (rb : Time) : GSys := ⟨{ cfg := cfg, rebooted := rb }, rb, []⟩

def step (g : GSys) (op : Op) : GSys :=
  ⟨g.sys.step op, (match op.time? with | some t => t | none => g.clock), g.used ++ op.mailboxIds⟩

/-- well-formedness of one operation in a ghost state -/
structure WFOp (g : GSys) (op : Op) : Prop where
  /-- a new connection gets an id no live connection has -/
  connFresh : ∀ c, op = .connect c → ∀ x ∈ g.sys.conns, x.id ≠ c
  /-- time does not go back -/
  mono : ∀ t, op.time? = some t → g.clock ≤ t
  /-- generated mailbox ids are new -/
  idFresh : ∀ f, op.fresh? = some f → f ∉ g.used
  /-- `crashIn` wraps a plain operation and never a connect of a used id -/
  crashPlain : ∀ k op', op = .crashIn k op' → op'.isCrash = false ∧
    (∀ c, op' = .connect c → ∀ x ∈ g.sys.conns, x.id ≠ c)

def run (g : GSys) : List Op → GSys
  | [] => g
  | op :: rest => (g.step op).run rest

def WF (g : GSys) : List Op → Prop
  | [] => True
  | op :: rest => g.WFOp op ∧ (g.step op).WF rest

inductive Reach : GSys → Prop
  | init (cfg : Cfg) (rb : Time) : Reach (GSys.init cfg rb)
  | step {g : GSys} (op : Op) : Reach g → g.WFOp op → Reach (g.step op)

inductive ReachCF : GSys → Prop
  | init (cfg : Cfg) (rb : Time) : ReachCF (GSys.init cfg rb)
  | step {g : GSys} (op : Op) : ReachCF g → g.WFOp op → op.isCrash = false → ReachCF (g.step op)

theorem ReachCF.reach {g : GSys} (h : ReachCF g) : Reach g := by
  induction h with
  | init cfg rb => exact .init cfg rb
  | step op _ hw _ ih => exact .step op ih hw

theorem reach_run {g : GSys} (hg : Reach g) : ∀ (ops : List Op), g.WF ops → Reach (g.run ops) := by
  intro ops
  induction ops generalizing g with
  | nil => intro _; exact hg
  | cons op rest ih => intro h; exact ih (.step op hg h.1) h.2

theorem run_append (g : GSys) (l1 l2 : List Op) : g.run (l1 ++ l2) = (g.run l1).run l2 := by
  induction l1 generalizing g with
  | nil => rfl
  | cons op rest ih => exact ih _

theorem WF_append {g : GSys} {l1 l2 : List Op} : g.WF (l1 ++ l2) ↔ g.WF l1 ∧ (g.run l1).WF l2 := by
  induction l1 generalizing g with
  | nil => exact ⟨fun h => ⟨trivial, h⟩, fun h => h.2⟩
  | cons op rest ih => exact ⟨fun h => ⟨⟨h.1, (ih.1 h.2).1⟩, (ih.1 h.2).2⟩, fun h => ⟨h.1.1, ih.2 ⟨h.1.2, h.2⟩⟩⟩

theorem run_sys (g : GSys) (ops : List Op) : (g.run ops).sys = (g.sys.run ops).1 := by
  induction ops generalizing g with
  | nil => rfl
  | cons op rest ih => simp [run, Sys.run, ih, step]

end GSys
end Wormhole
