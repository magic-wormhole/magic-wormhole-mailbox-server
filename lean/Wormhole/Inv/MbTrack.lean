/-
  Properties that hold THROUGHOUT a step: of the live database, of the committed copy and of every
  snapshot a crash can leave (`Track R`).

  `ClosedBase T` : `T` survives commits, usage writes and every event but a `message` frame
  `ClosedG T`    : + the statements that only add rows / set fields (`GrowPrim`)
  `Closed T`     : + updates of a connection record that keep binding, handle, subscription
  `ClosedC T`    : + `T` does not look at the connection records at all
  `ClosedDel T`  : `ClosedBase` + the statements of the sweep (`DelPrim`)
  `MsgClosed T`  : `T` survives `message` frames too
  Each says which statements of Inv/Acts.lean `T` survives (`….stmt`), hence which functions;
  `Mailbox.close` needs two extra facts about `T`, hypotheses of `onMessage_track`.
-/
import Wormhole.Inv.MbSpec
import Wormhole.Inv.Acts

namespace Wormhole

/-- channel statements that only add rows or set fields (and the by-id delete of `release`): the kinds
    `grow`, `add` and `release` of Inv/Acts.lean in one, without their guards (`GrowStmt.growPrim`) -/
inductive GrowPrim (d0 : Chan) : (Chan → Chan) → Prop
  /-- `_add_mailbox` inserts only after it found no row with this id -/
  | insMailbox (r) (h : ∀ m ∈ d0.mailboxes, m.id ≠ r.id) : GrowPrim d0 (fun d => d.insMailbox r)
  | insMbSide (r) : GrowPrim d0 (fun d => d.insMbSide r)
  | touch (mb t) : GrowPrim d0 (fun d => d.touch mb t)
  | insMessage (r) : GrowPrim d0 (fun d => d.insMessage r)
  | insNameplate (a n m) : GrowPrim d0 (fun d => d.insNameplate a n m)
  | insNpSide (r) : GrowPrim d0 (fun d => d.insNpSide r)
  | unclaim (n sd) : GrowPrim d0 (fun d => d.unclaim n sd)
  | delNp (id) : GrowPrim d0 (fun d => (d.delNpSidesOf id).delNameplate id)

/-- the channel statements of the sweep -/
inductive DelPrim : (Chan → Chan) → Prop
  | delNp (id) : DelPrim (fun d => (d.delNpSidesOf id).delNameplate id)
  | delMb (id) : DelPrim (fun d => ((d.delMessagesOf id).delMbSidesOf id).delMailbox id)
  | touchSome (p : MailboxRow → Prop) (inst : DecidablePred p) (t : Time) :
      DelPrim (fun d => { d with mailboxes := d.mailboxes.map (fun r => if p r then { r with updated := t } else r) })

namespace Sys

/-- `T` survives the sending of `message` frames too -/
def MsgClosed (T : Sys → Prop) : Prop := ∀ s c f, T s → T (s.send c f)

structure ClosedBase (T : Sys → Prop) : Prop where
  /-- any event except a `message` frame (those need `MsgClosed`) -/
  emit : ∀ s e, e.isMsg = false → T s → T (s.emit e)
  modUdb : ∀ s f, T s → T (s.modUdb f)
  commit : ∀ s, T s → T s.commit
  ucommit : ∀ s, T s → T s.ucommit

structure ClosedG (T : Sys → Prop) : Prop extends ClosedBase T where
  grow : ∀ s f, GrowPrim s.db f → T s → T (s.modDb f)

structure Closed (T : Sys → Prop) : Prop extends ClosedG T where
  flag : ∀ s c f, Harmless f → T s → T (s.updConn c f)

structure ClosedC (T : Sys → Prop) : Prop extends Closed T where
  anyConns : ∀ s cs, T s → T { s with conns := cs }

structure ClosedDel (T : Sys → Prop) : Prop extends ClosedBase T where
  del : ∀ s f, DelPrim f → T s → T (s.modDb f)

theorem GrowStmt.growPrim {t : Time} {d : Chan} {f : Chan → Chan} (h : GrowStmt t d f) : GrowPrim d f := by
  cases h with
  | insMbSide => exact .insMbSide _
  | touch => exact .touch _ _
  | insMailbox _ _ _ h => exact .insMailbox _ (Chan.findMailboxById_eq_none.1 h)
  | insNameplate => exact .insNameplate _ _ _
  | insNpSide => exact .insNpSide _

section base
variable {T : Sys → Prop} (hT : ClosedBase T)
include hT

theorem ClosedBase.send {s : Sys} (h : T s) (c f) (hf : Frame.isMsg f = false := by rfl) :
    T (s.send c f) := hT.emit _ _ hf h
theorem ClosedBase.sendError {s : Sys} (h : T s) (c t) : T (s.sendError c t) := hT.emit _ _ rfl h
theorem ClosedBase.internalErr {s : Sys} (h : T s) (c t) : T (s.internalErr c t) := hT.emit _ _ rfl h

theorem ClosedBase.storeNameplateUsage {s : Sys} (h : T s) (app sides t p) :
    T (s.storeNameplateUsage app sides t p).1 := by
  unfold Sys.storeNameplateUsage
  split
  · exact h
  · dsimp only
    exact hT.modUdb _ _ h

theorem ClosedBase.stmt {k : Kind} (hk : k.core) {a b : Sys} (h : Stmt k a b) : T a → T b := by
  intro ha
  cases h with
  | frame _ _ _ hf => exact hT.emit _ _ hf ha
  | internal | fired => exact hT.emit _ _ rfl ha
  | commit => exact hT.commit _ ha
  | ucommit => exact hT.ucommit _ ha
  | storeNp => exact hT.storeNameplateUsage ha _ _ _ _
  | storeMb => unfold Sys.storeMailboxUsage; exact hT.modUdb _ _ ha
  | client | current => exact hT.modUdb _ _ ha
  | _ => simp [Kind.core] at hk

theorem ClosedBase.runs {s s' : Sys} (r : Runs Kind.core s s') (h : T s) : T s' :=
  r.preserves (fun _ hk _ _ => hT.stmt hk) h

theorem ClosedBase.dumpStats {s : Sys} (h : T s) (now) : T (s.dumpStats now) :=
  hT.runs ((Runs.refl s).dumpStats (by decide) (by decide) now) h

theorem ClosedBase.storeNameplatesOfMailbox {app t} (l : List Nameplate) :
    ∀ {s : Sys}, T s → T (s.storeNameplatesOfMailbox app t l).1 := by
  induction l with
  | nil => intro s h; exact h
  | cons np rest ih =>
    intro s h
    unfold Sys.storeNameplatesOfMailbox
    have h1 := hT.storeNameplateUsage h app (s.db.npSidesOf np.id) t false
    split
    · rename_i s2 heq; rw [heq] at h1; exact h1
    · rename_i s2 heq; rw [heq] at h1; exact ih h1

theorem ClosedBase.storeMailboxUsage {s : Sys} (h : T s) (app forNp sides t p) :
    T (s.storeMailboxUsage app forNp sides t p) := by
  unfold Sys.storeMailboxUsage
  exact hT.modUdb _ _ h

end base

section msg
variable {T : Sys → Prop}

theorem MsgClosed.replay (hm : MsgClosed T) {s : Sys} (h : T s) (c app mb) : T (s.replay c app mb) :=
  replay_closed hm h c app mb

theorem MsgClosed.broadcast (hm : MsgClosed T) {s : Sys} (h : T s) (app mb f) : T (s.broadcast app mb f) :=
  broadcast_closed hm h app mb f

end msg

section grow
variable {T : Sys → Prop} (hT : ClosedG T)
include hT

theorem ClosedG.stmt {k : Kind} (hk : k.grows) {a b : Sys} (h : Stmt k a b) : T a → T b := by
  rcases hk with hk | hk | rfl
  · exact hT.toClosedBase.stmt hk h
  · cases h with
    | grow _ _ _ hf => exact hT.grow _ _ hf.growPrim
    | insMessage => exact hT.grow _ _ (.insMessage _)
    | _ => cases hk
  · cases h with
    | unclaim => exact hT.grow _ _ (.unclaim _ _)
    | releaseDel => exact hT.grow _ _ (.delNp _)

theorem ClosedG.runs {s s' : Sys} (r : Runs Kind.grows s s') (h : T s) : T s' :=
  r.preserves (fun _ hk _ _ => hT.stmt hk) h

theorem ClosedG.openMailbox {s : Sys} (h : T s) (app mb side t) : T (s.openMailbox app mb side t).1 :=
  hT.runs ((Runs.refl s).openMailbox (by decide) app mb side t (.inr (.inl rfl))) h

theorem ClosedG.addMessage {s : Sys} (h : T s) (app mb side ph bd t id) :
    T (s.addMessage app mb side ph bd t id) :=
  hT.runs ((Runs.refl s).addMessage (by decide) app mb side ph bd t id (.inr (.inl rfl)) (.inr (.inl rfl))) h

theorem ClosedG.claimNameplate {s : Sys} (h : T s) (app name side t fresh) :
    T (s.claimNameplate app name side t fresh).1 :=
  hT.runs ((Runs.refl s).claimNameplate (by decide) app name side t fresh (.inr (.inl rfl))) h

theorem ClosedG.releaseNameplate {s : Sys} (h : T s) (app name side t) :
    T (s.releaseNameplate app name side t).1 :=
  hT.runs ((Runs.refl s).releaseNameplate (by decide) (by decide) (by decide) app name side t) h

end grow

section handlers
variable {T : Sys → Prop}

section closed
variable (hT : Closed T)
include hT

/-- `message` frames only when `T` is `MsgClosed` -/
theorem Closed.stmt {k : Kind} (hk : k.flags ∨ (k = .msg ∧ MsgClosed T)) {a b : Sys}
    (h : Stmt k a b) : T a → T b := by
  rcases hk with (hk | rfl) | ⟨rfl, hm⟩
  · exact hT.toClosedG.stmt hk h
  · cases h with
    | flag _ _ _ hf => exact hT.flag _ _ _ hf
  · cases h with
    | msg => exact hm _ _ _

/-- every command except `bind`, `open`, `close` (those change binding / handle / subscription) -/
theorem Closed.onMessage {s : Sys} (h : T s) (c t id) {cmd : Cmd}
    (hm : (∃ ph bd, cmd = .add ph bd) → MsgClosed T)
    (hb : ∀ a sd i v, cmd ≠ .bind a sd i v) (ho : ∀ m, cmd ≠ .open_ m) (hc : ∀ m mood, cmd ≠ .close m mood) :
    T (s.onMessage c t id cmd) := by
  refine (onMessage_runs (K := fun k => k.flags ∨ (k = .msg ∧ MsgClosed T)) (.inl (by decide)) (.inl (by decide))
    (.inl (by decide)) s c t id (.inl (.inl (.inr (.inl rfl)))) ?_
    (fun _ _ _ _ _ _ _ _ _ => .inl (.inl (.inr (.inl rfl)))) ?_ ?_
    (fun _ => .inl (by decide)) (fun _ => .inl (by decide)) ?_).preserves (fun _ hk _ _ => hT.stmt hk) h
  · rintro (he | ⟨m, rfl⟩)
    · exact .inr ⟨rfl, hm he⟩
    · exact absurd rfl (ho m)
  · rintro ⟨a, sd, i, v, rfl⟩
    exact absurd rfl (hb a sd i v)
  · rintro (⟨m, rfl⟩ | ⟨m, mood, rfl⟩)
    · exact absurd rfl (ho m)
    · exact absurd rfl (hc m mood)
  · rintro _ m mood _ _ _ rfl
    exact absurd rfl (hc m mood)

end closed

variable (hT : ClosedC T)
include hT

theorem ClosedC.updConn {s : Sys} (h : T s) (c f) : T (s.updConn c f) := hT.anyConns _ _ h

theorem ClosedC.stmt {k : Kind} (hk : (k.flags ∨ k = .bind ∨ k = .conn) ∨ (k = .msg ∧ MsgClosed T)) {a b : Sys}
    (h : Stmt k a b) : T a → T b := by
  rcases hk with (hk | rfl | rfl) | hk
  · exact hT.toClosed.stmt (.inl hk) h
  · cases h with
    | bind => exact hT.anyConns _ _
  · cases h with
    | conn => exact hT.anyConns _ _
  · exact hT.toClosed.stmt (.inr hk) h

theorem ClosedC.handleBind {s : Sys} (h : T s) (x t a sd i v) : T (s.handleBind x t a sd i v) :=
  ((Runs.refl s).handleBind (K := fun k => k.flags ∨ k = .bind ∨ k = .conn) (by decide) (by decide) (by decide)
    (by decide) x t a sd i v).preserves (fun _ hk _ _ => hT.stmt (.inl hk)) h

theorem ClosedC.handleOpen (hm : MsgClosed T) {s : Sys} (h : T s) (x app side t m) :
    T (s.handleOpen x app side t m) :=
  ((Runs.refl s).handleOpen (K := fun k => (k.flags ∨ k = .bind ∨ k = .conn) ∨ (k = .msg ∧ MsgClosed T))
    (.inl (by decide)) (.inl (by decide)) (.inr ⟨rfl, hm⟩) (.inl (by decide))
    x app side t m (.inl (.inl (.inl (.inr (.inl rfl)))))).preserves (fun _ hk _ _ => hT.stmt hk) h

end handlers

/-- `onMessage` for every command.  A `close` may weaken the property from `T` to `T'` at the point
    where the deletion starts: `T` must survive the UPDATE of `Mailbox.close` (`hcs`) and `T'` its
    DELETEs when no side of the mailbox is open any more (`hdel`); both are needed only for the
    mailbox the close acts on (`closeTarget`) -/
theorem onMessage_track {T T' : Sys → Prop} (hT : ClosedC T) (hT' : ClosedBase T')
    (hconns' : ∀ s cs, T' s → T' { s with conns := cs }) (hsub : ∀ s, T s → T' s)
    {s : Sys} (c : Nat) (t : Time) (id : Val) (cmd : Cmd)
    (hm : ((∃ ph bd, cmd = .add ph bd) ∨ (∃ m, cmd = .open_ m)) → MsgClosed T)
    (hcs : ∀ x m mood app tgt, s.findConn c = some x → cmd = .close m mood → x.app = some app →
      x.closeTarget m = some tgt → ∀ s1, T s1 → s1.db.HasBox app tgt →
      T (s1.modDb (·.closeSide tgt (x.side.getD "") mood)))
    (hdel : ∀ x m mood app tgt, s.findConn c = some x → cmd = .close m mood → x.app = some app →
      x.closeTarget m = some tgt → ∀ s1, T' s1 → (s1.db.mbSidesOf tgt).any (·.opened) = false →
      T' (s1.modDb (fun d => d.closeDeletes app tgt)))
    (h : T s) : T' (s.onMessage c t id cmd) := by
  let K1 : Kind → Prop := fun k => ((k.flags ∨ k = .bind ∨ k = .conn) ∨ (k = .msg ∧ MsgClosed T)) ∨
    ∃ x m mood app tgt, s.findConn c = some x ∧ cmd = .close m mood ∧ x.app = some app ∧
      x.closeTarget m = some tgt ∧ k = .closeUpd app tgt (x.side.getD "") mood
  let K2 : Kind → Prop := fun k => (k.core ∨ k = .conn) ∨
    ∃ x m mood app tgt, s.findConn c = some x ∧ cmd = .close m mood ∧ x.app = some app ∧
      x.closeTarget m = some tgt ∧ k = .closeDel app tgt
  have k1 : ∀ {k : Kind} (_ : k.flags ∨ k = .bind ∨ k = .conn := by decide), K1 k := fun h => .inl (.inl h)
  have k2 : ∀ {k : Kind} (_ : k.core ∨ k = .conn := by decide), K2 k := fun h => .inl h
  have kg : K1 (.grow t) := k1 (.inl (.inl (.inr (.inl rfl))))
  obtain ⟨sm, r1, r2⟩ := onMessage_runs₂ (K1 := K1) (K2 := K2) (cmd := cmd) s c t id
    (he := k1) (hy := k1) (hf := k1) (hg := kg) (hm := fun h => .inl (.inr ⟨rfl, hm h⟩))
    (ha := fun _ _ _ _ _ _ _ _ _ => k1 (.inl (.inl (.inr (.inl rfl)))))
    (hb := fun _ => k1) (hn := fun _ => k1) (hu := fun _ => k1) (hr := fun _ => k1)
    (hc := fun x m mood app tgt hx hc ha htg => ⟨.inr ⟨x, m, mood, app, tgt, hx, hc, ha, htg, rfl⟩,
      .inr ⟨x, m, mood, app, tgt, hx, hc, ha, htg, rfl⟩⟩)
    (h2 := fun _ => ⟨k2, k2, k2, k2⟩)
  refine r2.preserves ?_ (hsub _ (r1.preserves ?_ h))
  · rintro _ ((hk | rfl) | ⟨x, m, mood, app, tgt, hx, hc, ha, htg, rfl⟩) _ _ hs h1
    · exact hT'.stmt hk hs h1
    · cases hs with
      | conn => exact hconns' _ _ h1
    · cases hs with
      | closeDeletes _ _ _ hany => exact hdel x m mood app tgt hx hc ha htg _ h1 hany
      | stop => exact hconns' _ _ h1
  · rintro _ (hk | ⟨x, m, mood, app, tgt, hx, hc, ha, htg, rfl⟩) _ _ hs h1
    · exact hT.stmt hk hs h1
    · cases hs with
      | closeSide _ _ _ _ _ row hrow =>
        exact hcs x m mood app tgt hx hc ha htg _ h1 (Chan.findMailbox_isSome.1 (by simp [hrow]))

section del
variable {T : Sys → Prop} (hT : ClosedDel T)
include hT

theorem ClosedDel.stmt {k : Kind} (hk : k.sweeps) {a b : Sys} (h : Stmt k a b) : T a → T b := by
  rcases hk with hk | hk
  · exact hT.toClosedBase.stmt hk h
  · cases h with
    | delNp => exact hT.del _ _ (.delNp _)
    | delMb => exact hT.del _ _ (.delMb _)
    | touchListened _ app now =>
      exact hT.del _ _ (.touchSome (fun r => r.app = app ∧ a.listeners app r.id ≠ []) _ now)
    | _ => cases hk

theorem ClosedDel.runs {s s' : Sys} (r : Runs Kind.sweeps s s') (h : T s) : T s' :=
  r.preserves (fun _ hk _ _ => hT.stmt hk) h

theorem ClosedDel.pruneMailboxes {app now} (l : List MailboxRow) {s : Sys} (h : T s) :
    T (s.pruneMailboxes app now l) :=
  hT.runs (Runs.pruneMailboxes (by decide) l (fun _ _ => .inr rfl) (.refl s)) h

theorem ClosedDel.prune {s : Sys} (h : T s) (app now old) : T (s.prune app now old).1 :=
  hT.runs ((Runs.refl s).prune (by decide) (by decide) (by decide) app now old (.inr rfl) (fun _ _ => .inr rfl)) h

theorem ClosedDel.pruneApps {now old} (l : List String) :
    ∀ {s : Sys}, T s → T (s.pruneApps now old l).1 :=
  fun {s} h => hT.runs (Runs.pruneApps (by decide) (by decide) (by decide) (fun _ => .inr rfl) (.inr rfl) l (.refl s)) h

theorem ClosedDel.expire {s : Sys} (h : T s) (now fault) : T (s.expire now fault) :=
  hT.runs ((Runs.refl s).expire (by decide) (by decide) (by decide) (fun _ => .inr rfl) (by decide) now fault (.inr rfl)) h

end del

/-- `R` holds of the live channel database, of its committed copy and of every snapshot taken
    in the current step (the states a crash inside the step can leave) -/
structure Track (R : Chan → Prop) (s : Sys) : Prop where
  db : R s.db
  disk : R s.disk
  snaps : ∀ p ∈ s.snaps, R p.1

theorem Track.mono {R R' : Chan → Prop} (h : ∀ d, R d → R' d) {s : Sys} (hs : Track R s) : Track R' s :=
  ⟨h _ hs.db, h _ hs.disk, fun p hp => h _ (hs.snaps p hp)⟩

theorem Track.closedBase (R : Chan → Prop) : ClosedBase (Track R) where
  emit := fun _ _ _ h => ⟨h.db, h.disk, h.snaps⟩
  modUdb := fun _ _ h => ⟨h.db, h.disk, h.snaps⟩
  commit := by
    intro s h
    unfold Sys.commit
    split
    · exact h
    · refine ⟨h.db, h.db, ?_⟩
      intro p hp
      simp only [List.mem_append, List.mem_singleton] at hp
      rcases hp with hp | rfl
      · exact h.snaps p hp
      · exact h.db
  ucommit := by
    intro s h
    unfold Sys.ucommit
    split
    · exact h
    · refine ⟨h.db, h.disk, ?_⟩
      intro p hp
      simp only [List.mem_append, List.mem_singleton] at hp
      rcases hp with hp | rfl
      · exact h.snaps p hp
      · exact h.disk

theorem Track.msgClosed (R : Chan → Prop) : MsgClosed (Track R) := fun _ _ _ h => ⟨h.db, h.disk, h.snaps⟩

theorem Track.modDb {R : Chan → Prop} {s : Sys} (h : Track R s) (f : Chan → Chan) (hf : R (f s.db)) :
    Track R (s.modDb f) := ⟨hf, h.disk, h.snaps⟩

theorem Track.anyConns {R : Chan → Prop} {s : Sys} (h : Track R s) (cs : List Conn) :
    Track R { s with conns := cs } := ⟨h.db, h.disk, h.snaps⟩

theorem Track.closedC {R : Chan → Prop} (hR : ∀ d f, GrowPrim d f → R d → R (f d)) : ClosedC (Track R) where
  toClosedBase := Track.closedBase R
  grow := fun _ f hf h => h.modDb f (hR _ f hf h.db)
  flag := fun _ _ _ _ h => ⟨h.db, h.disk, h.snaps⟩
  anyConns := fun _ cs h => h.anyConns cs

theorem Track.closedDel {R : Chan → Prop} (hR : ∀ f, DelPrim f → ∀ d, R d → R (f d)) : ClosedDel (Track R) where
  toClosedBase := Track.closedBase R
  del := fun _ f hf h => h.modDb f (hR f hf _ h.db)

theorem Track.start {R : Chan → Prop} {s : Sys} (h1 : R s.db) (h2 : R s.disk) :
    Track R ({ s with out := [], snaps := [] } : Sys) := ⟨h1, h2, by simp⟩

/-- whatever a crash inside `op` leaves in the channel database satisfied `R` at a commit point -/
theorem Track.crash {R : Chan → Prop} {s : Sys} (h0 : R s.disk) {op : Op}
    (h : Track R (({ s with out := [], snaps := [] } : Sys).stepPlain op)) (k : Nat) :
    R (s.step (.crashIn k op)).db := by
  show R (match k, (({ s with out := [], snaps := [] } : Sys).stepPlain op).snaps[k - 1]? with
    | 0, _ => _
    | _, some p => _
    | _, none => _ : Sys).db
  split
  · exact h0
  · rename_i p _ hp
    exact h.snaps p (List.mem_of_getElem? hp)
  · exact h.disk

end Sys
end Wormhole
