/-
  Sys-level preservation, function by function (Core.lean = server.py).

  `Good U t S s`:
    * the server's view `db`, the committed state `disk` and EVERY snapshot taken at a commit
      point of the current step satisfy `Chan.CInv` (these snapshots are exactly what a kill -9
      can leave on disk) and `Chan.MbQ U t` (every mailbox id is known, no row is stamped later
      than `t`);
    * every LISTENING connection's handle points at an existing mailbox row of its app;
    * if `S` (crash-free history) the server's view satisfies the strengthening `SExtra`.
  Every function of Core.lean maps `Good` states to `Good` states; the lemmas also record the
  return value facts needed for "no internal error" (C17) and what happens to `conns`.
-/
import Wormhole.Inv.ChanLemmas
import Wormhole.Inv.SyncLemmas

namespace Wormhole

/-- the expiry horizon is positive (re-checked whenever `Generated.lean` is regenerated) -/
theorem expirationTicks_pos : 0 < Generated.expirationTicks := by decide

namespace Chan

structure CQ (U : String → Prop) (t : Time) (d : Chan) : Prop where
  cinv : d.CInv
  q : d.MbQ U t

end Chan

namespace Sys

structure DGood (U : String → Prop) (t : Time) (s : Sys) : Prop where
  disk : s.disk.CQ U t
  snaps : ∀ p ∈ s.snaps, p.1.CQ U t

def LHandleOk (s : Sys) : Prop :=
  ∀ x ∈ s.conns, x.listening = true → ∀ mb, x.mailbox = some mb → ∃ a, x.app = some a ∧ s.db.HasMb a mb

structure Good0 (U : String → Prop) (t : Time) (s : Sys) : Prop where
  db : s.db.CQ U t
  d : s.DGood U t
  lh : s.LHandleOk

structure Good (U : String → Prop) (t : Time) (S : Prop) (s : Sys) : Prop extends Good0 U t s where
  sx : S → s.db.SExtra

section prim
variable {U : String → Prop} {t : Time} {S : Prop} {s : Sys}

@[simp] theorem commit_snaps_mem (p : Chan × Usage) :
    p ∈ s.commit.snaps ↔ p ∈ s.snaps ∨ (¬ s.db = s.disk ∧ p = (s.db, s.udisk)) := by
  unfold commit; split <;> simp_all

@[simp] theorem ucommit_snaps_mem (p : Chan × Usage) :
    p ∈ s.ucommit.snaps ↔ p ∈ s.snaps ∨ (¬ s.udb = s.udisk ∧ p = (s.disk, s.udb)) := by
  unfold ucommit; split <;> simp_all

theorem DGood.commit (h : s.DGood U t) (hdb : s.db.CQ U t) : s.commit.DGood U t := by
  refine ⟨by simpa using hdb, ?_⟩
  intro p hp
  rcases (commit_snaps_mem p).1 hp with hp | ⟨_, rfl⟩
  · exact h.snaps p hp
  · exact hdb

theorem DGood.ucommit (h : s.DGood U t) : s.ucommit.DGood U t := by
  refine ⟨by simpa using h.disk, ?_⟩
  intro p hp
  rcases (ucommit_snaps_mem p).1 hp with hp | ⟨_, rfl⟩
  · exact h.snaps p hp
  · exact h.disk

theorem DGood.of_eq {s' : Sys} (h : s.DGood U t) (e1 : s'.disk = s.disk) (e2 : s'.snaps = s.snaps) :
    s'.DGood U t := by
  refine ⟨by rw [e1]; exact h.disk, ?_⟩
  rw [e2]; exact h.snaps

@[simp] theorem commit_snaps_out_conns : s.commit.conns = s.conns := commit_conns s

theorem LHandleOk.of_eq {s' : Sys} (h : s.LHandleOk) (e1 : s'.conns = s.conns)
    (e2 : ∀ a m, s.db.HasMb a m → s'.db.HasMb a m) : s'.LHandleOk := by
  intro x hx hl mb hm
  rw [e1] at hx
  obtain ⟨a, ha, hb⟩ := h x hx hl mb hm
  exact ⟨a, ha, e2 a mb hb⟩

theorem Good0.modDb_commit (h : s.Good0 U t) (f : Chan → Chan) (hf : (f s.db).CQ U t)
    (hm : ∀ a m, s.db.HasMb a m → (f s.db).HasMb a m) : ((s.modDb f).commit).Good0 U t := by
  refine ⟨by simpa using hf, DGood.commit (h.d.of_eq rfl rfl) hf, ?_⟩
  exact h.lh.of_eq (by simp) (by simpa using hm)

theorem Good0.commit (h : s.Good0 U t) : s.commit.Good0 U t :=
  ⟨by simpa using h.db, h.d.commit h.db, h.lh.of_eq (by simp) (by simp)⟩

theorem Good0.ucommit (h : s.Good0 U t) : s.ucommit.Good0 U t :=
  ⟨by simpa using h.db, h.d.ucommit, h.lh.of_eq (by simp) (by simp)⟩

theorem Good0.of_eq {s' : Sys} (h : s.Good0 U t) (e1 : s'.db = s.db) (e2 : s'.disk = s.disk)
    (e3 : s'.snaps = s.snaps) (e4 : s'.conns = s.conns) : s'.Good0 U t :=
  ⟨by rw [e1]; exact h.db, h.d.of_eq e2 e3, h.lh.of_eq e4 (by rw [e1]; exact fun _ _ x => x)⟩

theorem Good.of_uonly {s' : Sys} (h : s.Good U t S) (e1 : s'.db = s.db) (e2 : s'.disk = s.disk)
    (e3 : s'.snaps = s.snaps) (e4 : s'.conns = s.conns) : s'.Good U t S :=
  ⟨h.toGood0.of_eq e1 e2 e3 e4, by rw [e1]; exact h.sx⟩

theorem Good.commit (h : s.Good U t S) : s.commit.Good U t S :=
  ⟨h.toGood0.commit, by simpa using h.sx⟩

theorem Good.ucommit (h : s.Good U t S) : s.ucommit.Good U t S :=
  ⟨h.toGood0.ucommit, by simpa using h.sx⟩

theorem Good.modUdb (h : s.Good U t S) (f) : (s.modUdb f).Good U t S := h.of_uonly rfl rfl rfl rfl

theorem Good.emit (h : s.Good U t S) (e) : (s.emit e).Good U t S := h.of_uonly rfl rfl rfl rfl

theorem Good.send (h : s.Good U t S) (c f) : (s.send c f).Good U t S := h.emit _

theorem Good.of_udbOnly {s' : Sys} (h : s.Good U t S) (u : UdbOnly s s') : s'.Good U t S :=
  h.of_uonly u.db u.disk u.snaps u.conns

theorem Good0.of_udbOnly {s' : Sys} (h : s.Good0 U t) (u : UdbOnly s s') : s'.Good0 U t :=
  h.of_eq u.db u.disk u.snaps u.conns

end prim

section
variable {U : String → Prop} {t : Time} {S : Prop}

/-! ### Mailbox.open, _add_mailbox, open_mailbox, _add_message -/

theorem mailboxOpen_eq (s : Sys) (mb side : String) (t : Time) :
    s.mailboxOpen mb side t = (s.modDb (·.openSide mb side t)).commit := by
  unfold mailboxOpen Chan.openSide
  simp only [modDb]
  cases s.db.findMbSide mb side <;> rfl

theorem Good0.mailboxOpen {s : Sys} (h : s.Good0 U t) {mb : String} (side : String)
    (hmb : ∃ m ∈ s.db.mailboxes, m.id = mb) : (s.mailboxOpen mb side t).Good0 U t := by
  rw [mailboxOpen_eq]
  exact h.modDb_commit _ ⟨h.db.cinv.openSide mb side t hmb, h.db.q.openSide mb side⟩ (by simp)

theorem addMailbox_cases {s s1 : Sys} {app mb : String} {fn : Bool} {t : Time}
    (e : s.addMailbox app mb fn t = some s1) :
    (s1 = s ∧ s.db.HasMb app mb) ∨
    (s1 = s.modDb (·.insMailbox ⟨app, mb, t, fn⟩) ∧ s.db.findMailboxById mb = none) := by
  unfold addMailbox at e
  split at e
  · rename_i row e1
    cases e
    exact Or.inl ⟨rfl, Chan.findMailbox_hasMb e1⟩
  · split at e
    · cases e
    · rename_i e2
      cases e
      exact Or.inr ⟨rfl, e2⟩

theorem addMailbox_none {s : Sys} {app mb : String} {fn : Bool} {t : Time}
    (e : s.addMailbox app mb fn t = none) :
    ¬ s.db.HasMb app mb ∧ ∃ m ∈ s.db.mailboxes, m.id = mb := by
  unfold addMailbox at e
  split at e
  · cases e
  · rename_i e1
    split at e
    · rename_i row e2
      obtain ⟨a, b⟩ := Chan.findMailboxById_some e2
      exact ⟨Chan.findMailbox_none e1, row, a, b⟩
    · cases e

theorem addMailbox_good0 {s s1 : Sys} {app mb : String} {fn : Bool} (h : s.Good0 U t) (hu : U mb)
    (e : s.addMailbox app mb fn t = some s1) :
    s1.Good0 U t ∧ s1.conns = s.conns ∧ (∀ a m, s.db.HasMb a m → s1.db.HasMb a m) ∧ s1.db.HasMb app mb ∧
      s1.db.npPart = s.db.npPart ∧ (s.db.SExtra' mb → s1.db.SExtra' mb) := by
  rcases addMailbox_cases e with ⟨rfl, hmb⟩ | ⟨rfl, hfree⟩
  · exact ⟨h, rfl, fun _ _ x => x, hmb, rfl, id⟩
  · have hdb : (s.db.insMailbox ⟨app, mb, t, fn⟩).CQ U t :=
      ⟨Chan.CInv.of_pinv_npOk (h.db.cinv.toPInv.insMailbox hfree) (h.db.cinv.npOk.of_npPart (by rfl)),
       h.db.q.insMailbox hu (Int.le_refl _)⟩
    have hm : ∀ a m, s.db.HasMb a m → (s.db.insMailbox ⟨app, mb, t, fn⟩).HasMb a m :=
      fun a m x => (Chan.hasMb_insMailbox _ _ _ _).2 (Or.inl x)
    exact ⟨⟨hdb, h.d.of_eq rfl rfl, h.lh.of_eq rfl hm⟩, rfl, hm,
      (Chan.hasMb_insMailbox _ _ _ _).2 (Or.inr ⟨rfl, rfl⟩), rfl, fun hx => hx.insMailbox h.db.cinv.toPInv rfl hfree⟩

/-- `open_mailbox`: an IntegrityError (finding K-global-mailbox-id) happens exactly when the id
    exists under another app, and then nothing was written; otherwise the row `(app, mb)` exists
    afterwards and the state is committed -/
theorem openMailbox_good0 {s s1 : Sys} {app mb side : String} {r : OpenRes} (h : s.Good0 U t) (hu : U mb)
    (e : s.openMailbox app mb side t = (s1, r)) :
    s1.Good0 U t ∧ s1.conns = s.conns ∧ (∀ a m, s.db.HasMb a m → s1.db.HasMb a m) ∧
      (r ≠ .integrity → s1.db.HasMb app mb) ∧
      (r = .integrity → s1 = s ∧ ¬ s.db.HasMb app mb ∧ ∃ m ∈ s.db.mailboxes, m.id = mb) ∧
      (s.db.SExtra' mb → r ≠ .integrity → s1.db.SExtra) := by
  unfold openMailbox at e
  split at e
  · rename_i e0
    cases e
    exact ⟨h, rfl, fun _ _ x => x, fun x => absurd rfl x, fun _ => ⟨rfl, addMailbox_none e0⟩, fun _ x => absurd rfl x⟩
  · rename_i s0 e0
    obtain ⟨g0, c0, m0, hmb0, _, x0⟩ := addMailbox_good0 h hu e0
    have hex : ∃ m ∈ s0.db.mailboxes, m.id = mb := by
      obtain ⟨m, hm, e1, _⟩ := hmb0; exact ⟨m, hm, e1⟩
    have g2 := (g0.mailboxOpen side hex).commit
    have hdb2 : ((s0.mailboxOpen mb side t).commit).db = s0.db.openSide mb side t := by
      rw [mailboxOpen_eq]; simp
    have hc2 : ((s0.mailboxOpen mb side t).commit).conns = s.conns := by
      rw [mailboxOpen_eq]; simpa using c0
    dsimp only at e
    split at e <;>
    · cases e
      refine ⟨g2, hc2, fun a m x => ?_, fun _ => ?_, by simp, fun x _ => ?_⟩
      · rw [hdb2]; simpa using m0 a m x
      · rw [hdb2]; simpa using hmb0
      · rw [hdb2]; exact (x0 x).openSide side t

theorem openMailbox_good {s s1 : Sys} {app mb side : String} {r : OpenRes} (h : s.Good U t S) (hu : U mb)
    (e : s.openMailbox app mb side t = (s1, r)) :
    s1.Good U t S ∧ s1.conns = s.conns ∧ s1.cfg = s.cfg ∧ (∀ a m, s.db.HasMb a m → s1.db.HasMb a m) ∧
      (r ≠ .integrity → s1.db.HasMb app mb) ∧
      (r = .integrity → ¬ s.db.HasMb app mb ∧ ∃ m ∈ s.db.mailboxes, m.id = mb) := by
  obtain ⟨k1, k2, k4, k5, k6, k7⟩ := openMailbox_good0 h.toGood0 hu e
  refine ⟨⟨k1, fun hS => ?_⟩, k2, (openMailbox_spec e).1.cfg, k4, k5, fun x => (k6 x).2⟩
  by_cases hr : r = .integrity
  · rw [(k6 hr).1]; exact h.sx hS
  · exact k7 ((h.sx hS).weaken mb) hr

theorem addMessage_good {s : Sys} (h : s.Good U t S) {app mb : String} (side ph bd id)
    (hmb : s.db.HasMb app mb) : (s.addMessage app mb side ph bd t id).Good U t S := by
  have e : s.addMessage app mb side ph bd t id =
      (s.modDb (fun d => (d.insMessage ⟨app, mb, side, ph.toText, bd.toText, t, id.toText⟩).touch mb t)).commit := rfl
  rw [e]
  refine ⟨h.toGood0.modDb_commit _ ⟨?_, ?_⟩ (by simp), ?_⟩
  · exact Chan.CInv.of_pinv_npOk ((h.db.cinv.toPInv.insMessage (r := ⟨app, mb, _, _, _, _, _⟩) hmb).touch mb t)
      (h.db.cinv.npOk.of_npPart (by rfl))
  · exact Chan.MbQ.touch (d := s.db.insMessage _) h.db.q mb
  · intro hS
    simpa using ((h.sx hS).insMessage _).touch mb t

@[simp] theorem addMessage_conns' (s : Sys) (app mb side ph bd t id) :
    (s.addMessage app mb side ph bd t id).conns = s.conns := by
  simp [addMessage]

@[simp] theorem addMessage_hasMb (s : Sys) (app mb side ph bd t id a m) :
    (s.addMessage app mb side ph bd t id).db.HasMb a m ↔ s.db.HasMb a m := by
  simp [addMessage]

/-! ### Mailbox.close -/

@[simp] theorem storeMailboxUsage_db (s : Sys) (a f sd t p) : (s.storeMailboxUsage a f sd t p).db = s.db := rfl
@[simp] theorem storeMailboxUsage_disk (s : Sys) (a f sd t p) : (s.storeMailboxUsage a f sd t p).disk = s.disk := rfl
@[simp] theorem storeMailboxUsage_conns (s : Sys) (a f sd t p) : (s.storeMailboxUsage a f sd t p).conns = s.conns := rfl
@[simp] theorem storeMailboxUsage_cfg (s : Sys) (a f sd t p) : (s.storeMailboxUsage a f sd t p).cfg = s.cfg := rfl
@[simp] theorem storeMailboxUsage_snaps (s : Sys) (a f sd t p) : (s.storeMailboxUsage a f sd t p).snaps = s.snaps := rfl

/-- a block of deletions, the usage record with its commit, and `db.commit()` -/
theorem closeTail_good {s2 : Sys} (h2 : s2.DGood U t) (f : Chan → Chan) (hdb : (f s2.db).CQ U t)
    (app : String) (forNp : Bool) (sides : List MbSide) (t' : Time) (p : Bool) :
    ∀ s5, s5 = (if (s2.modDb f).cfg.usage then ((s2.modDb f).storeMailboxUsage app forNp sides t' p).ucommit
      else s2.modDb f).commit → s5.DGood U t ∧ s5.db = f s2.db ∧ s5.conns = s2.conns := by
  rintro _ rfl
  have h3 : (s2.modDb f).DGood U t := h2.of_eq rfl rfl
  split
  · exact ⟨DGood.commit (DGood.ucommit (h3.of_eq rfl rfl)) (by simpa using hdb), by simp, by simp⟩
  · exact ⟨DGood.commit h3 (by simpa using hdb), by simp, by simp⟩

theorem mem_stopListeners {s : Sys} {app mb : String} {y : Conn} (hy : y ∈ (s.stopListeners app mb).conns) :
    (y ∈ s.conns ∧ ¬ (y.listening = true ∧ y.app = some app ∧ y.mailbox = some mb)) ∨
    ∃ x ∈ s.conns, x.listening = true ∧ y = { x with mailbox := none, listening := false } := by
  simp only [stopListeners, List.mem_map] at hy
  obtain ⟨x, hx, rfl⟩ := hy
  split
  · rename_i hc
    exact Or.inr ⟨x, hx, hc.1, rfl⟩
  · rename_i hc
    exact Or.inl ⟨hx, hc⟩

/-- `Mailbox.close`: never fails (given the invariant), and when it deletes the mailbox every
    listener has dropped its handle -/
theorem mailboxClose_good {s s1 : Sys} {app mb side : String} {mood : Option String} {t' : Time} {b : Bool}
    (h : s.Good U t S) (e : s.mailboxClose app mb side mood t' = (s1, b)) :
    s1.Good U t S ∧ b = true ∧ (s1.conns = s.conns ∨ s1.conns = (s.stopListeners app mb).conns) := by
  have hp1 : (s.db.closeSide mb side mood).PInv := h.db.cinv.toPInv.closeSide mb side mood
  have hn1 : (s.db.closeSide mb side mood).NpOk := h.db.cinv.npOk.of_npPart (by rfl)
  have hq1 : (s.db.closeSide mb side mood).MbQ U t := h.db.q.of_mailboxes_eq rfl
  have g1 : ((s.modDb (·.closeSide mb side mood)).commit).Good0 U t :=
    h.toGood0.modDb_commit _ ⟨.of_pinv_npOk hp1 hn1, hq1⟩ (by simp)
  revert e
  refine mailboxClose_cases s app mb side mood t' ?_ ?_ ?_ ?_
  · rintro _ ⟨⟩
    exact ⟨h, rfl, Or.inl rfl⟩
  · rintro _ _ _ rfl hany ⟨⟩
    refine ⟨⟨g1, fun hS => ?_⟩, rfl, Or.inl (by simp)⟩
    simpa using (h.sx hS).closeSide_of_any (mb := mb) (side := side) (mood := mood) (by simpa using hany)
  · rintro _ _ s2 _ rfl _ hE ⟨⟩
    obtain ⟨-, hok, -⟩ := closeStore_udbOnly hE
    simp only [commit_db, modDb_db] at hok
    cases hok fun n hn => npSidesOf_ne_nil (d := s.db.closeSide mb side mood) hn1.hasSide (List.mem_filter.1 hn).1
  · rintro row _ s2 _ erow rfl _ hE rfl ⟨⟩
    have hmb : s.db.HasMb app mb := Chan.findMailbox_hasMb erow
    obtain ⟨hu2, -, -⟩ := closeStore_udbOnly hE
    have hdb2 : s2.db = s.db.closeSide mb side mood := by rw [hu2.db]; simp
    have hconns2 : s2.conns = s.conns := by rw [hu2.conns]; simp
    have hdbF : ((((((s.db.closeSide mb side mood).delNpSidesOfMailbox app mb).delNameplatesOfMailbox app
        mb).delMessagesOf mb).delMbSidesOf mb).delMailbox mb).CQ U t :=
      ⟨.of_pinv_npOk (hp1.closeBlock (by simpa using hmb)) ((hn1.delOfMailbox app mb).of_npPart (by rfl)),
        (hq1.delMailbox mb).of_mailboxes_eq rfl⟩
    obtain ⟨k1, k2, k3⟩ := closeTail_good (g1.of_udbOnly hu2).d
      (fun d => ((((d.delNpSidesOfMailbox app mb).delNameplatesOfMailbox app mb).delMessagesOf mb).delMbSidesOf
          mb).delMailbox mb) (by rw [hdb2]; exact hdbF) app row.forNp
      (((s.modDb (·.closeSide mb side mood)).commit).db.mbSidesOf mb) t' false _ rfl
    refine ⟨⟨⟨?_, k1.of_eq rfl rfl, ?_⟩, fun hS => ?_⟩, rfl, Or.inr ?_⟩
    · rw [stopListeners_db, k2, hdb2]; exact hdbF
    · -- a handle that survives the stop callbacks is not one on the deleted mailbox
      intro y hy hl m hm
      have hy' : y ∈ (s.stopListeners app mb).conns := by
        simp only [stopListeners, k3, hconns2] at hy ⊢; exact hy
      rcases mem_stopListeners hy' with ⟨hy0, hc⟩ | ⟨_, _, _, rfl⟩
      · obtain ⟨a, ha, hb⟩ := h.lh y hy0 hl m hm
        refine ⟨a, ha, ?_⟩
        rw [stopListeners_db, k2, hdb2]
        simp only [Chan.hasMb_delMailbox, Chan.hasMb_delMbSidesOf, Chan.hasMb_delMessagesOf,
          Chan.hasMb_delNameplatesOfMailbox, Chan.hasMb_delNpSidesOfMailbox, Chan.hasMb_closeSide]
        refine ⟨hb, ?_⟩
        rintro rfl
        have : a = app := h.db.cinv.toPInv.mb_app_unique hb hmb
        subst this
        exact hc ⟨hl, ha, hm⟩
      · cases hl
    · rw [stopListeners_db, k2, hdb2]
      exact (h.sx hS).closeSide_closeBlock h.db.cinv.npIds app mb side mood
    · simp only [stopListeners, k3, hconns2]

/-! ### claim_nameplate, release_nameplate -/

/-- the continuation of `claim_nameplate` (commit, `open_mailbox`, crowding check) from a state
    whose nameplate tables are already in order and where the mailbox row exists: no
    IntegrityError is possible -/
theorem claimCont_good {s s1 : Sys} {app mb side : String} {npid : Nat} {r : ClaimRes} (h : s.Good0 U t)
    (hu : U mb) (hmb : s.db.HasMb app mb) (e : claimCont s app npid mb side t = (s1, r)) :
    s1.Good0 U t ∧ s1.conns = s.conns ∧ r ≠ .integrity ∧ (s.db.SExtra' mb → s1.db.SExtra) := by
  unfold claimCont at e
  dsimp only at e
  split at e
  all_goals
    rename_i s3 e3
    obtain ⟨k1, k2, _, _, k6, k7⟩ := openMailbox_good0 h.commit hu e3
    simp only [commit_db, commit_conns] at k2 k6 k7
  · exact absurd hmb (k6 trivial).2.1
  · cases e
    exact ⟨k1, k2, by simp, fun x => k7 x (by simp)⟩
  · split at e <;>
    · cases e
      exact ⟨k1, k2, by simp, fun x => k7 x (by simp)⟩

/-- `claim_nameplate`: IntegrityError only when `fresh` exists under another app (and then nothing
    was written); `ReclaimedError` before any write -/
theorem claimNameplate_good {s s1 : Sys} {app name side fresh : String} {r : ClaimRes} (h : s.Good U t S)
    (hu : U fresh) (e : s.claimNameplate app name side t fresh = (s1, r)) :
    s1.Good U t S ∧ s1.conns = s.conns ∧
      (r = .integrity → ¬ s.db.HasMb app fresh ∧ ∃ m ∈ s.db.mailboxes, m.id = fresh) := by
  unfold claimNameplate at e
  split at e
  · rename_i enp
    split at e
    · rename_i e0
      cases e
      exact ⟨h, rfl, fun _ => addMailbox_none e0⟩
    · rename_i s0 e0
      obtain ⟨g0, c0, _, hmb0, np0, x0⟩ := addMailbox_good0 h.toGood0 hu e0
      have enp0 : s0.db.findNameplate app name = none := by
        simp only [Chan.npPart, Prod.mk.injEq] at np0
        simpa [Chan.findNameplate, np0.1] using enp
      have hfresh : (s0.modDb (·.insNameplate app name fresh)).db.findNpSide s0.db.nextNp side = none :=
        g0.db.cinv.bounded.findNpSide_fresh side
      dsimp only at e
      rw [claimTail_eq, hfresh] at e
      dsimp only at e
      have gB : ((s0.modDb (·.insNameplate app name fresh)).modDb
          (·.insNpSide ⟨s0.db.nextNp, true, side, t⟩)).Good0 U t :=
        ⟨⟨g0.db.cinv.insNew side t enp0 hmb0, g0.db.q.of_mailboxes_eq rfl⟩, g0.d.of_eq rfl rfl,
          g0.lh.of_eq rfl (fun _ _ x => x)⟩
      obtain ⟨k1, k2, k5, k7⟩ := claimCont_good gB hu (by simpa using hmb0) e
      exact ⟨⟨k1, fun hS => k7 ((x0 ((h.sx hS).weaken fresh)).insNew app name fresh side t)⟩, k2.trans c0,
        fun x => absurd x k5⟩
  · rename_i row erow
    obtain ⟨hrow, ra, rn⟩ := Chan.findNameplate_some erow
    have hmb : s.db.HasMb app row.mailbox := by
      obtain ⟨m, hm, e1, e2⟩ := h.db.cinv.npMb row hrow
      exact ⟨m, hm, e1, e2.trans ra⟩
    have hu' : U row.mailbox := by
      obtain ⟨m, hm, e1, _⟩ := hmb
      rw [← e1]; exact (h.db.q m hm).1
    rw [claimTail_eq] at e
    split at e
    · rename_i eside
      have gB : (s.modDb (·.insNpSide ⟨row.id, true, side, t⟩)).Good0 U t :=
        ⟨⟨h.db.cinv.insNpSide (r := ⟨row.id, true, side, t⟩) eside hrow rfl, h.db.q.of_mailboxes_eq rfl⟩,
          h.d.of_eq rfl rfl, h.lh.of_eq rfl (fun _ _ x => x)⟩
      obtain ⟨k1, k2, k5, k7⟩ := claimCont_good gB hu' (by simpa using hmb) e
      exact ⟨⟨k1, fun hS => k7 (((h.sx hS).insNpSide _).weaken _)⟩, k2, fun x => absurd x k5⟩
    · split at e
      · obtain ⟨k1, k2, k5, k7⟩ := claimCont_good h.toGood0 hu' hmb e
        exact ⟨⟨k1, fun hS => k7 ((h.sx hS).weaken _)⟩, k2, fun x => absurd x k5⟩
      · cases e
        exact ⟨h, rfl, by simp⟩

/-- `release_nameplate`: never fails -/
theorem releaseNameplate_good {s s1 : Sys} {app name side : String} {t' : Time} {b : Bool} (h : s.Good U t S)
    (e : s.releaseNameplate app name side t' = (s1, b)) :
    s1.Good U t S ∧ b = true ∧ s1.conns = s.conns := by
  have hp1 : ∀ n, (s.db.unclaim n side).PInv := fun n => h.db.cinv.toPInv.unclaim n side
  have hn1 : ∀ n, (s.db.unclaim n side).NpOk := fun n => h.db.cinv.npOk.unclaim n side
  have hq1 : ∀ n, (s.db.unclaim n side).MbQ U t := fun _ => h.db.q.of_mailboxes_eq rfl
  have g1 : ∀ n, ((s.modDb (·.unclaim n side)).commit).Good0 U t := fun n =>
    h.toGood0.modDb_commit _ ⟨.of_pinv_npOk (hp1 n) (hn1 n), hq1 n⟩ (by simp)
  have hdbF : ∀ n, (((s.db.unclaim n side).delNpSidesOf n).delNameplate n).CQ U t := fun n =>
    ⟨.of_pinv_npOk ((hp1 n).delById n) ((hn1 n).delById n), (hq1 n).of_mailboxes_eq rfl⟩
  have g2 : ∀ n, (((s.modDb (·.unclaim n side)).commit).modDb
      (fun d => (d.delNpSidesOf n).delNameplate n)).Good0 U t := fun n =>
    ⟨by simpa using hdbF n, (g1 n).d.of_eq rfl rfl, (g1 n).lh.of_eq rfl (fun a m x => by simpa using x)⟩
  have hsx : ∀ n, S → (((s.db.unclaim n side).delNpSidesOf n).delNameplate n).SExtra :=
    fun n hS => (h.sx hS).unclaim_delById n side
  revert e
  refine releaseNameplate_cases s app name side t' ?_ ?_ ?_ ?_
  · rintro _ ⟨⟩
    exact ⟨h, rfl, rfl⟩
  · rintro np _ _ _ _ rfl hany ⟨⟩
    refine ⟨⟨g1 _, fun hS => ?_⟩, rfl, by simp⟩
    simpa using (h.sx hS).unclaim_of_any (npid := np.id) (side := side) (by simpa using hany)
  · rintro np _ _ _ s3 _ _ rfl _ rfl _ e3 ⟨⟩
    have hu3 := storeNameplateUsage_udbOnly
      (((s.modDb (·.unclaim np.id side)).commit).modDb (fun d => (d.delNpSidesOf np.id).delNameplate np.id))
      app (((s.modDb (·.unclaim np.id side)).commit).db.npSidesOf np.id) t' false
    rw [e3] at hu3
    dsimp only at hu3
    exact ⟨⟨((g2 _).of_udbOnly hu3).ucommit.commit, fun hS => by simpa [hu3.db] using hsx _ hS⟩, rfl,
      by simp [hu3.conns]⟩
  · rintro np _ _ _ _ _ rfl _ rfl _ ⟨⟩
    exact ⟨⟨(g2 _).commit, fun hS => by simpa using hsx _ hS⟩, rfl, by simp⟩

/-! ### prune -/

def PendOnly (s s' : Sys) : Prop := ∃ d u, s' = { s with db := d, udb := u }

theorem PendOnly.refl (s : Sys) : PendOnly s s := ⟨s.db, s.udb, rfl⟩
theorem PendOnly.trans {a b c : Sys} (h1 : PendOnly a b) (h2 : PendOnly b c) : PendOnly a c := by
  obtain ⟨d, u, rfl⟩ := h1
  obtain ⟨d', u', rfl⟩ := h2
  exact ⟨d', u', rfl⟩
theorem PendOnly.modDb (s : Sys) (f) : PendOnly s (s.modDb f) := ⟨f s.db, s.udb, rfl⟩
theorem UdbOnly.pend {s s' : Sys} (h : UdbOnly s s') : PendOnly s s' := by
  obtain ⟨u, rfl⟩ := h; exact ⟨s.db, u, rfl⟩

section pendOnly
variable {s s' : Sys} (h : PendOnly s s')
include h
theorem PendOnly.disk : s'.disk = s.disk := by obtain ⟨d, u, rfl⟩ := h; rfl
theorem PendOnly.udisk : s'.udisk = s.udisk := by obtain ⟨d, u, rfl⟩ := h; rfl
theorem PendOnly.snaps : s'.snaps = s.snaps := by obtain ⟨d, u, rfl⟩ := h; rfl
theorem PendOnly.conns : s'.conns = s.conns := by obtain ⟨d, u, rfl⟩ := h; rfl
theorem PendOnly.cfg : s'.cfg = s.cfg := by obtain ⟨d, u, rfl⟩ := h; rfl
theorem PendOnly.out : s'.out = s.out := by obtain ⟨d, u, rfl⟩ := h; rfl
end pendOnly

/-- the nameplate loop of `prune`: never fails; deletes exactly the listed nameplates -/
theorem pruneNameplates_good {app : String} {now : Time} (l : List Nameplate) :
    ∀ {s s1 : Sys} {b : Bool}, s.pruneNameplates app now l = (s1, b) →
      s.db.CQ U t → (S → s.db.SExtra) → (∀ n ∈ l, n ∈ s.db.nameplates) →
      l.Pairwise (fun a b => ¬ a.id = b.id) →
      PendOnly s s1 ∧ s1.db.CQ U t ∧ (S → s1.db.SExtra) ∧ b = true ∧ s1.db.mailboxes = s.db.mailboxes ∧
        (∀ n ∈ s1.db.nameplates, n ∈ s.db.nameplates ∧ ∀ n' ∈ l, ¬ n'.id = n.id) := by
  induction l with
  | nil =>
    intro s s1 b e hdb hsx _ _
    cases e
    exact ⟨PendOnly.refl _, hdb, hsx, rfl, rfl, fun n hn => ⟨hn, by simp⟩⟩
  | cons np rest ih =>
    intro s s1 b e hdb hsx hmem hpw
    rw [List.pairwise_cons] at hpw
    unfold pruneNameplates at e
    dsimp only at e
    have hdb1 : ((s.db.delNpSidesOf np.id).delNameplate np.id).CQ U t :=
      ⟨.of_pinv_npOk (hdb.cinv.toPInv.delById np.id) (hdb.cinv.npOk.delById np.id), hdb.q.of_mailboxes_eq rfl⟩
    have hsx1 : S → ((s.db.delNpSidesOf np.id).delNameplate np.id).SExtra := fun hS => (hsx hS).delById np.id
    have hmem1 : ∀ n ∈ rest, n ∈ ((s.db.delNpSidesOf np.id).delNameplate np.id).nameplates := by
      intro n hn
      simp only [Chan.delNameplate, Chan.delNpSidesOf, List.mem_filter, decide_not, Bool.not_eq_eq_eq_not,
        Bool.not_true, decide_eq_false_iff_not]
      exact ⟨hmem n (by simp [hn]), fun e' => hpw.1 n hn e'.symm⟩
    -- the state after this iteration, with or without a usage record
    obtain ⟨s0, p0, e0, er⟩ : ∃ s0 : Sys, PendOnly s s0 ∧ s0.db = (s.db.delNpSidesOf np.id).delNameplate np.id ∧
        s0.pruneNameplates app now rest = (s1, b) := by
      split at e
      · split at e
        · rename_i s2 e2
          have := (storeNameplateUsage_spec e2).2 (npSidesOf_ne_nil hdb.cinv.npOk.hasSide (hmem np (by simp)))
          simp at this
        · rename_i s2 e2
          have hu2 := storeNameplateUsage_udbOnly
            (s.modDb (fun d => (d.delNpSidesOf np.id).delNameplate np.id)) app (s.db.npSidesOf np.id) now true
          rw [e2] at hu2
          exact ⟨s2, (PendOnly.modDb _ _).trans hu2.pend, by rw [hu2.db]; rfl, e⟩
      · exact ⟨_, PendOnly.modDb _ _, rfl, e⟩
    obtain ⟨k1, k2, k3, k4, k5, k6⟩ := ih er (by rw [e0]; exact hdb1) (by rw [e0]; exact hsx1)
      (by rw [e0]; exact hmem1) hpw.2
    refine ⟨p0.trans k1, k2, k3, k4, by rw [k5, e0]; rfl, fun n hn => ?_⟩
    obtain ⟨a1, a2⟩ := k6 n hn
    rw [e0] at a1
    simp only [Chan.delNameplate, Chan.delNpSidesOf, List.mem_filter, decide_not, Bool.not_eq_eq_eq_not,
      Bool.not_true, decide_eq_false_iff_not] at a1
    refine ⟨a1.1, fun n' hn' => ?_⟩
    rcases List.mem_cons.1 hn' with rfl | hn'
    · exact fun e' => a1.2 e'.symm
    · exact a2 n' hn'

/-- the mailbox loop of `prune`, run when no nameplate references the listed mailboxes any more -/
theorem pruneMailboxes_good {app : String} {now : Time} (l : List MailboxRow) :
    ∀ (s : Sys), s.db.CQ U t → (S → s.db.SExtra) →
      (∀ row ∈ l, ∀ n ∈ s.db.nameplates, ¬ n.mailbox = row.id) →
      PendOnly s (s.pruneMailboxes app now l) ∧ (s.pruneMailboxes app now l).db.CQ U t ∧
        (S → (s.pruneMailboxes app now l).db.SExtra) ∧
        (∀ a m, s.db.HasMb a m → (∀ row ∈ l, ¬ row.id = m) → (s.pruneMailboxes app now l).db.HasMb a m) := by
  induction l with
  | nil =>
    intro s hdb hsx _
    exact ⟨PendOnly.refl _, hdb, hsx, fun _ _ x _ => x⟩
  | cons row rest ih =>
    intro s hdb hsx hno
    unfold pruneMailboxes
    dsimp only
    have hdb1 : (((s.db.delMessagesOf row.id).delMbSidesOf row.id).delMailbox row.id).CQ U t :=
      ⟨.of_pinv_npOk (hdb.cinv.toPInv.pruneBlock (hno row (by simp))) (hdb.cinv.npOk.of_npPart (by rfl)),
        hdb.q.delMailbox row.id⟩
    have hsx1 : S → (((s.db.delMessagesOf row.id).delMbSidesOf row.id).delMailbox row.id).SExtra :=
      fun hS => (hsx hS).pruneBlock row.id
    have fin : ∀ s0 : Sys, PendOnly s s0 →
        s0.db = ((s.db.delMessagesOf row.id).delMbSidesOf row.id).delMailbox row.id →
        PendOnly s (s0.pruneMailboxes app now rest) ∧ (s0.pruneMailboxes app now rest).db.CQ U t ∧
        (S → (s0.pruneMailboxes app now rest).db.SExtra) ∧
        (∀ a m, s.db.HasMb a m → (∀ r ∈ row :: rest, ¬ r.id = m) →
          (s0.pruneMailboxes app now rest).db.HasMb a m) := by
      intro s0 p0 e0
      obtain ⟨k1, k2, k3, k4⟩ := ih s0 (by rw [e0]; exact hdb1) (by rw [e0]; exact hsx1)
        (by rw [e0]; exact fun r hr n hn => hno r (by simp [hr]) n hn)
      refine ⟨p0.trans k1, k2, k3, ?_⟩
      intro a m hb hne
      apply k4 a m
      · rw [e0]
        simp only [Chan.hasMb_delMailbox, Chan.hasMb_delMbSidesOf, Chan.hasMb_delMessagesOf]
        exact ⟨hb, fun e' => hne row (by simp) e'.symm⟩
      · exact fun r hr => hne r (by simp [hr])
    split
    · exact fin _ ((PendOnly.modDb _ _).trans (storeMailboxUsage_udbOnly _ _ _ _ _ _).pend) rfl
    · exact fin _ (PendOnly.modDb _ _) rfl

/-- the mailbox-table UPDATE of `prune`'s touch loop -/
def touchFn (s : Sys) (app : String) (now : Time) (r : MailboxRow) : MailboxRow :=
  if r.app = app ∧ (s.listeners app r.id) ≠ [] then { r with updated := now } else r

theorem touchListened_db (s : Sys) (app : String) (now : Time) :
    (s.touchListened app now).db = { s.db with mailboxes := s.db.mailboxes.map (s.touchFn app now) } := rfl

theorem touchFn_keys (s : Sys) (app : String) (now : Time) (r : MailboxRow) :
    (s.touchFn app now r).id = r.id ∧ (s.touchFn app now r).app = r.app := by
  unfold touchFn; split <;> simp

theorem touchListened_cq {s : Sys} (h : s.db.CQ U t) (app : String) {now : Time} (hnow : now ≤ t) :
    (s.touchListened app now).db.CQ U t := by
  rw [touchListened_db]
  refine ⟨.of_pinv_npOk (h.cinv.toPInv.mapMailboxes _ (s.touchFn_keys app now)) (h.cinv.npOk.of_npPart (by rfl)),
    h.q.mapMailboxes _ ?_⟩
  intro r
  refine ⟨(s.touchFn_keys app now r).1, ?_⟩
  unfold touchFn
  split
  · exact Or.inr hnow
  · exact Or.inl rfl

/-- a mailbox some connection listens to is stamped `now` by the touch loop, hence not "old" -/
theorem not_old_of_listened {s : Sys} (hp : s.db.PInv) {x : Conn} (hx : x ∈ s.conns) (hl : x.listening = true)
    {a m : String} (ha : x.app = some a) (hm : x.mailbox = some m) (hb : s.db.HasMb a m) {app : String}
    {now old : Time} (hold : old < now) :
    ∀ row ∈ ((s.touchListened app now).db.mailboxesOfApp app).filter (fun r => ¬ r.updated > old),
      ¬ row.id = m := by
  intro row hrow e
  simp only [touchListened_db, Chan.mailboxesOfApp, List.mem_filter, List.mem_map, decide_eq_true_eq,
    decide_not, Bool.not_eq_eq_eq_not, Bool.not_true, decide_eq_false_iff_not] at hrow
  obtain ⟨⟨⟨r0, hr0, rfl⟩, happ⟩, hupd⟩ := hrow
  obtain ⟨k1, k2⟩ := s.touchFn_keys app now r0
  rw [k1] at e
  rw [k2] at happ
  have : a = app := hp.mb_app_unique hb ⟨r0, hr0, e, happ⟩
  subst this
  have hlis : s.listeners a r0.id ≠ [] := by
    intro h0
    have : x.id ∈ s.listeners a r0.id := by
      simp only [listeners, List.mem_map, List.mem_filter, decide_eq_true_eq]
      exact ⟨x, ⟨hx, hl, ha, by rw [e]; exact hm⟩, rfl⟩
    rw [h0] at this
    simp at this
  apply hupd
  unfold touchFn
  rw [if_pos ⟨happ, hlis⟩]
  exact hold

/-- the nameplate loop as `prune` runs it, over the nameplates of `app` that point at an old mailbox:
    afterwards no nameplate references an old mailbox (every nameplate that points at a mailbox of
    `app` belongs to `app`, by the uniqueness of mailbox ids) -/
theorem pruneNameplates_old {sA s2 : Sys} {app : String} {now old : Time} {b : Bool} (hdb : sA.db.CQ U t)
    (hsx : S → sA.db.SExtra)
    (e : sA.pruneNameplates app now ((sA.db.nameplatesOfApp app).filter (fun r => r.mailbox ∈
      ((sA.db.mailboxesOfApp app).filter (fun r => ¬ r.updated > old)).map (·.id))) = (s2, b)) :
    PendOnly sA s2 ∧ s2.db.CQ U t ∧ (S → s2.db.SExtra) ∧ s2.db.mailboxes = sA.db.mailboxes ∧
      ∀ row ∈ (sA.db.mailboxesOfApp app).filter (fun r => ¬ r.updated > old),
        ∀ n ∈ s2.db.nameplates, ¬ n.mailbox = row.id := by
  obtain ⟨k1, k2, k3, _, k5, k6⟩ := pruneNameplates_good _ e hdb hsx
    (fun n hn => (List.mem_filter.1 (List.mem_filter.1 hn).1).1)
    (List.Pairwise.filter _ (List.Pairwise.filter _ hdb.cinv.npIds))
  refine ⟨k1, k2, k3, k5, fun row hrow n hn e' => ?_⟩
  obtain ⟨hnA, hnot⟩ := k6 n hn
  have hrow' := hrow
  simp only [Chan.mailboxesOfApp, List.mem_filter, decide_eq_true_eq] at hrow'
  have happ : n.app = app := hdb.cinv.toPInv.np_app_of_mailbox ⟨row, hrow'.1.1, rfl, hrow'.1.2⟩ hnA e'
  apply hnot n _ rfl
  refine List.mem_filter.2 ⟨List.mem_filter.2 ⟨hnA, by simpa using happ⟩, ?_⟩
  simp only [decide_eq_true_eq, List.mem_map]
  exact ⟨row, hrow, e'.symm⟩

/-- the FOREIGN KEY guard of the mailbox loop of `prune`, as a statement of its own: after the
    nameplate loop has run over `old_nameplates`, no nameplate row references any of the
    `old_mailboxes` (so each `DELETE FROM mailboxes WHERE id=?` is accepted: `Chan.pruneBlock_fk`) -/
theorem prune_fk_guard {sA s2 : Sys} {app : String} {now old : Time} {b : Bool} (hdb : sA.db.CQ U t)
    (e : sA.pruneNameplates app now ((sA.db.nameplatesOfApp app).filter (fun r => r.mailbox ∈
      ((sA.db.mailboxesOfApp app).filter (fun r => ¬ r.updated > old)).map (·.id))) = (s2, b)) :
    ∀ row ∈ (sA.db.mailboxesOfApp app).filter (fun r => ¬ r.updated > old),
      ∀ n ∈ s2.db.nameplates, ¬ n.mailbox = row.id :=
  (pruneNameplates_old (S := False) hdb False.elim e).2.2.2.2

/-- `AppNamespace.prune`: never fails; the FOREIGN KEY guard of the mailbox loop holds; no mailbox
    with a listener is deleted -/
theorem prune_good {s s1 : Sys} {app : String} {now old : Time} {b : Bool} (h : s.Good U t S)
    (hnow : now ≤ t) (hold : old < now) (e : s.prune app now old = (s1, b)) :
    s1.Good U t S ∧ b = true ∧ s1.conns = s.conns ∧ s1.cfg = s.cfg := by
  have q := prune_spec e
  have hb : b = true := (q.2 h.db.cinv.npOk).2.1
  suffices hG : s1.Good U t S ∧ s1.conns = s.conns from ⟨hG.1, hb, hG.2, q.1.cfg⟩
  subst hb
  rw [prune_eq] at e
  dsimp only at e
  have hm1 : ∀ a m, s.db.HasMb a m ↔ (s.touchListened app now).db.HasMb a m := by
    intro a m
    rw [touchListened_db]
    exact (Chan.hasMb_mapMailboxes _ _ _ _ (s.touchFn_keys app now)).symm
  have g1 : ((s.touchListened app now).commit).Good U t S := by
    refine ⟨h.toGood0.modDb_commit _ (touchListened_cq h.db app hnow) (fun a m => (hm1 a m).1), fun hS => ?_⟩
    simp only [commit_db, touchListened_db]
    exact (h.sx hS).mapMailboxes _ (fun r => (s.touchFn_keys app now r).1)
  have hc1 : ((s.touchListened app now).commit).conns = s.conns := by simp [touchListened]
  generalize hs1 : (s.touchListened app now).commit = sA at e g1 hc1
  have hdbA : sA.db = (s.touchListened app now).db := by rw [← hs1]; simp
  unfold pruneRest at e
  split at e
  · cases e
  · rename_i s2 e2
    obtain ⟨p2, hdb2, hsx2, hmb2, hguard⟩ := pruneNameplates_old g1.db g1.sx e2
    obtain ⟨p3, hdb3, hsx3, hm3⟩ := pruneMailboxes_good (app := app) (now := now) _ s2 hdb2 hsx2 hguard
    have p' := p2.trans p3
    have hlh : ∀ s4 : Sys, s4.conns = s.conns → s4.db = (s2.pruneMailboxes app now
        ((sA.db.mailboxesOfApp app).filter (fun r => ¬ r.updated > old))).db → s4.LHandleOk := by
      intro s4 c4 d4 x hx hl m hm
      rw [c4] at hx
      obtain ⟨a, ha, hb⟩ := h.lh x hx hl m hm
      refine ⟨a, ha, ?_⟩
      rw [d4]
      apply hm3 a m
      · obtain ⟨r, hr, er⟩ := (hm1 a m).1 hb
        exact ⟨r, by rw [hmb2, hdbA]; exact hr, er⟩
      · have := not_old_of_listened h.db.cinv.toPInv hx hl ha hm hb (app := app) (now := now) hold
        rwa [← hdbA] at this
    have gd := g1.d.of_eq p'.disk p'.snaps
    have hc3 := p'.conns.trans hc1
    dsimp only at e
    split at e
    · cases e
      refine ⟨?_, by split <;> simpa using hc3⟩
      split
      · exact ⟨⟨by simpa using hdb3, (gd.commit hdb3).ucommit, hlh _ (by simpa using hc3) (by simp)⟩, by simpa using hsx3⟩
      · exact ⟨⟨by simpa using hdb3, gd.commit hdb3, hlh _ (by simpa using hc3) (by simp)⟩, by simpa using hsx3⟩
    · cases e
      exact ⟨⟨⟨hdb3, gd, hlh _ hc3 rfl⟩, hsx3⟩, hc3⟩

theorem pruneApps_good {now old : Time} (hnow : now ≤ t) (hold : old < now) (l : List String) :
    ∀ {s s1 : Sys} {b : Bool}, s.Good U t S → s.pruneApps now old l = (s1, b) →
      s1.Good U t S ∧ b = true ∧ s1.conns = s.conns ∧ s1.cfg = s.cfg := by
  induction l with
  | nil =>
    intro s s1 b h e
    cases e
    exact ⟨h, rfl, rfl, rfl⟩
  | cons app rest ih =>
    intro s s1 b h e
    unfold pruneApps at e
    split at e
    all_goals
      rename_i s2 e2
      obtain ⟨k1, k2, k3, k4⟩ := prune_good h hnow hold e2
    · cases k2
    · obtain ⟨j1, j2, j3, j4⟩ := ih k1 e
      exact ⟨j1, j2, j3.trans k3, j4.trans k4⟩

/-! ### usage-only functions, expire -/

theorem Good.dumpStats {s : Sys} (h : s.Good U t S) (now : Time) : (s.dumpStats now).Good U t S := by
  unfold Sys.dumpStats
  split
  · exact (h.modUdb _).ucommit
  · exact h

@[simp] theorem dumpStats_conns (s : Sys) (now : Time) : (s.dumpStats now).conns = s.conns := by
  unfold Sys.dumpStats; split <;> simp

theorem Good.logClientVersion {s : Sys} (h : s.Good U t S) (a sd t' i v) :
    (s.logClientVersion a sd t' i v).Good U t S := by
  unfold Sys.logClientVersion
  split
  · exact (h.modUdb _).ucommit
  · exact h

/-- one firing of `expire()`: the sweep itself cannot fail (`pruneApps` returns `true`) -/
theorem expire_good {s : Sys} (h : s.Good U t S) {now : Time} (hnow : now ≤ t) (fault : Bool) :
    (s.expire now fault).Good U t S ∧ (s.expire now fault).conns = s.conns := by
  unfold Sys.expire
  dsimp only
  have hold : now - Generated.expirationTicks < now := Int.sub_lt_self now expirationTicks_pos
  have h0 := h.emit (.fired now (now - Generated.expirationTicks))
  split
  · exact ⟨(h0.emit _).dumpStats now, by simp [emit]⟩
  · split
    all_goals
      rename_i s1 e
      obtain ⟨k1, k2, k3, _⟩ := pruneApps_good hnow hold _ h0 e
    · exact ⟨k1.dumpStats now, by simpa [emit] using k3⟩
    · cases k2

end

end Sys
end Wormhole
