/-
  Websocket level (Ws.lean = server_websocket.py): every handler maps `Full` states to `Full`
  states, and emits an `Event.internal` only for the stated cause.

  `Full U t S s` = `Good U t S s` (Inv/StepInv.lean) + connection ids unique + every connection
  record is consistent (`Conn.Ok`) and remembers only known mailbox ids (`Conn.UC U`).
  `WInv … c z s` is the same with the record of the ACTING connection `c` pinned to the value `z`
  and exempted from `Conn.Ok` (it is transiently violated inside `handle_close`, which holds a
  handle without listening).
-/
import Wormhole.Inv.StepInv
import Wormhole.Inv.WsLemmas
import Wormhole.Reach
import Wormhole.Props.C04

namespace Wormhole

/-- the per-connection part of `ConnInv`: handle ⇔ listening, app ⇔ side -/
structure Conn.Ok (y : Conn) : Prop where
  hl : y.mailbox.isSome → y.listening = true
  lm : y.listening = true → y.mailbox.isSome
  bound : y.app.isSome ↔ y.side.isSome

def Conn.UC (U : String → Prop) (y : Conn) : Prop := ∀ m, y.mailboxId = some m → U m

/-- the mailbox id exists, but not under this app (finding K-global-mailbox-id) -/
def Chan.ForeignMb (d : Chan) (app mb : String) : Prop := ¬ d.HasMb app mb ∧ ∃ m ∈ d.mailboxes, m.id = mb

def IntOnly (A : Prop) (e : Event) : Prop := ∀ cc cls, e = .internal cc cls → A

theorem intOnly_of_commit {A : Prop} (e : Event) (h : Sys.IsCommit e) : IntOnly A e := by
  obtain ⟨w, rfl⟩ := h
  intro cc cls h; cases h

theorem intOnly_internal {A : Prop} (a : A) (c cls) : IntOnly A (.internal c cls) := fun _ _ _ => a

def Event.notInternal : Event → Bool
  | .internal _ _ => false
  | _ => true

theorem notInternal_of_intOnly_false {e : Event} (h : IntOnly False e) : e.notInternal = true := by
  cases e with
  | internal c cls => exact (h c cls rfl).elim
  | _ => rfl

theorem IntOnly.cause {A : Prop} {e : Event} (h : IntOnly A e) (he : e.notInternal = false) : A := by
  cases e with
  | internal c cls => exact h c cls rfl
  | _ => cases he

namespace Sys

theorem CExt.intOnly {A : Prop} {s s' : Sys} (h : CExt s s') : OutExt (IntOnly A) s s' :=
  h.mono intOnly_of_commit

section
variable {U : String → Prop} {t : Time} {S : Prop}

structure Full (U : String → Prop) (t : Time) (S : Prop) (s : Sys) : Prop where
  good : s.Good U t S
  ids : s.conns.Pairwise (fun a b => ¬ a.id = b.id)
  conn : ∀ y ∈ s.conns, y.Ok ∧ y.UC U

structure WInv (U : String → Prop) (t : Time) (S : Prop) (c : Nat) (z : Conn) (s : Sys) : Prop where
  good : s.Good U t S
  ids : s.conns.Pairwise (fun a b => ¬ a.id = b.id)
  others : ∀ y ∈ s.conns, ¬ y.id = c → y.Ok ∧ y.UC U
  self : ∀ y ∈ s.conns, y.id = c → y = z
  zid : z.id = c

theorem Full.winv {s : Sys} (h : s.Full U t S) {x : Conn} (hx : x ∈ s.conns) : s.WInv U t S x.id x := by
  refine ⟨h.good, h.ids, fun y hy _ => h.conn y hy, ?_, rfl⟩
  intro y hy e
  exact Chan.eq_of_pairwise_ne (f := Conn.id) h.ids hy hx e

theorem WInv.full {s : Sys} {c : Nat} {z : Conn} (h : s.WInv U t S c z) (hz : z.Ok) (hu : z.UC U) :
    s.Full U t S := by
  refine ⟨h.good, h.ids, ?_⟩
  intro y hy
  by_cases e : y.id = c
  · rw [h.self y hy e]; exact ⟨hz, hu⟩
  · exact h.others y hy e

theorem Full.emit {s : Sys} (h : s.Full U t S) (e : Event) : (s.emit e).Full U t S :=
  ⟨h.good.emit e, h.ids, h.conn⟩
theorem Full.send {s : Sys} (h : s.Full U t S) (c f) : (s.send c f).Full U t S := h.emit _
theorem Full.sendError {s : Sys} (h : s.Full U t S) (c txt) : (s.sendError c txt).Full U t S := h.emit _
theorem Full.internalErr {s : Sys} (h : s.Full U t S) (c cls) : (s.internalErr c cls).Full U t S := h.emit _

theorem WInv.emit {s : Sys} {c : Nat} {z : Conn} (h : s.WInv U t S c z) (e : Event) :
    (s.emit e).WInv U t S c z :=
  ⟨h.good.emit e, h.ids, h.others, h.self, h.zid⟩

theorem WInv.of_core {s s1 : Sys} {c : Nat} {z : Conn} (h : s.WInv U t S c z) (g : s1.Good U t S)
    (e : s1.conns = s.conns) : s1.WInv U t S c z :=
  ⟨g, by rw [e]; exact h.ids, by rw [e]; exact h.others, by rw [e]; exact h.self, h.zid⟩

theorem Full.of_core {s s1 : Sys} (h : s.Full U t S) (g : s1.Good U t S) (e : s1.conns = s.conns) :
    s1.Full U t S :=
  ⟨g, by rw [e]; exact h.ids, by rw [e]; exact h.conn⟩

/-- `Mailbox.close` (which may run the stop callbacks), while the acting connection is not listening -/
theorem WInv.of_close {s s1 : Sys} {c : Nat} {z : Conn} {app mb : String} (h : s.WInv U t S c z)
    (hz : z.listening = false) (g : s1.Good U t S)
    (e : s1.conns = s.conns ∨ s1.conns = (s.stopListeners app mb).conns) : s1.WInv U t S c z := by
  rcases e with e | e
  · exact h.of_core g e
  · refine ⟨g, ?_, fun y' hy' hne => ?_, fun y' hy' heq => ?_, h.zid⟩
    · rw [e]
      simp only [stopListeners, List.pairwise_map]
      refine h.ids.imp fun {a b} hab => ?_
      split <;> split <;> exact hab
    · rw [e] at hy'
      rcases mem_stopListeners hy' with ⟨hy, _⟩ | ⟨y, hy, _, rfl⟩
      · exact h.others y' hy hne
      · have hyo := h.others y hy hne
        exact ⟨⟨by simp, by simp, hyo.1.bound⟩, hyo.2⟩
    · rw [e] at hy'
      rcases mem_stopListeners hy' with ⟨hy, _⟩ | ⟨y, hy, hl, rfl⟩
      · exact h.self y' hy heq
      · rw [h.self y hy heq, hz] at hl; cases hl

theorem WInv.updConn {s : Sys} {c : Nat} {z : Conn} (h : s.WInv U t S c z) (f : Conn → Conn)
    (hid : (f z).id = z.id)
    (hlh : (f z).listening = true → ∀ m, (f z).mailbox = some m → ∃ a, (f z).app = some a ∧ s.db.HasMb a m) :
    (s.updConn c f).WInv U t S c (f z) := by
  have hidc : (f z).id = c := hid.trans h.zid
  -- a record of the new list is an old one with another id, or `f z`
  have hmem : ∀ y' ∈ (s.updConn c f).conns, (y' ∈ s.conns ∧ ¬ y'.id = c) ∨ y' = f z := by
    intro y' hy'
    simp only [Sys.updConn, List.mem_map] at hy'
    obtain ⟨y, hy, rfl⟩ := hy'
    split
    · rename_i hc; rw [h.self y hy hc]; exact Or.inr rfl
    · rename_i hc; exact Or.inl ⟨hy, hc⟩
  refine ⟨⟨⟨h.good.db, h.good.d.of_eq rfl rfl, fun y' hy' hl m hm => ?_⟩, h.good.sx⟩, ?_, fun y' hy' hne => ?_,
    fun y' hy' e => ?_, hidc⟩
  · rcases hmem y' hy' with ⟨hy, _⟩ | rfl
    · exact h.good.lh y' hy hl m hm
    · exact hlh hl m hm
  · simp only [Sys.updConn, List.pairwise_map]
    refine h.ids.imp_of_mem fun {a b} ha hb hab => ?_
    have key : ∀ y ∈ s.conns, (if y.id = c then f y else y).id = y.id := by
      intro y hy
      split
      · rename_i hc; rw [h.self y hy hc, hidc, h.zid]
      · rfl
    rw [key a ha, key b hb]; exact hab
  · rcases hmem y' hy' with ⟨hy, hc⟩ | rfl
    · exact h.others y' hy hc
    · exact absurd hidc hne
  · rcases hmem y' hy' with ⟨_, hc⟩ | rfl
    · exact absurd e hc
    · rfl

end

/-! ### `allocate` on a free name with a fresh mailbox id cannot be crowded, reclaimed or refused -/

theorem mbSidesOf_openSide_le (d : Chan) (mb side : String) (t : Time) :
    ((d.openSide mb side t).mbSidesOf mb).length ≤ (d.mbSidesOf mb).length + 1 := by
  unfold Chan.openSide
  split
  · simp only [Chan.mbSidesOf, Chan.touch, Chan.insMbSide, List.filter_append, List.length_append]
    have : ([({ mailbox := mb, opened := true, side := side, added := t, mood := none } : MbSide)].filter
        (fun r => decide (r.mailbox = mb))).length ≤ 1 := List.length_filter_le _ _
    omega
  · simp only [Chan.mbSidesOf, Chan.touch]; omega

theorem openMailbox_integrity {s s1 : Sys} {app mb side : String} {t : Time}
    (e : s.openMailbox app mb side t = (s1, .integrity)) : ¬ s.db.HasMb app mb := by
  unfold openMailbox at e
  split at e
  · rename_i e0; exact (addMailbox_none e0).1
  · dsimp only at e
    split at e <;> simp at e

theorem openMailbox_crowded {s s1 : Sys} {app mb side : String} {t : Time}
    (e : s.openMailbox app mb side t = (s1, .crowded)) : 2 ≤ (s.db.mbSidesOf mb).length := by
  unfold openMailbox at e
  split at e
  · simp at e
  · rename_i s0 e0
    have hs0 : s0.db.mbSides = s.db.mbSides := by
      rcases addMailbox_cases e0 with ⟨rfl, _⟩ | ⟨rfl, _⟩ <;> rfl
    dsimp only at e
    split at e
    · rename_i hlen
      have hdb : ((s0.mailboxOpen mb side t).commit).db = s0.db.openSide mb side t := by
        rw [mailboxOpen_eq]; simp
      rw [hdb] at hlen
      have := mbSidesOf_openSide_le s0.db mb side t
      have e2 : (s0.db.mbSidesOf mb) = (s.db.mbSidesOf mb) := by simp [Chan.mbSidesOf, hs0]
      rw [e2] at this
      omega
    · simp at e

theorem claimCont_isOk {s s1 : Sys} {app mb side : String} {npid : Nat} {t : Time} {r : ClaimRes}
    (hmb : s.db.HasMb app mb) (h1 : (s.db.mbSidesOf mb).length < 2) (h2 : (s.db.npSidesOf npid).length ≤ 2)
    (e : claimCont s app npid mb side t = (s1, r)) : r = .ok mb := by
  unfold claimCont at e
  dsimp only at e
  split at e
  · rename_i s3 e3
    exact absurd (by simpa using hmb) (openMailbox_integrity e3)
  · rename_i s3 e3
    have := openMailbox_crowded e3
    simp only [commit_db] at this
    omega
  · rename_i s3 e3
    obtain ⟨d, _, _⟩ := openMailbox_spec e3
    have hnp := d.np
    simp only [Chan.npPart, commit_db, Prod.mk.injEq] at hnp
    have e2 : s3.db.npSidesOf npid = s.db.npSidesOf npid := by simp [Chan.npSidesOf, hnp.2.1]
    rw [e2] at e
    split at e
    · omega
    · simp only [Prod.mk.injEq] at e
      exact e.2.symm

theorem npSidesOf_insNew_length (d : Chan) (hb : d.IdsBounded) (app name mb side : String) (t : Time) :
    (((d.insNameplate app name mb).insNpSide ⟨d.nextNp, true, side, t⟩).npSidesOf d.nextNp).length ≤ 1 := by
  have h0 : (d.npSides.filter (fun r => decide (r.npid = d.nextNp))) = [] := by
    simp only [List.filter_eq_nil_iff, decide_eq_true_eq]
    intro r' hr' e'
    have := hb.2 r' hr'
    omega
  simp only [Chan.npSidesOf, Chan.insNpSide, Chan.insNameplate, List.filter_append, List.length_append, h0,
    List.length_nil, Nat.zero_add]
  exact List.length_filter_le _ _

theorem claimNameplate_new_isOk {s s1 : Sys} {app name side fresh : String} {t : Time} {r : ClaimRes}
    (hc : s.db.CInv) (hnp : s.db.findNameplate app name = none) (hfresh : ∀ m ∈ s.db.mailboxes, ¬ m.id = fresh)
    (e : s.claimNameplate app name side t fresh = (s1, r)) : r = .ok fresh := by
  unfold claimNameplate at e
  simp only [hnp] at e
  split at e
  · rename_i e0
    obtain ⟨_, m, hm, em⟩ := addMailbox_none e0
    exact absurd em (hfresh m hm)
  · rename_i s0 e0
    rcases addMailbox_cases e0 with ⟨_, ⟨m, hm, em, _⟩⟩ | ⟨rfl, _⟩
    · exact absurd em (hfresh m hm)
    · have hside : ((s.modDb (·.insMailbox ⟨app, fresh, t, true⟩)).modDb (·.insNameplate app name fresh)).db.findNpSide
          (s.modDb (·.insMailbox ⟨app, fresh, t, true⟩)).db.nextNp side = none := by
        exact hc.bounded.findNpSide_fresh side
      rw [claimTail_eq, hside] at e
      dsimp only at e
      refine claimCont_isOk ?_ ?_ ?_ e
      · simp only [modDb_db, Chan.hasMb_insNpSide, Chan.hasMb_insNameplate]
        exact (Chan.hasMb_insMailbox _ _ _ _).2 (Or.inr ⟨rfl, rfl⟩)
      · have : ∀ r' ∈ s.db.mbSides, ¬ r'.mailbox = fresh := by
          intro r' hr' e'
          obtain ⟨m, hm, em⟩ := hc.msFk r' hr'
          exact hfresh m hm (em.trans e')
        have h0 : (s.db.mbSides.filter (fun r => decide (r.mailbox = fresh))) = [] := by
          simp only [List.filter_eq_nil_iff, decide_eq_true_eq]
          exact this
        simp [Chan.mbSidesOf, Chan.insNpSide, Chan.insNameplate, Chan.insMailbox, h0]
      · exact Nat.le_trans (npSidesOf_insNew_length (s.db.insMailbox ⟨app, fresh, t, true⟩) hc.bounded app name
          fresh side t) (by omega)

theorem findNameplate_none_of_findAvailable {d : Chan} {app : String} {pick : Nat} {draws : List Nat} {n : String}
    (h : findAvailable (d.namesOfApp app) pick draws = some n) : d.findNameplate app n = none := by
  obtain ⟨_, _, this, _⟩ := C04.C04_findAvailable_some h
  rw [mem_namesOfApp] at this
  simp only [Chan.findNameplate, List.find?_eq_none, decide_eq_true_eq]
  intro r hr hk
  exact this ⟨r, hr, hk⟩

/-! ### the handlers -/

/-- what can make a handler of a bound connection log an exception:
    `ValueError` of an exhausted allocation (K-alloc-exhaust), a "fresh" mailbox id that already
    exists (excluded by well-formedness), a mailbox id that exists under another app
    (K-global-mailbox-id) -/
def BoundCause (s : Sys) (x : Conn) (app : String) : Cmd → Prop
  | .allocate pick draws fresh =>
      findAvailable (s.db.namesOfApp app) pick draws = none ∨ ∃ m ∈ s.db.mailboxes, m.id = fresh
  | .claim _ fresh => s.db.ForeignMb app fresh
  | .open_ m => ∃ mb, m = some mb ∧ s.db.ForeignMb app mb
  | .close m _ => ∃ mb, (m = some mb ∨ (m = none ∧ x.mailboxId = some mb)) ∧ s.db.ForeignMb app mb
  | _ => False

section handlers
variable {U : String → Prop} {t : Time} {S : Prop} {s : Sys} {x : Conn} {A : Prop}

theorem ox_send {s1 : Sys} (h : OutExt (IntOnly A) s s1) (c f) : OutExt (IntOnly A) s (s1.send c f) :=
  h.send (fun _ _ _ he => nomatch he)
theorem ox_sendError {s1 : Sys} (h : OutExt (IntOnly A) s s1) (c txt) : OutExt (IntOnly A) s (s1.sendError c txt) :=
  ox_send h c _
theorem ox_internalErr {s1 : Sys} (h : OutExt (IntOnly A) s s1) (a : A) (c cls) :
    OutExt (IntOnly A) s (s1.internalErr c cls) :=
  h.emit (intOnly_internal a _ _)

theorem Full.updConn_flags (h : s.Full U t S) (hx : x ∈ s.conns) (f : Conn → Conn)
    (hf : (f x).id = x.id ∧ (f x).mailbox = x.mailbox ∧ (f x).listening = x.listening ∧ (f x).app = x.app ∧
      (f x).side = x.side ∧ (f x).mailboxId = x.mailboxId) : (s.updConn x.id f).Full U t S := by
  obtain ⟨f1, f2, f3, f4, f5, f6⟩ := hf
  obtain ⟨ok, uc⟩ := h.conn x hx
  refine ((h.winv hx).updConn f f1 ?_).full ⟨?_, ?_, ?_⟩ ?_
  · rw [f2, f3, f4]; exact h.good.lh x hx
  · rw [f2, f3]; exact ok.hl
  · rw [f2, f3]; exact ok.lm
  · rw [f4, f5]; exact ok.bound
  · intro m; rw [f6]; exact uc m

theorem handlePing_full (h : s.Full U t S) (c v) :
    (s.handlePing c v).Full U t S ∧ OutExt (IntOnly False) s (s.handlePing c v) := by
  unfold Sys.handlePing
  split
  · exact ⟨h.sendError _ _, ox_sendError OutExt.refl _ _⟩
  · exact ⟨h.send _ _, ox_send OutExt.refl _ _⟩

theorem handleBind_full (h : s.Full U t S) (hx : x ∈ s.conns) (t' a sd i v) :
    (s.handleBind x t' a sd i v).Full U t S ∧ OutExt (IntOnly False) s (s.handleBind x t' a sd i v) := by
  unfold Sys.handleBind
  split
  · exact ⟨h.sendError _ _, ox_sendError OutExt.refl _ _⟩
  · rename_i hg
    split
    · exact ⟨h.sendError _ _, ox_sendError OutExt.refl _ _⟩
    · split
      · exact ⟨h.sendError _ _, ox_sendError OutExt.refl _ _⟩
      · rename_i a' _ sd'
        obtain ⟨ok, uc⟩ := h.conn x hx
        have hnone : x.app = none := by
          cases hxa : x.app with
          | none => rfl
          | some _ => exact absurd (Or.inl (by simp [hxa])) hg
        have F1 : (s.updConn x.id (fun y => { y with app := some a', side := some sd' })).Full U t S := by
          refine ((h.winv hx).updConn _ rfl ?_).full ⟨ok.hl, ok.lm, by simp⟩ uc
          intro hl m hm
          obtain ⟨a0, ha0, _⟩ := h.good.lh x hx hl m hm
          rw [hnone] at ha0; cases ha0
        exact ⟨F1.of_core (F1.good.logClientVersion _ _ _ _ _) (by simp),
          (CExt.logClientVersion (OutExt.updConn OutExt.refl)).intOnly⟩

theorem handleList_full (h : s.Full U t S) (app) :
    (s.handleList x app).Full U t S ∧ OutExt (IntOnly False) s (s.handleList x app) :=
  ⟨h.send _ _, ox_send OutExt.refl _ _⟩

theorem handleAllocate_full (h : s.Full U t S) (hx : x ∈ s.conns) (app side pick draws) {fresh : String}
    (hu : U fresh) :
    (s.handleAllocate x app side t pick draws fresh).Full U t S ∧
    OutExt (IntOnly (s.BoundCause x app (.allocate pick draws fresh))) s
      (s.handleAllocate x app side t pick draws fresh) := by
  unfold Sys.handleAllocate
  split
  · exact ⟨h.sendError _ _, ox_sendError OutExt.refl _ _⟩
  · split
    · rename_i efa
      exact ⟨h.internalErr _ _, ox_internalErr OutExt.refl (Or.inl efa) _ _⟩
    · rename_i name efa
      -- the allocated name is free and the mailbox new, so only a stale "fresh" id makes the claim fail
      have hcause : ∀ {s1 : Sys} {r : ClaimRes}, s.claimNameplate app name side t fresh = (s1, r) →
          (∀ m, r ≠ .ok m) → s.BoundCause x app (.allocate pick draws fresh) := by
        intro s1 r e hr
        by_cases hf : ∃ m ∈ s.db.mailboxes, m.id = fresh
        · exact Or.inr hf
        · exact absurd (claimNameplate_new_isOk h.good.db.cinv (findNameplate_none_of_findAvailable efa)
            (fun m hm em => hf ⟨m, hm, em⟩) e) (hr fresh)
      split
      all_goals
        rename_i e
        obtain ⟨k1, k2, _⟩ := claimNameplate_good h.good hu e
        have F1 := h.of_core k1 k2
        have ox := (e ▸ CExt.claimNameplate (OutExt.refl (s := s))).intOnly
          (A := s.BoundCause x app (.allocate pick draws fresh))
      · exact ⟨(F1.updConn_flags (by rw [k2]; exact hx) _ ⟨rfl, rfl, rfl, rfl, rfl, rfl⟩).send _ _,
          ox_send (OutExt.updConn ox) _ _⟩
      · exact ⟨F1.internalErr _ _, ox_internalErr ox (hcause e (by simp)) _ _⟩
      · exact ⟨F1.internalErr _ _, ox_internalErr ox (hcause e (by simp)) _ _⟩
      · exact ⟨F1.internalErr _ _, ox_internalErr ox (hcause e (by simp)) _ _⟩

theorem handleClaim_full (h : s.Full U t S) (hx : x ∈ s.conns) (app side n) {fresh : String} (hu : U fresh) :
    (s.handleClaim x app side t n fresh).Full U t S ∧
    OutExt (IntOnly (s.db.ForeignMb app fresh)) s (s.handleClaim x app side t n fresh) := by
  unfold Sys.handleClaim
  split
  · exact ⟨h.sendError _ _, ox_sendError OutExt.refl _ _⟩
  · rename_i name
    split
    · exact ⟨h.sendError _ _, ox_sendError OutExt.refl _ _⟩
    · dsimp only
      have F0 : (s.updConn x.id (fun y => { y with didClaim := true, nameplateId := some name })).Full U t S :=
        h.updConn_flags hx _ ⟨rfl, rfl, rfl, rfl, rfl, rfl⟩
      split
      all_goals
        rename_i e
        obtain ⟨k1, k2, k5⟩ := claimNameplate_good F0.good hu e
        have F1 := F0.of_core k1 k2
        have ox := (e ▸ CExt.claimNameplate (OutExt.updConn (OutExt.refl (s := s)))).intOnly
          (A := s.db.ForeignMb app fresh)
      · exact ⟨F1.send _ _, ox_send ox _ _⟩
      · exact ⟨F1.sendError _ _, ox_sendError ox _ _⟩
      · exact ⟨F1.sendError _ _, ox_sendError ox _ _⟩
      · exact ⟨F1.internalErr _ _, ox_internalErr ox (k5 rfl) _ _⟩

theorem releaseWith_full (h : s.Full U t S) (hx : x ∈ s.conns) (app side t' name) :
    (s.releaseWith x app side t' name).Full U t S ∧ OutExt (IntOnly False) s (s.releaseWith x app side t' name) := by
  unfold Sys.releaseWith
  have F0 : (s.updConn x.id (fun y => { y with didRelease := true })).Full U t S :=
    h.updConn_flags hx _ ⟨rfl, rfl, rfl, rfl, rfl, rfl⟩
  split
  all_goals
    rename_i e
    obtain ⟨k1, k2, k3⟩ := releaseNameplate_good F0.good e
  · exact ⟨(F0.of_core k1 k3).send _ _,
      ox_send (e ▸ CExt.releaseNameplate (OutExt.updConn (OutExt.refl (s := s)))).intOnly _ _⟩
  · cases k2

theorem handleRelease_full (h : s.Full U t S) (hx : x ∈ s.conns) (app side t' n) :
    (s.handleRelease x app side t' n).Full U t S ∧ OutExt (IntOnly False) s (s.handleRelease x app side t' n) := by
  rw [handleRelease_eq]
  split
  · exact ⟨h.sendError _ _, ox_sendError OutExt.refl _ _⟩
  · split
    · split
      · exact ⟨h.sendError _ _, ox_sendError OutExt.refl _ _⟩
      · exact releaseWith_full h hx _ _ _ _
    · exact releaseWith_full h hx _ _ _ _
    · exact releaseWith_full h hx _ _ _ _
    · exact ⟨h.sendError _ _, ox_sendError OutExt.refl _ _⟩

theorem replay_full {s1 : Sys} (h : s1.Full U t S) (c app mb) : (s1.replay c app mb).Full U t S :=
  replay_closed (T := Full U t S) (fun _ c f h => h.send c f) h c app mb

theorem ox_replay {s1 : Sys} (h : OutExt (IntOnly A) s s1) (c app mb) : OutExt (IntOnly A) s (s1.replay c app mb) :=
  replay_closed (T := OutExt (IntOnly A) s) (fun _ c f h => ox_send h c f) h c app mb

theorem broadcast_full {s1 : Sys} (h : s1.Full U t S) (app mb f) : (s1.broadcast app mb f).Full U t S :=
  broadcast_closed (T := Full U t S) (fun _ c f h => h.send c f) h app mb f

theorem ox_broadcast {s1 : Sys} (h : OutExt (IntOnly A) s s1) (app mb f) :
    OutExt (IntOnly A) s (s1.broadcast app mb f) :=
  broadcast_closed (T := OutExt (IntOnly A) s) (fun _ c f h => ox_send h c f) h app mb f

theorem handleOpen_full (h : s.Full U t S) (hx : x ∈ s.conns) {app : String} (happ : x.app = some app)
    (side : String) (mailbox : Option String) (hu : ∀ mb, mailbox = some mb → U mb) :
    (s.handleOpen x app side t mailbox).Full U t S ∧
    OutExt (IntOnly (∃ mb, mailbox = some mb ∧ s.db.ForeignMb app mb)) s (s.handleOpen x app side t mailbox) := by
  unfold Sys.handleOpen
  split
  · exact ⟨h.sendError _ _, ox_sendError OutExt.refl _ _⟩
  · split
    · exact ⟨h.sendError _ _, ox_sendError OutExt.refl _ _⟩
    · rename_i mb
      dsimp only
      obtain ⟨ok, uc⟩ := h.conn x hx
      have w0 : (s.updConn x.id (fun y => { y with mailboxId := some mb })).WInv U t S x.id
          { x with mailboxId := some mb } :=
        (h.winv hx).updConn (fun y => { y with mailboxId := some mb }) rfl (h.good.lh x hx)
      have ok0 : ({ x with mailboxId := some mb } : Conn).Ok := ⟨ok.hl, ok.lm, ok.bound⟩
      have uc0 : ({ x with mailboxId := some mb } : Conn).UC U := by
        intro m hm
        cases hm
        exact hu _ rfl
      split
      all_goals
        rename_i e
        obtain ⟨k1, k2, _, _, k5, k6⟩ := openMailbox_good w0.good (hu mb rfl) e
        have w1 := w0.of_core k1 k2
        have ox := (e ▸ CExt.openMailbox (OutExt.updConn (OutExt.refl (s := s)))).intOnly
          (A := ∃ mb', some mb = some mb' ∧ s.db.ForeignMb app mb')
      · exact ⟨(w1.full ok0 uc0).sendError _ _, ox_sendError ox _ _⟩
      · exact ⟨(w1.full ok0 uc0).internalErr _ _, ox_internalErr ox ⟨mb, rfl, k6 rfl⟩ _ _⟩
      · have w2 := w1.updConn (fun y => { y with mailbox := some mb, listening := true }) rfl (by
          intro _ m hm
          cases hm
          exact ⟨app, happ, k5 (by simp)⟩)
        exact ⟨replay_full (w2.full ⟨by simp, by simp, ok.bound⟩ uc0) _ _ _, ox_replay (OutExt.updConn ox) _ _ _⟩

theorem handleAdd_full (h : s.Full U t S) (hx : x ∈ s.conns) {app : String} (happ : x.app = some app)
    (side : String) (id : Val) (ph bd : Option Val) :
    (s.handleAdd x app side t id ph bd).Full U t S ∧ OutExt (IntOnly False) s (s.handleAdd x app side t id ph bd) := by
  unfold Sys.handleAdd
  split
  · exact ⟨h.sendError _ _, ox_sendError OutExt.refl _ _⟩
  · rename_i mb hmb
    split
    · exact ⟨h.sendError _ _, ox_sendError OutExt.refl _ _⟩
    · split
      · exact ⟨h.sendError _ _, ox_sendError OutExt.refl _ _⟩
      · rename_i ph' _ bd'
        obtain ⟨ok, _⟩ := h.conn x hx
        have hl := ok.hl (by simp [hmb])
        obtain ⟨a, ha, hb⟩ := h.good.lh x hx hl mb hmb
        rw [happ] at ha
        cases ha
        have F1 := h.of_core (addMessage_good h.good side ph' bd' id hb) (by simp)
        exact ⟨broadcast_full F1 _ _ _, ox_broadcast (CExt.addMessage OutExt.refl).intOnly _ _ _⟩

/-- the rest of `handle_close`, from a state where the acting connection's record is `z` -/
theorem closeFinish_full {s1 : Sys} {r : OpenRes} {z : Conn} (w1 : s1.WInv U t S x.id z) (hzok : r ≠ .ok → z.Ok)
    (hzb : z.app.isSome ↔ z.side.isSome) (hzu : z.UC U) (ox : OutExt (IntOnly A) s s1) (hint : r = .integrity → A)
    (app side hd mood) :
    (closeFinish x app side t mood (s1, r, hd)).Full U t S ∧
      OutExt (IntOnly A) s (closeFinish x app side t mood (s1, r, hd)) := by
  cases r
  · dsimp only [Sys.closeFinish]
    have w2 := w1.updConn (fun y => { y with listening := false, didClose := true }) rfl
      (by intro hl; simp at hl)
    split
    all_goals
      rename_i e
      obtain ⟨k1, k2, k4⟩ := mailboxClose_good w2.good e
    · cases k2
    · have w4 := (w2.of_close rfl k1 k4).updConn (fun y => { y with mailbox := none }) rfl
        (by intro hl; simp at hl)
      have ox3 := ox.trans (e ▸ CExt.mailboxClose (OutExt.updConn (OutExt.refl (s := s1)))).intOnly
      exact ⟨(w4.full ⟨by simp, by simp, hzb⟩ hzu).send _ _, ox_send (OutExt.updConn ox3) _ _⟩
  · exact ⟨(w1.full (hzok (by simp)) hzu).sendError _ _, ox_sendError ox _ _⟩
  · exact ⟨(w1.full (hzok (by simp)) hzu).internalErr _ _, ox_internalErr ox (hint rfl) _ _⟩

/-- `handle_close` for the mailbox id `mb` -/
theorem close_full (h : s.Full U t S) (hx : x ∈ s.conns) (app side : String) {mb : String} (mood : Option String)
    (humb : U mb) (hA : s.db.ForeignMb app mb → A) :
    (closeFinish x app side t mood (s.closeOpened x app side t mb)).Full U t S ∧
      OutExt (IntOnly A) s (closeFinish x app side t mood (s.closeOpened x app side t mb)) := by
  obtain ⟨ok, uc⟩ := h.conn x hx
  unfold Sys.closeOpened
  cases hxm : x.mailbox with
  | some hd => exact closeFinish_full (h.winv hx) (fun _ => ok) ok.bound uc OutExt.refl (fun e => nomatch e) ..
  | none =>
    dsimp only
    cases e : s.openMailbox app mb side t with
    | mk s1 r =>
      obtain ⟨k1, k2, _, _, _, k6⟩ := openMailbox_good h.good humb e
      have w2 := ((h.winv hx).of_core k1 k2).updConn
        (fun y => if r = OpenRes.ok then { y with mailbox := some mb } else y) (by split <;> rfl) (by
          intro hl m _
          have hl' : x.listening = true := by split at hl <;> exact hl
          have := ok.lm hl'
          rw [hxm] at this; cases this)
      refine closeFinish_full w2 (fun hr => ?_) ?_ (fun m hm => uc m ?_)
        (OutExt.updConn (e ▸ CExt.openMailbox (OutExt.refl (s := s))).intOnly) (fun er => hA (k6 er)) ..
      · rw [if_neg hr]; exact ok
      · split <;> exact ok.bound
      · split at hm <;> exact hm

theorem handleClose_full (h : s.Full U t S) (hx : x ∈ s.conns) (app : String)
    (side : String) (mailbox : Option String) (mood : Option String) (hu : ∀ mb, mailbox = some mb → U mb) :
    (s.handleClose x app side t mailbox mood).Full U t S ∧
    OutExt (IntOnly (s.BoundCause x app (.close mailbox mood))) s (s.handleClose x app side t mailbox mood) := by
  rw [handleClose_eq]
  split
  · exact ⟨h.sendError _ _, ox_sendError OutExt.refl _ _⟩
  · split
    · rename_i m held hheld
      split
      · exact ⟨h.sendError _ _, ox_sendError OutExt.refl _ _⟩
      · exact close_full h hx app side mood (hu m rfl) (fun hf => ⟨m, Or.inl rfl, hf⟩)
    · rename_i m _
      exact close_full h hx app side mood (hu m rfl) (fun hf => ⟨m, Or.inl rfl, hf⟩)
    · rename_i held hheld
      exact close_full h hx app side mood ((h.conn x hx).2 held hheld) (fun hf => ⟨held, Or.inr ⟨rfl, hheld⟩, hf⟩)
    · exact ⟨h.sendError _ _, ox_sendError OutExt.refl _ _⟩

theorem IntOnly.imp {A B : Prop} (f : A → B) (e : Event) (h : IntOnly A e) : IntOnly B e :=
  fun cc cls he => f (h cc cls he)

theorem handleBound_full (h : s.Full U t S) (hx : x ∈ s.conns) {app : String} (happ : x.app = some app)
    (c : Nat) (id : Val) (cmd : Cmd) (hu : ∀ m ∈ cmd.mailboxIds, U m) :
    (s.handleBound c x app t id cmd).Full U t S ∧
      OutExt (IntOnly (s.BoundCause x app cmd)) s (s.handleBound c x app t id cmd) := by
  cases cmd with
  | list => exact handleList_full h _
  | allocate pick draws fresh => exact handleAllocate_full h hx _ _ _ _ (hu fresh (by simp [Cmd.mailboxIds]))
  | claim n fresh => exact handleClaim_full h hx _ _ _ (hu fresh (by simp [Cmd.mailboxIds]))
  | release n => exact handleRelease_full h hx _ _ _ _
  | open_ m => exact handleOpen_full h hx happ _ m (fun mb e => hu mb (by simp [Cmd.mailboxIds, e]))
  | add ph bd => exact handleAdd_full h hx happ _ _ _ _
  | close m mood => exact handleClose_full h hx app _ m mood (fun mb e => hu mb (by simp [Cmd.mailboxIds, e]))
  | _ => exact ⟨h.sendError _ _, ox_sendError OutExt.refl _ _⟩

end handlers

/-! ### onMessage and the other operations -/

/-- the only causes of an `internal` event while a message is processed -/
def IntCause (s : Sys) (c : Nat) (cmd : Cmd) : Prop :=
  ∃ x app, s.findConn c = some x ∧ x.app = some app ∧ s.BoundCause x app cmd

section ops
variable {U : String → Prop} {t : Time} {S : Prop} {s : Sys}

theorem onMessage_full (h : s.Full U t S) (c : Nat) (id : Val) (cmd : Cmd) (hu : ∀ m ∈ cmd.mailboxIds, U m) :
    (s.onMessage c t id cmd).Full U t S ∧ OutExt (IntOnly (s.IntCause c cmd)) s (s.onMessage c t id cmd) := by
  rw [onMessage_dispatch]
  split
  · exact ⟨h, OutExt.refl⟩
  · rename_i x hfx
    have hx : x ∈ s.conns := findConn_mem hfx
    have ha := h.send c (.ack id)
    have oxa : ∀ {A : Prop}, OutExt (IntOnly A) s (s.send c (.ack id)) := ox_send OutExt.refl _ _
    -- the handlers run after the ack; what they say about causes is about the state before it
    have fin : ∀ {A B : Prop} {s' : Sys}, (A → B) →
        s'.Full U t S ∧ OutExt (IntOnly A) (s.send c (.ack id)) s' → s'.Full U t S ∧ OutExt (IntOnly B) s s' :=
      fun f hh => ⟨hh.1, oxa.trans (hh.2.mono (IntOnly.imp f))⟩
    split
    · exact ⟨h.sendError _ _, ox_sendError OutExt.refl _ _⟩
    · exact fin False.elim (handlePing_full ha _ _)
    · exact fin False.elim (handleBind_full ha hx _ _ _ _ _)
    · split
      · exact ⟨ha.sendError _ _, ox_sendError oxa _ _⟩
      · rename_i app happ
        exact fin (fun a => ⟨x, app, hfx, happ, a⟩) (handleBound_full ha hx happ c id _ hu)

theorem connect_full (h : s.Full U t S) (c : Nat) (hfresh : ∀ x ∈ s.conns, x.id ≠ c) : (s.connect c).Full U t S := by
  unfold Sys.connect
  apply Full.send
  refine ⟨⟨⟨h.good.db, h.good.d.of_eq rfl rfl, ?_⟩, h.good.sx⟩, ?_, ?_⟩
  · intro y hy hl m hm
    simp only [List.mem_append, List.mem_singleton] at hy
    rcases hy with hy | rfl
    · exact h.good.lh y hy hl m hm
    · cases hl
  · simp only [List.pairwise_append, List.pairwise_cons, List.mem_singleton]
    refine ⟨h.ids, by simp, ?_⟩
    intro a ha b hb; subst hb
    exact hfresh a ha
  · intro y hy
    simp only [List.mem_append, List.mem_singleton] at hy
    rcases hy with hy | rfl
    · exact h.conn y hy
    · exact ⟨⟨by simp, by simp, by simp⟩, fun m hm => by cases hm⟩

theorem dropConn_full (h : s.Full U t S) (c : Nat) : (s.dropConn c).Full U t S := by
  refine ⟨⟨⟨h.good.db, h.good.d.of_eq rfl rfl, ?_⟩, h.good.sx⟩, h.ids.filter _, ?_⟩
  · intro y hy
    simp only [Sys.dropConn, List.mem_filter] at hy
    exact h.good.lh y hy.1
  · intro y hy
    simp only [Sys.dropConn, List.mem_filter] at hy
    exact h.conn y hy.1

theorem restart_full (h : s.Full U t S) (hsync : s.db = s.disk) (t' : Time) : (s.restart t').Full U t S := by
  refine ⟨⟨⟨h.good.d.disk, h.good.d.of_eq rfl rfl, ?_⟩, ?_⟩, List.Pairwise.nil, ?_⟩
  · intro y hy; simp [Sys.restart] at hy
  · intro hS
    show s.disk.SExtra
    rw [← hsync]; exact h.good.sx hS
  · intro y hy; simp [Sys.restart] at hy

def OpIntCause (s : Sys) : Op → Prop
  | .recv c _ _ cmd => s.IntCause c cmd
  | .sweep _ fault => fault = true
  | _ => False

/-- every plain operation, run at its own time `t`, keeps the invariant (in particular every
    snapshot it commits satisfies `CInv`), and emits `internal` only for the stated causes -/
theorem stepPlain_full (h : s.Full U t S) (hsync : s.db = s.disk) (op : Op)
    (hconn : ∀ c, op = .connect c → ∀ x ∈ s.conns, x.id ≠ c)
    (hu : ∀ m ∈ op.mailboxIds, U m) (ht : ∀ t', op.time? = some t' → t' = t) :
    (s.stepPlain op).Full U t S ∧ OutExt (IntOnly (s.OpIntCause op)) s (s.stepPlain op) := by
  cases op with
  | connect c => exact ⟨connect_full h c (hconn c rfl), ox_send (OutExt.of_out_eq rfl) _ _⟩
  | recv c t' id cmd =>
    have := ht t' rfl
    subst this
    exact onMessage_full h c id cmd hu
  | drop c => exact ⟨dropConn_full h c, OutExt.of_out_eq rfl⟩
  | sweep now fault =>
    have := ht now rfl
    subst this
    obtain ⟨k1, k2⟩ := expire_good h.good (Int.le_refl _) fault
    refine ⟨h.of_core k1 k2, expire_outExt (fun w => intOnly_of_commit _ ⟨w, rfl⟩)
      (fun _ _ _ _ he => nomatch he) (fun hf _ => intOnly_internal hf _ _) (fun hfail _ => ?_)⟩
    rw [(pruneApps_good (Int.le_refl _) (Int.sub_lt_self now expirationTicks_pos) _ (h.good.emit _) rfl).2.1] at hfail
    cases hfail
  | restart t' => exact ⟨restart_full h hsync t', OutExt.of_out_eq rfl⟩
  | crashIn k op => exact ⟨h, OutExt.refl⟩

end ops

end Sys
end Wormhole
