/-
  The subscription lists `Sys.listeners app mb` through the websocket handlers: which
  connection records a command changes, and what that does to every `listeners a m`.
-/
import Wormhole.Inv.MsgOpen

namespace Wormhole
namespace Sys

/-- `x` is a listener of the `Mailbox` object of `(a, m)` -/
def isL (a m : String) (x : Conn) : Bool :=
  decide (x.listening ∧ x.app = some a ∧ x.mailbox = some m)

theorem isL_iff {a m : String} {x : Conn} :
    isL a m x = true ↔ x.listening = true ∧ x.app = some a ∧ x.mailbox = some m := by
  simp [isL]

theorem listeners_eq (s : Sys) (a m : String) : s.listeners a m = (s.conns.filter (isL a m)).map (·.id) := rfl

theorem mem_listeners_iff {s : Sys} {a m : String} {c : Nat} :
    c ∈ s.listeners a m ↔ ∃ x ∈ s.conns, x.id = c ∧ isL a m x = true := by
  simp only [listeners_eq, List.mem_map, List.mem_filter]
  constructor
  · rintro ⟨x, ⟨h1, h2⟩, h3⟩; exact ⟨x, h1, h3, h2⟩
  · rintro ⟨x, h1, h3, h2⟩; exact ⟨x, ⟨h1, h2⟩, h3⟩

/-- connection ids are unique, so each listener is listed once -/
theorem listeners_pairwise {s : Sys} (h : s.conns.Pairwise (fun a b => ¬ a.id = b.id)) (a m : String) :
    (s.listeners a m).Pairwise (· ≠ ·) := by
  rw [listeners_eq, List.pairwise_map]
  exact (h.filter _).imp (fun h => h)

def updL (c : Nat) (f : Conn → Conn) (l : List Conn) : List Conn :=
  l.map (fun x => if x.id = c then f x else x)

def stopC (a m : String) (x : Conn) : Conn :=
  if x.listening ∧ x.app = some a ∧ x.mailbox = some m then { x with mailbox := none, listening := false }
  else x

def stopL (a m : String) (l : List Conn) : List Conn := l.map (stopC a m)

theorem updConn_conns' (s : Sys) (c : Nat) (f : Conn → Conn) : (s.updConn c f).conns = updL c f s.conns := rfl
theorem stopListeners_conns' (s : Sys) (a m : String) : (s.stopListeners a m).conns = stopL a m s.conns := rfl

theorem stopC_id (a m : String) (x : Conn) : (stopC a m x).id = x.id := by unfold stopC; split <;> rfl
theorem stopC_app (a m : String) (x : Conn) : (stopC a m x).app = x.app := by unfold stopC; split <;> rfl

/-- the stop callbacks of `(a, m)` end the subscriptions to `(a, m)` and no other -/
theorem isL_stopC (a m a' m' : String) (x : Conn) :
    isL a' m' (stopC a m x) = (isL a' m' x && !decide (a' = a ∧ m' = m)) := by
  unfold stopC
  split
  · rename_i h
    by_cases hk : a' = a ∧ m' = m
    · simp [isL, hk]
    · have : ¬ (a = a' ∧ m = m') := fun e => hk ⟨e.1.symm, e.2.symm⟩
      simp [isL, h, this]
  · rename_i h
    by_cases hk : a' = a ∧ m' = m
    · obtain ⟨rfl, rfl⟩ := hk
      simpa [isL] using h
    · simp [hk]

theorem listeners_of_map {s s' : Sys} (G : Conn → Conn) (h : s'.conns = s.conns.map G)
    (hid : ∀ y ∈ s.conns, (G y).id = y.id) (a m : String) :
    s'.listeners a m = (s.conns.filter (fun y => isL a m (G y))).map (·.id) := by
  rw [listeners_eq, h, List.filter_map, List.map_map]
  apply List.map_congr_left
  intro y hy
  exact hid y (List.mem_filter.1 hy).1

/-- the record is the same as far as subscriptions are concerned -/
def KL (y y' : Conn) : Prop :=
  y'.id = y.id ∧ y'.listening = y.listening ∧ y'.app = y.app ∧ y'.mailbox = y.mailbox

/-- every connection record is the same as far as subscriptions are concerned -/
def KeepL (s s' : Sys) : Prop := ∃ G : Conn → Conn, s'.conns = s.conns.map G ∧ ∀ y, KL y (G y)

theorem KeepL.of_eq {s s' : Sys} (h : s'.conns = s.conns) : KeepL s s' :=
  ⟨id, by simp [h], fun _ => ⟨rfl, rfl, rfl, rfl⟩⟩

theorem KeepL.refl (s : Sys) : KeepL s s := KeepL.of_eq rfl

theorem KeepL.trans {a b c : Sys} (h1 : KeepL a b) (h2 : KeepL b c) : KeepL a c := by
  obtain ⟨G1, e1, k1⟩ := h1
  obtain ⟨G2, e2, k2⟩ := h2
  refine ⟨G2 ∘ G1, by simp [e2, e1], fun y => ?_⟩
  obtain ⟨a1, a2, a3, a4⟩ := k1 y
  obtain ⟨b1, b2, b3, b4⟩ := k2 (G1 y)
  exact ⟨b1.trans a1, b2.trans a2, b3.trans a3, b4.trans a4⟩

theorem KeepL.updConn {s s1 : Sys} (h : KeepL s s1) {c : Nat} {f : Conn → Conn} (hf : ∀ y, KL y (f y)) :
    KeepL s (s1.updConn c f) :=
  h.trans ⟨fun x => if x.id = c then f x else x, rfl, fun y => by
    show KL y (if y.id = c then f y else y)
    split
    · exact hf y
    · exact ⟨rfl, rfl, rfl, rfl⟩⟩

theorem KeepL.conns_eq {s s1 s2 : Sys} (h : KeepL s s1) (e : s2.conns = s1.conns) : KeepL s s2 :=
  h.trans (KeepL.of_eq e)

theorem KeepL.listeners {s s' : Sys} (h : KeepL s s') (a m : String) : s'.listeners a m = s.listeners a m := by
  obtain ⟨G, e, k⟩ := h
  rw [listeners_of_map G e (fun y _ => (k y).1), listeners_eq]
  congr 1
  apply List.filter_congr
  intro y _
  obtain ⟨_, k2, k3, k4⟩ := k y
  simp [isL, k2, k3, k4]

/-- the kinds of statements that keep every subscription list: all but the stop callbacks and the
    updates of binding, handle and subscription -/
def Kind.keepsSubs : Kind → Bool
  | .closeDel _ _ | .bind | .conn | .link | .boot => false
  | _ => true

theorem KeepL.stmt {k : Kind} {s s' : Sys} (h : Stmt k s s') (hk : k.keepsSubs = true) : KeepL s s' := by
  cases h with
  | flag _ c f hf =>
    exact (KeepL.refl _).updConn (fun y => ⟨(hf y).1, (hf y).2.2.2.2, (hf y).2.1, (hf y).2.2.2.1⟩)
  | closeDeletes | stop | bind | conn | conns | restart => cases hk
  | commit | ucommit => exact KeepL.of_eq (by simp)
  | storeNp _ _ _ _ _ hu => exact KeepL.of_eq (Stmt.conns_eq (.storeNp _ _ _ _ _ hu) rfl)
  | _ => exact KeepL.of_eq rfl

theorem Runs.keepL {s s' : Sys} (r : Runs (fun k => k.keepsSubs = true) s s') : KeepL s s' :=
  r.lift KeepL.refl (fun _ _ _ => KeepL.trans) (fun _ hk _ _ h => KeepL.stmt h hk)

section keep
variable {s : Sys} {x : Conn}

theorem broadcast_conns (app mb f) : (s.broadcast app mb f).conns = s.conns := by
  rw [broadcast_eq]

theorem replay_conns (c app mb) : (s.replay c app mb).conns = s.conns := by
  rw [Sys.replay, foldl_send_eq]

/-- `open`: unless `open_mailbox` answers ok, only `mailboxId` is recorded -/
theorem handleOpen_conns {app side t mailbox} :
    KeepL s (s.handleOpen x app side t mailbox) ∨
    (∃ mb, mailbox = some mb ∧ x.mailbox = none ∧
      ((s.updConn x.id (fun y => { y with mailboxId := some mb })).openMailbox app mb side t).2 = .ok ∧
      (s.handleOpen x app side t mailbox).conns =
        updL x.id (fun y => { y with mailbox := some mb, listening := true })
          (updL x.id (fun y => { y with mailboxId := some mb }) s.conns)) := by
  unfold handleOpen
  split
  · exact .inl (KeepL.of_eq rfl)
  · rename_i hmb
    split
    · exact .inl (KeepL.of_eq rfl)
    · rename_i mb
      have h0 : KeepL s (s.updConn x.id (fun y => { y with mailboxId := some mb })) :=
        (KeepL.refl s).updConn (fun y => ⟨rfl, rfl, rfl, rfl⟩)
      have h := openMailbox_conns (s.updConn x.id (fun y => { y with mailboxId := some mb })) app mb side t
      simp only []
      split <;> rename_i heq <;> rw [heq] at h
      · exact .inl (h0.conns_eq h)
      · exact .inl (h0.conns_eq h)
      · refine .inr ⟨mb, rfl, by simpa using hmb, by rw [heq], ?_⟩
        rw [replay_conns, updConn_conns', h]
        rfl

end keep

/-- the connection records after an accepted `close` by `c` of the mailbox with handle `h` under
    app `a`: `c`'s record stops listening (and may lose / gain the handle), and, when the mailbox
    was deleted (`stopped`), the stop callbacks ran on every remaining listener of `(a, h)` -/
def CloseShape (c : Nat) (a h : String) (stopped : Bool) (l l' : List Conn) : Prop :=
  ∃ f1 f3 : Conn → Conn, (∀ y, (f1 y).id = y.id) ∧ (∀ y, (f3 y).id = y.id ∧ (f3 y).listening = y.listening) ∧
    l' = updL c f3 ((if stopped then stopL a h else id)
      (updL c (fun y => { y with listening := false, didClose := true }) (updL c f1 l)))

/-- `handle_close` from the point where the handle `h` is held, the records being `updL x.id f1` of
    those the command found -/
theorem closeFinish_conns {s0 s1 : Sys} {x : Conn} {f1 : Conn → Conn} (hf1 : ∀ y, (f1 y).id = y.id)
    (hc1 : s1.conns = updL x.id f1 s0.conns) (app h side : String) (mood : Option String) (t : Time) :
    ∃ stopped, CloseShape x.id app h stopped s0.conns (closeFinish x app side t mood (s1, .ok, h)).conns ∧
      (stopped = true → ∀ k ∈ (closeFinish x app side t mood (s1, .ok, h)).db.mbKeys, ¬ k.2 = h) := by
  have hmc := mailboxClose_conns (s1.updConn x.id (fun y => { y with listening := false, didClose := true }))
    app h side mood t
  dsimp only [closeFinish]
  split <;> rename_i heq <;> rw [heq] at hmc <;> simp only at hmc
  · -- IndexError: the record keeps the handle
    rcases hmc with ⟨hc, _⟩ | ⟨hc, _, hk⟩
    · refine ⟨false, ⟨f1, id, hf1, fun _ => ⟨rfl, rfl⟩, ?_⟩, by simp⟩
      show _ = updL x.id id _
      rw [show (Sys.internalErr _ x.id "IndexError").conns = _ from hc, updConn_conns', hc1]
      simp [updL]
    · refine ⟨true, ⟨f1, id, hf1, fun _ => ⟨rfl, rfl⟩, ?_⟩, fun _ => hk⟩
      show _ = updL x.id id _
      rw [show (Sys.internalErr _ x.id "IndexError").conns = _ from hc, stopListeners_conns', updConn_conns', hc1]
      simp [updL]
  · rcases hmc with ⟨hc, _⟩ | ⟨hc, _, hk⟩
    · refine ⟨false, ⟨f1, fun y => { y with mailbox := none }, hf1, fun _ => ⟨rfl, rfl⟩, ?_⟩, by simp⟩
      show (Sys.updConn _ x.id _).conns = _
      rw [updConn_conns', hc, updConn_conns', hc1]
      simp
    · refine ⟨true, ⟨f1, fun y => { y with mailbox := none }, hf1, fun _ => ⟨rfl, rfl⟩, ?_⟩, fun _ => hk⟩
      show (Sys.updConn _ x.id _).conns = _
      rw [updConn_conns', hc, stopListeners_conns', updConn_conns', hc1]
      simp

theorem handleClose_conns {s : Sys} {x : Conn} {app side : String} {t : Time} {m mood}
    (h1 : x.didClose = false)
    (h2 : ∀ a held, m = some a → x.mailboxId = some held → a = held)
    (h3 : ¬ (m = none ∧ x.mailboxId = none)) :
    (x.mailbox = none ∧ KeepL s (s.handleClose x app side t m mood)) ∨
    (∃ stopped h, CloseShape x.id app h stopped s.conns (s.handleClose x app side t m mood).conns ∧
      (stopped = true → ∀ k ∈ (s.handleClose x app side t m mood).db.mbKeys, ¬ k.2 = h)) := by
  rcases handleClose_cases s x app side t m mood with ⟨_, hd | ⟨a, held, ha, hh, hne⟩ | hn⟩ | ⟨mb, _, e⟩
  · rw [h1] at hd; cases hd
  · exact absurd (h2 a held ha hh) hne
  · exact absurd hn h3
  · rw [e]
    unfold closeOpened
    cases hx : x.mailbox with
    | some h =>
      obtain ⟨stopped, hsh⟩ := closeFinish_conns (s0 := s) (s1 := s) (x := x) (f1 := id) (fun _ => rfl)
        (by simp [updL]) app h side mood t
      exact .inr ⟨stopped, h, hsh⟩
    | none =>
      have hc := openMailbox_conns s app mb side t
      cases hom : s.openMailbox app mb side t with
      | mk s1 r =>
        rw [hom] at hc
        simp only at hc
        cases r with
        | ok =>
          obtain ⟨stopped, hsh⟩ := closeFinish_conns (s0 := s) (x := x) (f1 := fun y => { y with mailbox := some mb })
            (s1 := s1.updConn x.id (fun y => if OpenRes.ok = .ok then { y with mailbox := some mb } else y))
            (fun _ => rfl) (by rw [updConn_conns', hc]; simp) app mb side mood t
          exact .inr ⟨stopped, mb, hsh⟩
        | crowded => exact .inl ⟨rfl, KeepL.of_eq (by simp [closeFinish, updConn_conns', hc, updL])⟩
        | integrity => exact .inl ⟨rfl, KeepL.of_eq (by simp [closeFinish, updConn_conns', hc, updL])⟩

theorem CloseShape.listeners {s s' : Sys} {c : Nat} {a h : String} {stopped : Bool}
    (hsh : CloseShape c a h stopped s.conns s'.conns) (a' m' : String) (c' : Nat) :
    c' ∈ s'.listeners a' m' ↔
      c' ∈ s.listeners a' m' ∧ c' ≠ c ∧ ¬ (stopped = true ∧ a' = a ∧ m' = h) := by
  obtain ⟨f1, f3, hf1, hf3, e⟩ := hsh
  -- the change, record by record: `c`'s records stop listening, the others see the stop callbacks only
  let st : Conn → Conn := if stopped then stopC a h else id
  let G : Conn → Conn := fun y => if y.id = c
    then f3 (st ({ f1 y with listening := false, didClose := true })) else st y
  have hst : ∀ z, (st z).id = z.id ∧ (z.listening = false → (st z).listening = false) := by
    intro z
    cases stopped
    · exact ⟨rfl, id⟩
    · simp only [st, if_true, stopC]
      split <;> simp_all
  have hmap : s'.conns = s.conns.map G := by
    rw [e]
    cases stopped
    all_goals
      simp only [updL, stopL, List.map_map, if_true, Bool.false_eq_true, if_false, id]
      apply List.map_congr_left
      intro y _
      by_cases hy : y.id = c <;> simp [G, st, hy, hf1, stopC_id]
  have hG : ∀ y, (G y).id = y.id ∧
      isL a' m' (G y) = (decide (y.id ≠ c) && isL a' m' y && !(stopped && decide (a' = a ∧ m' = h))) := by
    intro y
    by_cases hy : y.id = c
    · have hl : (f3 (st ({ f1 y with listening := false, didClose := true }))).listening = false := by
        rw [(hf3 _).2]; exact (hst _).2 rfl
      have hGy : G y = f3 (st ({ f1 y with listening := false, didClose := true })) := if_pos hy
      refine ⟨by rw [hGy, (hf3 _).1, (hst _).1]; exact hf1 y, ?_⟩
      rw [hGy]
      simp [isL, hl, hy]
    · cases stopped <;> simp [G, st, hy, stopC_id, isL_stopC]
  rw [listeners_of_map G hmap (fun y _ => (hG y).1), mem_listeners_iff]
  simp only [List.mem_map, List.mem_filter, (hG _).2, Bool.and_eq_true, Bool.not_eq_true', Bool.and_eq_false_iff,
    decide_eq_true_eq, decide_eq_false_iff_not]
  constructor
  · rintro ⟨y, ⟨hy, ⟨hne, hl⟩, hns⟩, rfl⟩
    exact ⟨⟨y, hy, rfl, hl⟩, hne, fun hc => by rcases hns with h0 | h0 <;> simp_all⟩
  · rintro ⟨⟨y, hy, rfl, hl⟩, hne, hns⟩
    refine ⟨y, ⟨hy, ⟨hne, hl⟩, ?_⟩, rfl⟩
    cases stopped <;> simp_all

theorem onMessage_rejected_conns {s : Sys} {c : Nat} {x : Conn} {t : Time} {id : Val} {cmd : Cmd} {text : String}
    (hx : s.findConn c = some x) (hr : rejectText x cmd = some text) :
    (s.onMessage c t id cmd).conns = s.conns := by
  rw [onMessage_rejected hx hr]
  split <;> rfl

def _root_.Wormhole.Cmd.touchesSubs : Cmd → Bool
  | .bind _ _ _ _ | .open_ _ | .close _ _ => true
  | _ => false

/-- **every command other than `bind` / `open` / `close` keeps every subscription list**
    (whether accepted or refused, whatever it does to the database) -/
theorem onMessage_keepL {s : Sys} {c : Nat} {t : Time} {id : Val} {cmd : Cmd}
    (hc : cmd.touchesSubs = false) : KeepL s (s.onMessage c t id cmd) := by
  refine Runs.keepL (onMessage_runs (K := fun k => k.keepsSubs = true) rfl rfl rfl s c t id rfl (fun _ => rfl) (fun _ _ _ _ _ _ _ _ _ => rfl)
    ?_ ?_ (fun _ => rfl) (fun _ => rfl) ?_)
  · rintro ⟨_, _, _, _, rfl⟩; cases hc
  · rintro (⟨_, rfl⟩ | ⟨_, _, rfl⟩) <;> cases hc
  · rintro _ _ _ _ _ _ rfl; cases hc

/-- `bind`: refused, or the record (which was unbound) gets its app and side -/
theorem onMessage_bind_conns {s : Sys} {c : Nat} {x : Conn} {t : Time} {id : Val} {a sd i v}
    (hx : s.findConn c = some x) :
    (s.onMessage c t id (.bind a sd i v)).conns = s.conns ∨
    (x.app = none ∧ ∃ a' sd', (s.onMessage c t id (.bind a sd i v)).conns =
      updL c (fun y => { y with app := some a', side := some sd' }) s.conns) := by
  have hid := findConn_id hx
  cases hr : rejectText x (.bind a sd i v) with
  | some text => exact .inl (onMessage_rejected_conns hx hr)
  | none =>
    right
    simp only [rejectText] at hr
    split at hr; · cases hr
    rename_i hb
    split at hr; · cases hr
    split at hr; · cases hr
    obtain ⟨a', rfl⟩ := Option.ne_none_iff_exists'.1 ‹¬ a = none›
    obtain ⟨sd', rfl⟩ := Option.ne_none_iff_exists'.1 ‹¬ sd = none›
    have h1 : x.app = none := by
      cases h : x.app
      · rfl
      · exact absurd (Or.inl (by simp [h])) hb
    refine ⟨h1, a', sd', ?_⟩
    have hb' : ¬ (x.app.isSome = true ∨ x.side.isSome = true ∧ x.side ≠ some "") := by
      rintro (h | ⟨h, h'⟩)
      · simp [h1] at h
      · exact hb (Or.inr ⟨by intro h0; simp [h0] at h, h'⟩)
    simp only [onMessage, hx, handleBind, if_neg hb', logClientVersion_conns, hid]
    rfl

/-- `open`: every subscription list is kept, unless the command is accepted and answered ok -/
theorem onMessage_open_conns {s : Sys} {c : Nat} {x : Conn} {t : Time} {id : Val} {mailbox : Option String}
    (hx : s.findConn c = some x) :
    KeepL s (s.onMessage c t id (.open_ mailbox)) ∨
    (∃ a mb, x.app = some a ∧ mailbox = some mb ∧ x.mailbox = none ∧
      s.db.openRes a mb (x.side.getD "") = .ok ∧
      (s.onMessage c t id (.open_ mailbox)).conns =
        updL c (fun y => { y with mailbox := some mb, listening := true })
          (updL c (fun y => { y with mailboxId := some mb }) s.conns)) := by
  have hid := findConn_id hx
  unfold onMessage
  simp only [hx]
  cases ha : x.app with
  | none => exact .inl (KeepL.of_eq rfl)
  | some a =>
    simp only []
    rcases handleOpen_conns (s := s.send c (.ack id)) (x := x) (app := a) (side := x.side.getD "") (t := t)
      (mailbox := mailbox) with h | ⟨mb, h1, h2, h3, h4⟩
    · exact .inl ((KeepL.of_eq rfl).trans h)
    · refine .inr ⟨a, mb, rfl, h1, h2, ?_, ?_⟩
      · rw [openMailbox_res] at h3; exact h3
      · rw [h4, hid]; rfl

/-- `close`: refused or answered crowded / IntegrityError (then the connection held no handle and
    nothing changes), or the records change as `CloseShape` says -/
theorem onMessage_close_conns {s : Sys} {c : Nat} {x : Conn} {t : Time} {id : Val} {m : Option String} {mood}
    (hx : s.findConn c = some x) :
    ((rejectText x (.close m mood) ≠ none ∨ x.mailbox = none) ∧ KeepL s (s.onMessage c t id (.close m mood))) ∨
    (rejectText x (.close m mood) = none ∧ ∃ a stopped h, x.app = some a ∧
      CloseShape c a h stopped s.conns (s.onMessage c t id (.close m mood)).conns ∧
      (stopped = true → ∀ k ∈ (s.onMessage c t id (.close m mood)).db.mbKeys, ¬ k.2 = h)) := by
  have hid := findConn_id hx
  cases hr : rejectText x (.close m mood) with
  | some text => exact .inl ⟨.inl (by simp), KeepL.of_eq (onMessage_rejected_conns hx hr)⟩
  | none =>
    obtain ⟨⟨app, happ⟩, h⟩ := needBind_eq_none hr
    have h1 : x.didClose = false := by cases hd : x.didClose <;> simp_all
    have e : s.onMessage c t id (.close m mood) =
        (s.send c (.ack id)).handleClose x app (x.side.getD "") t m mood := by
      simp [onMessage, hx, happ]
    rw [e]
    rcases handleClose_conns (s := s.send c (.ack id)) (x := x) (app := app) (side := x.side.getD "") (t := t)
      (m := m) (mood := mood) h1
      (by
        intro a held hn hh
        subst hn
        simpa [h1, hh] using h)
      (by
        rintro ⟨rfl, hh⟩
        simp [h1, hh] at h) with ⟨hxm, hk⟩ | ⟨stopped, hh, hsh, hst⟩
    · exact .inl ⟨.inr hxm, (KeepL.of_eq rfl).trans hk⟩
    · refine .inr ⟨rfl, app, stopped, hh, happ, ?_, hst⟩
      subst hid; exact hsh

end Sys
end Wormhole
