/-
  `claim_nameplate` / `handle_claim`: what an answer `claimed` guarantees about the side rows, the
  exact outcome of a claim of an existing nameplate whose mailbox is crowded, and the whole `claim` step.
-/
import Wormhole.Inv.MbStep

namespace Wormhole
namespace Sys

theorem openMailbox_ok_facts {s s1 : Sys} {app mb side : String} {t : Time}
    (e : s.openMailbox app mb side t = (s1, .ok)) :
    s1.db.npPart = s.db.npPart ∧ (s1.db.mbSidesOf mb).length ≤ 2 ∧ side ∈ s1.db.sidesOf mb := by
  obtain ⟨d, _, _⟩ := openMailbox_spec e
  refine ⟨d.np, ?_⟩
  unfold openMailbox at e
  split at e
  · cases e
  · rename_i s0 e0
    dsimp only at e
    split at e
    · cases e
    · rename_i hlen
      simp only [Prod.mk.injEq, and_true] at e
      subst e
      refine ⟨by omega, ?_⟩
      simp only [commit_db, mailboxOpen_db]
      rw [Chan.mem_sidesOf]
      cases hs : s0.db.findMbSide mb side with
      | none => exact ⟨⟨mb, true, side, t, none⟩, by simp [Chan.touch, Chan.insMbSide], rfl, rfl⟩
      | some r => exact ⟨r, Chan.findMbSide_some hs⟩

theorem claimCont_ok {s s1 : Sys} {app : String} {npid : Nat} {mb side : String} {t : Time} {mb' : String}
    (h : claimCont s app npid mb side t = (s1, .ok mb')) :
    mb' = mb ∧ s1.db.npPart = s.db.npPart ∧ (s1.db.npSidesOf npid).length ≤ 2 ∧
    (s1.db.mbSidesOf mb).length ≤ 2 ∧ side ∈ s1.db.sidesOf mb := by
  unfold claimCont at h
  dsimp only at h
  split at h
  · cases h
  · cases h
  · rename_i s3 e
    split at h
    · cases h
    · rename_i hlen
      simp only [Prod.mk.injEq, ClaimRes.ok.injEq] at h
      obtain ⟨rfl, rfl⟩ := h
      obtain ⟨h1, h2, h3⟩ := openMailbox_ok_facts e
      exact ⟨rfl, by rw [h1]; simp, by omega, h2, h3⟩

/-- what an answer `claimed mb'` to side `side` for nameplate (app, name) guarantees about the
    database: the nameplate row exists and points at `mb'`, the side is among the nameplate's at
    most two side rows and among the at most two side rows of the mailbox -/
def _root_.Wormhole.Chan.ClaimedFacts (d : Chan) (app name side mb' : String) : Prop :=
  ∃ n ∈ d.nameplates, n.app = app ∧ n.name = name ∧ n.mailbox = mb' ∧
    side ∈ d.npSideNames n.id ∧ (d.npSidesOf n.id).length ≤ 2 ∧
    side ∈ d.sidesOf mb' ∧ (d.mbSidesOf mb').length ≤ 2

theorem claimNameplate_ok_call {s s1 : Sys} {app name side : String} {t : Time} {fresh mb' : String}
    (h : s.claimNameplate app name side t fresh = (s1, .ok mb')) :
    ∃ (s2 : Sys) (n : Nameplate), n ∈ s2.db.nameplates ∧ n.app = app ∧ n.name = name ∧
      (∃ r ∈ s2.db.npSides, r.npid = n.id ∧ r.side = side ∧ r.claimed = true) ∧
      claimCont s2 app n.id n.mailbox side t = (s1, .ok mb') := by
  have tail : ∀ {s2 : Sys} {n : Nameplate}, s2.claimTail app n.id n.mailbox side t = (s1, .ok mb') →
      ∃ s3 : Sys, s3.db.nameplates = s2.db.nameplates ∧
        (∃ r ∈ s3.db.npSides, r.npid = n.id ∧ r.side = side ∧ r.claimed = true) ∧
        claimCont s3 app n.id n.mailbox side t = (s1, .ok mb') := by
    intro s2 n h
    rw [claimTail_eq] at h
    split at h
    · exact ⟨s2.modDb _, rfl, ⟨⟨n.id, true, side, t⟩, by simp [Chan.insNpSide], rfl, rfl, rfl⟩, h⟩
    · rename_i r hr
      have hr' := List.find?_some hr
      simp only [decide_eq_true_eq] at hr'
      split at h
      · rename_i hc
        exact ⟨s2, rfl, ⟨r, List.mem_of_find?_eq_some hr, hr'.1, hr'.2, hc⟩, h⟩
      · cases h
  unfold claimNameplate at h
  split at h
  · split at h
    · cases h
    · rename_i s0 e0
      obtain ⟨s3, hnp, hside, hc⟩ := tail (n := ⟨s0.db.nextNp, app, name, fresh⟩) h
      exact ⟨s3, _, by rw [hnp]; simp [Chan.insNameplate], rfl, rfl, hside, hc⟩
  · rename_i row hrow
    have hk := List.find?_some hrow
    simp only [decide_eq_true_eq] at hk
    obtain ⟨s3, hnp, hside, hc⟩ := tail h
    exact ⟨s3, row, by rw [hnp]; exact List.mem_of_find?_eq_some hrow, hk.1, hk.2, hside, hc⟩

/-- **what `claimed` guarantees** (no invariant needed) -/
theorem claimNameplate_ok {s s1 : Sys} {app name side : String} {t : Time} {fresh mb' : String}
    (h : s.claimNameplate app name side t fresh = (s1, .ok mb')) :
    s1.db.ClaimedFacts app name side mb' := by
  obtain ⟨s2, n, hn, ha, hnm, ⟨r, hr, e1, e2, _⟩, hc⟩ := claimNameplate_ok_call h
  obtain ⟨rfl, hpart, h2, h3, h4⟩ := claimCont_ok hc
  simp only [Chan.npPart, Prod.mk.injEq] at hpart
  refine ⟨n, by rw [hpart.1]; exact hn, ha, hnm, rfl, ?_, h2, h4, h3⟩
  simp only [Chan.npSideNames, Chan.npSidesOf, List.mem_map, List.mem_filter, decide_eq_true_eq]
  exact ⟨r, ⟨by rw [hpart.2.1]; exact hr, e1⟩, e2⟩

theorem claimCont_crowded {s s1 : Sys} {app : String} {npid : Nat} {mb side : String} {t : Time}
    {r : ClaimRes} (hids : s.db.mailboxes.Pairwise (fun a b => ¬ a.id = b.id)) (hmb : s.db.HasBox app mb)
    (hlen : ((s.db.openDb app mb side t).mbSidesOf mb).length > 2)
    (h : claimCont s app npid mb side t = (s1, r)) :
    r = .crowded ∧ s1.db = s.db.openDb app mb side t ∧ s1.conns = s.conns := by
  unfold claimCont at h
  dsimp only at h
  have hnc : ¬ s.db.Clash app mb := fun hc => hc.2 hmb
  cases e : s.commit.openMailbox app mb side t with
  | mk s3 r0 =>
    rw [e] at h
    obtain ⟨hint, _, hne, hcrowd⟩ := openMailbox_exact' (s := s.commit) (by rw [commit_db]; exact hids) e
    rw [commit_db] at hint hne hcrowd
    have hr0 : r0 = .crowded := hcrowd.2 ⟨hnc, hlen⟩
    subst hr0
    dsimp only at h
    simp only [Prod.mk.injEq] at h
    obtain ⟨rfl, rfl⟩ := h
    obtain ⟨hdb, _, hrest⟩ := hne (by simp)
    exact ⟨rfl, hdb, by rw [hrest.conns, commit_conns]⟩

/-- **a claim of an existing nameplate whose mailbox would then have more than two side rows** is
    refused: `crowded` -- or `reclaimed` if this side had released the nameplate before (then
    nothing changes at all) -/
theorem claimNameplate_crowded {s s1 : Sys} {app name side : String} {t : Time} {fresh : String}
    {r : ClaimRes} {row : Nameplate}
    (hids : s.db.mailboxes.Pairwise (fun a b => ¬ a.id = b.id))
    (hrow : s.db.findNameplate app name = some row) (hmb : s.db.HasBox app row.mailbox)
    (hlen : ((s.db.openDb app row.mailbox side t).mbSidesOf row.mailbox).length > 2)
    (h : s.claimNameplate app name side t fresh = (s1, r)) :
    ((∃ r0, s.db.findNpSide row.id side = some r0 ∧ r0.claimed = false) → r = .reclaimed ∧ s1 = s) ∧
    ((¬ ∃ r0, s.db.findNpSide row.id side = some r0 ∧ r0.claimed = false) →
      r = .crowded ∧ s1.conns = s.conns ∧
      s1.db = { s.db.openDb app row.mailbox side t with
        npSides := s.db.npSides ++
          (if s.db.findNpSide row.id side = none then [⟨row.id, true, side, t⟩] else []) }) := by
  unfold claimNameplate at h
  rw [hrow] at h
  dsimp only at h
  rw [claimTail_eq] at h
  cases hs : s.db.findNpSide row.id side with
  | none =>
    rw [hs] at h
    dsimp only at h
    refine ⟨(fun ⟨r0, h0, _⟩ => by cases h0), fun _ => ?_⟩
    obtain ⟨h1, h2, h3⟩ := claimCont_crowded (s := s.modDb (·.insNpSide ⟨row.id, true, side, t⟩))
      hids hmb hlen h
    exact ⟨h1, h3, by rw [h2]; rfl⟩
  | some r0 =>
    rw [hs] at h
    dsimp only at h
    by_cases hcl : r0.claimed = true
    · rw [if_pos hcl] at h
      refine ⟨(fun ⟨r1, h1, h2⟩ => by cases h1; rw [hcl] at h2; cases h2), fun _ => ?_⟩
      obtain ⟨h1, h2, h3⟩ := claimCont_crowded hids hmb hlen h
      exact ⟨h1, h3, by rw [h2]; simp; rfl⟩
    · rw [if_neg hcl] at h
      cases h
      exact ⟨fun _ => ⟨rfl, rfl⟩, fun hno => absurd ⟨r0, rfl, by simpa using hcl⟩ hno⟩

theorem claim_accepted {x : Conn} {n : Option String} {fresh : String} (hr : rejectText x (.claim n fresh) = none) :
    (∃ app, x.app = some app) ∧ x.didClaim = false ∧ ∃ name, n = some name := by
  obtain ⟨happ, h⟩ := needBind_eq_none hr
  cases n with
  | none => simp at h
  | some name =>
    refine ⟨happ, ?_, name, rfl⟩
    cases hd : x.didClaim <;> simp_all

/-- the answer to a `claim`, by the result of `claim_nameplate` -/
def claimAnswer (c : Nat) : ClaimRes → Event
  | .ok mb => .frame c (.claimed mb) true
  | .crowded => .frame c (.error "crowded") true
  | .reclaimed => .frame c (.error "reclaimed") true
  | .integrity => .internal (some c) "IntegrityError"

/-- **`claim`, the whole step** (validation passed): the output is `ack, commits, answer`, the
    state is what `claim_nameplate` left; no connection gains or loses a handle or a subscription -/
theorem claim_step {s : Sys} (hP : s.db.PInv) (hS : s.Synced)
    {c : Nat} {x : Conn} (hx : s.findConn c = some x) {name fresh : String}
    (hr : rejectText x (.claim (some name) fresh) = none) {app : String} (happ : x.app = some app)
    (t : Time) (id : Val) :
    ∃ s1 r, (((({ s with out := [], snaps := [] } : Sys).send c (.ack id)).updConn c
        (fun y => { y with didClaim := true, nameplateId := some name })).claimNameplate app name
          (x.side.getD "") t fresh) = (s1, r) ∧
      (∃ commits, (∀ e ∈ commits, IsCommit e) ∧ (s.step (.recv c t id (.claim (some name) fresh))).out =
        .frame c (.ack id) true :: (commits ++ [claimAnswer c r])) ∧
      (s.step (.recv c t id (.claim (some name) fresh))).db = s1.db ∧
      (s.step (.recv c t id (.claim (some name) fresh))).Synced ∧
      (s.step (.recv c t id (.claim (some name) fresh))).conns = s1.conns := by
  obtain ⟨_, hdc, _⟩ := claim_accepted hr
  rw [step_claim t id name fresh hx happ hdc]
  obtain rfl : x.id = c := findConn_id hx
  obtain ⟨sA, hA, hAout, hU⟩ := acked hS x.id id
  rw [hA]
  cases e : (sA.updConn x.id (fun y => { y with didClaim := true, nameplateId := some name })).claimNameplate app name
      (x.side.getD "") t fresh with
  | mk s1 r =>
    refine ⟨s1, r, rfl, ?_⟩
    obtain ⟨q, _, hd⟩ := claimNameplate_spec e (by show sA.db.IdsBounded; rw [hU.db]; exact hP.bounded)
    have hsync1 : s1.Synced := by
      refine ⟨hd (by show sA.db = sA.disk; rw [hU.db, hU.disk]; exact hS.1), ?_⟩
      rw [q.udb, q.udisk]; show sA.udb = sA.udisk; rw [hU.udb, hU.udisk]; exact hS.2
    obtain ⟨commits, hout, hc⟩ :
        CExt (sA.updConn x.id (fun y => { y with didClaim := true, nameplateId := some name })) s1 := by
      have := CExt.claimNameplate (OutExt.refl (s := sA.updConn x.id (fun y => { y with didClaim := true, nameplateId := some name })))
        (app := app) (name := name) (side := x.side.getD "") (t := t) (fresh := fresh)
      rwa [e] at this
    replace hout : s1.out = .frame x.id (.ack id) true :: commits := by
      rw [hout]; show sA.out ++ _ = _; rw [hAout]; rfl
    have hfr : ∀ f, (s1.send x.id f).out = .frame x.id (.ack id) true :: (commits ++ [.frame x.id f true]) :=
      fun f => by rw [send_out hsync1, hout]; rfl
    cases r with
    | ok mb => exact ⟨⟨commits, hc, hfr _⟩, rfl, hsync1, rfl⟩
    | crowded => exact ⟨⟨commits, hc, hfr _⟩, rfl, hsync1, rfl⟩
    | reclaimed => exact ⟨⟨commits, hc, hfr _⟩, rfl, hsync1, rfl⟩
    | integrity => exact ⟨⟨commits, hc, by show s1.out ++ [_] = _; rw [hout]; rfl⟩, rfl, hsync1, rfl⟩

theorem claimNameplate_conns_mbx (s : Sys) (app name side : String) (t : Time) (fresh : String) :
    (s.claimNameplate app name side t fresh).1.conns = s.conns := by
  have hC : ClosedG (fun s' : Sys => s'.conns = s.conns) :=
    { emit := fun _ _ _ h => h
      modUdb := fun _ _ h => h
      commit := fun s' h => by rw [commit_conns]; exact h
      ucommit := fun s' h => by rw [ucommit_conns]; exact h
      grow := fun _ _ _ h => h }
  exact hC.claimNameplate rfl app name side t fresh

end Sys
end Wormhole
