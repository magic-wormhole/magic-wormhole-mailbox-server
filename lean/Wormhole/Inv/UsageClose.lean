/-
  The usage rows of a deleting `close`, exactly.

  `mailboxClose_udb`: when `Mailbox.close` finds no opened side left it appends one usage
  `nameplates` row per nameplate of the app that points at the mailbox (repair F, before the DELETEs)
  and one usage `mailboxes` row computed from the side rows AFTER its own UPDATE (the closing side's
  row already carries `opened = 0` and the submitted mood).
  `close_step_split`: unless the implicit `open_mailbox` of a connection without a handle hits an id
  of another app, an accepted `close` reaches a state `S` (after the ack and that open) from which it
  answers "crowded" or runs `Mailbox.close`; the channel database of `S` is `closePre` (committed, if
  the step started committed), its usage database is untouched, and every `UClosed` property of the
  state after the ack holds of `S`.
  `close_step_udb`: the usage database after the whole operation, in terms of `closePre`.
-/
import Wormhole.Inv.UsageTrack
import Wormhole.Inv.MbStep

namespace Wormhole

theorem Chan.retiredNp_dropMailbox {B d : Chan} (hd : d.PInv) (hB : B.nameplates = d.nameplates)
    (app mb : String) : B.retiredNp (d.dropMailbox app mb) = d.nameplatesOfMailbox app mb := by
  unfold Chan.retiredNp
  rw [hB]
  exact filter_absent_filter_not Nameplate.id (fun n => n.app = app ∧ n.mailbox = mb) hd.npIds

theorem Chan.retiredMb_dropMailbox {B d : Chan} (hd : d.PInv) (hB : B.mailboxes = d.mailboxes)
    {app mb : String} {row : MailboxRow} (hrow : d.findMailbox app mb = some row) :
    B.retiredMb (d.dropMailbox app mb) = [row] := by
  obtain ⟨hmem, happ, hid⟩ := Chan.findMailbox_some_mbx hrow
  unfold Chan.retiredMb
  rw [hB]
  refine (filter_absent_filter_not MailboxRow.id (fun m => m.app = app ∧ m.id = mb) hd.mbIds).trans ?_
  apply filter_eq_singleton (·.id) _ hd.mbIds hmem
  · simp [happ, hid]
  · intro y _ hy
    simp only [decide_eq_true_eq] at hy
    rw [hy.2, hid]

namespace Sys

/-- the loop of repair F appends one row per nameplate, in order -/
theorem storeNameplatesOfMailbox_eq {app : String} {t : Time} (l : List Nameplate) :
    ∀ {s : Sys}, (∀ n ∈ l, s.db.npSidesOf n.id ≠ []) →
      s.storeNameplatesOfMailbox app t l =
        (s.modUdb (fun d => { d with
          nameplates := d.nameplates ++
            l.map (fun np => npRecord s.blurTime app ((s.db.npSidesOf np.id).map (·.added)) t false) }), true) := by
  induction l with
  | nil =>
    intro s _
    simp [storeNameplatesOfMailbox, modUdb]
  | cons np rest ih =>
    intro s h
    unfold storeNameplatesOfMailbox
    rw [storeNameplateUsage_eq _ _ _ _ (h np List.mem_cons_self)]
    dsimp only
    rw [ih (by intro n hn; exact h n (List.mem_cons_of_mem _ hn))]
    simp only [blurTime_modUdb, modUdb_db]
    simp [modUdb, List.append_assoc]

theorem mailboxClose_udb {s : Sys} {app mb side : String} {mood : Option String} {t : Time} {row : MailboxRow}
    {r0 : MbSide} (hN : s.db.NpHasSide) (hu : s.cfg.usage = true)
    (hrow : s.db.findMailbox app mb = some row) (hside : s.db.findMbSide mb side = some r0)
    (hany : ((s.db.closeSide mb side mood).mbSidesOf mb).any (·.opened) = false) :
    (s.mailboxClose app mb side mood t).1.udb =
      { s.udb with
        nameplates := s.udb.nameplates ++ (s.db.nameplatesOfMailbox app mb).map
          (fun np => npRecord s.blurTime app ((s.db.npSidesOf np.id).map (·.added)) t false)
        mailboxes := s.udb.mailboxes ++
          [mbRecord s.blurTime app row.forNp ((s.db.closeSide mb side mood).mbSidesOf mb) t false] } := by
  unfold mailboxClose
  rw [hrow]
  dsimp only
  rw [hside]
  dsimp only
  simp only [commit_db, modDb_db, hany, Bool.false_eq_true, if_false, commit_cfg, modDb_cfg, hu, if_true]
  have hne : ∀ n ∈ (s.db.closeSide mb side mood).nameplatesOfMailbox app mb,
      ((s.modDb fun x => x.closeSide mb side mood).commit).db.npSidesOf n.id ≠ [] := by
    intro n hn
    simp only [commit_db, modDb_db]
    exact npSidesOf_ne_nil (d := s.db.closeSide mb side mood) hN (List.mem_filter.1 hn).1
  rw [storeNameplatesOfMailbox_eq _ hne]
  simp only [Bool.not_true, Bool.false_eq_true, if_false, modUdb_cfg, commit_cfg, modDb_cfg, hu, if_true,
    storeMailboxUsage_eq, blurTime_modDb, blurTime_modUdb, blurTime_commit, stopListeners_udb, commit_udb,
    ucommit_udb, modUdb_udb, modDb_udb, commit_db, modDb_db]
  rfl

theorem closeTail_udb (s2 : Sys) (c : Nat) (app tgt side : String) (mood : Option String) (t : Time) :
    (match s2.mailboxClose app tgt side mood t with
      | (s3, false) => s3.internalErr c "IndexError"
      | (s3, true) => (s3.updConn c (fun y => { y with mailbox := none })).send c .closed).udb =
      (s2.mailboxClose app tgt side mood t).1.udb := by
  cases s2.mailboxClose app tgt side mood t with
  | mk s3 b => cases b <;> rfl

theorem closePre_nameplates (s : Sys) (x : Conn) (app tgt : String) (t : Time) :
    (closePre s x app tgt t).nameplates = s.db.nameplates := by
  unfold closePre; split <;> rfl

theorem closePre_npSides (s : Sys) (x : Conn) (app tgt : String) (t : Time) :
    (closePre s x app tgt t).npSides = s.db.npSides := by
  unfold closePre; split <;> rfl

theorem closePre_pinv {s : Sys} (hP : s.db.PInv) (x : Conn) (app tgt : String) (t : Time)
    (h : ¬ (x.mailbox = none ∧ s.db.Clash app tgt)) : (closePre s x app tgt t).PInv := by
  unfold closePre
  split
  · rename_i hm
    exact hP.openDb _ _ (fun hc => h ⟨hm, hc⟩)
  · exact hP

theorem close_step_split {s : Sys} (hP : s.db.PInv) {c : Nat} {x : Conn} (hx : s.findConn c = some x)
    {m mood : Option String} (hr : rejectText x (.close m mood) = none) {app : String} (happ : x.app = some app)
    {tgt : String} (htg : x.closeTarget m = some tgt) (t : Time) (id : Val)
    (hcl : ¬ (x.mailbox = none ∧ s.db.Clash app tgt)) :
    ∃ S : Sys, S.db = closePre s x app tgt t ∧ S.udb = s.udb ∧ S.cfg = s.cfg ∧
      (s.db = s.disk → S.disk = S.db) ∧
      (∀ {c0 : Cfg} {T : Sys → Prop}, UClosed c0 T →
        T (({ s with out := [], snaps := [] } : Sys).send c (.ack id)) → T S) ∧
      s.step (.recv c t id (.close m mood)) =
        if x.mailbox = none ∧ ((closePre s x app tgt t).mbSidesOf tgt).length > 2 then
          S.sendError x.id "crowded"
        else closeFinish x app (x.side.getD "") t mood (S, .ok, tgt) := by
  obtain ⟨_, _, ⟨mb, hn⟩, _⟩ := close_accepted hr
  rw [step_close_eq hx hr happ hn]
  generalize hA : (({ s with out := [], snaps := [] } : Sys).send c (.ack id)) = sA
  have hAdb : sA.db = s.db := by rw [← hA]; rfl
  have hAdisk : sA.disk = s.disk := by rw [← hA]; rfl
  have hAudb : sA.udb = s.udb := by rw [← hA]; rfl
  have hAcfg : sA.cfg = s.cfg := by rw [← hA]; rfl
  cases hh : x.mailbox with
  | some h =>
    have htgt : tgt = h := by simp [Conn.closeTarget, hh] at htg; exact htg.symm
    subst htgt
    refine ⟨sA, by simp [closePre, hh, hAdb], hAudb, hAcfg, fun e => by rw [hAdisk, hAdb]; exact e.symm,
      fun _ h => h, ?_⟩
    simp only [closeGo_eq, closeOpened, hh]
    rw [if_neg (fun h => by cases h.1)]
  | none =>
    have htgt : mb = tgt := by
      simp only [Conn.closeTarget, hh] at htg
      rw [hn] at htg; cases htg; rfl
    subst htgt
    have hpre : closePre s x app mb t = s.db.openDb app mb (x.side.getD "") t := by simp [closePre, hh]
    rw [hpre]
    cases e : sA.openMailbox app mb (x.side.getD "") t with
    | mk s1 r =>
      obtain ⟨hint, _, hne, hcrowd⟩ := openMailbox_exact (by rw [hAdb]; exact hP) e
      rw [hAdb] at hint hne hcrowd
      have hni : r ≠ .integrity := fun hri => hcl ⟨hh, hint.1 hri⟩
      obtain ⟨hdb, hdisk, hrest⟩ := hne hni
      refine ⟨s1.updConn x.id (fun y => if r = .ok then { y with mailbox := some mb } else y), hdb,
        hrest.udb.trans hAudb, hrest.cfg.trans hAcfg, fun _ => hdisk, fun hT h => ?_, ?_⟩
      · have := hT.openMailbox h app mb (x.side.getD "") t
        rw [e] at this
        exact hT.updConn this _ _
      · simp only [closeGo_eq, closeOpened, hh, e]
        cases r with
        | integrity => exact absurd rfl hni
        | crowded =>
          rw [if_pos ⟨trivial, (hcrowd.1 rfl).2⟩]
          rfl
        | ok =>
          rw [if_neg (fun h => by cases hcrowd.2 ⟨fun hc => hcl ⟨hh, hc⟩, h.2⟩)]

theorem close_step_udb {s : Sys} (hP : s.db.PInv) (hN : s.db.NpHasSide) (hu : s.cfg.usage = true)
    {c : Nat} {x : Conn} (hx : s.findConn c = some x) {m mood : Option String}
    (hr : rejectText x (.close m mood) = none) {app : String} (happ : x.app = some app)
    {tgt : String} (htg : x.closeTarget m = some tgt) (t : Time) (id : Val)
    (hnot : ¬ (x.mailbox = none ∧ (s.db.Clash app tgt ∨ ((closePre s x app tgt t).mbSidesOf tgt).length > 2)))
    {row : MailboxRow} {r0 : MbSide} (hrow : (closePre s x app tgt t).findMailbox app tgt = some row)
    (hside : (closePre s x app tgt t).findMbSide tgt (x.side.getD "") = some r0)
    (hany : (((closePre s x app tgt t).closeSide tgt (x.side.getD "") mood).mbSidesOf tgt).any (·.opened) = false) :
    (s.step (.recv c t id (.close m mood))).udb =
      { s.udb with
        nameplates := s.udb.nameplates ++ ((closePre s x app tgt t).nameplatesOfMailbox app tgt).map
          (fun np => npRecord s.blurTime app (((closePre s x app tgt t).npSidesOf np.id).map (·.added)) t false)
        mailboxes := s.udb.mailboxes ++
          [mbRecord s.blurTime app row.forNp
            (((closePre s x app tgt t).closeSide tgt (x.side.getD "") mood).mbSidesOf tgt) t false] } := by
  obtain ⟨S, hdb, hudb, hcfg, _, _, e⟩ :=
    close_step_split hP hx hr happ htg t id (fun h => hnot ⟨h.1, Or.inl h.2⟩)
  have hNpre : (closePre s x app tgt t).NpHasSide := fun n hn => by
    rw [closePre_npSides]; exact hN n (closePre_nameplates s x app tgt t ▸ hn)
  rw [e, if_neg (fun h => hnot ⟨h.1, Or.inr h.2⟩)]
  refine (closeTail_udb _ _ _ _ _ _ _).trans ?_
  rw [mailboxClose_udb (row := row) (r0 := r0) (by rw [updConn_db, hdb]; exact hNpre)
    (by rw [updConn_cfg, hcfg]; exact hu) (by rw [updConn_db, hdb]; exact hrow)
    (by rw [updConn_db, hdb]; exact hside) (by rw [updConn_db, hdb]; exact hany)]
  simp only [updConn_udb, updConn_db, hudb, hdb, blurTime_updConn, blurTime_congr hcfg]

end Sys
end Wormhole
