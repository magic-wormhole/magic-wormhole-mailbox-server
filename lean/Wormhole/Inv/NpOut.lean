/-
  Which steps can emit a `claimed` frame: only the `claim` command, to its own connection (so the
  ghost `claimedAnswers` of Props/C03.lean sees every `claimed` frame of a history).
-/
import Wormhole.Inv.WsLemmas
import Wormhole.Inv.Acts

namespace Wormhole
namespace Sys.Np

theorem OutExt.of_core {P : Event → Prop} (hP : ∀ e, IsCommit e → P e) {α : Type} {s s1 : Sys} {p : Sys × α}
    {b : α} (h : CExt s p.1) (e : p = (s1, b)) : OutExt P s s1 := by
  subst e
  exact h.mono hP

/-- every `claimed` frame goes to `c`, and `ok` holds if there is one -/
def ClaimedTo (c : Nat) (ok : Prop) (e : Event) : Prop :=
  ∀ c' m b, e = .frame c' (.claimed m) b → c' = c ∧ ok

section handlers
variable {c : Nat} {ok : Prop} {s : Sys} (x : Conn)

theorem claimedTo_of_commit (e : Event) (h : IsCommit e) : ClaimedTo c ok e := by
  obtain ⟨w, rfl⟩ := h
  intro c' m b h'; cases h'

theorem claimedTo_internal (c' : Option Nat) (cls : String) : ClaimedTo c ok (.internal c' cls) :=
  fun _ _ _ h => by cases h

theorem send_other {s0 s1 : Sys} (h : OutExt (ClaimedTo c ok) s0 s1) (c1 : Nat) (f : Frame)
    (hf : ∀ m, f ≠ .claimed m) : OutExt (ClaimedTo c ok) s0 (s1.send c1 f) := by
  refine h.send (fun b c' m b' h' => ?_)
  cases h'
  exact absurd rfl (hf m)

theorem sendError_ct {s0 s1 : Sys} (h : OutExt (ClaimedTo c ok) s0 s1) (c1 t) :
    OutExt (ClaimedTo c ok) s0 (s1.sendError c1 t) := send_other h _ _ (fun _ h => by cases h)

theorem handlePing_ct (c1 v) : OutExt (ClaimedTo c ok) s (s.handlePing c1 v) := by
  unfold handlePing
  split
  · exact sendError_ct .refl _ _
  · exact send_other .refl _ _ (fun _ h => by cases h)

theorem handleBind_ct (t a sd i v) : OutExt (ClaimedTo c ok) s (s.handleBind x t a sd i v) := by
  unfold handleBind
  split
  · exact sendError_ct .refl _ _
  · split
    · exact sendError_ct .refl _ _
    · split
      · exact sendError_ct .refl _ _
      · exact (CExt.logClientVersion (OutExt.updConn .refl)).mono claimedTo_of_commit

theorem handleList_ct (app) : OutExt (ClaimedTo c ok) s (s.handleList x app) := by
  unfold handleList
  exact send_other .refl _ _ (fun _ h => by cases h)

theorem handleAllocate_ct (app side t pick draws fresh) :
    OutExt (ClaimedTo c ok) s (s.handleAllocate x app side t pick draws fresh) := by
  unfold handleAllocate
  split
  · exact sendError_ct .refl _ _
  · split
    · exact OutExt.refl.emit (claimedTo_internal _ _)
    · split
      all_goals
        rename_i heq
        have h := OutExt.of_core (claimedTo_of_commit (c := c) (ok := ok)) (CExt.claimNameplate (.refl (s := s))) heq
      · exact send_other h.updConn _ _ (fun _ h => by cases h)
      · exact h.emit (claimedTo_internal _ _)
      · exact h.emit (claimedTo_internal _ _)
      · exact h.emit (claimedTo_internal _ _)

theorem handleRelease_ct (app side t n) : OutExt (ClaimedTo c ok) s (s.handleRelease x app side t n) := by
  rcases handleRelease_cases s x app side t n with ⟨_, _, e⟩ | ⟨name, e⟩ <;> rw [e]
  · exact sendError_ct .refl _ _
  · unfold releaseWith
    split
    all_goals
      rename_i heq
      have h := OutExt.of_core (claimedTo_of_commit (c := c) (ok := ok))
        (CExt.releaseNameplate (OutExt.updConn (.refl (s := s)))) heq
    · exact send_other h _ _ (fun _ h => by cases h)
    · exact h.emit (claimedTo_internal _ _)

theorem handleOpen_ct (app side t m) : OutExt (ClaimedTo c ok) s (s.handleOpen x app side t m) := by
  unfold handleOpen
  split
  · exact sendError_ct .refl _ _
  · split
    · exact sendError_ct .refl _ _
    · extract_lets s0
      split
      all_goals
        rename_i heq
        have h := OutExt.of_core (claimedTo_of_commit (c := c) (ok := ok)) (CExt.openMailbox (.refl (s := s0))) heq
      · exact sendError_ct h _ _
      · exact h.emit (claimedTo_internal _ _)
      · unfold replay
        exact OutExt.foldl_send (fun _ => x.id)
          (fun (m : Message) => Frame.message m.side m.phase m.body m.rx m.msgId) _ h.updConn
          (fun _ _ _ _ _ _ h => by cases h)

theorem handleAdd_ct (app side t id ph bd) : OutExt (ClaimedTo c ok) s (s.handleAdd x app side t id ph bd) := by
  unfold handleAdd
  split
  · exact sendError_ct .refl _ _
  · split
    · exact sendError_ct .refl _ _
    · split
      · exact sendError_ct .refl _ _
      · unfold broadcast
        exact OutExt.foldl_send (fun c => c) (fun _ => Frame.message side _ _ t id) _
          ((CExt.addMessage OutExt.refl).mono claimedTo_of_commit) (fun _ _ _ _ _ _ h => by cases h)

theorem closeFinish_ct {s0 s1 : Sys} (h : OutExt (ClaimedTo c ok) s0 s1) (app side t mood) (r : OpenRes) (hd : String) :
    OutExt (ClaimedTo c ok) s0 (closeFinish x app side t mood (s1, r, hd)) := by
  cases r with
  | ok =>
    dsimp only [closeFinish]
    split
    all_goals
      rename_i heq
      have hc := h.trans (OutExt.of_core (claimedTo_of_commit (c := c) (ok := ok))
        (CExt.mailboxClose (OutExt.updConn (.refl (s := s1)))) heq)
    · exact hc.emit (claimedTo_internal _ _)
    · exact send_other hc.updConn _ _ (fun _ h => by cases h)
  | crowded => exact sendError_ct h _ _
  | integrity => exact h.emit (claimedTo_internal _ _)

theorem handleClose_ct (app side t m mood) : OutExt (ClaimedTo c ok) s (s.handleClose x app side t m mood) := by
  rcases handleClose_cases s x app side t m mood with ⟨⟨_, _, e⟩, _⟩ | ⟨mb, _, e⟩ <;> rw [e]
  · exact sendError_ct .refl _ _
  · unfold closeOpened
    cases x.mailbox with
    | some h => exact closeFinish_ct x .refl _ _ _ _ _ _
    | none =>
      dsimp only
      cases e : s.openMailbox app mb side t with
      | mk s1 r =>
        exact closeFinish_ct x (OutExt.of_core claimedTo_of_commit (CExt.openMailbox .refl) e).updConn _ _ _ _ _ _

end handlers

/-- a `claimed` frame is sent by a `claim` that names a nameplate, to the (bound) connection it
    arrived on (`ok`), and by nothing else -/
theorem onMessage_claimedTo {s : Sys} (c : Nat) (t : Time) (id : Val) (cmd : Cmd) (ok : Prop)
    (hok : ∀ x a nm fresh, s.findConn c = some x → x.app = some a → cmd = .claim (some nm) fresh → ok) :
    OutExt (ClaimedTo c ok) s (s.onMessage c t id cmd) := by
  rw [onMessage_dispatch]
  cases hx : s.findConn c with
  | none => exact .refl
  | some x =>
    have ha : OutExt (ClaimedTo c ok) s (s.send c (.ack id)) := send_other .refl _ _ (fun _ h => by cases h)
    dsimp only
    split
    · exact sendError_ct .refl _ _
    · exact ha.trans (handlePing_ct _ _)
    · exact ha.trans (handleBind_ct _ _ _ _ _ _)
    · cases happ : x.app with
      | none => exact sendError_ct ha _ _
      | some a =>
        refine ha.trans ?_
        cases cmd with
        | list => exact handleList_ct _ _
        | allocate p d f => exact handleAllocate_ct _ _ _ _ _ _ _
        | release n => exact handleRelease_ct _ _ _ _ _
        | open_ m => exact handleOpen_ct _ _ _ _ _
        | add ph bd => exact handleAdd_ct _ _ _ _ _ _ _
        | close m mood => exact handleClose_ct _ _ _ _ _ _
        | claim n fresh =>
          dsimp only [handleBound]
          unfold handleClaim
          cases n with
          | none => exact sendError_ct .refl _ _
          | some nm =>
            dsimp only
            split
            · exact sendError_ct .refl _ _
            · split
              all_goals
                rename_i heq
                have h := OutExt.of_core (claimedTo_of_commit (c := c) (ok := ok))
                  (CExt.claimNameplate (OutExt.updConn (.refl (s := s.send c (.ack id))))) heq
              · refine h.send (fun b c' m b' h' => ?_)
                cases h'
                exact ⟨findConn_id hx, hok x a nm fresh hx happ rfl⟩
              · exact sendError_ct h _ _
              · exact sendError_ct h _ _
              · exact h.emit (claimedTo_internal _ _)
        | _ => exact sendError_ct .refl _ _

end Sys.Np
end Wormhole
