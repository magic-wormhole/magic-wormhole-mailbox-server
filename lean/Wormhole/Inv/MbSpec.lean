/-
  Exact specifications of `Sys.openMailbox` (`AppNamespace.open_mailbox` + `Mailbox.open`) and
  `Sys.mailboxClose` (`Mailbox.close`).

  `Chan.openDb d app mb side t`     : the channel database after a successful `open_mailbox`
  `Chan.dropMailbox d app mb`       : the channel database after `Mailbox.close` deleted (app, mb):
                                      five `filter`s, one per table, each keyed by what BELONGS to
                                      (app, mb) -- every other row of every table is kept as it is.
  `Chan.closeDb d app mb side mood` : the channel database after `Mailbox.close`: `d` itself, `closeSide`
                                      or `dropMailbox`
  That the code's statements (keyed by mailbox id alone) have this effect needs `PInv`: mailbox
  ids are globally unique and child rows follow their parents.
-/
import Wormhole.Inv.ChanLemmas
import Wormhole.Inv.SyncLemmas
import Wormhole.Inv.WsLemmas

namespace Wormhole
namespace Chan

def HasBox (d : Chan) (app mb : String) : Prop := ∃ m ∈ d.mailboxes, m.app = app ∧ m.id = mb

instance (d : Chan) (app mb : String) : Decidable (d.HasBox app mb) := by
  unfold HasBox; infer_instance

/-- `HasBox` is `HasMb` of Inv/ChanLemmas.lean with the two equations in the other order -/
theorem hasBox_iff_hasMb {d : Chan} {app mb : String} : d.HasBox app mb ↔ d.HasMb app mb :=
  ⟨fun ⟨m, hm, ha, hi⟩ => ⟨m, hm, hi, ha⟩, fun ⟨m, hm, hi, ha⟩ => ⟨m, hm, ha, hi⟩⟩

/-- `mb` is a mailbox id under ANOTHER app and not under `app`: the situation in which
    `_add_mailbox` raises IntegrityError (finding K-global-mailbox-id) -/
def Clash (d : Chan) (app mb : String) : Prop :=
  (∃ m ∈ d.mailboxes, m.id = mb ∧ m.app ≠ app) ∧ ¬ d.HasBox app mb

instance (d : Chan) (app mb : String) : Decidable (d.Clash app mb) := by
  unfold Clash; infer_instance

def HasId (d : Chan) (mb : String) : Prop := ∃ m ∈ d.mailboxes, m.id = mb

instance (d : Chan) (mb : String) : Decidable (d.HasId mb) := by unfold HasId; infer_instance

theorem HasBox.hasId {d : Chan} {app mb : String} (h : d.HasBox app mb) : d.HasId mb := by
  obtain ⟨m, hm, _, hi⟩ := h; exact ⟨m, hm, hi⟩

theorem clash_iff {d : Chan} {app mb : String} : d.Clash app mb ↔ d.HasId mb ∧ ¬ d.HasBox app mb :=
  ⟨fun ⟨⟨m, hm, hid, _⟩, hnh⟩ => ⟨⟨m, hm, hid⟩, hnh⟩,
   fun ⟨⟨m, hm, hid⟩, hnh⟩ => ⟨⟨m, hm, hid, fun ha => hnh ⟨m, hm, ha, hid⟩⟩, hnh⟩⟩

/-- the sides of the side rows of mailbox `mb`, in table (= insertion) order -/
def sidesOf (d : Chan) (mb : String) : List String := (d.mbSidesOf mb).map (·.side)

def first2 (d : Chan) (mb : String) : List String := ((d.mbSidesOf mb).take 2).map (·.side)

theorem mem_sidesOf {d : Chan} {mb σ : String} :
    σ ∈ d.sidesOf mb ↔ ∃ r ∈ d.mbSides, r.mailbox = mb ∧ r.side = σ := by
  simp [sidesOf, mbSidesOf, and_assoc]

theorem length_sidesOf (d : Chan) (mb : String) : (d.sidesOf mb).length = (d.mbSidesOf mb).length := by
  simp [sidesOf]

theorem findMailbox_isSome {d : Chan} {app mb : String} :
    (d.findMailbox app mb).isSome ↔ d.HasBox app mb := by
  simp [findMailbox, HasBox, List.find?_isSome]

theorem findMailbox_eq_none {d : Chan} {app mb : String} :
    d.findMailbox app mb = none ↔ ¬ d.HasBox app mb := by
  rw [← findMailbox_isSome]; cases d.findMailbox app mb <;> simp

theorem findMailbox_some_mbx {d : Chan} {app mb : String} {row : MailboxRow}
    (h : d.findMailbox app mb = some row) : row ∈ d.mailboxes ∧ row.app = app ∧ row.id = mb :=
  findMailbox_some h

theorem findMailboxById_eq_none {d : Chan} {mb : String} :
    d.findMailboxById mb = none ↔ ∀ m ∈ d.mailboxes, m.id ≠ mb := by
  simp [findMailboxById, List.find?_eq_none]

theorem findMbSide_eq_none {d : Chan} {mb side : String} :
    d.findMbSide mb side = none ↔ ∀ r ∈ d.mbSides, ¬ (r.mailbox = mb ∧ r.side = side) := by
  simp [findMbSide, List.find?_eq_none]

theorem findMbSide_isSome {d : Chan} {mb side : String} :
    (d.findMbSide mb side).isSome ↔ ∃ r ∈ d.mbSides, r.mailbox = mb ∧ r.side = side := by
  simp [findMbSide, List.find?_isSome]

theorem app_of_id {d : Chan} (hids : d.mailboxes.Pairwise (fun a b => ¬ a.id = b.id))
    {app mb : String} (h : d.HasBox app mb)
    {m : MailboxRow} (hm : m ∈ d.mailboxes) (hid : m.id = mb) : m.app = app := by
  obtain ⟨m0, hm0, ha, hi⟩ := h
  have : m = m0 := eq_of_pairwise_ne (f := MailboxRow.id) hids hm hm0 (by rw [hid, hi])
  rw [this, ha]

theorem PInv.app_of_id {d : Chan} (hP : d.PInv) {app mb : String} (h : d.HasBox app mb)
    {m : MailboxRow} (hm : m ∈ d.mailboxes) (hid : m.id = mb) : m.app = app :=
  Chan.app_of_id hP.mbIds h hm hid

/-- the channel database after `open_mailbox(app, mb, side, t)` did not raise IntegrityError -/
def openDb (d : Chan) (app mb side : String) (t : Time) : Chan :=
  { d with
    mailboxes :=
      match d.findMailbox app mb with
      | some _ => d.mailboxes.map (fun r => if r.app = app ∧ r.id = mb then { r with updated := t } else r)
      | none => d.mailboxes ++ [⟨app, mb, t, false⟩]
    mbSides :=
      match d.findMbSide mb side with
      | some _ => d.mbSides
      | none => d.mbSides ++ [⟨mb, true, side, t, none⟩] }

/-- the channel database after `Mailbox.close` found no opened side and deleted (app, mb) -/
def dropMailbox (d : Chan) (app mb : String) : Chan :=
  { d with
    nameplates := d.nameplates.filter (fun n => ¬ (n.app = app ∧ n.mailbox = mb))
    npSides := d.npSides.filter
      (fun r => ¬ ∃ n ∈ d.nameplates, n.id = r.npid ∧ n.app = app ∧ n.mailbox = mb)
    mailboxes := d.mailboxes.filter (fun m => ¬ (m.app = app ∧ m.id = mb))
    mbSides := d.mbSides.filter (fun r => ¬ r.mailbox = mb)
    messages := d.messages.filter (fun r => ¬ (r.app = app ∧ r.mailbox = mb)) }

theorem hasBox_of_mailboxes_map {d d' : Chan} (f : MailboxRow → MailboxRow)
    (hf : ∀ r, (f r).app = r.app ∧ (f r).id = r.id) (h : d'.mailboxes = d.mailboxes.map f)
    {app mb : String} : d'.HasBox app mb ↔ d.HasBox app mb := by
  rw [hasBox_iff_hasMb, hasBox_iff_hasMb, ← hasMb_mapMailboxes d app mb f (fun r => ⟨(hf r).2, (hf r).1⟩)]
  unfold HasMb
  rw [h]

section openDb
variable (d : Chan) (app mb side : String) (t : Time)

@[simp] theorem openDb_nameplates : (d.openDb app mb side t).nameplates = d.nameplates := rfl
@[simp] theorem openDb_npSides : (d.openDb app mb side t).npSides = d.npSides := rfl
@[simp] theorem openDb_messages : (d.openDb app mb side t).messages = d.messages := rfl
@[simp] theorem openDb_nextNp : (d.openDb app mb side t).nextNp = d.nextNp := rfl

theorem openDb_mbSides : (d.openDb app mb side t).mbSides =
    d.mbSides ++ (if d.findMbSide mb side = none then [⟨mb, true, side, t, none⟩] else []) := by
  unfold openDb
  cases d.findMbSide mb side <;> simp

theorem mem_openDb_mbSides {r : MbSide} : r ∈ (d.openDb app mb side t).mbSides ↔
    r ∈ d.mbSides ∨ (d.findMbSide mb side = none ∧ r = ⟨mb, true, side, t, none⟩) := by
  rw [openDb_mbSides]
  split <;> simp [*]

theorem openDb_mbSidesOf (mb' : String) :
    (d.openDb app mb side t).mbSidesOf mb' =
      d.mbSidesOf mb' ++
        (if mb' = mb ∧ d.findMbSide mb side = none then [⟨mb, true, side, t, none⟩] else []) := by
  rw [mbSidesOf, mbSidesOf, openDb_mbSides, List.filter_append]
  congr 1
  by_cases h : d.findMbSide mb side = none
  · by_cases hm : mb' = mb
    · simp [h, hm]
    · have : ¬ mb = mb' := fun e => hm e.symm
      simp [h, hm, this]
  · simp [h]

theorem openDb_hasBox_iff (app' mb' : String) :
    (d.openDb app mb side t).HasBox app' mb' ↔ d.HasBox app' mb' ∨ (app' = app ∧ mb' = mb) := by
  cases h : d.findMailbox app mb with
  | some row =>
    have hh : d.HasBox app mb := findMailbox_isSome.1 (by simp [h])
    rw [hasBox_of_mailboxes_map (d := d) (fun r => if r.app = app ∧ r.id = mb then { r with updated := t } else r)
      (fun r => by split <;> exact ⟨rfl, rfl⟩) (by simp [openDb, h])]
    exact ⟨Or.inl, fun h' => h'.elim id (fun ⟨e1, e2⟩ => e1 ▸ e2 ▸ hh)⟩
  | none => simp [HasBox, openDb, h, or_and_right, exists_or, eq_comm]

theorem openDb_hasBox : (d.openDb app mb side t).HasBox app mb :=
  (openDb_hasBox_iff d app mb side t app mb).2 (Or.inr ⟨rfl, rfl⟩)

end openDb

section dropMailbox
variable (d : Chan) (app mb : String)

@[simp] theorem dropMailbox_nextNp : (d.dropMailbox app mb).nextNp = d.nextNp := rfl

theorem mem_dropMailbox_mailboxes {m : MailboxRow} :
    m ∈ (d.dropMailbox app mb).mailboxes ↔ m ∈ d.mailboxes ∧ ¬ (m.app = app ∧ m.id = mb) := by
  simp only [dropMailbox, List.mem_filter, decide_eq_true_eq]

theorem mem_dropMailbox_mbSides {r : MbSide} :
    r ∈ (d.dropMailbox app mb).mbSides ↔ r ∈ d.mbSides ∧ r.mailbox ≠ mb := by
  simp [dropMailbox, List.mem_filter]

theorem mem_dropMailbox_messages {r : Message} :
    r ∈ (d.dropMailbox app mb).messages ↔ r ∈ d.messages ∧ ¬ (r.app = app ∧ r.mailbox = mb) := by
  simp only [dropMailbox, List.mem_filter, decide_eq_true_eq]

theorem mem_dropMailbox_nameplates {n : Nameplate} :
    n ∈ (d.dropMailbox app mb).nameplates ↔ n ∈ d.nameplates ∧ ¬ (n.app = app ∧ n.mailbox = mb) := by
  simp only [dropMailbox, List.mem_filter, decide_eq_true_eq]

theorem mem_dropMailbox_npSides {r : NpSide} :
    r ∈ (d.dropMailbox app mb).npSides ↔
      r ∈ d.npSides ∧ ¬ ∃ n ∈ d.nameplates, n.id = r.npid ∧ n.app = app ∧ n.mailbox = mb := by
  simp [dropMailbox, List.mem_filter]

theorem dropMailbox_not_hasBox : ¬ (d.dropMailbox app mb).HasBox app mb := by
  rintro ⟨m, hm, ha, hi⟩
  exact ((mem_dropMailbox_mailboxes d app mb).1 hm).2 ⟨ha, hi⟩

theorem dropMailbox_mbSidesOf_self : (d.dropMailbox app mb).mbSidesOf mb = [] := by
  simp [mbSidesOf, dropMailbox, List.filter_filter, List.filter_eq_nil_iff]

theorem dropMailbox_messagesOf_self : (d.dropMailbox app mb).messagesOf app mb = [] := by
  simp only [messagesOf, dropMailbox, List.filter_filter, List.filter_eq_nil_iff]
  intro r _; simp

theorem dropMailbox_nameplatesOfMailbox_self : (d.dropMailbox app mb).nameplatesOfMailbox app mb = [] := by
  simp only [nameplatesOfMailbox, dropMailbox, List.filter_filter, List.filter_eq_nil_iff]
  intro r _; simp

theorem dropMailbox_mbSidesOf_other {mb' : String} (h : mb' ≠ mb) :
    (d.dropMailbox app mb).mbSidesOf mb' = d.mbSidesOf mb' := by
  simp only [mbSidesOf, dropMailbox, List.filter_filter]
  apply List.filter_congr
  intro r _
  by_cases hr : r.mailbox = mb' <;> simp [hr, h]

theorem dropMailbox_messagesOf_other {app' mb' : String} (h : ¬ (app' = app ∧ mb' = mb)) :
    (d.dropMailbox app mb).messagesOf app' mb' = d.messagesOf app' mb' := by
  simp only [messagesOf, dropMailbox, List.filter_filter]
  apply List.filter_congr
  intro r _
  by_cases hr : r.app = app' ∧ r.mailbox = mb'
  · obtain ⟨h1, h2⟩ := hr
    simp [h1, h2, h]
  · simp [hr]

theorem dropMailbox_npSidesOf_other (hids : d.nameplates.Pairwise (fun a b => ¬ a.id = b.id))
    {n : Nameplate} (hn : n ∈ d.nameplates) (h : ¬ (n.app = app ∧ n.mailbox = mb)) :
    (d.dropMailbox app mb).npSidesOf n.id = d.npSidesOf n.id := by
  simp only [npSidesOf, dropMailbox, List.filter_filter]
  apply List.filter_congr
  intro r _
  by_cases hr : r.npid = n.id
  · simp only [hr, decide_true, Bool.true_and, decide_eq_true_eq]
    rintro ⟨n', hn', hid, ha, hm⟩
    have : n' = n := eq_of_pairwise_ne (f := Nameplate.id) hids hn' hn hid
    subst this
    exact h ⟨ha, hm⟩
  · simp [hr]

end dropMailbox

theorem filter_map_of_fix {α : Type} (f : α → α) (p : α → Bool) (h1 : ∀ x, p (f x) = p x)
    (h2 : ∀ x, p x = true → f x = x) (l : List α) : (l.map f).filter p = l.filter p := by
  induction l with
  | nil => rfl
  | cons x rest ih =>
    simp only [List.map_cons, List.filter_cons, h1]
    split
    · rename_i hx; rw [h2 x hx, ih]
    · exact ih

theorem map_filter_map_of_inv {α β : Type} (f : α → α) (p : α → Bool) (g : α → β)
    (h1 : ∀ x, p (f x) = p x) (h2 : ∀ x, g (f x) = g x) (l : List α) :
    ((l.map f).filter p).map g = (l.filter p).map g := by
  induction l with
  | nil => rfl
  | cons x rest ih =>
    simp only [List.map_cons, List.filter_cons, h1]
    split
    · simp only [List.map_cons, h2, ih]
    · exact ih

theorem closeSide_mbSides_filter (d : Chan) (mb side : String) (mood : Option String) :
    (d.closeSide mb side mood).mbSides.filter (fun r => ¬ r.mailbox = mb) =
      d.mbSides.filter (fun r => ¬ r.mailbox = mb) := by
  simp only [closeSide]
  apply filter_map_of_fix
  · intro x; split <;> rfl
  · intro x hx
    have : ¬ x.mailbox = mb := by simpa using hx
    simp [this]

/-- the five DELETEs of `Mailbox.close` remove exactly what belongs to (app, mb) -/
theorem deletes_eq_dropMailbox {d : Chan} (hids : d.mailboxes.Pairwise (fun a b => ¬ a.id = b.id))
    (hfk : ∀ r ∈ d.messages, ∃ m ∈ d.mailboxes, m.id = r.mailbox ∧ m.app = r.app)
    {app mb : String} (h : d.HasBox app mb) :
    ((((d.delNpSidesOfMailbox app mb).delNameplatesOfMailbox app mb).delMessagesOf mb).delMbSidesOf
      mb).delMailbox mb = d.dropMailbox app mb := by
  simp only [delNpSidesOfMailbox, delNameplatesOfMailbox, delMessagesOf, delMbSidesOf, delMailbox,
    dropMailbox, nameplatesOfMailbox]
  congr 1
  · -- nameplate sides
    apply List.filter_congr
    intro r _
    apply decide_eq_decide.2
    simp only [List.mem_map, List.mem_filter, decide_eq_true_eq]
    apply not_congr
    constructor
    · rintro ⟨n, ⟨hn, hk⟩, e⟩; exact ⟨n, hn, e, hk⟩
    · rintro ⟨n, hn, e, hk⟩; exact ⟨n, ⟨hn, hk⟩, e⟩
  · -- mailboxes
    apply List.filter_congr
    intro m hm
    by_cases hid : m.id = mb
    · simp [hid, app_of_id hids h hm hid]
    · simp [hid]
  · -- messages
    apply List.filter_congr
    intro r hr
    by_cases hid : r.mailbox = mb
    · obtain ⟨m, hm, e1, e2⟩ := hfk r hr
      have := app_of_id hids h hm (e1.trans hid)
      simp [hid, ← e2, this]
    · simp [hid]

theorem closeSide_hasBox {d : Chan} {mb side : String} {mood : Option String} {app' mb' : String} :
    (d.closeSide mb side mood).HasBox app' mb' ↔ d.HasBox app' mb' := Iff.rfl

theorem dropMailbox_closeSide (d : Chan) (app mb side : String) (mood : Option String) :
    (d.closeSide mb side mood).dropMailbox app mb = d.dropMailbox app mb := by
  have := closeSide_mbSides_filter d mb side mood
  simp only [dropMailbox] at this ⊢
  simp only [this]
  rfl

theorem mem_closeSide_mbSides {d : Chan} {mb side : String} {mood : Option String} {r : MbSide} :
    r ∈ (d.closeSide mb side mood).mbSides ↔
      (r ∈ d.mbSides ∧ ¬ (r.mailbox = mb ∧ r.side = side)) ∨
      (∃ r0 ∈ d.mbSides, r0.mailbox = mb ∧ r0.side = side ∧
        r = { r0 with opened := false, mood := mood }) := by
  simp only [closeSide, List.mem_map]
  constructor
  · rintro ⟨r0, h0, rfl⟩
    by_cases h : r0.mailbox = mb ∧ r0.side = side
    · exact Or.inr ⟨r0, h0, h.1, h.2, by simp [h]⟩
    · exact Or.inl (by simp [h, h0])
  · rintro (⟨h0, h⟩ | ⟨r0, h0, h1, h2, rfl⟩)
    · exact ⟨r, h0, by simp [h]⟩
    · exact ⟨r0, h0, by simp [h1, h2]⟩

theorem closeSide_mbSidesOf_other (d : Chan) (mb side : String) (mood : Option String) {mb' : String}
    (h : mb' ≠ mb) : (d.closeSide mb side mood).mbSidesOf mb' = d.mbSidesOf mb' := by
  simp only [mbSidesOf, closeSide]
  apply filter_map_of_fix
  · intro x; split <;> rfl
  · intro x hx
    have : x.mailbox = mb' := by simpa using hx
    have : ¬ x.mailbox = mb := fun e => h (this.symm.trans e)
    simp [this]

theorem closeSide_sidesOf (d : Chan) (mb side : String) (mood : Option String) (mb' : String) :
    (d.closeSide mb side mood).sidesOf mb' = d.sidesOf mb' := by
  simp only [sidesOf, mbSidesOf, closeSide]
  apply map_filter_map_of_inv
  · intro x; split <;> rfl
  · intro x; split <;> rfl

/-- the statements of `_add_mailbox` + `Mailbox.open`, composed -/
def openRaw (d : Chan) (app mb side : String) (t : Time) : Chan :=
  let d1 := if d.HasBox app mb then d else d.insMailbox ⟨app, mb, t, false⟩
  let d2 := match d1.findMbSide mb side with
    | none => d1.insMbSide ⟨mb, true, side, t, none⟩
    | some _ => d1
  d2.touch mb t

theorem map_eq_self {α : Type} (f : α → α) (l : List α) (h : ∀ x ∈ l, f x = x) : l.map f = l :=
  (List.map_congr_left h).trans (List.map_id l)

/-- `touch` is keyed by the id alone: with unique ids and no row of another app under this id, that is the
    row (app, mb) -/
theorem openRaw_eq_openDb {d : Chan} (hids : d.mailboxes.Pairwise (fun a b => ¬ a.id = b.id))
    {app mb : String} (side : String) (t : Time)
    (hc : ¬ d.Clash app mb) : d.openRaw app mb side t = d.openDb app mb side t := by
  unfold openRaw openDb
  by_cases hh : d.HasBox app mb
  · obtain ⟨row, hm⟩ := Option.isSome_iff_exists.1 (findMailbox_isSome.2 hh)
    have hmap : d.mailboxes.map (fun r => if r.id = mb then { r with updated := t } else r) =
        d.mailboxes.map (fun r => if r.app = app ∧ r.id = mb then { r with updated := t } else r) := by
      apply List.map_congr_left
      intro m hmem
      by_cases hid : m.id = mb
      · simp [hid, app_of_id hids hh hmem hid]
      · simp [hid]
    rw [if_pos hh, hm]
    dsimp only
    cases hs : d.findMbSide mb side <;> simp [touch, insMbSide, hmap]
  · have hmap : (d.mailboxes ++ [(⟨app, mb, t, false⟩ : MailboxRow)]).map
          (fun r => if r.id = mb then { r with updated := t } else r) =
        d.mailboxes ++ [⟨app, mb, t, false⟩] := by
      apply map_eq_self
      intro m hmem
      rcases List.mem_append.1 hmem with hmem | hmem
      · have : m.id ≠ mb := fun hid => hc (clash_iff.2 ⟨⟨m, hmem, hid⟩, hh⟩)
        simp [this]
      · simp [List.mem_singleton.1 hmem]
    have e1 : (d.insMailbox ⟨app, mb, t, false⟩).findMbSide mb side = d.findMbSide mb side := rfl
    rw [if_neg hh, findMailbox_eq_none.2 hh]
    dsimp only
    rw [e1]
    cases hs : d.findMbSide mb side <;> simp [touch, insMbSide, insMailbox, hmap]

end Chan

namespace Sys

structure SameRest (s s1 : Sys) : Prop where
  conns : s1.conns = s.conns
  udb : s1.udb = s.udb
  udisk : s1.udisk = s.udisk
  cfg : s1.cfg = s.cfg
  rebooted : s1.rebooted = s.rebooted

theorem SameRest.refl (s : Sys) : SameRest s s := ⟨rfl, rfl, rfl, rfl, rfl⟩
theorem SameRest.trans {a b c : Sys} (h1 : SameRest a b) (h2 : SameRest b c) : SameRest a c :=
  ⟨h2.conns.trans h1.conns, h2.udb.trans h1.udb, h2.udisk.trans h1.udisk, h2.cfg.trans h1.cfg,
   h2.rebooted.trans h1.rebooted⟩

@[simp] theorem modDb_rebooted_mbx (s : Sys) (f) : (s.modDb f).rebooted = s.rebooted := rfl
@[simp] theorem modUdb_rebooted_mbx (s : Sys) (f) : (s.modUdb f).rebooted = s.rebooted := rfl
@[simp] theorem updConn_rebooted_mbx (s : Sys) (c f) : (s.updConn c f).rebooted = s.rebooted := rfl
@[simp] theorem stopListeners_rebooted_mbx (s : Sys) (a m) : (s.stopListeners a m).rebooted = s.rebooted := rfl
@[simp] theorem emit_rebooted_mbx (s : Sys) (e) : (s.emit e).rebooted = s.rebooted := rfl
@[simp] theorem emit_conns_mbx (s : Sys) (e) : (s.emit e).conns = s.conns := rfl
@[simp] theorem commit_rebooted_mbx (s : Sys) : s.commit.rebooted = s.rebooted := by
  unfold commit; split <;> rfl
@[simp] theorem ucommit_rebooted_mbx (s : Sys) : s.ucommit.rebooted = s.rebooted := by
  unfold ucommit; split <;> rfl

theorem SameRest.commit (s : Sys) : SameRest s s.commit := ⟨by simp, by simp, by simp, by simp, by simp⟩
theorem SameRest.modDb (s : Sys) (f) : SameRest s (s.modDb f) := ⟨rfl, rfl, rfl, rfl, rfl⟩

theorem mailboxOpen_rest (s : Sys) (mb side : String) (t : Time) : SameRest s (s.mailboxOpen mb side t) := by
  unfold mailboxOpen
  split
  · exact ((SameRest.modDb _ _).trans (SameRest.modDb _ _)).trans (SameRest.commit _)
  · exact (SameRest.modDb _ _).trans (SameRest.commit _)

theorem mailboxOpen_db (s : Sys) (mb side : String) (t : Time) :
    (s.mailboxOpen mb side t).db =
      (match s.db.findMbSide mb side with
        | none => s.db.insMbSide ⟨mb, true, side, t, none⟩
        | some _ => s.db).touch mb t := by
  unfold mailboxOpen
  split <;> simp_all

theorem addMailbox_eq (s : Sys) (app mb : String) (forNp : Bool) (t : Time) :
    s.addMailbox app mb forNp t =
      if s.db.Clash app mb then none
      else some (if s.db.HasBox app mb then s else s.modDb (·.insMailbox ⟨app, mb, t, forNp⟩)) := by
  unfold addMailbox
  by_cases hh : s.db.HasBox app mb
  · obtain ⟨row, hm⟩ := Option.isSome_iff_exists.1 (Chan.findMailbox_isSome.2 hh)
    simp [hm, hh, Chan.clash_iff]
  · rw [Chan.findMailbox_eq_none.2 hh]
    cases hi : s.db.findMailboxById mb with
    | none =>
      have : ¬ s.db.HasId mb := fun ⟨m, hm, hid⟩ => Chan.findMailboxById_eq_none.1 hi m hm hid
      simp [hh, Chan.clash_iff, this]
    | some row =>
      have : s.db.HasId mb := ⟨row, List.mem_of_find?_eq_some hi, by simpa using List.find?_some hi⟩
      simp [hh, Chan.clash_iff, this]

/-- **`open_mailbox`, exactly.**  IntegrityError iff the id exists under another app and not under
    this one, and then nothing at all changes; otherwise the database becomes `openDb` (the mailbox
    row exists, `updated := t`; the side row exists, created `opened` if it was absent and left
    alone if present; every other row of every table unchanged), everything is committed, no
    connection record and no usage row changes; `crowded` iff the mailbox then has more than two
    side rows. -/
theorem openMailbox_exact' {s s1 : Sys} {app mb side : String} {t : Time} {r : OpenRes}
    (hids : s.db.mailboxes.Pairwise (fun a b => ¬ a.id = b.id)) (h : s.openMailbox app mb side t = (s1, r)) :
    (r = .integrity ↔ s.db.Clash app mb) ∧
    (r = .integrity → s1 = s) ∧
    (r ≠ .integrity → s1.db = s.db.openDb app mb side t ∧ s1.disk = s1.db ∧ SameRest s s1) ∧
    (r = .crowded ↔ ¬ s.db.Clash app mb ∧ ((s.db.openDb app mb side t).mbSidesOf mb).length > 2) := by
  unfold openMailbox at h
  rw [addMailbox_eq] at h
  by_cases hc : s.db.Clash app mb
  · rw [if_pos hc] at h
    cases h
    exact ⟨by simp [hc], fun _ => rfl, fun hne => absurd rfl hne, by simp [hc]⟩
  · rw [if_neg hc] at h
    dsimp only at h
    generalize hs2 : ((if s.db.HasBox app mb then s else s.modDb _).mailboxOpen mb side t).commit = s2 at h
    have hdb : s2.db = s.db.openDb app mb side t := by
      rw [← hs2, commit_db, mailboxOpen_db, ← Chan.openRaw_eq_openDb hids side t hc]
      unfold Chan.openRaw
      by_cases hh : s.db.HasBox app mb
      · rw [if_pos hh, if_pos hh]
      · rw [if_neg hh, if_neg hh]; rfl
    have hrest : SameRest s s2 := by
      rw [← hs2]
      refine (SameRest.trans ?_ (mailboxOpen_rest _ _ _ _)).trans (SameRest.commit _)
      split
      · exact SameRest.refl _
      · exact SameRest.modDb _ _
    have hdisk : s2.disk = s2.db := by rw [← hs2]; simp
    rw [hdb] at h
    by_cases hlen : ((s.db.openDb app mb side t).mbSidesOf mb).length > 2
    · rw [if_pos hlen] at h
      cases h
      exact ⟨by simp [hc], nofun, fun _ => ⟨hdb, hdisk, hrest⟩, by simp [hc, hlen]⟩
    · rw [if_neg hlen] at h
      cases h
      exact ⟨by simp [hc], nofun, fun _ => ⟨hdb, hdisk, hrest⟩, by simp [hlen]⟩

theorem openMailbox_exact {s s1 : Sys} {app mb side : String} {t : Time} {r : OpenRes}
    (hP : s.db.PInv) (h : s.openMailbox app mb side t = (s1, r)) :
    (r = .integrity ↔ s.db.Clash app mb) ∧
    (r = .integrity → s1 = s) ∧
    (r ≠ .integrity → s1.db = s.db.openDb app mb side t ∧ s1.disk = s1.db ∧ SameRest s s1) ∧
    (r = .crowded ↔ ¬ s.db.Clash app mb ∧ ((s.db.openDb app mb side t).mbSidesOf mb).length > 2) :=
  openMailbox_exact' hP.mbIds h

theorem openMailbox_synced {s : Sys} (hP : s.db.PInv) (hS : s.Synced) (app mb side : String) (t : Time) :
    ∃ s1 r commits, s.openMailbox app mb side t = (s1, r) ∧
      (∀ e ∈ commits, IsCommit e) ∧ s1.out = s.out ++ commits ∧
      (s.db.Clash app mb → r = .integrity ∧ s1 = s) ∧
      (¬ s.db.Clash app mb →
        r = (if ((s.db.openDb app mb side t).mbSidesOf mb).length > 2 then .crowded else .ok) ∧
        s1.db = s.db.openDb app mb side t ∧ s1.Synced ∧ SameRest s s1) := by
  cases e : s.openMailbox app mb side t with
  | mk s1 r =>
    obtain ⟨hint, hsame, hne, hcrowd⟩ := openMailbox_exact hP e
    obtain ⟨commits, hout, hc⟩ : CExt s s1 := by
      have := CExt.openMailbox (OutExt.refl (s := s)) (app := app) (mb := mb) (side := side) (t := t)
      rwa [e] at this
    refine ⟨s1, r, commits, rfl, hc, hout, fun hcl => ⟨hint.2 hcl, hsame (hint.2 hcl)⟩, fun hnc => ?_⟩
    have hi : r ≠ .integrity := fun h => hnc (hint.1 h)
    obtain ⟨hdb, hdisk, hR⟩ := hne hi
    refine ⟨?_, hdb, ⟨hdisk.symm, by rw [hR.udb, hR.udisk]; exact hS.2⟩, hR⟩
    split
    · exact hcrowd.2 ⟨hnc, ‹_›⟩
    · cases r with
      | integrity => exact absurd rfl hi
      | crowded => exact absurd (hcrowd.1 rfl).2 ‹_›
      | ok => rfl

end Sys

namespace Chan

/-- decides between the two cases of `Mailbox.close` -/
def OtherOpen (d : Chan) (mb side : String) : Prop :=
  ∃ r ∈ d.mbSides, r.mailbox = mb ∧ r.side ≠ side ∧ r.opened = true

end Chan

namespace Sys
instance (d : Chan) (mb side : String) : Decidable (d.OtherOpen mb side) := by
  unfold Chan.OtherOpen; infer_instance
end Sys

namespace Chan

theorem closeSide_any_opened (d : Chan) (mb side : String) (mood : Option String) :
    ((d.closeSide mb side mood).mbSidesOf mb).any (·.opened) = true ↔ d.OtherOpen mb side := by
  simp only [List.any_eq_true, mbSidesOf, List.mem_filter, decide_eq_true_eq, OtherOpen]
  constructor
  · rintro ⟨r, ⟨hr, hm⟩, ho⟩
    rcases mem_closeSide_mbSides.1 hr with ⟨h0, hk⟩ | ⟨r0, h0, h1, h2, rfl⟩
    · exact ⟨r, h0, hm, fun e => hk ⟨hm, e⟩, ho⟩
    · simp at ho
  · rintro ⟨r, hr, hm, hs, ho⟩
    exact ⟨r, ⟨mem_closeSide_mbSides.2 (Or.inl ⟨hr, fun hk => hs hk.2⟩), hm⟩, ho⟩

/-- what `Mailbox.close(side, mood)` does to the channel database -/
def closeDb (d : Chan) (app mb side : String) (mood : Option String) : Chan :=
  if d.HasBox app mb ∧ d.findMbSide mb side ≠ none then
    (if d.OtherOpen mb side then d.closeSide mb side mood else d.dropMailbox app mb)
  else d

end Chan

namespace Sys

/-- the connection records after the stop callbacks of a deleted mailbox (repair B) -/
def stoppedConns (cs : List Conn) (app mb : String) : List Conn :=
  cs.map (fun x => if x.listening ∧ x.app = some app ∧ x.mailbox = some mb
    then { x with mailbox := none, listening := false } else x)

/-- the usage rows a deleting close appends: one mailbox row, one nameplate row per deleted
    nameplate (what the rows say is C15's business) -/
structure CloseUsage (s s1 : Sys) (app mb : String) : Prop where
  current : s1.udb.current = s.udb.current
  clients : s1.udb.clients = s.udb.clients
  off : s.cfg.usage = false → s1.udb = s.udb
  mailboxes : s.cfg.usage = true → ∃ u, s1.udb.mailboxes = s.udb.mailboxes ++ [u] ∧ u.app = app
  nameplates : s.cfg.usage = true → ∃ us, s1.udb.nameplates = s.udb.nameplates ++ us ∧
    us.length = (s.db.nameplatesOfMailbox app mb).length ∧ ∀ u ∈ us, u.app = app

theorem storeNameplateUsage_appends {s s1 : Sys} {app sides t p b}
    (h : s.storeNameplateUsage app sides t p = (s1, b)) :
    ∃ us, s1 = s.modUdb (fun d => { d with nameplates := d.nameplates ++ us }) ∧
      (b = true → us.length = 1) ∧ ∀ u ∈ us, u.app = app := by
  unfold storeNameplateUsage at h
  split at h
  · cases h; exact ⟨[], by simp [modUdb], nofun, by simp⟩
  · cases h; exact ⟨[_], rfl, fun _ => rfl, by simp⟩

/-- the loop of repair F -/
theorem storeNameplatesOfMailbox_appends {app t} (l : List Nameplate) :
    ∀ {s s1 : Sys} {b}, s.storeNameplatesOfMailbox app t l = (s1, b) →
      ∃ us, s1 = s.modUdb (fun d => { d with nameplates := d.nameplates ++ us }) ∧
        (b = true → us.length = l.length) ∧ ∀ u ∈ us, u.app = app := by
  induction l with
  | nil => intro s s1 b h; cases h; exact ⟨[], by simp [modUdb], fun _ => rfl, by simp⟩
  | cons np rest ih =>
    intro s s1 b h
    unfold storeNameplatesOfMailbox at h
    cases e : s.storeNameplateUsage app (s.db.npSidesOf np.id) t false with
    | mk s0 b0 =>
      obtain ⟨us0, rfl, hl0, ha0⟩ := storeNameplateUsage_appends e
      rw [e] at h
      cases b0 with
      | false => cases h; exact ⟨us0, rfl, nofun, ha0⟩
      | true =>
        obtain ⟨us1, rfl, hl1, ha1⟩ := ih h
        refine ⟨us0 ++ us1, by simp [modUdb], fun hb => by simp [hl0 rfl, hl1 hb, Nat.add_comm], ?_⟩
        intro u hu
        exact (List.mem_append.1 hu).elim (ha0 u) (ha1 u)

/-- **`Mailbox.close`, exactly** (from a database satisfying `PInv` in which every nameplate has a
    side row, i.e. `CInv`): it never fails; the channel database becomes `closeDb`: without the
    mailbox row or the side row nothing changes; otherwise the side row gets
    `opened := false, mood := mood` and
    * if another side of `mb` is still open NOTHING else changes (`closeSide` touches that one
      row only; no connection record, no usage row);
    * else the database is `dropMailbox` of the old one: the mailbox row, its side rows, its
      messages, the nameplates of `app` pointing at it and their side rows are gone and EVERY
      OTHER ROW OF EVERY TABLE IS UNCHANGED; the connections that were listening on (app, mb)
      lose handle and subscription, all other connection records are unchanged; with a usage
      database one mailbox row and one nameplate row per deleted nameplate are appended.
    (That everything is committed afterwards is `mailboxClose_spec`.) -/
theorem mailboxClose_exact {s s1 : Sys} {app mb side : String} {mood : Option String} {t : Time}
    {b : Bool} (hP : s.db.PInv) (hN : s.db.NpHasSide)
    (h : s.mailboxClose app mb side mood t = (s1, b)) :
    b = true ∧ s1.cfg = s.cfg ∧ s1.rebooted = s.rebooted ∧
    s1.db = s.db.closeDb app mb side mood ∧
    (¬ (s.db.HasBox app mb ∧ s.db.findMbSide mb side ≠ none ∧ ¬ s.db.OtherOpen mb side) →
      s1.conns = s.conns ∧ s1.udb = s.udb) ∧
    (s.db.HasBox app mb → s.db.findMbSide mb side ≠ none → ¬ s.db.OtherOpen mb side →
      s1.conns = stoppedConns s.conns app mb ∧ CloseUsage s s1 app mb) := by
  by_cases hact : s.db.HasBox app mb ∧ s.db.findMbSide mb side ≠ none
  case neg =>
    have : s.mailboxClose app mb side mood t = (s, true) := by
      unfold mailboxClose
      by_cases hh : s.db.HasBox app mb
      · obtain ⟨row, hrow⟩ := Option.isSome_iff_exists.1 (Chan.findMailbox_isSome.2 hh)
        rw [hrow, Classical.not_not.1 fun hn => hact ⟨hh, hn⟩]
      · rw [Chan.findMailbox_eq_none.2 hh]
    rw [this] at h
    cases h
    exact ⟨rfl, rfl, rfl, by simp [Chan.closeDb, hact], fun _ => ⟨rfl, rfl⟩,
      fun h1 h2 _ => absurd ⟨h1, h2⟩ hact⟩
  obtain ⟨hh, hsd⟩ := hact
  obtain ⟨row, hrow⟩ := Option.isSome_iff_exists.1 (Chan.findMailbox_isSome.2 hh)
  obtain ⟨r0, hr0⟩ := Option.ne_none_iff_exists'.1 hsd
  unfold mailboxClose at h
  rw [hrow, hr0] at h
  simp only [commit_db, modDb_db, commit_cfg, modDb_cfg] at h
  by_cases hoo : s.db.OtherOpen mb side
  · -- another side is open: the UPDATE only
    rw [if_pos ((Chan.closeSide_any_opened s.db mb side mood).2 hoo)] at h
    cases h
    exact ⟨rfl, by simp, by simp, by simp [Chan.closeDb, hh, hsd, hoo], fun _ => ⟨by simp, by simp⟩,
      fun _ _ hno => absurd hoo hno⟩
  · -- no side is open any more: the usage rows (if there is a usage database), the five DELETEs, the
    -- stop callbacks; the final state is an explicit term in both cases and every field is read off it
    rw [if_neg (fun hany => hoo ((Chan.closeSide_any_opened s.db mb side mood).1 hany))] at h
    have hdel : (((((s.db.closeSide mb side mood).delNpSidesOfMailbox app mb).delNameplatesOfMailbox app
        mb).delMessagesOf mb).delMbSidesOf mb).delMailbox mb = s.db.closeDb app mb side mood := by
      rw [Chan.deletes_eq_dropMailbox (d := s.db.closeSide mb side mood) hP.mbIds hP.msgFk hh,
        Chan.dropMailbox_closeSide]
      simp [Chan.closeDb, hh, hsd, hoo]
    cases hu : s.cfg.usage with
    | false =>
      simp only [hu, Bool.false_eq_true, if_false, Bool.not_true, modDb_cfg, commit_cfg] at h
      cases h
      refine ⟨rfl, ?cfg, ?reb, ?db, fun hx => absurd ⟨hh, hsd, hoo⟩ hx, fun _ _ _ => ⟨?conns, ?usage⟩⟩
      case cfg => simp
      case reb => simp [stopListeners]
      case db => simpa using hdel
      case conns => simp [stopListeners, stoppedConns]
      case usage =>
        exact {
          current := by simp
          clients := by simp
          off := fun _ => by simp
          mailboxes := fun hx => by simp [hu] at hx
          nameplates := fun hx => by simp [hu] at hx }
    | true =>
      simp only [hu, if_true] at h
      cases e : ((s.modDb (·.closeSide mb side mood)).commit).storeNameplatesOfMailbox app t
          ((s.db.closeSide mb side mood).nameplatesOfMailbox app mb) with
      | mk s2 ok =>
        obtain rfl : ok = true := (storeNameplatesOfMailbox_spec _ e).2 (fun n hn => by
          simp only [commit_db, modDb_db]
          exact npSidesOf_ne_nil (d := s.db.closeSide mb side mood) hN (List.mem_filter.1 hn).1)
        obtain ⟨us, rfl, hlen, hall⟩ := storeNameplatesOfMailbox_appends _ e
        rw [e] at h
        simp only [Bool.not_true, Bool.false_eq_true, if_false, modDb_cfg, modUdb_cfg, commit_cfg, hu, if_true] at h
        cases h
        refine ⟨rfl, ?cfg, ?reb, ?db, fun hx => absurd ⟨hh, hsd, hoo⟩ hx, fun _ _ _ => ⟨?conns, ?usage⟩⟩
        case cfg => simp [storeMailboxUsage]
        case reb => simp [storeMailboxUsage, stopListeners]
        case db => simpa [storeMailboxUsage] using hdel
        case conns => simp [stopListeners, stoppedConns, storeMailboxUsage]
        case usage =>
          exact {
            current := by simp [storeMailboxUsage]
            clients := by simp [storeMailboxUsage]
            off := fun hx => by simp [hu] at hx
            mailboxes := fun _ => ⟨_, by simp [storeMailboxUsage]; rfl, rfl⟩
            nameplates := fun _ => ⟨us, by simp [storeMailboxUsage], hlen rfl, hall⟩ }

end Sys
end Wormhole
