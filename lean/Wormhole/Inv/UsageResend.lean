/-
  A command crashed at one of its commit points, then restart + reconnect + bind + the command again
  (C10, re-send clause): what can be said about `Sys` and `Chan` alone.

  Commit points are PAIRS (channel database, usage database): `PairAll P s`, `USame U s`; a crash leaves the
  pair before the step or one of them (`crash_pair`).  `resend_bound`: the state the re-sent command runs in.
  Per command, the step and its commit points:
    claim   `claimNameplate_mid`: ONE intermediate point, after [mailbox +] nameplate + nameplate side row and
            before the mailbox side row; the usage database is not written
    release `release_step_pairs`: before; `releaseMid` (after `claimed := 0`); `releaseMid` with the usage row
            written; `releaseDb`.  `usage_db.commit()` PRECEDES `db.commit()` (server.py 343-344)
    open    `open_pair_points`: before; `openDb`
    close   `close_pair_points`, `close_step_udb_all`: before; `closePre` (after the implicit `open_mailbox`);
            `closePre.closeSide`; the same with the usage rows written; final (`Mailbox.close` 176-177: same order)
  and the usage rows the command writes when it is run again from such a point (`releaseRecs_*`, `closeRecs_*`).
-/
import Wormhole.Inv.DupHist
import Wormhole.Props.C15b

namespace Wormhole
open Sys Sys.Np

/-! ## Commit points as pairs -/

namespace Sys

/-- `P` holds of the committed pair and of every snapshot taken in this step -/
def PairAll (P : Chan → Usage → Prop) (s : Sys) : Prop := P s.disk s.udisk ∧ ∀ p ∈ s.snaps, P p.1 p.2

theorem PairAll.of_eq {P} {s s1 : Sys} (h : PairAll P s) (h1 : s1.disk = s.disk) (h2 : s1.udisk = s.udisk)
    (h3 : s1.snaps = s.snaps) : PairAll P s1 := by
  unfold PairAll; rw [h1, h2, h3]; exact h

theorem PairAll.snoc {P} {s s1 : Sys} (h : PairAll P s) (hp : P s1.disk s1.udisk)
    (hs : s1.snaps = s.snaps ++ [(s1.disk, s1.udisk)]) : PairAll P s1 := by
  refine ⟨hp, ?_⟩
  rw [hs]
  intro p hp'
  rcases List.mem_append.1 hp' with h' | h'
  · exact h.2 p h'
  · rw [List.mem_singleton.1 h']; exact hp

theorem PairAll.commit {P} {s : Sys} (h : PairAll P s) (hp : P s.db s.udisk) : PairAll P s.commit := by
  unfold Sys.commit
  split
  · exact h
  · exact h.snoc hp rfl

theorem PairAll.ucommit {P} {s : Sys} (h : PairAll P s) (hp : P s.disk s.udb) : PairAll P s.ucommit := by
  unfold Sys.ucommit
  split
  · exact h
  · exact h.snoc hp rfl

theorem PairAll.mono {P Q : Chan → Usage → Prop} {s : Sys} (h : PairAll P s) (hpq : ∀ d u, P d u → Q d u) :
    PairAll Q s := ⟨hpq _ _ h.1, fun p hp => hpq _ _ (h.2 p hp)⟩

theorem PairAll.modDb {P} {s : Sys} (h : PairAll P s) (f) : PairAll P (s.modDb f) := h
theorem PairAll.modUdb {P} {s : Sys} (h : PairAll P s) (f) : PairAll P (s.modUdb f) := h
theorem PairAll.updConn {P} {s : Sys} (h : PairAll P s) (c f) : PairAll P (s.updConn c f) := h
theorem PairAll.emit {P} {s : Sys} (h : PairAll P s) (e) : PairAll P (s.emit e) := h
theorem PairAll.send {P} {s : Sys} (h : PairAll P s) (c f) : PairAll P (s.send c f) := h
theorem PairAll.sendError {P} {s : Sys} (h : PairAll P s) (c x) : PairAll P (s.sendError c x) := h
theorem PairAll.internalErr {P} {s : Sys} (h : PairAll P s) (c x) : PairAll P (s.internalErr c x) := h
theorem PairAll.stopListeners {P} {s : Sys} (h : PairAll P s) (a m) : PairAll P (s.stopListeners a m) := h
theorem PairAll.storeMailboxUsage {P} {s : Sys} (h : PairAll P s) (a f sd t p) :
    PairAll P (s.storeMailboxUsage a f sd t p) := h

theorem PairAll.start {P} {s : Sys} (hS : s.Synced) (h0 : P s.db s.udb) (c : Nat) (f : Frame) :
    PairAll P (({ s with out := [], snaps := [] } : Sys).send c f) :=
  ⟨by show P s.disk s.udisk; rw [← hS.1, ← hS.2]; exact h0, fun p hp => absurd hp List.not_mem_nil⟩

/-- the usage database is `U` everywhere: in the connection, on disk, in every snapshot of the step -/
def USame (U : Usage) (s : Sys) : Prop := s.udb = U ∧ s.udisk = U ∧ ∀ p ∈ s.snaps, p.2 = U

variable {U : Usage}

theorem USame.commit {s : Sys} (h : USame U s) : USame U s.commit :=
  let h' := PairAll.commit (P := fun _ u => u = U) ⟨h.2.1, h.2.2⟩ h.2.1
  ⟨by rw [commit_udb]; exact h.1, h'.1, h'.2⟩

theorem USame.ucommit {s : Sys} (h : USame U s) : USame U s.ucommit :=
  let h' := PairAll.ucommit (P := fun _ u => u = U) ⟨h.2.1, h.2.2⟩ h.1
  ⟨by rw [ucommit_udb]; exact h.1, h'.1, h'.2⟩

theorem USame.emit {s : Sys} (h : USame U s) (e) : USame U (s.emit e) := h

theorem USame.stmt {k : Kind} {t : Time} (hk : k = .sync ∨ k = .grow t) {a b : Sys} (h : Stmt k a b) (hU : USame U a) :
    USame U b := by
  rcases hk with rfl | rfl
  · cases h with
    | commit => exact hU.commit
    | ucommit => exact hU.ucommit
  · cases h with
    | grow => exact hU

theorem USame.openMailbox {s : Sys} (h : USame U s) (app mb side t) : USame U (s.openMailbox app mb side t).1 :=
  ((Runs.refl s).openMailbox (K := fun k => k = .sync ∨ k = .grow t) (Or.inl rfl) app mb side t (Or.inr rfl)).preserves
    (fun _ hk _ _ => USame.stmt hk) h

theorem USame.claimNameplate {s : Sys} (h : USame U s) (app name side t fresh) :
    USame U (s.claimNameplate app name side t fresh).1 :=
  ((Runs.refl s).claimNameplate (K := fun k => k = .sync ∨ k = .grow t) (Or.inl rfl) app name side t
    fresh (Or.inr rfl)).preserves (fun _ hk _ _ => USame.stmt hk) h

theorem PairAll.of_dbAll_uSame {P : Chan → Prop} {s : Sys} (h1 : DbAll P s) (h2 : USame U s) :
    PairAll (fun d u => P d ∧ u = U) s := ⟨⟨h1.1, h2.2.1⟩, fun p hp => ⟨h1.2 p hp, h2.2.2 p hp⟩⟩

/-- the pair a crash after the `k`-th commit leaves: the pair before the step (`k = 0`: the command is lost
    entirely), or a commit point of the uncrashed run -/
theorem crash_pair {P : Chan → Usage → Prop} (s : Sys) (hS : s.Synced) (k : Nat) (op : Op)
    (h : PairAll P (({ s with out := [], snaps := [] } : Sys).stepPlain op)) :
    (k = 0 ∧ (s.step (.crashIn k op)).db = s.db ∧ (s.step (.crashIn k op)).udb = s.udb) ∨
      P (s.step (.crashIn k op)).db (s.step (.crashIn k op)).udb := by
  unfold Sys.step
  dsimp only
  split
  · exact Or.inl ⟨rfl, hS.1.symm, hS.2.symm⟩
  · rename_i p _ hp
    exact Or.inr (h.2 p (List.mem_of_getElem? hp))
  · exact Or.inr h.1

theorem crash_zero_db (s : Sys) (op : Op) : (s.step (.crashIn 0 op)).db = s.disk := rfl

theorem crash_pair_of_pairAll {P : Chan → Usage → Prop} (s : Sys) (hS : s.Synced) (k : Nat) (op : Op)
    (h0 : P s.db s.udb) (h : PairAll P (({ s with out := [], snaps := [] } : Sys).stepPlain op)) :
    P (s.step (.crashIn k op)).db (s.step (.crashIn k op)).udb :=
  (crash_pair s hS k op h).elim (fun e => by rw [e.2.1, e.2.2]; exact h0) id

/-! ## restart, connect, bind -/

/-- the re-sent command's history: restart, a new connection `c'`, bind `(a, σ)`, the command -/
def resend (sk : Sys) (c' : Nat) (t : Time) (id₁ id : Val) (a σ : String) (impl ver : Option String)
    (cmd' : Cmd) : Sys :=
  (((sk.step (.restart t)).step (.connect c')).step (.recv c' t id₁ (.bind (some a) (some σ) impl ver))).step
    (.recv c' t id cmd')

theorem resend_eq_run (sk : Sys) (c' : Nat) (t : Time) (id₁ id : Val) (a σ : String) (impl ver : Option String)
    (cmd' : Cmd) :
    resend sk c' t id₁ id a σ impl ver cmd' =
      (sk.run [.restart t, .connect c', .recv c' t id₁ (.bind (some a) (some σ) impl ver), .recv c' t id cmd']).1 :=
  rfl

theorem recv_usage_tables (s : Sys) (c : Nat) (t : Time) (id : Val) {cmd : Cmd} (hrel : ∀ n, cmd ≠ .release n)
    (hclose : ∀ m mood, cmd ≠ .close m mood) :
    (s.step (.recv c t id cmd)).udb.nameplates = s.udb.nameplates ∧
    (s.step (.recv c t id cmd)).udb.mailboxes = s.udb.mailboxes :=
  let h := Keep.onMessage (Keep.start ({ s with out := [], snaps := [] } : Sys)) c t id hrel hclose
  ⟨h.unp, h.umb⟩

/-- the state the re-sent command runs in: the crash state plus the fresh connection `c'` bound to `(a, σ)`;
    `bind` writes a `client_versions` row only -/
theorem resend_bound {sk : Sys} (hS : sk.Synced) (c' : Nat) (t : Time) (id₁ id : Val) (a σ : String)
    (impl ver : Option String) (cmd' : Cmd) :
    ∃ sb : Sys, resend sk c' t id₁ id a σ impl ver cmd' = sb.step (.recv c' t id cmd') ∧
      sb.findConn c' = some (dupConn c' a σ) ∧ sb.Synced ∧ sb.db = sk.db ∧ sb.cfg = sk.cfg ∧
      sb.udb.nameplates = sk.udb.nameplates ∧ sb.udb.mailboxes = sk.udb.mailboxes := by
  have hsy : (sk.step (.restart t)).Synced := ⟨rfl, rfl⟩
  have hf : ∀ y ∈ (sk.step (.restart t)).conns, y.id ≠ c' := fun y hy => absurd hy List.not_mem_nil
  have hR := (dup_prefix hsy hf a σ t id₁ impl ver).1
  obtain ⟨hn, hm⟩ := recv_usage_tables ((sk.step (.restart t)).step (.connect c')) c' t id₁
    (cmd := .bind (some a) (some σ) impl ver) (by intro n; simp) (by intro m mood; simp)
  have h0 : ((sk.step (.restart t)).step (.connect c')).udb = sk.udb := hS.2.symm
  exact ⟨_, rfl, hR.findConn hf, hR.synced hsy, hR.db.trans hS.1.symm, hR.cfg, hn.trans (congrArg _ h0),
    hm.trans (congrArg _ h0)⟩

/-! ## `claim_nameplate`: the intermediate commit point -/

theorem find?_append_of_none {α : Type} {p : α → Bool} {l : List α} (h : l.find? p = none) (a : α)
    (ha : p a = true) : (l ++ [a]).find? p = some a := by
  rw [List.find?_append, h]
  simp [ha]

/-- a successful `claim_nameplate` has ONE intermediate commit point `D1` (nameplate row and the caller's
    claimed nameplate-side row present; the mailbox-side row not yet) -/
theorem claimNameplate_mid {s s1 : Sys} {a n σ : String} {t : Time} {fresh m : String} (hp : s.db.PInv)
    (hfresh : ∀ mm ∈ s.db.mailboxes, mm.id ≠ fresh)
    (h : s.claimNameplate a n σ t fresh = (s1, .ok m)) :
    ∃ D1 : Chan, ∃ row : Nameplate, D1.findNameplate a n = some row ∧ row.mailbox = m ∧
      (∃ r0, D1.findNpSide row.id σ = some r0 ∧ r0.claimed = true) ∧
      s1.db = D1.npOpen m σ t ∧ s1.db.npClaimRes row.id m = .ok m ∧
      SnapNew (fun d => d = D1 ∨ d = s1.db) s s1 := by
  cases hrow : s.db.findNameplate a n with
  | none =>
    have h1 : s.db.findMailbox a fresh = none := by
      simp only [Chan.findMailbox, List.find?_eq_none, decide_eq_true_eq, not_and]
      intro mm hm _; exact hfresh mm hm
    have h2 : s.db.findMailboxById fresh = none := by
      simp only [Chan.findMailboxById, List.find?_eq_none, decide_eq_true_eq]
      intro mm hm; exact hfresh mm hm
    have h3 : s.db.findNpSide s.db.nextNp σ = none := hp.bounded.findNpSide_fresh σ
    unfold claimNameplate addMailbox at h
    simp only [hrow, h1, h2] at h
    rw [claimTail_eq] at h
    have h3' : ((s.modDb (·.insMailbox ⟨a, fresh, t, true⟩)).modDb (·.insNameplate a n fresh)).db.findNpSide
        (s.modDb (·.insMailbox ⟨a, fresh, t, true⟩)).db.nextNp σ = none := h3
    rw [h3'] at h
    dsimp only at h
    have hm : (((s.modDb (·.insMailbox ⟨a, fresh, t, true⟩)).modDb (·.insNameplate a n fresh)).modDb
        (·.insNpSide ⟨(s.modDb (·.insMailbox ⟨a, fresh, t, true⟩)).db.nextNp, true, σ, t⟩)).db.findMailbox
          a fresh = some ⟨a, fresh, t, true⟩ := by
      simp only [modDb_db, Chan.findMailbox, Chan.insNpSide, Chan.insNameplate, Chan.insMailbox]
      simp only [Chan.findMailbox] at h1
      exact find?_append_of_none h1 _ (by simp)
    obtain ⟨e1, _, e3⟩ := claimCont_present hm h
    have hmf : m = fresh := Sys.Np.claimCont_ok h
    subst hmf
    refine ⟨(((s.modDb (·.insMailbox ⟨a, m, t, true⟩)).modDb (·.insNameplate a n m)).modDb
        (·.insNpSide ⟨(s.modDb (·.insMailbox ⟨a, m, t, true⟩)).db.nextNp, true, σ, t⟩)).db,
      ⟨s.db.nextNp, a, n, m⟩, ?_, rfl, ⟨⟨s.db.nextNp, true, σ, t⟩, ?_, rfl⟩, e1, e3.symm, ?_⟩
    · simp only [modDb_db, Chan.findNameplate, Chan.insNpSide, Chan.insNameplate, Chan.insMailbox]
      simp only [Chan.findNameplate] at hrow
      exact find?_append_of_none hrow _ (by simp)
    · simp only [modDb_db, Chan.findNpSide, Chan.insNpSide, Chan.insNameplate, Chan.insMailbox]
      simp only [Chan.findNpSide] at h3
      exact find?_append_of_none h3 _ (by simp)
    · refine claimCont_snapNew h ?_ (Or.inl rfl) (Or.inr rfl)
      exact (SnapNew.refl s).noCommit (((NoCommit.modDb _ _).trans (NoCommit.modDb _ _)).trans (NoCommit.modDb _ _))
  | some row =>
    obtain ⟨_, _, _, mrow, hmrow⟩ := findMailbox_of_findNameplate hp hrow
    rcases claimNameplate_of_some h hrow with ⟨_, _, _, _, e⟩ | ⟨hall, hc⟩
    · cases e
    -- `D1`: the database with the caller's side row inserted if it was absent
    · have hD : ∀ d : Chan, (match s.db.findNpSide row.id σ with
          | none => s.db.insNpSide ⟨row.id, true, σ, t⟩ | some _ => s.db) = d →
          d.findNameplate a n = some row ∧ d.findMailbox a row.mailbox = some mrow ∧
          ∃ r0, d.findNpSide row.id σ = some r0 ∧ r0.claimed = true := by
        rintro d rfl
        cases hf : s.db.findNpSide row.id σ with
        | none =>
          refine ⟨hrow, hmrow, ⟨row.id, true, σ, t⟩, ?_, rfl⟩
          simp only [Chan.findNpSide, Chan.insNpSide]
          simp only [Chan.findNpSide] at hf
          exact find?_append_of_none hf _ (by simp)
        | some r0 => exact ⟨hrow, hmrow, r0, hf, hall r0 hf⟩
      obtain ⟨k1, k2, k3⟩ := hD _ rfl
      obtain ⟨e1, _, e3⟩ := claimCont_present k2 hc
      obtain rfl : m = row.mailbox := Sys.Np.claimCont_ok hc
      exact ⟨_, row, k1, rfl, k3, e1, e3.symm,
        claimCont_snapNew hc ((SnapNew.refl s).noCommit (NoCommit.modDb _ _)) (Or.inl rfl) (Or.inr rfl)⟩

theorem claimNameplate_from_mid {s' s2 : Sys} {a n σ : String} {t : Time} {f' m : String} {r' : ClaimRes}
    {D1 : Chan} {row : Nameplate} (hP : s'.db.PInv) (hdb : s'.db = D1)
    (hrow : D1.findNameplate a n = some row) (hm : row.mailbox = m)
    (hside : ∃ r0, D1.findNpSide row.id σ = some r0 ∧ r0.claimed = true)
    (hres : (D1.npOpen m σ t).npClaimRes row.id m = .ok m)
    (h : s'.claimNameplate a n σ t f' = (s2, r')) :
    s2.db = D1.npOpen m σ t ∧ r' = .ok m ∧ s2.conns = s'.conns := by
  subst hdb
  obtain ⟨r0, hr0, hcl⟩ := hside
  rcases claimNameplate_present hP hrow h with ⟨r1, h1, h2, _, _⟩ | ⟨_, e1, e2, e3⟩
  · rw [hr0] at h1; cases h1; rw [hcl] at h2; cases h2
  · have : s2.db = s'.db.npOpen m σ t := by
      rw [e1]; unfold Chan.npClaim; rw [hr0, hm]
    refine ⟨this, ?_, e2⟩
    rw [e3, this, hm]; exact hres

theorem claimNameplate_det {s s' s1 s2 : Sys} {a n σ : String} {t : Time} {f m : String} {r' : ClaimRes}
    (hP : s.db.PInv) (hdb : s'.db = s.db) (hfresh : ∀ mm ∈ s.db.mailboxes, mm.id ≠ f)
    (h : s.claimNameplate a n σ t f = (s1, .ok m)) (h' : s'.claimNameplate a n σ t f = (s2, r')) :
    s2.db = s1.db ∧ r' = .ok m := by
  cases hrow : s.db.findNameplate a n with
  | none =>
    obtain ⟨e1, _, e3⟩ := claimNameplate_new hP hrow hfresh h
    obtain ⟨e1', _, e3'⟩ := claimNameplate_new (by rw [hdb]; exact hP) (by rw [hdb]; exact hrow)
      (by rw [hdb]; exact hfresh) h'
    exact ⟨by rw [e1', e1, hdb], by rw [e3', e3]⟩
  | some row =>
    rcases claimNameplate_present hP hrow h with ⟨_, _, _, _, e⟩ | ⟨hall, e1, _, e3⟩
    · cases e
    · rcases claimNameplate_present (by rw [hdb]; exact hP) (by rw [hdb]; exact hrow) h' with
        ⟨r0, hr0, hcl, _, _⟩ | ⟨_, e1', _, e3'⟩
      · rw [hdb] at hr0
        rw [hall r0 hr0] at hcl; cases hcl
      · have : s2.db = s1.db := by rw [e1', e1, hdb]
        exact ⟨this, by rw [e3', this, ← e3]⟩

end Sys

/-! ## `release_nameplate` as a function of the two databases -/

namespace Chan

/-- the usage `nameplates` rows `release_nameplate(a, n, σ, t)` writes (`usage`: a usage database exists):
    one record if the release retires the nameplate, none otherwise -/
def releaseRecs (d : Chan) (usage : Bool) (blur : Time → Time) (a n σ : String) (t : Time) : List UNameplate :=
  match d.findNameplate a n with
  | none => []
  | some np =>
    match d.findNpSide np.id σ with
    | none => []
    | some _ =>
      if usage = true ∧ ¬ ((d.unclaim np.id σ).npSidesOf np.id).any (·.claimed) then
        [npRecord blur a (((d.unclaim np.id σ).npSidesOf np.id).map (·.added)) t false]
      else []

theorem releaseRecs_length (d : Chan) (usage : Bool) (blur : Time → Time) (a n σ : String) (t : Time) :
    (d.releaseRecs usage blur a n σ t).length ≤ 1 := by
  unfold releaseRecs
  split
  · simp
  · split
    · simp
    · split <;> simp

theorem releaseRecs_nousage (d : Chan) (blur : Time → Time) (a n σ : String) (t : Time) :
    d.releaseRecs false blur a n σ t = [] := by
  unfold releaseRecs
  split
  · rfl
  · split
    · rfl
    · simp

theorem releaseRecs_releaseMid (d : Chan) (usage : Bool) (blur : Time → Time) (a n σ : String) (t : Time) :
    (d.releaseMid a n σ).releaseRecs usage blur a n σ t = d.releaseRecs usage blur a n σ t := by
  unfold releaseMid releaseRecs
  cases hnp : d.findNameplate a n with
  | none => simp only [hnp]
  | some np =>
    dsimp only
    rw [findNameplate_unclaim, hnp]
    dsimp only
    rw [findNpSide_unclaim]
    cases hs : d.findNpSide np.id σ with
    | none => simp
    | some r0 => simp only [Option.map_some, unclaim_unclaim]

theorem releaseRecs_releaseDb {d : Chan} (hP : d.PInv) (usage : Bool) (blur : Time → Time) (a n σ : String)
    (t : Time) : (d.releaseDb a n σ).releaseRecs usage blur a n σ t = [] := by
  rcases releaseDb_mid_or_gone hP a n σ with ⟨e, h⟩ | h
  · rw [e, releaseRecs_releaseMid]
    unfold releaseRecs
    cases hnp : d.findNameplate a n with
    | none => rfl
    | some np =>
      dsimp only
      cases hs : d.findNpSide np.id σ with
      | none => rfl
      | some r0 =>
        rcases h np hnp with h' | h'
        · rw [hs] at h'; cases h'
        · exact if_neg (fun c => c.2 h')
  · unfold releaseRecs; rw [h]

end Chan

namespace Sys

/-- the usage database after `release_nameplate(a, n, σ, t)` -/
def releaseUdb (s : Sys) (a n σ : String) (t : Time) : Usage :=
  { s.udb with nameplates := s.udb.nameplates ++ s.db.releaseRecs s.cfg.usage s.blurTime a n σ t }

/-- the commit points of `release_nameplate`: (after the UPDATE, usage as before), (after the UPDATE, usage
    final) -- the usage commit precedes the channel commit --, (final, final) -/
theorem releaseNameplate_points (s : Sys) (a n σ : String) (t : Time) :
    (s.releaseNameplate a n σ t).1.udb = s.releaseUdb a n σ t ∧
    ∀ {P}, PairAll P s → s.udb = s.udisk → P (s.db.releaseMid a n σ) s.udb →
      P (s.db.releaseMid a n σ) (s.releaseUdb a n σ t) → P (s.db.releaseDb a n σ) (s.releaseUdb a n σ t) →
      PairAll P (s.releaseNameplate a n σ t).1 := by
  unfold releaseNameplate releaseUdb Chan.releaseDb Chan.releaseMid Chan.releaseRecs
  cases hnp : s.db.findNameplate a n with
  | none => exact ⟨by simp, fun hA _ _ _ _ => hA⟩
  | some np =>
    dsimp only
    cases hs : s.db.findNpSide np.id σ with
    | none => exact ⟨by simp, fun hA _ _ _ _ => hA⟩
    | some r0 =>
      dsimp only
      simp only [commit_db, modDb_db]
      have hc : ∀ {P}, PairAll P s → s.udb = s.udisk → P (s.db.unclaim np.id σ) s.udb →
          PairAll P ((s.modDb (·.unclaim np.id σ)).commit) := fun {P} hA hsy h1 =>
        PairAll.commit (s := s.modDb (·.unclaim np.id σ)) hA (by show P _ s.udisk; rw [← hsy]; exact h1)
      by_cases hany : ((s.db.unclaim np.id σ).npSidesOf np.id).any (·.claimed) = true
      · simp only [hany, if_true, not_true_eq_false, and_false, if_false, List.append_nil]
        exact ⟨by simp, fun hA hsy h1 _ _ => hc hA hsy h1⟩
      · simp only [hany, Bool.false_eq_true, if_false, modDb_cfg, commit_cfg, not_false_eq_true, and_true]
        cases hu : s.cfg.usage with
        | false =>
          simp only [Bool.false_eq_true, if_false, List.append_nil]
          refine ⟨by simp, fun hA hsy h1 _ h3 => ?_⟩
          refine PairAll.commit (s := ((s.modDb _).commit).modDb _) (hc hA hsy h1) ?_
          simp only [modDb_db, commit_db, modDb_udisk, commit_udisk]
          rw [← hsy]; exact h3
        | true =>
          simp only [if_true]
          rw [storeNameplateUsage_eq _ _ _ _ (npSidesOf_unclaim_ne_nil hs)]
          refine ⟨by simp, fun hA hsy h1 h2 h3 => ?_⟩
          dsimp only
          refine PairAll.commit (PairAll.ucommit ((hc hA hsy h1).of_eq rfl rfl rfl) ?_) ?_
          · simp only [modUdb_disk, modDb_disk, commit_disk, modDb_db, modUdb_udb, modDb_udb, commit_udb,
              blurTime_modDb, blurTime_commit]
            exact h2
          · simp only [ucommit_db, modUdb_db, modDb_db, commit_db, ucommit_udisk, modUdb_udb, modDb_udb,
              commit_udb, blurTime_modDb, blurTime_commit]
            exact h3

theorem release_step_pairs {s : Sys} (hS : s.Synced) {c : Nat} {x : Conn} (hx : s.findConn c = some x)
    {nm : Option String} (hr : rejectText x (.release nm) = none) {a : String} (happ : x.app = some a)
    {n : String} (hn : Np.releaseTarget x nm = some n) (t : Time) (id : Val) :
    (∃ commits, (∀ e ∈ commits, IsCommit e) ∧
      (s.step (.recv c t id (.release nm))).out =
        .frame c (.ack id) true :: (commits ++ [.frame c .released true])) ∧
    (s.step (.recv c t id (.release nm))).db = s.db.releaseDb a n (x.side.getD "") ∧
    (s.step (.recv c t id (.release nm))).udb = s.releaseUdb a n (x.side.getD "") t ∧
    ∀ P : Chan → Usage → Prop, P s.db s.udb → P (s.db.releaseMid a n (x.side.getD "")) s.udb →
      P (s.db.releaseMid a n (x.side.getD "")) (s.releaseUdb a n (x.side.getD "") t) →
      P (s.db.releaseDb a n (x.side.getD "")) (s.releaseUdb a n (x.side.getD "") t) →
      PairAll P (({ s with out := [], snaps := [] } : Sys).stepPlain (.recv c t id (.release nm))) := by
  obtain ⟨n', s1, hn', e, hstep, _, hout⟩ := release_whole hS t id nm hx happ hr
  have : n' = n := by rw [hn] at hn'; cases hn'; rfl
  subst this
  generalize hX : ((({ s with out := [], snaps := [] } : Sys).send c (.ack id)).updConn c
    (fun y => { y with didRelease := true })) = X at e
  have hXu : X.releaseUdb a n' (x.side.getD "") t = s.releaseUdb a n' (x.side.getD "") t := by rw [← hX]; rfl
  have hdbf := releaseNameplate_db X a n' (x.side.getD "") t
  obtain ⟨hudbf, hcp⟩ := releaseNameplate_points X a n' (x.side.getD "") t
  rw [e] at hdbf hudbf hcp
  dsimp only at hdbf hudbf hcp
  refine ⟨hout, ?_, ?_, ?_⟩
  · rw [hstep]
    show s1.db = _
    rw [hdbf, ← hX]; rfl
  · rw [hstep]
    exact hudbf.trans hXu
  · intro P h0 h1 h2 h3
    have : ({ s with out := [], snaps := [] } : Sys).stepPlain (.recv c t id (.release nm)) =
        s1.send c .released := hstep
    rw [this]
    have hA : PairAll P X := by rw [← hX]; exact (PairAll.start hS h0 c _).updConn _ _
    refine (hcp hA (by rw [← hX]; exact hS.2) ?_ ?_ ?_).send _ _
    · rw [← hX]; exact h1
    · rw [hXu, ← hX]; exact h2
    · rw [hXu, ← hX]; exact h3

end Sys

/-! ## `open` -/

namespace Sys

theorem addMailbox_frame {s s1 : Sys} {app mb forNp t} (h : s.addMailbox app mb forNp t = some s1) :
    s1.disk = s.disk ∧ s1.udisk = s.udisk ∧ s1.snaps = s.snaps := by
  unfold addMailbox at h
  split at h
  · cases h; exact ⟨rfl, rfl, rfl⟩
  · split at h
    · cases h
    · cases h; exact ⟨rfl, rfl, rfl⟩

theorem mailboxOpen_udisk' (s : Sys) (mb side : String) (t : Time) : (s.mailboxOpen mb side t).udisk = s.udisk := by
  unfold mailboxOpen; split <;> simp

theorem mailboxOpen_pairAll {P} (s : Sys) (mb side : String) (t : Time) (hA : PairAll P s)
    (hp : P (s.mailboxOpen mb side t).db s.udisk) : PairAll P (s.mailboxOpen mb side t) := by
  unfold mailboxOpen at hp ⊢
  split at hp <;> simp only [commit_db] at hp
  · exact PairAll.commit ((hA.modDb _).modDb _) hp
  · exact PairAll.commit (hA.modDb _) hp

theorem openMailbox_pairAll {P} {s s1 : Sys} {app mb side t r} (h : s.openMailbox app mb side t = (s1, r))
    (hA : PairAll P s) (hp : P s1.db s.udisk) : PairAll P s1 := by
  unfold openMailbox at h
  split at h
  · simp only [Prod.mk.injEq] at h
    obtain ⟨rfl, rfl⟩ := h
    exact hA
  · rename_i s0 e
    obtain ⟨f1, f2, f3⟩ := addMailbox_frame e
    have h0 : PairAll P s0 := hA.of_eq f1 f2 f3
    dsimp only at h
    split at h <;>
    · simp only [Prod.mk.injEq] at h
      obtain ⟨rfl, rfl⟩ := h
      rw [commit_db] at hp
      refine PairAll.commit (mailboxOpen_pairAll _ _ _ _ h0 (by rw [f2]; exact hp)) ?_
      rw [mailboxOpen_udisk', f2]; exact hp

theorem open_pair_points {s : Sys} (hP : s.db.PInv) (hS : s.Synced) {c : Nat} {x : Conn}
    (hx : s.findConn c = some x) {mb : String} (hr : rejectText x (.open_ (some mb)) = none) {a : String}
    (happ : x.app = some a) (t : Time) (id : Val) {P : Chan → Usage → Prop} (h0 : P s.db s.udb)
    (h1 : P (s.db.openDb a mb (x.side.getD "") t) s.udb) :
    PairAll P (({ s with out := [], snaps := [] } : Sys).stepPlain (.recv c t id (.open_ (some mb)))) := by
  obtain ⟨_, hnone, _⟩ := open_accepted hr
  have hstep : ({ s with out := [], snaps := [] } : Sys).stepPlain (.recv c t id (.open_ (some mb))) =
      (({ s with out := [], snaps := [] } : Sys).send c (.ack id)).handleOpen x a (x.side.getD "") t (some mb) := by
    show ({ s with out := [], snaps := [] } : Sys).onMessage c t id (.open_ (some mb)) = _
    unfold onMessage
    have : ({ s with out := [], snaps := [] } : Sys).findConn c = some x := hx
    simp only [this, happ]
  rw [hstep]
  have hA0 := (PairAll.start hS h0 c (.ack id)).updConn x.id (fun y => { y with mailboxId := some mb })
  generalize hA : (({ s with out := [], snaps := [] } : Sys).send c (.ack id)) = sA at hA0 ⊢
  have hAdb : sA.db = s.db := by rw [← hA]; rfl
  have hAudisk : sA.udisk = s.udisk := by rw [← hA]; rfl
  unfold handleOpen
  simp only [hnone, Option.isSome_none, Bool.false_eq_true, if_false]
  cases e : (sA.updConn x.id (fun y => { y with mailboxId := some mb })).openMailbox a mb (x.side.getD "") t with
  | mk s1 r =>
    obtain ⟨_, hsame, hne, _⟩ :=
      openMailbox_exact (s := sA.updConn x.id (fun y => { y with mailboxId := some mb }))
        (by show sA.db.PInv; rw [hAdb]; exact hP) e
    simp only [updConn_db, hAdb] at hne
    have h1' : PairAll P s1 := by
      by_cases hri : r = .integrity
      · rw [hsame hri]; exact hA0
      · refine openMailbox_pairAll e hA0 ?_
        show P s1.db sA.udisk
        rw [(hne hri).1, hAudisk, ← hS.2]; exact h1
    cases r with
    | integrity => exact h1'.internalErr _ _
    | crowded => exact h1'.sendError _ _
    | ok =>
      dsimp only
      exact replay_closed (T := PairAll P) (fun _ c f h => h.send c f) (h1'.updConn _ _) _ _ _

end Sys

/-! ## `close` -/

namespace Sys

/-- the commit points of `Mailbox.close`: (after the UPDATE, usage as before), (after the UPDATE, usage
    final), (final, final) -/
theorem mailboxClose_pairAll {P} {s s1 : Sys} {app mb side mood t b}
    (h : s.mailboxClose app mb side mood t = (s1, b)) (hA : PairAll P s) (hsy : s.udb = s.udisk)
    (h1 : P (s.db.closeSide mb side mood) s.udb) (h2 : P (s.db.closeSide mb side mood) s1.udb)
    (h3 : P s1.db s1.udb) : PairAll P s1 := by
  have hc : PairAll P ((s.modDb (·.closeSide mb side mood)).commit) :=
    PairAll.commit (s := s.modDb (·.closeSide mb side mood)) hA (by show P _ s.udisk; rw [← hsy]; exact h1)
  revert h h2 h3
  refine mailboxClose_cases s app mb side mood t ?_ ?_ ?_ ?_
  · rintro _ ⟨⟩ _ _
    exact hA
  · rintro _ _ _ rfl _ ⟨⟩ _ _
    exact hc
  · rintro _ _ s₂ _ rfl _ hE ⟨⟩ _ _
    obtain ⟨u, -, -⟩ := closeStore_udbOnly hE
    exact hc.of_eq u.disk u.udisk u.snaps
  · rintro _ _ s₂ _ _ rfl _ hE rfl ⟨⟩ h2 h3
    obtain ⟨u, -, hno⟩ := closeStore_udbOnly hE
    have hc2 : PairAll P s₂ := hc.of_eq u.disk u.udisk u.snaps
    cases hu : s.cfg.usage with
    | false =>
      obtain rfl := hno (by simpa using hu)
      simp only [modDb_cfg, commit_cfg, hu, Bool.false_eq_true, if_false, stopListeners_db, commit_db,
        stopListeners_udb, commit_udb, modDb_udb, modDb_db] at h3 ⊢
      refine PairAll.stopListeners (PairAll.commit (hc.modDb _) ?_) _ _
      simp only [modDb_db, commit_db, modDb_udisk, commit_udisk]
      rw [← hsy]; exact h3
    | true =>
      simp only [modDb_cfg, u.cfg, commit_cfg, hu, if_true, stopListeners_db, commit_db, stopListeners_udb,
        commit_udb, ucommit_udb, ucommit_db] at h2 h3 ⊢
      refine PairAll.stopListeners (PairAll.commit (PairAll.ucommit
        ((hc2.modDb _).storeMailboxUsage _ _ _ _ _) ?_) ?_) _ _
      · show P s₂.disk _
        rw [u.disk, commit_disk]
        exact h2
      · simp only [ucommit_db, ucommit_udisk]
        exact h3

/-- the commit points of an accepted `close` acting on mailbox `m`: the state before; after the implicit
    `open_mailbox` (`closePre`); after the UPDATE that closes the side's row; THE SAME CHANNEL STATE WITH THE
    FINAL USAGE DATABASE (the usage commit precedes the channel commit); the final pair -/
theorem close_pair_points {s : Sys} (hP : s.db.PInv) (hS : s.Synced) {c : Nat} {x : Conn}
    (hx : s.findConn c = some x) {mo mood : Option String}
    (hr : rejectText x (.close mo mood) = none) {a : String} (happ : x.app = some a) {m : String}
    (htg : x.closeTarget mo = some m) (t : Time) (id : Val) {P : Chan → Usage → Prop} (h0 : P s.db s.udb)
    (h1 : P (closePre s x a m t) s.udb) (h2 : P ((closePre s x a m t).closeSide m (x.side.getD "") mood) s.udb)
    (h3 : P ((closePre s x a m t).closeSide m (x.side.getD "") mood) (s.step (.recv c t id (.close mo mood))).udb)
    (h4 : P (s.step (.recv c t id (.close mo mood))).db (s.step (.recv c t id (.close mo mood))).udb) :
    PairAll P (({ s with out := [], snaps := [] } : Sys).stepPlain (.recv c t id (.close mo mood))) := by
  obtain ⟨_, _, ⟨mb, hn⟩, _⟩ := close_accepted hr
  have hstep := step_close_eq (s := s) (t := t) (id := id) hx hr happ hn
  have hpl : ({ s with out := [], snaps := [] } : Sys).stepPlain (.recv c t id (.close mo mood)) =
      s.step (.recv c t id (.close mo mood)) := rfl
  rw [hpl, hstep]
  rw [hstep] at h3 h4
  have hA0 := PairAll.start hS h0 c (.ack id)
  generalize hA : (({ s with out := [], snaps := [] } : Sys).send c (.ack id)) = sA at h3 h4 hA0 ⊢
  have hAdb : sA.db = s.db := by rw [← hA]; rfl
  have hAudb : sA.udb = s.udb := by rw [← hA]; rfl
  have hAudisk : sA.udisk = s.udisk := by rw [← hA]; rfl
  cases hh : x.mailbox with
  | some h =>
    have htgt : m = h := by simp [Conn.closeTarget, hh] at htg; exact htg.symm
    subst htgt
    have hpre : closePre s x a m t = s.db := by simp [closePre, hh]
    rw [hpre] at h2 h3
    simp only [closeGo_eq, closeOpened, closeFinish, hh] at h3 h4 ⊢
    cases e : (sA.updConn x.id (fun y => { y with listening := false, didClose := true })).mailboxClose
        a m (x.side.getD "") mood t with
    | mk s3 b =>
      rw [e] at h3 h4
      have h3' : P (s.db.closeSide m (x.side.getD "") mood) s3.udb := by cases b <;> exact h3
      have h4' : P s3.db s3.udb := by cases b <;> exact h4
      have hd := mailboxClose_pairAll e (P := P) (hA0.updConn _ _)
        (by show sA.udb = sA.udisk; rw [hAudb, hAudisk]; exact hS.2)
        (by show P (sA.db.closeSide _ _ _) sA.udb; rw [hAdb, hAudb]; exact h2)
        (by show P (sA.db.closeSide _ _ _) s3.udb; rw [hAdb]; exact h3') h4'
      cases b
      · exact hd.internalErr _ _
      · exact (hd.updConn _ _).send _ _
  | none =>
    have htgt : mb = m := by
      simp only [Conn.closeTarget, hh] at htg
      rw [hn] at htg; cases htg; rfl
    subst htgt
    have hpre : closePre s x a mb t = s.db.openDb a mb (x.side.getD "") t := by simp [closePre, hh]
    rw [hpre] at h1 h2 h3
    cases e : sA.openMailbox a mb (x.side.getD "") t with
    | mk s1 r =>
      obtain ⟨_, hsame, hne, _⟩ := openMailbox_exact (by rw [hAdb]; exact hP) e
      rw [hAdb] at hne
      have h1' : PairAll P s1 := by
        by_cases hri : r = .integrity
        · rw [hsame hri]; exact hA0
        · exact openMailbox_pairAll e hA0 (by rw [(hne hri).1, hAudisk, ← hS.2]; exact h1)
      simp only [closeGo_eq, closeOpened, closeFinish, hh, e] at h3 h4 ⊢
      cases r with
      | integrity => exact (h1'.updConn _ _).internalErr _ _
      | crowded => exact (h1'.updConn _ _).sendError _ _
      | ok =>
        simp only [if_true] at h3 h4 ⊢
        obtain ⟨hdb1, _, hrest⟩ := hne (by simp)
        cases e2 : ((s1.updConn x.id (fun y => { y with mailbox := some mb })).updConn x.id
            (fun y => { y with listening := false, didClose := true })).mailboxClose a mb (x.side.getD "") mood t with
        | mk s3 b =>
          rw [e2] at h3 h4
          have h3' : P ((s.db.openDb a mb (x.side.getD "") t).closeSide mb (x.side.getD "") mood) s3.udb := by
            cases b <;> exact h3
          have h4' : P s3.db s3.udb := by cases b <;> exact h4
          have hd := mailboxClose_pairAll e2 (P := P)
            ((h1'.updConn _ _).updConn _ _)
            (by show s1.udb = s1.udisk; rw [hrest.udb, hrest.udisk, hAudb, hAudisk]; exact hS.2)
            (by show P (s1.db.closeSide _ _ _) s1.udb; rw [hdb1, hrest.udb, hAudb]; exact h2)
            (by show P (s1.db.closeSide _ _ _) s3.udb; rw [hdb1]; exact h3') h4'
          cases b
          · exact hd.internalErr _ _
          · exact (hd.updConn _ _).send _ _

end Sys

/-- the usage `nameplates` rows a deleting `close` of `(a, m)` writes: one per nameplate pointing at it -/
def Chan.closeRecsNp (pre : Chan) (blur : Time → Time) (a m : String) (t : Time) : List UNameplate :=
  (pre.nameplatesOfMailbox a m).map (fun np => npRecord blur a ((pre.npSidesOf np.id).map (·.added)) t false)

/-- the usage `mailboxes` row a deleting `close` of `(a, m)` by side `σ` writes -/
def Chan.closeRecsMb (pre : Chan) (blur : Time → Time) (a m σ : String) (mood : Option String) (t : Time) :
    List UMailbox :=
  match pre.findMailbox a m with
  | some row => [mbRecord blur a row.forNp ((pre.closeSide m σ mood).mbSidesOf m) t false]
  | none => []

/-- the usage rows `Mailbox.close` of `(a, m)` by side `σ` writes, working on `pre` (`usage`: a usage database
    exists): those of a deleting close when no other side is open, none otherwise -/
def Chan.closeRecs (pre : Chan) (usage : Bool) (blur : Time → Time) (a m σ : String) (mood : Option String)
    (t : Time) : List UNameplate × List UMailbox :=
  if usage = true ∧ ¬ pre.OtherOpen m σ then (pre.closeRecsNp blur a m t, pre.closeRecsMb blur a m σ mood t)
  else ([], [])

/-- the surplus row of a re-sent `close` of a mailbox that is gone: `for_nameplate = 0`, one side (the
    closing one, added at `t`, with the submitted mood), retired at `t` -/
def goneRecord (blur : Time → Time) (a m σ : String) (mood : Option String) (t : Time) : UMailbox :=
  mbRecord blur a false [⟨m, false, σ, t, mood⟩] t false

namespace Chan

theorem closeRecs_length (pre : Chan) (usage : Bool) (blur : Time → Time) (a m σ : String) (mood : Option String)
    (t : Time) : (pre.closeRecs usage blur a m σ mood t).2.length ≤ 1 := by
  unfold closeRecs closeRecsMb
  split
  · dsimp only; split <;> simp
  · simp

theorem closeRecs_of_not (pre : Chan) {usage : Bool} (blur : Time → Time) (a : String) {m σ : String}
    (mood : Option String) (t : Time) (h : ¬ (usage = true ∧ ¬ pre.OtherOpen m σ)) :
    pre.closeRecs usage blur a m σ mood t = ([], []) := if_neg h

theorem findMailbox_touch (d : Chan) (m' : String) (t' : Time) (a m : String) :
    (d.touch m' t').findMailbox a m =
      (d.findMailbox a m).map (fun r => if r.id = m' then { r with updated := t' } else r) := by
  unfold findMailbox touch
  apply dup_find?_map
  intro x
  split <;> rfl

theorem otherOpen_touch (d : Chan) (m' : String) (t' : Time) (m σ : String) :
    (d.touch m' t').OtherOpen m σ ↔ d.OtherOpen m σ := Iff.rfl

theorem closeRecs_touch (d : Chan) (m' : String) (t' : Time) (usage : Bool) (blur : Time → Time) (a m σ : String)
    (mood : Option String) (t : Time) :
    (d.touch m' t').closeRecs usage blur a m σ mood t = d.closeRecs usage blur a m σ mood t := by
  have : (d.touch m' t').closeRecsMb blur a m σ mood t = d.closeRecsMb blur a m σ mood t := by
    unfold closeRecsMb
    rw [findMailbox_touch]
    cases d.findMailbox a m with
    | none => rfl
    | some row =>
      simp only [Option.map_some]
      have : (if row.id = m' then { row with updated := t' } else row).forNp = row.forNp := by split <;> rfl
      rw [this]
      rfl
  unfold closeRecs
  rw [this]
  rfl

theorem closeRecs_closeSide (d : Chan) (usage : Bool) (blur : Time → Time) (a m σ : String) (mood : Option String)
    (t : Time) : (d.closeSide m σ mood).closeRecs usage blur a m σ mood t = d.closeRecs usage blur a m σ mood t := by
  have : (d.closeSide m σ mood).closeRecsMb blur a m σ mood t = d.closeRecsMb blur a m σ mood t := by
    unfold closeRecsMb
    rw [closeSide_eq_self (closeSide_closed d m σ mood)]
    rfl
  unfold closeRecs
  rw [this]
  simp only [closeSide_otherOpen]
  rfl

theorem closeRecs_points {pre : Chan} (hids : pre.mailboxes.Pairwise (fun a b => ¬ a.id = b.id)) {a m σ : String}
    (mood : Option String) (t : Time) (hb : pre.HasBox a m) (hs : pre.findMbSide m σ ≠ none) (usage : Bool)
    (blur : Time → Time) (t' : Time) :
    (pre.openDb a m σ t).closeRecs usage blur a m σ mood t' = pre.closeRecs usage blur a m σ mood t' ∧
    ((pre.closeSide m σ mood).openDb a m σ t).closeRecs usage blur a m σ mood t' =
      pre.closeRecs usage blur a m σ mood t' := by
  have hb' : (pre.closeSide m σ mood).HasBox a m := hb
  have hs' : (pre.closeSide m σ mood).findMbSide m σ ≠ none := closeSide_findMbSide_ne_none.2 hs
  rw [openDb_eq_touch hids hb hs, openDb_eq_touch (d := pre.closeSide m σ mood) hids hb' hs', closeRecs_touch,
    closeRecs_touch, closeRecs_closeSide]
  exact ⟨rfl, rfl⟩

theorem closeRecs_fresh {d : Chan} {a m : String} (hid : ∀ r ∈ d.mailboxes, r.id ≠ m)
    (hsd : ∀ r ∈ d.mbSides, r.mailbox ≠ m) (hnp : ∀ n ∈ d.nameplates, ¬ (n.app = a ∧ n.mailbox = m))
    (usage : Bool) (blur : Time → Time) (σ : String) (mood : Option String) (t : Time) :
    (d.openDb a m σ t).closeRecs usage blur a m σ mood t =
      ([], if usage then [goneRecord blur a m σ mood t] else []) := by
  have hnone : d.findMailbox a m = none := by
    rw [findMailbox_eq_none]
    rintro ⟨r, hr, _, e⟩
    exact hid r hr e
  have hsnone : d.findMbSide m σ = none := by
    rw [findMbSide_eq_none]
    intro r hr hk
    exact hsd r hr hk.1
  have hno : ¬ (d.openDb a m σ t).OtherOpen m σ := by
    rw [otherOpen_openDb]
    rintro ⟨r, hr, hk, _⟩
    exact hsd r hr hk
  have hN : (d.openDb a m σ t).closeRecsNp blur a m t = [] := by
    show (d.nameplatesOfMailbox a m).map _ = []
    have : d.nameplates.filter (fun r => r.app = a ∧ r.mailbox = m) = [] := by
      rw [List.filter_eq_nil_iff]
      intro n hn
      simpa using hnp n hn
    unfold nameplatesOfMailbox
    rw [this]; rfl
  have hfind : (d.openDb a m σ t).findMailbox a m = some ⟨a, m, t, false⟩ := by
    unfold openDb
    simp only [hnone]
    unfold findMailbox at hnone ⊢
    exact Sys.find?_append_of_none hnone _ (by simp)
  have hsides : ((d.openDb a m σ t).closeSide m σ mood).mbSidesOf m = [⟨m, false, σ, t, mood⟩] := by
    have h1 : (d.openDb a m σ t).mbSides = d.mbSides ++ [⟨m, true, σ, t, none⟩] := by
      unfold openDb; simp only [hsnone]
    unfold mbSidesOf closeSide
    simp only [h1, List.map_append, List.filter_append, List.map_cons, List.map_nil]
    have h3 : (d.mbSides.map
        (fun r => if r.mailbox = m ∧ r.side = σ then { r with opened := false, mood := mood } else r)).filter
        (fun r => r.mailbox = m) = [] := by
      rw [List.filter_eq_nil_iff]
      intro r hr
      obtain ⟨r0, hr0, rfl⟩ := List.mem_map.1 hr
      have hne : ¬ r0.mailbox = m := hsd r0 hr0
      split <;> simpa using hne
    rw [h3]
    simp
  have hM : (d.openDb a m σ t).closeRecsMb blur a m σ mood t = [goneRecord blur a m σ mood t] := by
    unfold closeRecsMb
    rw [hfind]
    dsimp only
    rw [hsides]
    rfl
  unfold closeRecs
  rw [hN, hM]
  cases usage <;> simp [hno]

theorem closeRecs_gone {d : Chan} (hids : d.mailboxes.Pairwise (fun a b => ¬ a.id = b.id)) {a m : String}
    (hb : d.HasBox a m) (usage : Bool) (blur : Time → Time) (σ : String) (mood : Option String) (t : Time) :
    ((d.dropMailbox a m).openDb a m σ t).closeRecs usage blur a m σ mood t =
      ([], if usage then [goneRecord blur a m σ mood t] else []) :=
  closeRecs_fresh (dropMailbox_noId hids hb) (fun _ hr => ((mem_dropMailbox_mbSides d a m).1 hr).2)
    (fun _ hn => ((mem_dropMailbox_nameplates d a m).1 hn).2) usage blur σ mood t

end Chan

namespace Sys

/-- the usage database after an accepted `close` of `(a, m)` by side `σ`, `pre` being the channel database
    after the implicit `open_mailbox` -/
def closeUdb (s : Sys) (pre : Chan) (a m σ : String) (mood : Option String) (t : Time) : Usage :=
  { s.udb with
    nameplates := s.udb.nameplates ++ (pre.closeRecs s.cfg.usage s.blurTime a m σ mood t).1
    mailboxes := s.udb.mailboxes ++ (pre.closeRecs s.cfg.usage s.blurTime a m σ mood t).2 }

theorem close_step_udb_all {s : Sys} (hP : s.db.PInv) (hN : s.db.NpHasSide) (hS : s.Synced)
    {c : Nat} {x : Conn} (hx : s.findConn c = some x) {mo mood : Option String}
    (hr : rejectText x (.close mo mood) = none) {a : String} (happ : x.app = some a)
    {m : String} (htg : x.closeTarget mo = some m) (t : Time) (id : Val)
    (hnot : ¬ (x.mailbox = none ∧ (s.db.Clash a m ∨ ((closePre s x a m t).mbSidesOf m).length > 2)))
    (hb : (closePre s x a m t).HasBox a m) (hs : (closePre s x a m t).findMbSide m (x.side.getD "") ≠ none) :
    (s.step (.recv c t id (.close mo mood))).udb = s.closeUdb (closePre s x a m t) a m (x.side.getD "") mood t := by
  unfold closeUdb Chan.closeRecs
  cases hu : s.cfg.usage with
  | false =>
    rw [(C15_no_usage_db_no_writes hS.2 hu _).1]
    simp
  | true =>
    by_cases ho : (closePre s x a m t).OtherOpen m (x.side.getD "")
    · obtain ⟨_, _, h3⟩ := close_step hP hN hS hx hr happ htg t id
      obtain ⟨_, _, _, _, _, hsurv, _⟩ := h3 hnot
      rw [(hsurv (fun h => h.2.2 ho)).2]
      simp [ho]
    · obtain ⟨row, hrow⟩ := Option.isSome_iff_exists.1 (Chan.findMailbox_isSome.2 hb)
      obtain ⟨r0, hr0⟩ := Option.ne_none_iff_exists'.1 hs
      have hany : (((closePre s x a m t).closeSide m (x.side.getD "") mood).mbSidesOf m).any (·.opened) = false := by
        have := (not_congr (Chan.closeSide_any_opened (closePre s x a m t) m (x.side.getD "") mood)).2 ho
        simpa using this
      rw [close_step_udb hP hN hu hx hr happ htg t id hnot hrow hr0 hany]
      rw [if_pos ⟨rfl, ho⟩]
      unfold Chan.closeRecsNp Chan.closeRecsMb
      rw [hrow]

end Sys

end Wormhole
