/-
  The base of an accepted `close` (`Sys.usageBase`) comes from a COMMIT POINT of the step:
  it is `D.closeSide tgt σ mood` where `D` is the channel database before the step or the channel
  database of one of the snapshots the step takes (`Sys.snaps`: the states a crash can leave) --
  namely the one committed by the implicit `open_mailbox`.  So "a mailbox retired by the step" =
  "a mailbox row present before the step or at a commit point inside it, and absent after it";
  in particular a `close` on an id that does not exist creates the row, commits, closes it, deletes
  it and writes ONE usage record for an object that is in neither the pre- nor the post-state.
-/
import Wormhole.Inv.UsageStep

namespace Wormhole
namespace Sys

theorem uclosed_snapsMono (c0 : Cfg) (S0 : List (Chan × Usage)) :
    UClosed c0 (fun s => s.cfg = c0 ∧ ∀ p ∈ S0, p ∈ s.snaps) := by
  exact uclosed_of_disk_snaps c0 (fun h _ e => e ▸ h)
    (fun s h p hp => (commit_snaps_mem p).2 (.inl (h p hp)))
    (fun s h p hp => (ucommit_snaps_mem p).2 (.inl (h p hp)))

theorem uclosed_diskSeen (c0 : Cfg) (D0 : Chan) :
    UClosed c0 (fun s => s.cfg = c0 ∧ (s.disk = D0 ∨ ∃ p ∈ s.snaps, p.1 = s.disk)) := by
  refine uclosed_of_disk_snaps c0 (fun h e1 e2 => by rw [e1, e2]; exact h) (fun s h => ?_) (fun s h => ?_)
  · unfold commit; split
    · exact h
    · exact Or.inr ⟨(s.db, s.udisk), by simp, rfl⟩
  · unfold ucommit; split
    · exact h
    · exact Or.inr ⟨(s.disk, s.udb), by simp, rfl⟩

theorem usageBase_commit_point {s : Sys} (hP : s.db.PInv) (hS : s.Synced)
    {c : Nat} {x : Conn} (hx : s.findConn c = some x) {m mood : Option String}
    (hr : rejectText x (.close m mood) = none) {app : String} (happ : x.app = some app)
    {tgt : String} (htg : x.closeTarget m = some tgt) (t : Time) (id : Val) :
    s.usageBase (.recv c t id (.close m mood)) = s.db ∨
    ∃ D : Chan, (D = s.db ∨ ∃ p ∈ (s.step (.recv c t id (.close m mood))).snaps, p.1 = D) ∧
      D.nameplates = s.db.nameplates ∧ D.npSides = s.db.npSides ∧
      s.usageBase (.recv c t id (.close m mood)) = D.closeSide tgt (x.side.getD "") mood := by
  by_cases hcl : x.mailbox = none ∧ s.db.Clash app tgt
  · left
    simp [usageBase, hx, happ, htg, hr, hcl]
  · right
    have hB : s.usageBase (.recv c t id (.close m mood)) =
        (closePre s x app tgt t).closeSide tgt (x.side.getD "") mood := by
      simp [usageBase, hx, happ, htg, hr, hcl]
    refine ⟨closePre s x app tgt t, ?_, closePre_nameplates _ _ _ _ _, closePre_npSides _ _ _ _ _, hB⟩
    obtain ⟨S, hdb, _, hcfg, hdisk, hT, e⟩ := close_step_split hP hx hr happ htg t id hcl
    -- what `S` has committed is the database the step started with, or in one of its snapshots
    have hseen := (hT (uclosed_diskSeen s.cfg s.db) ⟨rfl, Or.inl hS.1.symm⟩).2
    rw [hdisk hS.1, hdb] at hseen
    rcases hseen with h0 | ⟨p, hp, hpd⟩
    · exact Or.inl h0
    · -- and the snapshots of `S` are still there at the end of the step
      refine Or.inr ⟨p, ?_, hpd⟩
      have hmono := uclosed_snapsMono s.cfg S.snaps
      rw [e]
      split
      · exact hp
      · have h2 := hmono.mailboxClose (hmono.updConn ⟨hcfg, fun _ h => h⟩ x.id
          (fun y => { y with listening := false, didClose := true })) app tgt (x.side.getD "") mood t
        dsimp only [closeFinish]
        split
        all_goals
          rename_i e2
          rw [e2] at h2
          exact h2.2 p hp

end Sys
end Wormhole
