/-
  Event-list lemmas for the websocket layer.

  `OutExt P s s'`: the events of `s'` are those of `s` followed by events that all satisfy `P`.
  Every function of `Core.lean` that a handler calls only appends `commit` events
  (`CExt`: every statement it executes, Inv/Acts.lean, is `silent`); the handlers append frames,
  commits and `internal` events; `expire_outExt` says which events a sweep appends.
-/
import Wormhole.Inv.Acts

namespace Wormhole
namespace Sys

/-- `s'.out` is `s.out` followed by events that all satisfy `P` -/
def OutExt (P : Event → Prop) (s s' : Sys) : Prop :=
  ∃ l, s'.out = s.out ++ l ∧ ∀ e ∈ l, P e

theorem OutExt.refl {P} {s : Sys} : OutExt P s s := ⟨[], by simp, by simp⟩

theorem OutExt.of_out_eq {P} {s s' : Sys} (h : s'.out = s.out) : OutExt P s s' :=
  ⟨[], by simp [h], by simp⟩

theorem OutExt.trans {P} {s s1 s2 : Sys} (h1 : OutExt P s s1) (h2 : OutExt P s1 s2) :
    OutExt P s s2 := by
  obtain ⟨l1, e1, p1⟩ := h1
  obtain ⟨l2, e2, p2⟩ := h2
  refine ⟨l1 ++ l2, by simp [e2, e1], ?_⟩
  intro e he
  rcases List.mem_append.1 he with h | h
  · exact p1 e h
  · exact p2 e h

theorem OutExt.mono {P Q : Event → Prop} {s s' : Sys} (h : ∀ e, P e → Q e) :
    OutExt P s s' → OutExt Q s s' := by
  rintro ⟨l, e, p⟩
  exact ⟨l, e, fun x hx => h x (p x hx)⟩

theorem OutExt.forall_out {P} {s s' : Sys} (h : OutExt P s s') (h0 : s.out = []) : ∀ e ∈ s'.out, P e := by
  obtain ⟨l, hl, hp⟩ := h
  rw [hl, h0]
  simpa using hp

theorem OutExt.emit {P} {s s1 : Sys} {e : Event} (h : OutExt P s s1) (he : P e) :
    OutExt P s (s1.emit e) :=
  h.trans ⟨[e], rfl, by simpa using he⟩

theorem OutExt.send {P} {s s1 : Sys} {c : Nat} {f : Frame} (h : OutExt P s s1)
    (hf : ∀ b, P (.frame c f b)) : OutExt P s (s1.send c f) :=
  h.emit (hf _)

theorem OutExt.modDb {P} {s s1 : Sys} {f} (h : OutExt P s s1) : OutExt P s (s1.modDb f) := h
theorem OutExt.modUdb {P} {s s1 : Sys} {f} (h : OutExt P s s1) : OutExt P s (s1.modUdb f) := h
theorem OutExt.updConn {P} {s s1 : Sys} {c f} (h : OutExt P s s1) : OutExt P s (s1.updConn c f) := h

theorem OutExt.commit {P} {s s1 : Sys} (h : OutExt P s s1) (hc : ∀ w, P (.commit w)) :
    OutExt P s s1.commit := by
  unfold Sys.commit
  split
  · exact h
  · exact h.trans ⟨[.commit .chan], rfl, by simpa using hc _⟩

theorem OutExt.ucommit {P} {s s1 : Sys} (h : OutExt P s s1) (hc : ∀ w, P (.commit w)) :
    OutExt P s s1.ucommit := by
  unfold Sys.ucommit
  split
  · exact h
  · exact h.trans ⟨[.commit .usage], rfl, by simpa using hc _⟩

theorem OutExt.foldl_send {P} {α} (g : α → Nat) (fr : α → Frame) (l : List α) :
    ∀ {s s1 : Sys}, OutExt P s s1 → (∀ a ∈ l, ∀ b, P (.frame (g a) (fr a) b)) →
      OutExt P s (l.foldl (fun s a => s.send (g a) (fr a)) s1) := by
  induction l with
  | nil => intro s s1 h _; exact h
  | cons a l ih =>
    intro s s1 h hp
    simp only [List.foldl_cons]
    exact ih (h.send (hp a (by simp))) (fun a' ha' => hp a' (by simp [ha']))

/-! ### `Core.lean` only commits -/

def IsCommit (e : Event) : Prop := ∃ w, e = .commit w

theorem isCommit_commit (w : DbId) : IsCommit (.commit w) := ⟨w, rfl⟩

/-- only `commit` events were appended -/
abbrev CExt (s s' : Sys) : Prop := OutExt IsCommit s s'

/-- the statements other than frames and log entries -/
abbrev Kind.silent : Kind → Prop := fun k => k ≠ .ev ∧ k ≠ .msg

theorem Stmt.cext {k : Kind} {a b : Sys} (hk : k.silent) (h : Stmt k a b) : CExt a b := by
  cases h with
  | frame | internal | fired => exact absurd rfl hk.1
  | msg => exact absurd rfl hk.2
  | commit => exact OutExt.refl.commit isCommit_commit
  | ucommit => exact OutExt.refl.ucommit isCommit_commit
  | storeNp => exact OutExt.of_out_eq (storeNameplateUsage_udbOnly _ _ _ _ _).out
  | _ => exact OutExt.of_out_eq rfl

section core
variable {s s1 s2 : Sys}

theorem CExt.runs (h : CExt s s1) (r : Runs Kind.silent s1 s2) : CExt s s2 :=
  h.trans (r.lift (fun _ => OutExt.refl) (fun _ _ _ => OutExt.trans) (fun _ hk _ _ hs => hs.cext hk))

theorem CExt.openMailbox (h : CExt s s1) {app mb side t} : CExt s (s1.openMailbox app mb side t).1 :=
  h.runs ((Runs.refl s1).openMailbox (by decide) app mb side t ⟨nofun, nofun⟩)

theorem CExt.addMessage (h : CExt s s1) {app mb side phase body t id} :
    CExt s (s1.addMessage app mb side phase body t id) :=
  h.runs ((Runs.refl s1).addMessage (by decide) app mb side phase body t id ⟨nofun, nofun⟩ ⟨nofun, nofun⟩)

theorem CExt.storeNameplatesOfMailbox {app t} (l : List Nameplate) :
    ∀ {s1 : Sys}, CExt s s1 → CExt s (s1.storeNameplatesOfMailbox app t l).1 :=
  fun h => h.trans (OutExt.of_out_eq (storeNameplatesOfMailbox_spec l rfl).1.out)

theorem CExt.stopListeners (h : CExt s s1) {app mb} : CExt s (s1.stopListeners app mb) := h

theorem CExt.logClientVersion (h : CExt s s1) {app side t impl version} :
    CExt s (s1.logClientVersion app side t impl version) :=
  h.runs ((Runs.refl s1).logClientVersion (by decide) (by decide) app side t impl version)

theorem CExt.mailboxClose (h : CExt s s1) {app mb side mood t} :
    CExt s (s1.mailboxClose app mb side mood t).1 :=
  h.runs ((Runs.refl s1).mailboxClose (by decide) (by decide) app mb side mood t ⟨nofun, nofun⟩ ⟨nofun, nofun⟩)

theorem CExt.claimNameplate (h : CExt s s1) {app name side t fresh} :
    CExt s (s1.claimNameplate app name side t fresh).1 :=
  h.runs ((Runs.refl s1).claimNameplate (by decide) app name side t fresh ⟨nofun, nofun⟩)

theorem CExt.releaseNameplate (h : CExt s s1) {app name side t} :
    CExt s (s1.releaseNameplate app name side t).1 :=
  h.runs ((Runs.refl s1).releaseNameplate (by decide) (by decide) (by decide) app name side t)

/-! ### the sweep emits no frames -/

theorem CExt.pruneApps {now old} (l : List String) :
    ∀ {s1 : Sys}, CExt s s1 → CExt s (s1.pruneApps now old l).1 :=
  fun h => h.runs (Runs.pruneApps (by decide) (by decide) (by decide) (fun _ => ⟨nofun, nofun⟩) ⟨nofun, nofun⟩ l (.refl _))

theorem CExt.dumpStats (h : CExt s s1) {now} : CExt s (s1.dumpStats now) :=
  h.runs ((Runs.refl s1).dumpStats (by decide) (by decide) now)

def NotFrame : Event → Prop
  | .frame _ _ _ => False
  | _ => True

theorem CExt.outExt {P : Event → Prop} (h : CExt s s1) (hc : ∀ w, P (.commit w)) : OutExt P s s1 :=
  h.mono (by rintro _ ⟨w, rfl⟩; exact hc w)

/-- the events of one firing of `expire()`: `fired`, commits, and an `internal` event when the fault
    is injected or the sweep fails -/
theorem expire_outExt {P : Event → Prop} {now fault} (hc : ∀ w, P (.commit w)) (hf : ∀ a b, P (.fired a b))
    (hfault : fault = true → ∀ cls, P (.internal none cls))
    (hfail : ((s.emit (.fired now (now - Generated.expirationTicks))).pruneApps now
        (now - Generated.expirationTicks) (s.emit (.fired now (now - Generated.expirationTicks))).allApps).2 = false →
      ∀ cls, P (.internal none cls)) :
    OutExt P s (s.expire now fault) := by
  unfold Sys.expire
  simp only []
  refine OutExt.trans ?_ ((CExt.dumpStats OutExt.refl).outExt hc)
  have h0 : OutExt P s (s.emit (.fired now (now - Generated.expirationTicks))) := OutExt.refl.emit (hf _ _)
  split
  · rename_i h; exact h0.emit (hfault h _)
  · have h1 := (CExt.pruneApps (now := now) (old := now - Generated.expirationTicks)
      ((s.emit (.fired now (now - Generated.expirationTicks))).allApps)
      (OutExt.refl (s := s.emit (.fired now (now - Generated.expirationTicks))))).outExt hc
    split <;> rename_i heq <;> rw [heq] at h1
    · exact h0.trans h1
    · exact (h0.trans h1).emit (hfail (by rw [heq]) _)

theorem expire_notFrame {now fault} : OutExt NotFrame s (s.expire now fault) :=
  expire_outExt (fun _ => trivial) (fun _ _ => trivial) (fun _ _ => trivial) (fun _ _ => trivial)

end core

end Sys
end Wormhole
