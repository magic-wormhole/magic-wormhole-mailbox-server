/-
  The sweep and the global invariant `GSys.GInv` (Inv/Main.lean): `GInv` gives the invariant of
  sweeping `Sys.SwInv`, which unlike `GInv` is kept by firings at ANY time (Inv/SweepSys.lean); a
  well-formed sweep (its time is not before the clock) keeps `GInv` itself, like every operation.
-/
import Wormhole.Inv.SweepRows
import Wormhole.Inv.Main

namespace Wormhole

theorem GSys.GInv.swInv {g : GSys} (h : g.GInv) : g.sys.SwInv := ⟨h.cinv, h.conn, h.synced⟩

theorem GSys.GInv.step_sweep {g : GSys} (h : g.GInv) {now : Time} {fault : Bool}
    (hw : g.WFOp (.sweep now fault)) : (g.step (.sweep now fault)).GInv :=
  h.step _ hw

end Wormhole
