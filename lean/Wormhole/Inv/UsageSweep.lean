/-
  The ledger (Inv/UsageLedger.lean) through the deleting functions of Core.lean that delete one
  row at a time: the expiry sweep (`pruneNameplates`, `pruneMailboxes`, `prune`, `pruneApps`,
  `expire`) and `release_nameplate`.  With a usage database configured, from a base database with
  `CInv`, none of them fails and each keeps "usage rows written ~ rows retired" exact.
-/
import Wormhole.Inv.UsageLedger

namespace Wormhole

namespace Sys

/-- the ledger on a system state: fixed configuration, `Led` of the two live databases -/
structure SLed (B : Chan) (U0 : Usage) (c0 : Cfg) (t : Time) (pruned : Bool) (s : Sys) : Prop where
  cfg : s.cfg = c0
  led : Led B U0 c0.blurTime t pruned s.db s.udb

variable {B : Chan} {U0 : Usage} {c0 : Cfg} {t : Time} {pruned : Bool}

theorem SLed.of_eq {s s' : Sys} (h : SLed B U0 c0 t pruned s) (hc : s'.cfg = s.cfg) (hd : s'.db = s.db)
    (hu : s'.udb = s.udb) : SLed B U0 c0 t pruned s' :=
  ⟨hc.trans h.cfg, by rw [hd, hu]; exact h.led⟩

theorem SLed.blur {s : Sys} (h : SLed B U0 c0 t pruned s) : s.blurTime = c0.blurTime := by
  rw [blurTime_eq_cfg, h.cfg]

theorem SLed.emit {s : Sys} (h : SLed B U0 c0 t pruned s) (e : Event) : SLed B U0 c0 t pruned (s.emit e) :=
  h.of_eq rfl rfl rfl
theorem SLed.send {s : Sys} (h : SLed B U0 c0 t pruned s) (c f) : SLed B U0 c0 t pruned (s.send c f) :=
  h.of_eq rfl rfl rfl
theorem SLed.sendError {s : Sys} (h : SLed B U0 c0 t pruned s) (c x) : SLed B U0 c0 t pruned (s.sendError c x) :=
  h.of_eq rfl rfl rfl
theorem SLed.internalErr {s : Sys} (h : SLed B U0 c0 t pruned s) (c x) :
    SLed B U0 c0 t pruned (s.internalErr c x) := h.of_eq rfl rfl rfl
theorem SLed.updConn {s : Sys} (h : SLed B U0 c0 t pruned s) (c f) : SLed B U0 c0 t pruned (s.updConn c f) :=
  h.of_eq rfl rfl rfl
theorem SLed.commit {s : Sys} (h : SLed B U0 c0 t pruned s) : SLed B U0 c0 t pruned s.commit :=
  h.of_eq (by simp) (by simp) (by simp)
theorem SLed.ucommit {s : Sys} (h : SLed B U0 c0 t pruned s) : SLed B U0 c0 t pruned s.ucommit :=
  h.of_eq (by simp) (by simp) (by simp)

theorem SLed.start {s : Sys} (hB : s.db.PInv) (t : Time) (pruned : Bool) :
    SLed s.db s.udb s.cfg t pruned s := ⟨rfl, Led.start hB⟩

/-! ### one deletion with its usage record -/

/-- `DELETE` of nameplate `np` and its side rows, then `_summarize_nameplate_and_store` of those
    side rows: the store does not fail (there is a side row, as in the base) -/
theorem SLed.delNp (hB : B.PInv) (hN : B.NpHasSide) {s : Sys} (h : SLed B U0 c0 t pruned s) {np : Nameplate}
    (hnp : np ∈ s.db.nameplates) :
    ∃ s1, (s.modDb fun d => (d.delNpSidesOf np.id).delNameplate np.id).storeNameplateUsage np.app
        (s.db.npSidesOf np.id) t pruned = (s1, true) ∧ SLed B U0 c0 t pruned s1 ∧
      s1.db = (s.db.delNpSidesOf np.id).delNameplate np.id := by
  have hsides : s.db.npSidesOf np.id ≠ [] := by
    intro e
    have h1 := h.led.npSides np hnp
    rw [e] at h1
    exact npSidesOf_ne_nil hN (h.led.npSub np hnp) (by simpa using h1.symm)
  rw [storeNameplateUsage_eq _ _ _ _ hsides, blurTime_modDb, h.blur]
  exact ⟨_, rfl, ⟨h.cfg, h.led.delNp hB hnp⟩, rfl⟩

/-- `DELETE` of mailbox `m`, its side rows and messages, then `_summarize_mailbox_and_store` -/
theorem SLed.delMb (hB : B.PInv) {s : Sys} (h : SLed B U0 c0 t pruned s) {m : MailboxRow}
    (hm : m ∈ s.db.mailboxes) :
    SLed B U0 c0 t pruned ((s.modDb fun d => ((d.delMessagesOf m.id).delMbSidesOf m.id).delMailbox m.id).storeMailboxUsage
      m.app m.forNp (s.db.mbSidesOf m.id) t pruned) := by
  rw [storeMailboxUsage_eq, blurTime_modDb, h.blur]
  exact ⟨h.cfg, h.led.delMb hB hm⟩

/-! ### the sweep -/

theorem pruneNameplates_led (hB : B.PInv) (hN : B.NpHasSide) (hu : c0.usage = true) {app : String}
    {now : Time} (l : List Nameplate) :
    ∀ {s : Sys}, SLed B U0 c0 now true s → (∀ n ∈ l, n ∈ s.db.nameplates ∧ n.app = app) →
      l.Pairwise (fun a b => ¬ a.id = b.id) →
      ∃ s1, s.pruneNameplates app now l = (s1, true) ∧ SLed B U0 c0 now true s1 ∧
        s1.db.mailboxes = s.db.mailboxes := by
  induction l with
  | nil =>
    intro s h _ _
    exact ⟨s, rfl, h, rfl⟩
  | cons np rest ih =>
    intro s h hmem hpw
    obtain ⟨hnp, happ⟩ := hmem np List.mem_cons_self
    obtain ⟨hnprest, hpw'⟩ := List.pairwise_cons.1 hpw
    subst happ
    obtain ⟨s2, e2, h2, hdb⟩ := h.delNp hB hN hnp
    obtain ⟨s1, e1, h1, m1⟩ := ih h2 (fun n hn => by
      obtain ⟨hn0, ha⟩ := hmem n (List.mem_cons_of_mem _ hn)
      rw [hdb]
      exact ⟨List.mem_filter.2 ⟨hn0, by simpa using fun e => hnprest n hn e.symm⟩, ha⟩) hpw'
    refine ⟨s1, ?_, h1, by rw [m1, hdb]; rfl⟩
    unfold pruneNameplates
    simp only [modDb_cfg, h.cfg, hu, if_true]
    rw [e2]
    exact e1

theorem pruneMailboxes_led (hB : B.PInv) (hu : c0.usage = true) {app : String} {now : Time}
    (l : List MailboxRow) :
    ∀ {s : Sys}, SLed B U0 c0 now true s → (∀ r ∈ l, r ∈ s.db.mailboxes ∧ r.app = app) →
      l.Pairwise (fun a b => ¬ a.id = b.id) → SLed B U0 c0 now true (s.pruneMailboxes app now l) := by
  induction l with
  | nil => intro s h _ _; exact h
  | cons row rest ih =>
    intro s h hmem hpw
    obtain ⟨hrow, happ⟩ := hmem row List.mem_cons_self
    obtain ⟨hrest, hpw'⟩ := List.pairwise_cons.1 hpw
    subst happ
    unfold pruneMailboxes
    simp only [modDb_cfg, h.cfg, hu, if_true]
    refine ih (h.delMb hB hrow) (fun r hr => ?_) hpw'
    obtain ⟨hr0, ha⟩ := hmem r (List.mem_cons_of_mem _ hr)
    exact ⟨List.mem_filter.2 ⟨hr0, by simpa using fun e => hrest r hr e.symm⟩, ha⟩

/-- `AppNamespace.prune` -/
theorem prune_led (hB : B.PInv) (hN : B.NpHasSide) (hu : c0.usage = true) {s : Sys} (app : String)
    (now old : Time) (h : SLed B U0 c0 now true s) :
    ∃ s1, s.prune app now old = (s1, true) ∧ SLed B U0 c0 now true s1 := by
  have h1 : SLed B U0 c0 now true ((s.touchListened app now).commit) := by
    apply SLed.commit
    refine ⟨h.cfg, ?_⟩
    exact h.led.touchSome (fun r => r.app = app ∧ s.listeners app r.id ≠ []) now
  rw [prune_eq]
  dsimp only
  unfold pruneRest
  generalize hs1 : (s.touchListened app now).commit = s1 at h1
  have hmemMb : ∀ r ∈ (s1.db.mailboxesOfApp app).filter (fun r => ¬ r.updated > old),
      r ∈ s1.db.mailboxes ∧ r.app = app := by
    intro r hr
    have := List.mem_filter.1 (List.mem_filter.1 hr).1
    exact ⟨this.1, by simpa using this.2⟩
  have hpwMb : ((s1.db.mailboxesOfApp app).filter (fun r => ¬ r.updated > old)).Pairwise
      (fun a b => ¬ a.id = b.id) := List.Pairwise.filter _ (List.Pairwise.filter _ h1.led.mbIds)
  obtain ⟨s2, e2, h2, m2⟩ := pruneNameplates_led hB hN hu (app := app) (now := now)
    ((s1.db.nameplatesOfApp app).filter
      (fun r => r.mailbox ∈ ((s1.db.mailboxesOfApp app).filter (fun r => ¬ r.updated > old)).map (·.id)))
    h1 (by
      intro n hn
      have := List.mem_filter.1 (List.mem_filter.1 hn).1
      exact ⟨this.1, by simpa using this.2⟩)
    (List.Pairwise.filter _ (List.Pairwise.filter _ h1.led.npIds))
  rw [e2]
  dsimp only
  have h3 := pruneMailboxes_led hB hu (app := app) (now := now)
    ((s1.db.mailboxesOfApp app).filter (fun r => ¬ r.updated > old)) h2
    (by rw [m2]; exact hmemMb) hpwMb
  split
  · refine ⟨_, rfl, ?_⟩
    split
    · exact h3.commit.ucommit
    · exact h3.commit
  · exact ⟨_, rfl, h3⟩

theorem pruneApps_led (hB : B.PInv) (hN : B.NpHasSide) (hu : c0.usage = true) {now old : Time}
    (l : List String) :
    ∀ {s : Sys}, SLed B U0 c0 now true s →
      ∃ s1, s.pruneApps now old l = (s1, true) ∧ SLed B U0 c0 now true s1 := by
  induction l with
  | nil => intro s h; exact ⟨s, rfl, h⟩
  | cons app rest ih =>
    intro s h
    obtain ⟨s1, e1, h1⟩ := prune_led hB hN hu app now old h
    obtain ⟨s2, e2, h2⟩ := ih h1
    refine ⟨s2, ?_, h2⟩
    unfold pruneApps
    rw [e1]
    exact e2

theorem dumpStats_led {s : Sys} (h : SLed B U0 c0 t pruned s) (now : Time) :
    SLed B U0 c0 t pruned (s.dumpStats now) := by
  unfold dumpStats
  split
  · apply SLed.ucommit
    exact ⟨h.cfg, h.led.current _⟩
  · exact h

/-- one firing of `expire()`, faulted or not -/
theorem expire_led (hB : B.PInv) (hN : B.NpHasSide) (hu : c0.usage = true) {s : Sys} (now : Time)
    (fault : Bool) (h : SLed B U0 c0 now true s) : SLed B U0 c0 now true (s.expire now fault) := by
  unfold expire
  dsimp only
  apply dumpStats_led
  split
  · exact (h.emit _).emit _
  · obtain ⟨s1, e1, h1⟩ := pruneApps_led hB hN hu (now := now) (old := now - Generated.expirationTicks)
      (s.emit (.fired now (now - Generated.expirationTicks))).allApps (h.emit _)
    rw [e1]
    exact h1

/-! ### `release_nameplate` -/

theorem releaseNameplate_led (hB : B.PInv) (hN : B.NpHasSide) (hu : c0.usage = true) {s : Sys}
    (app name side : String) (h : SLed B U0 c0 t false s) :
    ∃ s1, s.releaseNameplate app name side t = (s1, true) ∧ SLed B U0 c0 t false s1 := by
  unfold releaseNameplate
  split
  · exact ⟨s, rfl, h⟩
  · rename_i np hnp
    split
    · exact ⟨s, rfl, h⟩
    · rename_i r0 hr0
      dsimp only
      have h1 : SLed B U0 c0 t false ((s.modDb (·.unclaim np.id side)).commit) :=
        SLed.commit ⟨h.cfg, h.led.unclaim np.id side⟩
      split
      · exact ⟨_, rfl, h1⟩
      · have hnpmem : np ∈ s.db.nameplates := List.mem_of_find?_eq_some hnp
        have happ : np.app = app := by
          have := List.find?_some hnp
          simp only [decide_eq_true_eq] at this
          exact this.1
        subst happ
        obtain ⟨s3, e3, h3, _⟩ := h1.delNp hB hN (np := np) (by rw [commit_db]; exact hnpmem)
        simp only [modDb_cfg, commit_cfg, h.cfg, hu, if_true]
        rw [e3]
        exact ⟨_, rfl, h3.ucommit.commit⟩

end Sys
end Wormhole
