/-
  C14 (re-sending an acknowledged command): the four operations of the duplicate as a run, and
  the original command and its duplicate put together.
-/
import Wormhole.Inv.DupOrig
import Wormhole.Inv.DupSim

namespace Wormhole
open Sys

/-- **the duplicate**: a fresh connection `c'` binds to the same `(app, side)` at the same virtual
    instant `t`, re-sends the command, and goes away -/
def dup (c' : Nat) (t : Time) (id₁ id : Val) (a σ : String) (impl ver : Option String) (cmd' : Cmd) : List Op :=
  [.connect c', .recv c' t id₁ (.bind (some a) (some σ) impl ver), .recv c' t id cmd', .drop c']

theorem dup_noCrash (c' : Nat) (t : Time) (id₁ id : Val) (a σ : String) (impl ver : Option String) (cmd' : Cmd) :
    ∀ op ∈ dup c' t id₁ id a σ impl ver cmd', op.isCrash = false := by
  intro op hop
  simp only [dup, List.mem_cons, List.not_mem_nil, or_false] at hop
  rcases hop with rfl | rfl | rfl | rfl <;> rfl

/-- the frames that answer a command after its `ack`, as a function of the addressee `k`:
    `claimed m` / `released` / the replay of the stored messages of `(a, mb)` in `d` / `closed` -/
def answerOf (d : Chan) (a m : String) : Cmd → Nat → List Event
  | .claim _ _, k => [.frame k (.claimed m) true]
  | .release _, k => [.frame k .released true]
  | .open_ (some mb), k => replayFrames d k a mb
  | .close _ _, k => [.frame k .closed true]
  | _, _ => []

theorem answerOf_frames (d : Chan) (a m : String) (cmd : Cmd) (k : Nat) :
    ∀ e ∈ answerOf d a m cmd k, ∃ f, e = .frame k f true := by
  intro e h
  cases cmd with
  | open_ mo =>
    cases mo with
    | none => cases h
    | some mb => exact replayFrames_frames d k a mb e h
  | claim _ _ => exact ⟨_, List.mem_singleton.1 h⟩
  | release _ => exact ⟨_, List.mem_singleton.1 h⟩
  | close _ _ => exact ⟨_, List.mem_singleton.1 h⟩
  | _ => cases h

theorem answerOf_to (d : Chan) (a m : String) (cmd : Cmd) (k : Nat) :
    ∀ k' f b, Event.frame k' f b ∈ answerOf d a m cmd k → k' = k := by
  intro k' f b h
  obtain ⟨_, e⟩ := answerOf_frames d a m cmd k _ h
  cases e
  rfl

theorem answerOf_isFrame (d : Chan) (a m : String) (cmd : Cmd) (k : Nat) :
    ∀ e ∈ answerOf d a m cmd k, e.isFrame = true := by
  intro e h
  obtain ⟨_, rfl⟩ := answerOf_frames d a m cmd k e h
  rfl

/-- the events of the duplicate: `welcome`; `ack` of the bind and its (usage) commits; `ack` of the
    command, its commits, its answer -/
def dupEvents (welcome : String) (c' : Nat) (id₁ id : Val) (commits₁ commits ans : List Event) : List Event :=
  [.frame c' (.welcome welcome) true] ++ (.frame c' (.ack id₁) true :: commits₁) ++
    (.frame c' (.ack id) true :: (commits ++ ans))

theorem dupEvents_private {welcome : String} {c' : Nat} {id₁ id : Val} {commits₁ commits ans : List Event}
    (h1 : ∀ e ∈ commits₁, IsCommit e) (h2 : ∀ e ∈ commits, IsCommit e)
    (h3 : ∀ k f b, Event.frame k f b ∈ ans → k = c') :
    ∀ k f b, Event.frame k f b ∈ dupEvents welcome c' id₁ id commits₁ commits ans → k = c' := by
  intro k f b h
  simp only [dupEvents, List.mem_append, List.mem_cons, List.not_mem_nil, or_false] at h
  rcases h with (h | h | h) | h | h | h
  · cases h; rfl
  · cases h; rfl
  · obtain ⟨w, hw⟩ := h1 _ h; cases hw
  · cases h; rfl
  · obtain ⟨w, hw⟩ := h2 _ h; cases hw
  · exact h3 k f b h

namespace Sys

theorem dup_run_of_step3 {s : Sys} (hs : s.Synced) {c' : Nat} (hf : ∀ y ∈ s.conns, y.id ≠ c') (a σ : String)
    (t : Time) (id₁ id : Val) (impl ver : Option String) (cmd' : Cmd) {D' : Chan} {ans : List Event}
    (h3 : Step3 s c' a σ t id cmd' D' ans) :
    let R := Sys.run s (dup c' t id₁ id a σ impl ver cmd')
    R.1.db = D' ∧ R.1.disk = D' ∧ R.1.conns = s.conns ∧ R.1.cfg = s.cfg ∧ R.1.Synced ∧
    ∃ commits₁ commits, (∀ e ∈ commits₁, IsCommit e) ∧ (∀ e ∈ commits, IsCommit e) ∧
      R.2 = dupEvents s.cfg.welcome c' id₁ id commits₁ commits ans := by
  obtain ⟨hR, hout1, commits₁, hc1, hout2⟩ := dup_prefix hs hf a σ t id₁ impl ver
  obtain ⟨hdb, hsy, hcfg, ⟨y, hconns, hy⟩, commits, hc, hout3⟩ := h3 _ hR _ rfl
  obtain ⟨k1, k2, k3, k4, k5, k6, k7⟩ := dup_drop hf hy hconns
  simp only [dup, Sys.run]
  refine ⟨k2.trans hdb, ?_, k1, k4.trans hcfg, ⟨?_, ?_⟩, commits₁, commits, hc1, hc, ?_⟩
  · rw [k3, ← hsy.1]; exact hdb
  · rw [k2, k3]; exact hsy.1
  · rw [k5, k6]; exact hsy.2
  · rw [hout1, hout2, hout3, k7]
    simp [dupEvents]

end Sys

namespace GSys

theorem dup_run_append (g : GSys) (l1 l2 : List Op) : g.run (l1 ++ l2) = (g.run l1).run l2 := run_append g l1 l2

end GSys

/-! ### the original command and its duplicate -/

/-- the guard of the history theorem, on the state `s` after the original command; it concerns `close` only:
    the mailbox did not survive the original close, OR it survives with at most two side rows
    (K-crowded-rejoin) and its `updated` column already carries `t` (K-close-touch) -/
def CloseGuard (s : Sys) (t : Time) (cmd' : Cmd) : Prop :=
  ∀ m mood, cmd' = .close (some m) mood →
    ¬ s.db.HasId m ∨ ((s.db.mbSidesOf m).length ≤ 2 ∧ ∀ r ∈ s.db.mailboxes, r.id = m → r.updated = t)

/-- **K-close-touch, exactly**: an answered `close` whose mailbox SURVIVES, and its duplicate, under the guard "at most
    two side rows" alone: the answer is `closed` again and the channel database is `touch m t` of the one
    after the original — every table and the counter unchanged except the column `updated` of the
    mailbox row `m`, which becomes `t`. -/
theorem dup_after_close_survived {g : GSys} (hI : g.GInv) (hH : g.sys.HandleRow) {c : Nat} {t : Time} {id : Val}
    {mo mood : Option String} (hw : g.WFOp (.recv c t id (.close mo mood))) {x : Conn} {a σ : String}
    (hx : g.sys.findConn c = some x) (ha : x.app = some a) (hσ : x.side = some σ) {m : String}
    (htg : x.closeTarget mo = some m) :
    let s1 := g.sys.step (.recv c t id (.close mo mood))
    Answered s1.out c id (.close mo mood) → s1.db.HasId m → (s1.db.mbSidesOf m).length ≤ 2 →
    ∀ c' : Nat, (∀ y ∈ s1.conns, y.id ≠ c') →
    s1.db.CloseSurvived a m σ mood ∧
    ∃ commits₀, (∀ e ∈ commits₀, IsCommit e) ∧
      s1.out = .frame c (.ack id) true :: (commits₀ ++ [.frame c .closed true]) ∧
      Step3 s1 c' a σ t id (.close (some m) mood) (s1.db.touch m t) [.frame c' .closed true] := by
  intro s1 hans hid hlen c' hf
  have hI' : (g.step (.recv c t id (.close mo mood))).GInv := hI.step _ hw
  obtain ⟨b, hA⟩ := hans
  obtain ⟨m', htg', hcase, commits₀, hc0, hout0⟩ := orig_close hI hH hx ha hσ hA
  rw [htg] at htg'; cases htg'
  have hSv := hcase.resolve_left (fun h => h hid)
  exact ⟨hSv, commits₀, hc0, hout0,
    dup_close_survived hI'.synced hf hI'.cinv.toPInv hI'.cinv.npHasSide hSv hlen t id⟩

/-- **one answered command and its duplicate** (the step-level core of C14).  `g`: any ghost state
    satisfying the invariant in which every handle has its side row; `op = recv c t id cmd` well-formed
    and answered successfully on a connection bound to `(a, σ)`; `cmd'` the re-sent command; the guard
    for `close`.  Then, from the state `s1` after `op`, the third operation of the duplicate on ANY state
    `sb` that is `s1` plus a fresh bound connection `c'` is answered like the original — `ack`, commits,
    and the answer frames of the original with `c'` for `c` — and leaves the channel database of `s1`. -/
theorem dup_after_op {g : GSys} (hI : g.GInv) (hH : g.sys.HandleRow) {c : Nat} {t : Time} {id : Val} {cmd cmd' : Cmd}
    (hw : g.WFOp (.recv c t id cmd)) {x : Conn} {a σ : String} (hx : g.sys.findConn c = some x)
    (ha : x.app = some a) (hσ : x.side = some σ) (hre : Resend x cmd cmd') :
    let s1 := g.sys.step (.recv c t id cmd)
    Answered s1.out c id cmd → CloseGuard s1 t cmd' → ∀ c' : Nat, (∀ y ∈ s1.conns, y.id ≠ c') →
    ∃ m commits₀, (∀ e ∈ commits₀, IsCommit e) ∧
      s1.out = .frame c (.ack id) true :: (commits₀ ++ answerOf s1.db a m cmd' c) ∧
      Step3 s1 c' a σ t id cmd' s1.db (answerOf s1.db a m cmd' c') := by
  intro s1 hans hguard c' hf
  dsimp only [s1] at hans hguard hf ⊢
  clear s1
  have hI' : (g.step (.recv c t id cmd)).GInv := hI.step _ hw
  have hs : (g.sys.step (.recv c t id cmd)).Synced := hI'.synced
  have hP : (g.sys.step (.recv c t id cmd)).db.PInv := hI'.cinv.toPInv
  cases hre with
  | claim n f f' =>
    obtain ⟨m, b, hA⟩ := hans
    obtain ⟨n', e, hD, commits₀, hc0, hout0⟩ := orig_claim hI hx ha hσ hI' hA
    cases e
    exact ⟨m, commits₀, hc0, hout0, dup_claim hs hf hP hD id f'⟩
  | release nm n hn =>
    obtain ⟨b, hA⟩ := hans
    obtain ⟨n', hn', ⟨s0, s1, b1, hdb0, e, hdb⟩, commits₀, hc0, hout0⟩ := orig_release hI hx ha hσ hA
    rw [hn] at hn'; cases hn'
    exact ⟨"", commits₀, hc0, hout0,
      dup_release hs hf (by rw [hdb0]; exact hI.cinv.toPInv) e hdb t id⟩
  | open_ m =>
    obtain ⟨m', e, hdb, hlen, commits₀, hc0, hout0⟩ := orig_open hI hx ha hσ hans.2
    cases e
    exact ⟨"", commits₀, hc0, hout0, dup_open hs hf hP hdb hlen id⟩
  | close mo m mood htg =>
    by_cases hid : (g.sys.step (.recv c t id (.close mo mood))).db.HasId m
    · -- the mailbox survives: the duplicate stamps `updated := t`, which the guard says it already is
      obtain ⟨hlen, hst⟩ := (hguard m mood rfl).resolve_left (fun h => h hid)
      obtain ⟨_, commits₀, hc0, hout0, h3⟩ := dup_after_close_survived hI hH hw hx ha hσ htg hans hid hlen c' hf
      rw [Chan.touch_eq_self hst] at h3
      exact ⟨"", commits₀, hc0, hout0, h3⟩
    · obtain ⟨b, hA⟩ := hans
      obtain ⟨m', htg', _, commits₀, hc0, hout0⟩ := orig_close hI hH hx ha hσ hA
      rw [htg] at htg'; cases htg'
      have hno : ∀ y ∈ (g.sys.step (.recv c t id (.close mo mood))).conns, y.mailbox ≠ some m := by
        intro y hy hk
        obtain ⟨_, _, _, m0, hm0, hi, _⟩ := hI'.conn.handle y hy m hk
        exact hid ⟨m0, hm0, hi⟩
      exact ⟨"", commits₀, hc0, hout0, dup_close_gone hs hf hP hI'.cinv.npHasSide hid hno mood t id⟩

end Wormhole
