/-
  Two-run relations that ignore the usage side, and `CfgRel`, the relation of C18.

  For an erasure `er` of events that drops the effective commits of the usage database, every
  usage block of Core.lean, and `dump_stats`, is an `EStep er`: it leaves `db`, `disk`, `conns`,
  `cfg` alone and appends only events that `er` drops.  A relation that reads nothing else is
  closed under the usage blocks for that reason alone: `CfgRel` here (`er = eraseCfg`), `UsgRel`
  in DupSim.lean (`er = eraseUsage`).

  `CfgRel`: the two runs have the same channel side and the same `cfg.welcome`; NOTHING is assumed
  about `cfg.allowList`, `cfg.usage`, `cfg.blur`, `udb`, `udisk`, `rebooted`.  Events are compared
  after `eraseCfg` (usage commits dropped, payload of `nameplates` answers blanked).
-/
import Wormhole.Inv.SimWs

namespace Wormhole
namespace Sys

/-! ### steps of the usage side -/

/-- a step that is invisible on the channel side and in the trace erased by `er` -/
structure EStep (er : Event → Option Event) (s s' : Sys) : Prop where
  db : s'.db = s.db
  disk : s'.disk = s.disk
  conns : s'.conns = s.conns
  cfg : s'.cfg = s.cfg
  out : s'.out.filterMap er = s.out.filterMap er

section
variable {er : Event → Option Event}

theorem EStep.refl (s : Sys) : EStep er s s := ⟨rfl, rfl, rfl, rfl, rfl⟩
theorem EStep.trans {a b c : Sys} (h1 : EStep er a b) (h2 : EStep er b c) : EStep er a c :=
  ⟨h2.db.trans h1.db, h2.disk.trans h1.disk, h2.conns.trans h1.conns, h2.cfg.trans h1.cfg,
   h2.out.trans h1.out⟩

theorem EStep.chanEq {a b a' b' : Sys} (ua : EStep er a a') (ub : EStep er b b') (h : ChanEq a b) : ChanEq a' b' :=
  ⟨ua.db.trans (h.1.trans ub.db.symm), ua.disk.trans (h.2.1.trans ub.disk.symm),
   ua.conns.trans (h.2.2.trans ub.conns.symm)⟩

theorem EStep.modUdb (s : Sys) (f) : EStep er s (s.modUdb f) := ⟨rfl, rfl, rfl, rfl, rfl⟩

/-- a block guarded by `if self._usage_db` -/
theorem EStep.guard (c : Prop) [Decidable c] {s s' : Sys} (h : EStep er s s') : EStep er s (if c then s' else s) := by
  split
  · exact h
  · exact EStep.refl s

theorem EStep.uNp (s : Sys) (app sides t p) : EStep er s (s.uNp app sides t p).1 := by
  unfold Sys.uNp Sys.storeNameplateUsage
  split
  · split
    · exact EStep.refl s
    · exact ⟨rfl, rfl, rfl, rfl, rfl⟩
  · exact EStep.refl s

theorem EStep.uMb (s : Sys) (app f sides t p) : EStep er s (s.uMb app f sides t p) := by
  unfold Sys.uMb Sys.storeMailboxUsage
  exact (EStep.modUdb s _).guard _

variable (her : er (.commit .usage) = none)
include her

theorem EStep.ucommit (s : Sys) : EStep er s s.ucommit := by
  unfold Sys.ucommit
  split
  · exact EStep.refl s
  · exact ⟨rfl, rfl, rfl, rfl, by simp [List.filterMap_append, her]⟩

theorem EStep.uCommit (s : Sys) : EStep er s s.uCommit := by
  unfold Sys.uCommit
  exact (EStep.ucommit her s).guard _

theorem EStep.logClientVersion (s : Sys) (app side t i v) : EStep er s (s.logClientVersion app side t i v) := by
  unfold Sys.logClientVersion
  exact ((EStep.modUdb s _).trans (EStep.ucommit her _)).guard _

theorem EStep.dumpStats (s : Sys) (now : Time) : EStep er s (s.dumpStats now) := by
  unfold Sys.dumpStats
  exact ((EStep.modUdb s _).trans (EStep.ucommit her _)).guard _

end

structure CfgRel (a b : Sys) : Prop where
  chan : ChanEq a b
  welcome : a.cfg.welcome = b.cfg.welcome
  out : a.out.filterMap eraseCfg = b.out.filterMap eraseCfg

/-- a step that is invisible on the channel side -/
structure UStep (s s' : Sys) : Prop where
  db : s'.db = s.db
  disk : s'.disk = s.disk
  conns : s'.conns = s.conns
  cfg : s'.cfg = s.cfg
  out : s'.out.filterMap eraseCfg = s.out.filterMap eraseCfg

theorem UStep.dumpStats (s : Sys) (now : Time) : UStep s (s.dumpStats now) :=
  have h := EStep.dumpStats (er := eraseCfg) rfl s now
  ⟨h.db, h.disk, h.conns, h.cfg, h.out⟩

theorem CfgRel.ustep {a b a' b' : Sys} (h : CfgRel a b) (ua : EStep eraseCfg a a') (ub : EStep eraseCfg b b') :
    CfgRel a' b' :=
  ⟨ua.chanEq ub h.chan, by rw [ua.cfg, ub.cfg]; exact h.welcome, ua.out.trans (h.out.trans ub.out.symm)⟩

theorem CfgRel.commit {a b : Sys} (h : CfgRel a b) : CfgRel a.commit b.commit :=
  h.chan.commit_cases h
    ⟨⟨h.chan.1, h.chan.1, h.chan.2.2⟩, h.welcome, by simp [List.filterMap_append, h.out, eraseCfg]⟩

theorem cfgRel_simRel : SimRel CfgRel where
  chan h := h.chan
  welcome h := h.welcome
  modDb h f := ⟨⟨congrArg f h.chan.1, h.chan.2.1, h.chan.2.2⟩, h.welcome, h.out⟩
  commit h := h.commit
  setConns h _ := ⟨⟨h.chan.1, h.chan.2.1, rfl⟩, h.welcome, h.out⟩
  emit h e := ⟨h.chan, h.welcome, by simp [List.filterMap_append, h.out]⟩
  list h ha hb x app := by
    unfold Sys.handleList
    rw [send_of_synced ha, send_of_synced hb]
    exact ⟨h.chan, h.welcome, by simp [List.filterMap_append, h.out, eraseCfg]⟩
  uNp h app sides t p := h.ustep (.uNp _ app sides t p) (.uNp _ app sides t p)
  uMb h app f sides t p := h.ustep (.uMb _ app f sides t p) (.uMb _ app f sides t p)
  uCommit h := h.ustep (.uCommit rfl _) (.uCommit rfl _)
  lcv h app side t i v := h.ustep (.logClientVersion rfl _ app side t i v) (.logClientVersion rfl _ app side t i v)
  restart h _ := ⟨⟨h.chan.2.1, h.chan.2.1, rfl⟩, h.welcome, h.out⟩

theorem CfgRel.dumpStats {a b : Sys} (h : CfgRel a b) (now : Time) : CfgRel (a.dumpStats now) (b.dumpStats now) :=
  h.ustep (.dumpStats rfl a now) (.dumpStats rfl b now)

end Sys
end Wormhole
