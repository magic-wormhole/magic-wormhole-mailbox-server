/-
  C06, two-run simulation: the relation between the channel databases, what the SELECTs return
  on related databases, and the INSERT / UPDATE / DELETE statements on them.

  `ViewRel b ρ d₁ d₂`: `d₂` consists exactly of the rows of app `b` of `d₁`, in the same order,
  with the surrogate key `nameplates.id` renamed by `ρ` (injective on the ids of b's nameplates).
  `d₁` is the database of the full run, `d₂` that of the run without the other apps' commands;
  the AUTOINCREMENT counter is the only thing other apps' activity shifts.

  A table of `d₂` is `(l₁.filter sel).map rn` for the table `l₁` of `d₁`: a SELECT on it is a
  SELECT on `l₁` (`filter_filter_of`, `find?_filter_of`); INSERT / UPDATE / DELETE on both keep
  the shape (`rel_append`, `rel_map`, `rel_filter`).
-/
import Wormhole.Inv.IsoFramePrim

namespace Wormhole

section shapes
variable {α β : Type} {l₁ : List α} {l₂ : List β} {rn : α → β} {sel : α → Prop} [DecidablePred sel]

theorem filter_comm (p q : α → Bool) (l : List α) : (l.filter p).filter q = (l.filter q).filter p := by
  rw [List.filter_filter, List.filter_filter]
  exact List.filter_congr (fun _ _ => Bool.and_comm _ _)

theorem rel_append (h : l₂ = (l₁.filter (fun x => sel x)).map rn) {r : α} (hr : sel r) :
    l₂ ++ [rn r] = ((l₁ ++ [r]).filter (fun x => sel x)).map rn := by
  simp [h, List.filter_append, hr]

theorem rel_map (h : l₂ = (l₁.filter (fun x => sel x)).map rn) (f₁ : α → α) (f₂ : β → β)
    (hs : ∀ x ∈ l₁, (sel (f₁ x) ↔ sel x)) (hf : ∀ x ∈ l₁, sel x → f₂ (rn x) = rn (f₁ x)) :
    l₂.map f₂ = ((l₁.map f₁).filter (fun x => sel x)).map rn := by
  rw [h, List.filter_map, List.filter_congr (p := (fun x => decide (sel x)) ∘ f₁) (q := fun x => sel x)
    (fun x hx => decide_eq_decide.2 (hs x hx)), List.map_map, List.map_map]
  exact List.map_congr_left (fun x hx => hf x (List.mem_filter.1 hx).1 (of_decide_eq_true (List.mem_filter.1 hx).2))

/-- `sel'` is the selection afterwards: it may depend on another table that shrinks in the same block -/
theorem rel_filter (h : l₂ = (l₁.filter (fun x => sel x)).map rn) (p₁ : α → Prop) (p₂ : β → Prop) (sel' : α → Prop)
    [DecidablePred p₁] [DecidablePred p₂] [DecidablePred sel']
    (hp : ∀ x ∈ l₁, sel x → (p₂ (rn x) ↔ p₁ x)) (hs : ∀ x ∈ l₁, p₁ x → (sel' x ↔ sel x)) :
    l₂.filter (fun y => p₂ y) = ((l₁.filter (fun x => p₁ x)).filter (fun x => sel' x)).map rn := by
  rw [h, List.filter_map, List.filter_filter, List.filter_filter]
  refine congrArg _ (List.filter_congr (fun x hx => ?_))
  by_cases h1 : p₁ x <;> by_cases h2 : sel x <;> simp [hp x hx, hs x hx, h1, h2]

end shapes

namespace Chan

def rnNp (ρ : Nat → Nat) (n : Nameplate) : Nameplate := { n with id := ρ n.id }
def rnSide (ρ : Nat → Nat) (r : NpSide) : NpSide := { r with npid := ρ r.npid }

@[simp] theorem rnNp_id (ρ n) : (rnNp ρ n).id = ρ n.id := rfl
@[simp] theorem rnNp_app (ρ n) : (rnNp ρ n).app = n.app := rfl
@[simp] theorem rnNp_name (ρ n) : (rnNp ρ n).name = n.name := rfl
@[simp] theorem rnNp_mailbox (ρ n) : (rnNp ρ n).mailbox = n.mailbox := rfl
@[simp] theorem rnSide_npid (ρ r) : (rnSide ρ r).npid = ρ r.npid := rfl
@[simp] theorem rnSide_side (ρ r) : (rnSide ρ r).side = r.side := rfl
@[simp] theorem rnSide_claimed (ρ r) : (rnSide ρ r).claimed = r.claimed := rfl
@[simp] theorem rnSide_added (ρ r) : (rnSide ρ r).added = r.added := rfl

structure ViewRel (b : String) (ρ : Nat → Nat) (d₁ d₂ : Chan) : Prop where
  nps : d₂.nameplates = (d₁.npsB b).map (rnNp ρ)
  sides : d₂.npSides = (d₁.npSidesB b).map (rnSide ρ)
  inj : ∀ i ∈ d₁.npIdsB b, ∀ j ∈ d₁.npIdsB b, ρ i = ρ j → i = j
  mbs : d₂.mailboxes = d₁.mbsB b
  mbSides : d₂.mbSides = d₁.mbSidesB b
  msgs : d₂.messages = d₁.msgsB b

theorem mem_npSidesB {d : Chan} {b : String} {r : NpSide} :
    r ∈ d.npSidesB b ↔ r ∈ d.npSides ∧ r.npid ∈ d.npIdsB b := by
  simp [npSidesB]

section lookups
variable {b : String} {ρ : Nat → Nat} {d₁ d₂ : Chan}

theorem ViewRel.ρ_eq_iff (h : ViewRel b ρ d₁ d₂) {i j : Nat} (hi : i ∈ d₁.npIdsB b) (hj : j ∈ d₁.npIdsB b) :
    ρ j = ρ i ↔ j = i :=
  ⟨h.inj j hj i hi, congrArg ρ⟩

theorem ViewRel.findMailbox (h : ViewRel b ρ d₁ d₂) (m : String) : d₂.findMailbox b m = d₁.findMailbox b m := by
  unfold Chan.findMailbox
  rw [h.mbs]
  exact find?_filter_of _ _ _ _ (fun _ _ hp => hp.1)
    (fun _ _ _ => Iff.rfl)

/-- in the projected database, `SELECT * FROM mailboxes WHERE id=m` sees b's rows only -/
theorem ViewRel.findMailboxById (h : ViewRel b ρ d₁ d₂) (m : String) : d₂.findMailboxById m = d₁.findMailbox b m := by
  unfold Chan.findMailboxById Chan.findMailbox
  rw [h.mbs]
  exact find?_filter_of _ _ _ _ (fun _ _ hp => hp.1)
    (fun _ _ hq => by simp [hq])

theorem ViewRel.hasMb (h : ViewRel b ρ d₁ d₂) (m : String) : d₂.HasMb b m ↔ d₁.HasMb b m := by
  unfold HasMb
  rw [h.mbs]
  simp only [mbsB, List.mem_filter, decide_eq_true_eq]
  constructor
  · rintro ⟨r, ⟨h1, _⟩, h2, h3⟩; exact ⟨r, h1, h2, h3⟩
  · rintro ⟨r, h1, h2, h3⟩; exact ⟨r, ⟨h1, h3⟩, h2, h3⟩

theorem ViewRel.mbSidesOf (h : ViewRel b ρ d₁ d₂) {m : String} (hm : d₁.HasMb b m) :
    d₂.mbSidesOf m = d₁.mbSidesOf m := by
  unfold Chan.mbSidesOf
  rw [h.mbSides]
  exact filter_filter_keep _ _ _
    (fun _ _ hp => hp ▸ mem_mbIdsB.2 hm)

theorem ViewRel.findMbSide (h : ViewRel b ρ d₁ d₂) {m : String} (hm : d₁.HasMb b m) (side : String) :
    d₂.findMbSide m side = d₁.findMbSide m side := by
  unfold Chan.findMbSide
  rw [h.mbSides]
  exact find?_filter_of _ _ _ _
    (fun _ _ hp => hp.1 ▸ mem_mbIdsB.2 hm) (fun _ _ _ => Iff.rfl)

theorem ViewRel.messagesOf (h : ViewRel b ρ d₁ d₂) (m : String) : d₂.messagesOf b m = d₁.messagesOf b m := by
  unfold Chan.messagesOf
  rw [h.msgs]
  exact filter_filter_keep _ _ _ (fun _ _ hp => hp.1)

theorem ViewRel.findNameplate (h : ViewRel b ρ d₁ d₂) (name : String) :
    d₂.findNameplate b name = (d₁.findNameplate b name).map (rnNp ρ) := by
  unfold Chan.findNameplate
  rw [h.nps, List.find?_map]
  exact congrArg _ (find?_filter_of _ _ _ _
    (fun _ _ hp => hp.1) (fun _ _ _ => Iff.rfl))

theorem ViewRel.nameplatesOfMailbox (h : ViewRel b ρ d₁ d₂) (m : String) :
    d₂.nameplatesOfMailbox b m = (d₁.nameplatesOfMailbox b m).map (rnNp ρ) := by
  unfold Chan.nameplatesOfMailbox
  rw [h.nps, List.filter_map]
  exact congrArg _ (filter_filter_of _ _ _ _
    (fun _ _ hp => hp.1) (fun _ _ _ => Iff.rfl))

theorem ViewRel.nameplatesOfApp (h : ViewRel b ρ d₁ d₂) :
    d₂.nameplatesOfApp b = (d₁.nameplatesOfApp b).map (rnNp ρ) := by
  unfold Chan.nameplatesOfApp
  rw [h.nps, List.filter_map]
  exact congrArg _ (filter_filter_of _ _ _ _ (fun _ _ hp => hp) (fun _ _ _ => Iff.rfl))

theorem ViewRel.mailboxesOfApp (h : ViewRel b ρ d₁ d₂) : d₂.mailboxesOfApp b = d₁.mailboxesOfApp b := by
  unfold Chan.mailboxesOfApp
  rw [h.mbs]
  exact filter_filter_keep _ _ _ (fun _ _ hp => hp)

theorem ViewRel.namesOfApp (h : ViewRel b ρ d₁ d₂) : d₂.namesOfApp b = d₁.namesOfApp b := by
  have := h.nameplatesOfApp
  unfold Chan.nameplatesOfApp at this
  unfold Chan.namesOfApp
  rw [this, List.map_map]
  rfl

theorem ViewRel.npSidesOf (h : ViewRel b ρ d₁ d₂) {i : Nat} (hi : i ∈ d₁.npIdsB b) :
    d₂.npSidesOf (ρ i) = (d₁.npSidesOf i).map (rnSide ρ) := by
  unfold Chan.npSidesOf
  rw [h.sides, List.filter_map]
  exact congrArg _ (filter_filter_of _ _ _ _
    (fun _ _ hp => hp ▸ hi) (fun _ _ hq => h.ρ_eq_iff hi hq))

theorem ViewRel.findNpSide (h : ViewRel b ρ d₁ d₂) {i : Nat} (hi : i ∈ d₁.npIdsB b) (side : String) :
    d₂.findNpSide (ρ i) side = (d₁.findNpSide i side).map (rnSide ρ) := by
  unfold Chan.findNpSide
  rw [h.sides, List.find?_map]
  exact congrArg _ (find?_filter_of _ _ _ _
    (fun _ _ hp => hp.1 ▸ hi) (fun _ _ hq => and_congr_left' (h.ρ_eq_iff hi hq)))

theorem findNameplate_mem_npIdsB {d : Chan} {name : String} {row : Nameplate}
    (h : d.findNameplate b name = some row) : row.id ∈ d.npIdsB b :=
  mem_npIdsB.2 ⟨row, (findNameplate_some h).1, (findNameplate_some h).2.1, rfl⟩

theorem mem_nameplatesOfMailbox_npIdsB {d : Chan} {m : String} {n : Nameplate}
    (h : n ∈ d.nameplatesOfMailbox b m) : n.id ∈ d.npIdsB b := by
  simp only [Chan.nameplatesOfMailbox, List.mem_filter, decide_eq_true_eq] at h
  exact mem_npIdsB.2 ⟨n, h.1, h.2.1, rfl⟩

theorem mem_nameplatesOfApp_npIdsB {d : Chan} {n : Nameplate}
    (h : n ∈ d.nameplatesOfApp b) : n.id ∈ d.npIdsB b := by
  simp only [Chan.nameplatesOfApp, List.mem_filter, decide_eq_true_eq] at h
  exact mem_npIdsB.2 ⟨n, h.1, h.2, rfl⟩

end lookups

section prims
variable {b : String} {ρ : Nat → Nat} {d₁ d₂ : Chan}

/-- only the values of `ρ` on the ids of b's nameplates matter -/
theorem ViewRel.congr (h : ViewRel b ρ d₁ d₂) {ρ' : Nat → Nat} (hρ : ∀ i ∈ d₁.npIdsB b, ρ' i = ρ i) :
    ViewRel b ρ' d₁ d₂ := by
  refine ⟨h.nps.trans (List.map_congr_left fun n hn => ?_), h.sides.trans (List.map_congr_left fun r hr => ?_), ?_,
    h.mbs, h.mbSides, h.msgs⟩
  · rw [rnNp, rnNp, hρ _ (List.mem_map_of_mem (f := (·.id)) hn)]
  · rw [rnSide, rnSide, hρ _ (mem_npSidesB.1 hr).2]
  · intro i hi j hj e
    rw [hρ i hi, hρ j hj] at e
    exact h.inj i hi j hj e

theorem mbIdsB_mapMailboxes (d : Chan) (b : String) (f : MailboxRow → MailboxRow)
    (hf : ∀ r, (f r).id = r.id ∧ (f r).app = r.app) :
    ({ d with mailboxes := d.mailboxes.map f } : Chan).mbIdsB b = d.mbIdsB b := by
  simp only [mbIdsB, mbsB, List.filter_map, List.map_map]
  rw [List.filter_congr (q := fun m => decide (m.app = b)) (fun x _ => by simp [(hf x).2])]
  exact List.map_congr_left (fun x _ => (hf x).1)

theorem ViewRel.mapMailboxes (h : ViewRel b ρ d₁ d₂) (f₁ f₂ : MailboxRow → MailboxRow)
    (hf₁ : ∀ r, (f₁ r).id = r.id ∧ (f₁ r).app = r.app)
    (hf : ∀ r ∈ d₁.mailboxes, r.app = b → f₂ r = f₁ r) :
    ViewRel b ρ { d₁ with mailboxes := d₁.mailboxes.map f₁ } { d₂ with mailboxes := d₂.mailboxes.map f₂ } := by
  refine ⟨h.nps, h.sides, h.inj, ?_, ?_, h.msgs⟩
  · have := rel_map (rn := id) (h.mbs.trans (List.map_id _).symm) f₁ f₂ (fun x _ => by rw [(hf₁ x).2]) hf
    rwa [List.map_id] at this
  · show d₂.mbSides = d₁.mbSides.filter (fun r => r.mailbox ∈ ({ d₁ with mailboxes := d₁.mailboxes.map f₁ } : Chan).mbIdsB b)
    rw [mbIdsB_mapMailboxes d₁ b f₁ hf₁]
    exact h.mbSides

theorem ViewRel.touch (h : ViewRel b ρ d₁ d₂) (m : String) (t : Time) : ViewRel b ρ (d₁.touch m t) (d₂.touch m t) :=
  h.mapMailboxes _ _ (fun r => by split <;> simp) (fun _ _ _ => rfl)

theorem ViewRel.mapMbSides (h : ViewRel b ρ d₁ d₂) (f : MbSide → MbSide) (hf : ∀ r, (f r).mailbox = r.mailbox) :
    ViewRel b ρ { d₁ with mbSides := d₁.mbSides.map f } { d₂ with mbSides := d₂.mbSides.map f } := by
  refine ⟨h.nps, h.sides, h.inj, h.mbs, ?_, h.msgs⟩
  have := rel_map (rn := id) (h.mbSides.trans (List.map_id _).symm) f f (fun x _ => by rw [hf x])
    (fun _ _ _ => rfl)
  rwa [List.map_id] at this

theorem ViewRel.closeSide (h : ViewRel b ρ d₁ d₂) (m side : String) (mood : Option String) :
    ViewRel b ρ (d₁.closeSide m side mood) (d₂.closeSide m side mood) :=
  h.mapMbSides _ (fun r => by split <;> rfl)

theorem ViewRel.unclaim (h : ViewRel b ρ d₁ d₂) {i : Nat} (hi : i ∈ d₁.npIdsB b) (side : String) :
    ViewRel b ρ (d₁.unclaim i side) (d₂.unclaim (ρ i) side) := by
  refine ⟨h.nps, ?_, h.inj, h.mbs, h.mbSides, h.msgs⟩
  refine rel_map h.sides _ _ (fun x _ => by split <;> exact Iff.rfl) (fun r _ hr => ?_)
  simp only [rnSide_npid, rnSide_side, h.ρ_eq_iff hi hr]
  split <;> rfl

theorem ViewRel.insMessage (h : ViewRel b ρ d₁ d₂) (r : Message) (hr : r.app = b) :
    ViewRel b ρ (d₁.insMessage r) (d₂.insMessage r) := by
  refine ⟨h.nps, h.sides, h.inj, h.mbs, h.mbSides, ?_⟩
  show d₂.messages ++ [r] = (d₁.messages ++ [r]).filter (fun m => m.app = b)
  rw [List.filter_append, h.msgs, msgsB]
  simp [hr]

theorem ViewRel.insMbSide (h : ViewRel b ρ d₁ d₂) (r : MbSide) (hm : d₁.HasMb b r.mailbox) :
    ViewRel b ρ (d₁.insMbSide r) (d₂.insMbSide r) := by
  refine ⟨h.nps, h.sides, h.inj, h.mbs, ?_, h.msgs⟩
  show d₂.mbSides ++ [r] = (d₁.mbSides ++ [r]).filter (fun x => x.mailbox ∈ d₁.mbIdsB b)
  rw [List.filter_append, h.mbSides, mbSidesB]
  simp [mem_mbIdsB.2 hm]

theorem ViewRel.insMailbox (h : ViewRel b ρ d₁ d₂) (r : MailboxRow) (hr : r.app = b)
    (hno : ∀ x ∈ d₁.mbSides, ¬ x.mailbox = r.id) : ViewRel b ρ (d₁.insMailbox r) (d₂.insMailbox r) := by
  refine ⟨h.nps, h.sides, h.inj, ?_, ?_, h.msgs⟩
  · show d₂.mailboxes ++ [r] = (d₁.mailboxes ++ [r]).filter (fun m => m.app = b)
    rw [List.filter_append, h.mbs, mbsB]
    simp [hr]
  · show d₂.mbSides = d₁.mbSides.filter (fun x => x.mailbox ∈ (d₁.insMailbox r).mbIdsB b)
    have : (d₁.insMailbox r).mbIdsB b = d₁.mbIdsB b ++ [r.id] := by
      simp [mbIdsB, mbsB, Chan.insMailbox, List.filter_append, hr]
    rw [h.mbSides, this]
    exact List.filter_congr (fun x hx => by simp [hno x hx])

theorem ViewRel.insNpSide (h : ViewRel b ρ d₁ d₂) (r : NpSide) (hi : r.npid ∈ d₁.npIdsB b) :
    ViewRel b ρ (d₁.insNpSide r) (d₂.insNpSide (rnSide ρ r)) :=
  ⟨h.nps, rel_append h.sides hi, h.inj, h.mbs, h.mbSides, h.msgs⟩

/-- the renaming after an INSERT into `nameplates` in both runs -/
def extend (ρ : Nat → Nat) (i j : Nat) : Nat → Nat := fun k => if k = i then j else ρ k

theorem ViewRel.insNameplate (h : ViewRel b ρ d₁ d₂) (name mb : String) (hb₁ : d₁.IdsBounded)
    (hb₂ : ∀ n ∈ d₂.nameplates, n.id < d₂.nextNp) :
    ViewRel b (extend ρ d₁.nextNp d₂.nextNp) (d₁.insNameplate b name mb) (d₂.insNameplate b name mb) := by
  have hlt : ∀ i ∈ d₁.npIdsB b, i < d₁.nextNp := by
    intro i hi
    obtain ⟨n, hn, _, rfl⟩ := mem_npIdsB.1 hi
    exact hb₁.1 n hn
  -- the old rows are related under the extended renaming as well
  have h' : ViewRel b (extend ρ d₁.nextNp d₂.nextNp) d₁ d₂ := h.congr (fun i hi => if_neg (Nat.ne_of_lt (hlt i hi)))
  have hnew : extend ρ d₁.nextNp d₂.nextNp d₁.nextNp = d₂.nextNp := if_pos rfl
  generalize extend ρ d₁.nextNp d₂.nextNp = ρ' at h' hnew ⊢
  have hρlt : ∀ i ∈ d₁.npIdsB b, ρ' i < d₂.nextNp := by
    intro i hi
    obtain ⟨n, hn, rfl⟩ := List.mem_map.1 hi
    exact hb₂ (rnNp ρ' n) (h'.nps ▸ List.mem_map_of_mem hn)
  have hids : (d₁.insNameplate b name mb).npIdsB b = d₁.npIdsB b ++ [d₁.nextNp] := by
    simp [npIdsB, npsB, Chan.insNameplate, List.filter_append]
  refine ⟨?_, ?_, ?_, h'.mbs, h'.mbSides, h'.msgs⟩
  · have := rel_append h'.nps (r := ⟨d₁.nextNp, b, name, mb⟩) (by simp)
    rwa [rnNp, hnew] at this
  · -- no side row mentions the new id
    show d₂.npSides = (d₁.npSides.filter (fun r => r.npid ∈ (d₁.insNameplate b name mb).npIdsB b)).map (rnSide ρ')
    rw [hids, h'.sides]
    exact congrArg _ (List.filter_congr (fun x hx => by simp [Nat.ne_of_lt (hb₁.2 x hx)]))
  · rw [hids]
    intro i hi j hj e
    simp only [List.mem_append, List.mem_singleton] at hi hj
    rcases hi with hi | rfl <;> rcases hj with hj | rfl
    · exact h'.inj i hi j hj e
    · have := hρlt i hi; omega
    · have := hρlt j hj; omega
    · rfl

theorem mem_npIdsB_delById {d : Chan} {b : String} {i k : Nat} :
    k ∈ ((d.delNpSidesOf i).delNameplate i).npIdsB b ↔ k ∈ d.npIdsB b ∧ ¬ k = i := by
  simp only [mem_npIdsB, Chan.delNameplate, Chan.delNpSidesOf, List.mem_filter, decide_not,
    Bool.not_eq_eq_eq_not, Bool.not_true, decide_eq_false_iff_not]
  constructor
  · rintro ⟨n, ⟨h1, h2⟩, h3, rfl⟩; exact ⟨⟨n, h1, h3, rfl⟩, h2⟩
  · rintro ⟨⟨n, h1, h3, rfl⟩, h2⟩; exact ⟨n, ⟨h1, h2⟩, h3, rfl⟩

/-- `DELETE FROM nameplate_sides WHERE nameplates_id=i; DELETE FROM nameplates WHERE id=i` -/
theorem ViewRel.delById (h : ViewRel b ρ d₁ d₂) {i : Nat} (hi : i ∈ d₁.npIdsB b) :
    ViewRel b ρ ((d₁.delNpSidesOf i).delNameplate i) ((d₂.delNpSidesOf (ρ i)).delNameplate (ρ i)) := by
  refine ⟨?_, ?_, fun k hk j hj => h.inj k (mem_npIdsB_delById.1 hk).1 j (mem_npIdsB_delById.1 hj).1,
    h.mbs, h.mbSides, h.msgs⟩
  · exact rel_filter h.nps _ _ _
      (fun n hn hs => not_congr (h.ρ_eq_iff hi (mem_npIdsB.2 ⟨n, hn, hs, rfl⟩))) (fun _ _ _ => Iff.rfl)
  · exact rel_filter h.sides _ _ _ (fun r _ hs => not_congr (h.ρ_eq_iff hi hs))
      (fun r _ hp => by simp only [mem_npIdsB_delById, hp, not_false_eq_true, and_true])

/-- the nameplate part of the clean-up of `Mailbox.close` (repair A) -/
theorem ViewRel.delNpOfMailbox (h : ViewRel b ρ d₁ d₂) (hu : d₁.NpIdsUnique) (m : String) :
    ViewRel b ρ ((d₁.delNpSidesOfMailbox b m).delNameplatesOfMailbox b m)
      ((d₂.delNpSidesOfMailbox b m).delNameplatesOfMailbox b m) := by
  have hK : ∀ k, k ∈ (d₁.nameplatesOfMailbox b m).map (·.id) ↔ ∃ n ∈ d₁.nameplates, n.app = b ∧ n.mailbox = m ∧ n.id = k := by
    intro k
    simp [Chan.nameplatesOfMailbox, and_assoc]
  have hKsub : ∀ k, k ∈ (d₁.nameplatesOfMailbox b m).map (·.id) → k ∈ d₁.npIdsB b := by
    intro k hk
    obtain ⟨n, h1, h2, _, h4⟩ := (hK k).1 hk
    exact mem_npIdsB.2 ⟨n, h1, h2, h4⟩
  have hids : ∀ k, k ∈ ((d₁.delNpSidesOfMailbox b m).delNameplatesOfMailbox b m).npIdsB b ↔
      k ∈ d₁.npIdsB b ∧ k ∉ (d₁.nameplatesOfMailbox b m).map (·.id) := by
    intro k
    rw [hK]
    simp only [mem_npIdsB, Chan.delNameplatesOfMailbox, Chan.delNpSidesOfMailbox, List.mem_filter,
      decide_not, Bool.not_eq_eq_eq_not, Bool.not_true, decide_eq_false_iff_not]
    constructor
    · rintro ⟨n, ⟨h1, h2⟩, h3, rfl⟩
      refine ⟨⟨n, h1, h3, rfl⟩, ?_⟩
      rintro ⟨n', g1, g2, g3, g4⟩
      have : n' = n := eq_of_pairwise_ne hu g1 h1 g4
      subst this
      exact h2 ⟨g2, g3⟩
    · rintro ⟨⟨n, h1, h3, rfl⟩, h2⟩
      exact ⟨n, ⟨h1, fun hh => h2 ⟨n, h1, hh.1, hh.2, rfl⟩⟩, h3, rfl⟩
  refine ⟨rel_filter h.nps _ _ _ (fun _ _ _ => Iff.rfl) (fun _ _ _ => Iff.rfl), ?_,
    fun k hk j hj => h.inj k ((hids k).1 hk).1 j ((hids j).1 hj).1, h.mbs, h.mbSides, h.msgs⟩
  refine rel_filter h.sides _ _ _ (fun r _ hr => not_congr ?_)
    (fun r _ hp => by simp only [hids, hp, not_false_eq_true, and_true])
  -- `ρ` is injective on b's ids, which the deleted ids are among
  show ρ r.npid ∈ (d₂.nameplatesOfMailbox b m).map (·.id) ↔ r.npid ∈ (d₁.nameplatesOfMailbox b m).map (·.id)
  rw [h.nameplatesOfMailbox, List.map_map]
  simp only [List.mem_map, Function.comp, rnNp_id]
  constructor
  · rintro ⟨n, hn, e⟩
    exact ⟨n, hn, h.inj _ (hKsub _ (List.mem_map_of_mem hn)) _ hr e⟩
  · rintro ⟨n, hn, e⟩
    exact ⟨n, hn, by rw [e]⟩

theorem ViewRel.delMessagesOf (h : ViewRel b ρ d₁ d₂) (m : String) :
    ViewRel b ρ (d₁.delMessagesOf m) (d₂.delMessagesOf m) := by
  refine ⟨h.nps, h.sides, h.inj, h.mbs, h.mbSides, ?_⟩
  show d₂.messages.filter _ = (d₁.messages.filter _).filter _
  rw [h.msgs]
  exact filter_comm _ _ _

theorem hasMb_delMbBlock {d : Chan} {b m k : String} :
    k ∈ ((d.delMbSidesOf m).delMailbox m).mbIdsB b ↔ k ∈ d.mbIdsB b ∧ ¬ k = m := by
  rw [mem_mbIdsB, mem_mbIdsB]
  exact hasMb_delMailbox (d.delMbSidesOf m) b k m

/-- `DELETE FROM mailbox_sides WHERE mailbox_id=m; DELETE FROM mailboxes WHERE id=m` -/
theorem ViewRel.delMbBlock (h : ViewRel b ρ d₁ d₂) (m : String) :
    ViewRel b ρ ((d₁.delMbSidesOf m).delMailbox m) ((d₂.delMbSidesOf m).delMailbox m) := by
  refine ⟨h.nps, h.sides, h.inj, ?_, ?_, h.msgs⟩
  · show d₂.mailboxes.filter _ = (d₁.mailboxes.filter _).filter _
    rw [h.mbs]
    exact filter_comm _ _ _
  · show d₂.mbSides.filter _ = (d₁.mbSides.filter _).filter _
    rw [h.mbSides, mbSidesB, filter_comm]
    exact List.filter_congr (fun x hx => by
      have := (List.mem_filter.1 hx).2
      simp only [decide_eq_true_eq] at this
      simp [hasMb_delMbBlock, this])

end prims

end Chan
end Wormhole
