/-
  Two-run simulation for K-close-touch: every function of Core.lean preserves `Sys.TchRel`
  and returns the same result in both runs.  The only function that READS `mailboxes.updated` is
  `AppNamespace.prune`; it needs the hypothesis that the cutoff does not separate the two stamps
  (`NoSplit`) unless somebody is subscribed to the mailbox (then both rows are re-stamped first).
-/
import Wormhole.Inv.TchDefs
import Wormhole.Inv.MsgDb

namespace Wormhole
namespace Sys

variable {u t : Time} {m ap : String} {b a : Sys}

theorem TchRel.blurTime (h : TchRel u t m ap b a) : a.blurTime = b.blurTime := by
  funext x
  simp only [Sys.blurTime, Sys.blurTicks, h.cfg]

theorem _root_.Wormhole.RowRel.ite_set {rb ra : MailboxRow} (hr : RowRel u t m ap rb ra) {P Q : Prop} [Decidable P]
    [Decidable Q] (hpq : Q ↔ P) (v : Time) :
    RowRel u t m ap (if P then { rb with updated := v } else rb) (if Q then { ra with updated := v } else ra) := by
  by_cases hp : P
  · rw [if_pos hp, if_pos (hpq.2 hp)]
    exact Or.inl (hr.set v)
  · rw [if_neg hp, if_neg (fun hq => hp (hpq.1 hq))]
    exact hr

/-! ### usage blocks -/

theorem TchRel.storeNameplateUsage (h : TchRel u t m ap b a) (app : String) (sides : List NpSide) (t' : Time)
    (p : Bool) :
    TchRel u t m ap (b.storeNameplateUsage app sides t' p).1 (a.storeNameplateUsage app sides t' p).1 ∧
      (a.storeNameplateUsage app sides t' p).2 = (b.storeNameplateUsage app sides t' p).2 := by
  unfold Sys.storeNameplateUsage
  rw [h.blurTime]
  cases summarizeNameplate b.blurTime (sides.map (·.added)) t' p with
  | none => exact ⟨h, rfl⟩
  | some s =>
    dsimp only
    exact ⟨h.modUdb _ _, rfl⟩

theorem TchRel.storeMailboxUsage (h : TchRel u t m ap b a) (app : String) (f : Bool) (sides : List MbSide) (t' : Time)
    (p : Bool) :
    TchRel u t m ap (b.storeMailboxUsage app f sides t' p) (a.storeMailboxUsage app f sides t' p) := by
  unfold Sys.storeMailboxUsage
  exact h.modUdb _ _

theorem TchRel.uNp (h : TchRel u t m ap b a) (app : String) (sides : List NpSide) (t' : Time) (p : Bool) :
    TchRel u t m ap (b.uNp app sides t' p).1 (a.uNp app sides t' p).1 ∧
      (a.uNp app sides t' p).2 = (b.uNp app sides t' p).2 := by
  unfold Sys.uNp
  rw [h.cfg]
  split
  · exact h.storeNameplateUsage app sides t' p
  · exact ⟨h, rfl⟩

theorem TchRel.uMb (h : TchRel u t m ap b a) (app : String) (f : Bool) (sides : List MbSide) (t' : Time) (p : Bool) :
    TchRel u t m ap (b.uMb app f sides t' p) (a.uMb app f sides t' p) := by
  unfold Sys.uMb
  rw [h.cfg]
  split
  · exact h.storeMailboxUsage app f sides t' p
  · exact h

theorem TchRel.uCommit (h : TchRel u t m ap b a) : TchRel u t m ap b.uCommit a.uCommit := by
  unfold Sys.uCommit
  rw [h.cfg]
  split
  · exact h.ucommit
  · exact h

theorem TchRel.uNps (app : String) (t' : Time) (l : List Nameplate) :
    ∀ {b a : Sys}, TchRel u t m ap b a →
      TchRel u t m ap (b.uNps app t' l).1 (a.uNps app t' l).1 ∧ (a.uNps app t' l).2 = (b.uNps app t' l).2 := by
  induction l with
  | nil => intro b a h; exact ⟨h, rfl⟩
  | cons np rest ih =>
    intro b a h
    unfold Sys.uNps
    rw [h.db.npSidesOf]
    obtain ⟨b1, a1, r, eb, ea, h1⟩ := TchRel.pair (h.uNp app (b.db.npSidesOf np.id) t' false)
    rw [eb, ea]
    cases r with
    | false => exact ⟨h1, rfl⟩
    | true => exact ih h1

theorem TchRel.logClientVersion (h : TchRel u t m ap b a) (app side : String) (t' : Time) (i v : Option String) :
    TchRel u t m ap (b.logClientVersion app side t' i v) (a.logClientVersion app side t' i v) := by
  unfold Sys.logClientVersion
  rw [h.cfg]
  split
  · exact (h.modUdb _ _).ucommit
  · exact h

/-! ### Mailbox -/

/-- both runs refuse (`IntegrityError`), or both go on from related states -/
theorem TchRel.addMailbox (h : TchRel u t m ap b a) (app mb : String) (forNp : Bool) (t' : Time) :
    (b.addMailbox app mb forNp t' = none ∧ a.addMailbox app mb forNp t' = none) ∨
      ∃ b1 a1, b.addMailbox app mb forNp t' = some b1 ∧ a.addMailbox app mb forNp t' = some a1 ∧
        TchRel u t m ap b1 a1 := by
  unfold Sys.addMailbox
  rcases h.db.findMailbox app mb with ⟨e1, e2⟩ | ⟨rb, ra, e1, e2, _⟩
  · rw [e1, e2]
    rcases h.db.findMailboxById mb with ⟨f1, f2⟩ | ⟨rb, ra, f1, f2, _⟩
    · rw [f1, f2]
      exact Or.inr ⟨_, _, rfl, rfl, h.modDb (h.db.insMailbox _)⟩
    · rw [f1, f2]
      exact Or.inl ⟨rfl, rfl⟩
  · rw [e1, e2]
    exact Or.inr ⟨_, _, rfl, rfl, h⟩

theorem TchRel.mailboxOpen (h : TchRel u t m ap b a) (mb side : String) (t' : Time) :
    TchRel u t m ap (b.mailboxOpen mb side t') (a.mailboxOpen mb side t') := by
  unfold Sys.mailboxOpen
  rw [h.db.findMbSide]
  cases b.db.findMbSide mb side with
  | none =>
    have h1 := h.modDb (f := (·.insMbSide ⟨mb, true, side, t', none⟩)) (h.db.insMbSide _)
    exact (h1.modDb (h1.db.touch mb t')).commit
  | some _ => exact (h.modDb (h.db.touch mb t')).commit

theorem TchRel.openMailbox (h : TchRel u t m ap b a) (app mb side : String) (t' : Time) :
    TchRel u t m ap (b.openMailbox app mb side t').1 (a.openMailbox app mb side t').1 ∧
      (a.openMailbox app mb side t').2 = (b.openMailbox app mb side t').2 := by
  unfold Sys.openMailbox
  rcases h.addMailbox app mb false t' with ⟨e1, e2⟩ | ⟨b1, a1, e1, e2, h1⟩
  · rw [e1, e2]; exact ⟨h, rfl⟩
  · rw [e1, e2]
    have h2 := (h1.mailboxOpen mb side t').commit
    dsimp only
    rw [h2.db.mbSidesOf]
    split
    · exact ⟨h2, rfl⟩
    · exact ⟨h2, rfl⟩

theorem TchRel.addMessage (h : TchRel u t m ap b a) (app mb side : String) (ph bd : Val) (t' : Time) (id : Val) :
    TchRel u t m ap (b.addMessage app mb side ph bd t' id) (a.addMessage app mb side ph bd t' id) := by
  unfold Sys.addMessage
  have h1 := h.modDb (f := (·.insMessage ⟨app, mb, side, ph.toText, bd.toText, t', id.toText⟩)) (h.db.insMessage _)
  exact (h1.modDb (h1.db.touch mb t')).commit

theorem TchRel.mailboxClose (h : TchRel u t m ap b a) (app mb side : String) (mood : Option String) (t' : Time) :
    TchRel u t m ap (b.mailboxClose app mb side mood t').1 (a.mailboxClose app mb side mood t').1 ∧
      (a.mailboxClose app mb side mood t').2 = (b.mailboxClose app mb side mood t').2 := by
  rw [mailboxClose_eq, mailboxClose_eq]
  rcases h.db.findMailbox app mb with ⟨e1, e2⟩ | ⟨rb, ra, e1, e2, hr⟩
  · rw [e1, e2]; exact ⟨h, rfl⟩
  · rw [e1, e2]
    dsimp only
    rw [h.db.findMbSide]
    cases b.db.findMbSide mb side with
    | none => exact ⟨h, rfl⟩
    | some r =>
      have h1 := (h.modDb (f := (·.closeSide mb side mood)) (h.db.closeSide mb side mood)).commit
      dsimp only
      rw [h1.db.mbSidesOf, h1.db.nameplatesOfMailbox, hr.forNp]
      split
      · exact ⟨h1, rfl⟩
      · obtain ⟨b2, a2, ok, eb, ea, h2⟩ := TchRel.pair (TchRel.uNps app t'
          (((b.modDb (·.closeSide mb side mood)).commit).db.nameplatesOfMailbox app mb) h1)
        rw [eb, ea]
        cases ok with
        | false => exact ⟨h2, rfl⟩
        | true =>
          dsimp only
          exact ⟨(((((h2.modDb (((((h2.db.delNpSidesOfMailbox app mb).delNameplatesOfMailbox app mb).delMessagesOf mb).delMbSidesOf
            mb).delMailbox mb)).uMb app rb.forNp _ t' false).uCommit).commit).stopListeners
            app mb), rfl⟩

/-! ### AppNamespace -/

theorem TchRel.claimCont (h : TchRel u t m ap b a) (app : String) (npid : Nat) (mb side : String) (t' : Time) :
    TchRel u t m ap (claimCont b app npid mb side t').1 (claimCont a app npid mb side t').1 ∧
      (claimCont a app npid mb side t').2 = (claimCont b app npid mb side t').2 := by
  unfold Sys.claimCont
  dsimp only
  obtain ⟨b3, a3, r, eb, ea, h3⟩ := TchRel.pair (h.commit.openMailbox app mb side t')
  rw [eb, ea]
  cases r with
  | integrity => exact ⟨h3, rfl⟩
  | crowded => exact ⟨h3, rfl⟩
  | ok =>
    dsimp only
    rw [h3.db.npSidesOf]
    split
    · exact ⟨h3, rfl⟩
    · exact ⟨h3, rfl⟩

theorem TchRel.claimTail (h : TchRel u t m ap b a) (app : String) (npid : Nat) (mb side : String) (t' : Time) :
    TchRel u t m ap (b.claimTail app npid mb side t').1 (a.claimTail app npid mb side t').1 ∧
      (a.claimTail app npid mb side t').2 = (b.claimTail app npid mb side t').2 := by
  rw [claimTail_eq, claimTail_eq, h.db.findNpSide]
  cases b.db.findNpSide npid side with
  | none => exact (h.modDb (h.db.insNpSide _)).claimCont app npid mb side t'
  | some r =>
    dsimp only
    split
    · exact h.claimCont app npid mb side t'
    · exact ⟨h, rfl⟩

theorem TchRel.claimNameplate (h : TchRel u t m ap b a) (app name side : String) (t' : Time) (fresh : String) :
    TchRel u t m ap (b.claimNameplate app name side t' fresh).1 (a.claimNameplate app name side t' fresh).1 ∧
      (a.claimNameplate app name side t' fresh).2 = (b.claimNameplate app name side t' fresh).2 := by
  unfold Sys.claimNameplate
  rw [h.db.findNameplate]
  cases b.db.findNameplate app name with
  | some row => exact h.claimTail app row.id row.mailbox side t'
  | none =>
    dsimp only
    rcases h.addMailbox app fresh true t' with ⟨e1, e2⟩ | ⟨b1, a1, e1, e2, h1⟩
    · rw [e1, e2]; exact ⟨h, rfl⟩
    · rw [e1, e2]
      dsimp only
      rw [h1.db.next]
      exact (h1.modDb (h1.db.insNameplate app name fresh)).claimTail app _ fresh side t'

theorem TchRel.releaseNameplate (h : TchRel u t m ap b a) (app name side : String) (t' : Time) :
    TchRel u t m ap (b.releaseNameplate app name side t').1 (a.releaseNameplate app name side t').1 ∧
      (a.releaseNameplate app name side t').2 = (b.releaseNameplate app name side t').2 := by
  rw [releaseNameplate_eq, releaseNameplate_eq, h.db.findNameplate]
  cases b.db.findNameplate app name with
  | none => exact ⟨h, rfl⟩
  | some np =>
    dsimp only
    rw [h.db.findNpSide]
    cases b.db.findNpSide np.id side with
    | none => exact ⟨h, rfl⟩
    | some r =>
      have h1 := (h.modDb (f := (·.unclaim np.id side)) (h.db.unclaim np.id side)).commit
      dsimp only
      rw [h1.db.npSidesOf]
      split
      · exact ⟨h1, rfl⟩
      · obtain ⟨b3, a3, ok, eb, ea, h3⟩ := TchRel.pair ((h1.modDb
          (f := fun d => (d.delNpSidesOf np.id).delNameplate np.id) ((h1.db.delNpSidesOf np.id).delNameplate np.id)).uNp app
          (((b.modDb (·.unclaim np.id side)).commit).db.npSidesOf np.id) t' false)
        rw [eb, ea]
        cases ok with
        | false => exact ⟨h3, rfl⟩
        | true => exact ⟨h3.uCommit.commit, rfl⟩

theorem TchRel.touchListened (h : TchRel u t m ap b a) (app : String) (now : Time) :
    TchRel u t m ap (b.touchListened app now) (a.touchListened app now) := by
  refine ⟨⟨h.db.nps, h.db.sides, ?_, h.db.mbSides, h.db.msgs, h.db.next⟩, h.disk, h.conns, h.cfg, h.out⟩
  apply h.db.mbs.map
  intro rb _ ra _ hr
  exact hr.ite_set (by rw [h.listeners, hr.id, hr.app]) now

theorem TchRel.pruneNameplates (app : String) (now : Time) (l : List Nameplate) :
    ∀ {b a : Sys}, TchRel u t m ap b a →
      TchRel u t m ap (b.pruneNameplates app now l).1 (a.pruneNameplates app now l).1 ∧
        (a.pruneNameplates app now l).2 = (b.pruneNameplates app now l).2 := by
  induction l with
  | nil => intro b a h; exact ⟨h, rfl⟩
  | cons np rest ih =>
    intro b a h
    rw [pruneNameplates_cons, pruneNameplates_cons, h.db.npSidesOf]
    obtain ⟨b2, a2, r, eb, ea, h2⟩ := TchRel.pair ((h.modDb (f := fun d => (d.delNpSidesOf np.id).delNameplate np.id)
      ((h.db.delNpSidesOf np.id).delNameplate np.id)).uNp app (b.db.npSidesOf np.id) now true)
    rw [eb, ea]
    cases r with
    | false => exact ⟨h2, rfl⟩
    | true => exact ih h2

theorem TchRel.pruneMailboxes (app : String) (now : Time) :
    ∀ {lb la : List MailboxRow}, All2 (RowRel u t m ap) lb la → ∀ {b a : Sys}, TchRel u t m ap b a →
      TchRel u t m ap (b.pruneMailboxes app now lb) (a.pruneMailboxes app now la) := by
  intro lb la hl
  induction hl with
  | nil => intro b a h; exact h
  | @cons rb ra lb la hr _ ih =>
    intro b a h
    rw [pruneMailboxes_cons, pruneMailboxes_cons, hr.id, hr.forNp, h.db.mbSidesOf]
    exact ih ((h.modDb (((h.db.delMessagesOf rb.id).delMbSidesOf rb.id).delMailbox rb.id)).uMb app rb.forNp _ now true)

/-- `prune` after its touch loop and its two SELECTs, for lists of old mailboxes related row by row -/
theorem TchRel.pruneRest (h : TchRel u t m ap b a) (app : String) (now : Time) {lb la : List MailboxRow}
    (hl : All2 (RowRel u t m ap) lb la) (l : List Nameplate) :
    TchRel u t m ap (pruneRest b app now lb l).1 (pruneRest a app now la l).1 ∧
      (pruneRest a app now la l).2 = (pruneRest b app now lb l).2 := by
  rw [pruneRest_eq, pruneRest_eq]
  obtain ⟨b2, a2, r, eb, ea, h2⟩ := TchRel.pair (TchRel.pruneNameplates app now l h)
  rw [eb, ea]
  cases r with
  | false => exact ⟨h2, rfl⟩
  | true =>
    have h3 := TchRel.pruneMailboxes app now hl h2
    have hnil : la = [] ↔ lb = [] := by
      rw [← List.length_eq_zero_iff, ← List.length_eq_zero_iff, hl.length_eq]
    dsimp only
    simp only [ne_eq, hnil]
    split
    · exact ⟨h3.commit.uCommit, rfl⟩
    · exact ⟨h3, rfl⟩

/-- the cutoff `old` does not separate the two stamps -/
def NoSplit (u t old : Time) : Prop := (u ≤ old ↔ t ≤ old)

instance (u t old : Time) : Decidable (NoSplit u t old) := by unfold NoSplit; infer_instance

/-- `AppNamespace.prune`: related results when, for the app of the distinguished mailbox, either somebody is
    subscribed to it (both rows are re-stamped by the touch loop) or the cutoff does not separate `u` and `t` -/
theorem TchRel.prune (h : TchRel u t m ap b a) (app : String) (now old : Time)
    (hns : app = ap → b.listeners ap m ≠ [] ∨ NoSplit u t old) :
    TchRel u t m ap (b.prune app now old).1 (a.prune app now old).1 ∧
      (a.prune app now old).2 = (b.prune app now old).2 := by
  rw [prune_eq, prune_eq]
  dsimp only
  have h1 := (h.touchListened app now).commit
  -- the two `old_mailboxes` lists are related: the query, pushed through the touch loop, selects related rows
  have hold : All2 (RowRel u t m ap)
      ((((b.touchListened app now).commit).db.mailboxesOfApp app).filter (fun r => ¬ r.updated > old))
      ((((a.touchListened app now).commit).db.mailboxesOfApp app).filter (fun r => ¬ r.updated > old)) := by
    simp only [commit_db, Sys.touchListened, Chan.mailboxesOfApp, modDb_db, List.filter_filter, List.filter_map]
    refine (h.db.mbs.filter _ _ ?_).map _ _ (fun rb _ ra _ hr => hr.ite_set (by rw [h.listeners, hr.id, hr.app]) now)
    intro rb _ ra _ hr
    simp only [Function.comp_apply, h.listeners, hr.id, hr.app]
    rcases hr with rfl | ⟨e1, e2, e3, rfl⟩
    · rfl
    · by_cases hc : rb.app = app ∧ b.listeners app rb.id ≠ []
      · simp only [hc, and_self, ne_eq, not_false_eq_true, if_true]
      · simp only [hc, if_false]
        by_cases happ : rb.app = app
        · have hn : NoSplit u t old := (hns (happ.symm.trans e2)).resolve_left
            (fun hl => hc ⟨happ, by rw [← happ, e2, e1]; exact hl⟩)
          simp only [happ, e3, Int.not_lt, decide_true, Bool.and_true, gt_iff_lt]
          exact decide_eq_decide.2 hn
        · simp [happ]
  rw [h1.db.nameplatesOfApp, ← hold.map_eq (·.id) (·.id) (fun _ _ _ _ hr => hr.id.symm)]
  exact h1.pruneRest app now hold _

theorem TchRel.pruneApps (now old : Time) (l : List String) :
    ∀ {b a : Sys}, TchRel u t m ap b a → (b.listeners ap m ≠ [] ∨ NoSplit u t old) →
      TchRel u t m ap (b.pruneApps now old l).1 (a.pruneApps now old l).1 ∧
        (a.pruneApps now old l).2 = (b.pruneApps now old l).2 := by
  induction l with
  | nil => intro b a h _; exact ⟨h, rfl⟩
  | cons app rest ih =>
    intro b a h hns
    unfold Sys.pruneApps
    have hc := prune_conns b app now old
    obtain ⟨b1, a1, r, eb, ea, h1⟩ := TchRel.pair (h.prune app now old (fun _ => hns))
    rw [eb] at hc
    rw [eb, ea]
    cases r with
    | false => exact ⟨h1, rfl⟩
    | true => exact ih h1 (by rw [listeners_congr hc]; exact hns)

theorem TchRel.allApps (h : TchRel u t m ap b a) : a.allApps = b.allApps := by
  unfold Sys.allApps
  rw [h.db.nps, h.db.mbApps, h.db.msgs]

theorem TchRel.dumpStats (h : TchRel u t m ap b a) (now : Time) :
    TchRel u t m ap (b.dumpStats now) (a.dumpStats now) := by
  unfold Sys.dumpStats
  rw [h.cfg]
  split
  · exact (h.modUdb _ _).ucommit
  · exact h

theorem TchRel.expire (h : TchRel u t m ap b a) (now : Time) (fault : Bool)
    (hns : fault = false → b.listeners ap m ≠ [] ∨ NoSplit u t (now - Generated.expirationTicks)) :
    TchRel u t m ap (b.expire now fault) (a.expire now fault) := by
  unfold Sys.expire
  dsimp only
  have h0 := h.emit (.fired now (now - Generated.expirationTicks))
  cases fault with
  | true => exact (h0.emit _).dumpStats now
  | false =>
    simp only [Bool.false_eq_true, if_false]
    rw [h0.allApps]
    obtain ⟨b1, a1, r, eb, ea, h1⟩ := TchRel.pair (TchRel.pruneApps now (now - Generated.expirationTicks)
      (b.emit (.fired now (now - Generated.expirationTicks))).allApps h0 (hns rfl))
    rw [eb, ea]
    cases r with
    | true => exact h1.dumpStats now
    | false => exact (h1.emit _).dumpStats now

end Sys
end Wormhole
