/-
  C14 (re-sending an acknowledged command), part 4: what "successfully answered" says about the
  original command — inversion from the frames of its step to the function-level facts, and from
  there to the state of the database afterwards (the hypotheses of Inv/DupStep.lean).

  `g` is the ghost state BEFORE the original operation (satisfying `GInv`), `g.step op` the one after
  it (`GInv` again, by `GInv.step`).
-/
import Wormhole.Inv.DupStep
import Wormhole.Inv.Main

namespace Wormhole

/-- an `error` frame or an escaped exception -/
def Event.isFailure : Event → Bool
  | .frame _ (.error _) _ => true
  | .internal _ _ => true
  | _ => false

/-- **"the command was processed successfully"**, read off the events `out` of its step
    (`recv c t id cmd`): the answer frame `claimed` / `released` / `closed` was sent to `c`; for `open`,
    which has no answer frame of its own, the command was acknowledged and neither an `error`
    frame nor an escaped exception occurred. -/
def Answered (out : List Event) (c : Nat) (id : Val) : Cmd → Prop
  | .claim _ _ => ∃ m b, Event.frame c (.claimed m) b ∈ out
  | .release _ => ∃ b, Event.frame c .released b ∈ out
  | .open_ _ => (∃ b, Event.frame c (.ack id) b ∈ out) ∧ ∀ e ∈ out, e.isFailure = false
  | .close _ _ => ∃ b, Event.frame c .closed b ∈ out
  | _ => False

/-- **the re-sent command**: the same command with its nameplate / mailbox named explicitly, as
    resolved on the original connection `x` (`release` without a name uses the claimed nameplate,
    `close` acts on the handle if one is held, else on the named / remembered id); a re-sent `claim`
    may carry ANY generated id `f'` (it is not used). -/
inductive Resend (x : Conn) : Cmd → Cmd → Prop
  | claim (n f f' : String) : Resend x (.claim (some n) f) (.claim (some n) f')
  | release (nm : Option String) (n : String) : Sys.Np.releaseTarget x nm = some n →
      Resend x (.release nm) (.release (some n))
  | open_ (m : String) : Resend x (.open_ (some m)) (.open_ (some m))
  | close (mo : Option String) (m : String) (mood : Option String) : x.closeTarget mo = some m →
      Resend x (.close mo mood) (.close (some m) mood)

namespace Sys

theorem getD_of_side {x : Conn} {σ : String} (h : x.side = some σ) : x.side.getD "" = σ := by simp [h]

/-- the output of a command refused by validation contains neither an answer nor is it free of failures -/
theorem rejected_out {s : Sys} {c : Nat} {x : Conn} {cmd : Cmd} {text : String} (t : Time) (id : Val)
    (hx : s.findConn c = some x) (hr : rejectText x cmd = some text) :
    ∀ e ∈ (s.step (.recv c t id cmd)).out, (∃ b, e = .frame c (.ack id) b) ∨ (∃ b, e = .frame c (.error text) b) := by
  intro e he
  rw [(C17_validation_error t id hx (rejected_of_rejectText hr)).1] at he
  split at he
  · simp only [List.nil_append, List.mem_singleton] at he
    exact Or.inr ⟨_, he⟩
  · simp only [List.cons_append, List.nil_append, List.mem_cons, List.not_mem_nil, or_false] at he
    rcases he with rfl | rfl
    · exact Or.inl ⟨_, rfl⟩
    · exact Or.inr ⟨_, rfl⟩

theorem not_rejected_of_frame {s : Sys} {c : Nat} {x : Conn} (hx : s.findConn c = some x) {cmd : Cmd} {t : Time}
    {id : Val} {f : Frame} {b : Bool} (hans : Event.frame c f b ∈ (s.step (.recv c t id cmd)).out)
    (h1 : ∀ v, f ≠ .ack v) (h2 : ∀ text, f ≠ .error text) : rejectText x cmd = none := by
  cases hr : rejectText x cmd with
  | none => rfl
  | some text =>
    rcases rejected_out t id hx hr _ hans with ⟨_, e⟩ | ⟨_, e⟩
    · cases e; exact absurd rfl (h1 _)
    · cases e; exact absurd rfl (h2 _)

theorem not_rejected_of_noFailure {s : Sys} {c : Nat} {x : Conn} (hx : s.findConn c = some x) {cmd : Cmd} {t : Time}
    {id : Val} (hA : ∀ e ∈ (s.step (.recv c t id cmd)).out, e.isFailure = false) : rejectText x cmd = none := by
  cases hr : rejectText x cmd with
  | none => rfl
  | some text =>
    have h1 := (C17_validation_error t id hx (rejected_of_rejectText hr)).1
    have := hA (.frame c (.error text) s.synced) (by rw [h1]; simp)
    simp [Event.isFailure] at this

/-! ### claim -/

theorem claimAnswer_ok {c : Nat} {id : Val} {commits : List Event} {r : ClaimRes} {m : String} {b : Bool}
    (hc : ∀ e ∈ commits, IsCommit e)
    (hA : Event.frame c (.claimed m) b ∈ Event.frame c (.ack id) true :: (commits ++ [claimAnswer c r])) :
    r = .ok m := by
  simp only [List.mem_cons, List.mem_append, List.not_mem_nil, or_false] at hA
  rcases hA with hA | hA | hA
  · cases hA
  · obtain ⟨w, hw⟩ := hc _ hA; cases hw
  · cases r <;> simp [claimAnswer] at hA
    exact congrArg _ hA.1.symm

/-- **inversion, `claim`.**  If the step answered `claimed m` then the command named a nameplate `n`,
    `claim_nameplate` returned `ok m`, the output is exactly `ack, commits, claimed m`, and afterwards the
    database is in the state `ClaimDone` — in particular the mailbox and the nameplate have at most two
    side rows each: for an IMMEDIATE re-send the guard of K-crowded-rejoin is implied. -/
theorem orig_claim {g : GSys} (hI : g.GInv) {c : Nat} {x : Conn} {a σ : String} (hx : g.sys.findConn c = some x)
    (ha : x.app = some a) (hσ : x.side = some σ) {t : Time} {id : Val} {nm : Option String} {f : String}
    (hI' : (g.step (.recv c t id (.claim nm f))).GInv) {m : String} {b : Bool}
    (hA : Event.frame c (.claimed m) b ∈ (g.sys.step (.recv c t id (.claim nm f))).out) :
    ∃ n, nm = some n ∧ (g.sys.step (.recv c t id (.claim nm f))).db.ClaimDone a n σ m t ∧
      ∃ commits, (∀ e ∈ commits, IsCommit e) ∧
        (g.sys.step (.recv c t id (.claim nm f))).out =
          .frame c (.ack id) true :: (commits ++ [.frame c (.claimed m) true]) := by
  have hr := not_rejected_of_frame hx hA (by simp) (by simp)
  obtain ⟨_, _, n, rfl⟩ := claim_accepted hr
  obtain ⟨s1, r, e, ⟨commits, hc, hout⟩, hdb, _, _⟩ := claim_step hI.cinv.toPInv hI.synced hx hr ha t id
  obtain rfl : r = .ok m := claimAnswer_ok hc (hout ▸ hA)
  rw [getD_of_side hσ] at e
  refine ⟨n, rfl, ?_, commits, hc, hout⟩
  rw [hdb]
  exact claimNameplate_ok_done (by rw [← hdb]; exact hI'.cinv.toPInv) e

/-! ### release -/

/-- **inversion, `release`.**  If the step answered `released` then the command resolved to a
    nameplate `n`, the output is exactly `ack, commits, released`, and the database afterwards is the one
    `release_nameplate(a, n, σ, t)` left, called on a state with the database of before. -/
theorem orig_release {g : GSys} (hI : g.GInv) {c : Nat} {x : Conn} {a σ : String} (hx : g.sys.findConn c = some x)
    (ha : x.app = some a) (hσ : x.side = some σ) {t : Time} {id : Val} {nm : Option String} {b : Bool}
    (hA : Event.frame c .released b ∈ (g.sys.step (.recv c t id (.release nm))).out) :
    ∃ n, Np.releaseTarget x nm = some n ∧
      (∃ (s0 s1 : Sys) (b1 : Bool), s0.db = g.sys.db ∧ s0.releaseNameplate a n σ t = (s1, b1) ∧
        (g.sys.step (.recv c t id (.release nm))).db = s1.db) ∧
      ∃ commits, (∀ e ∈ commits, IsCommit e) ∧
        (g.sys.step (.recv c t id (.release nm))).out =
          .frame c (.ack id) true :: (commits ++ [.frame c .released true]) := by
  obtain ⟨n, s1, hn, e, hstep, _, hout⟩ := release_whole hI.synced t id nm hx ha
    (not_rejected_of_frame hx hA (by simp) (by simp))
  rw [getD_of_side hσ] at e
  refine ⟨n, hn, ⟨_, s1, true, ?_, e, by rw [hstep]; rfl⟩, hout⟩
  rfl

/-! ### open -/

/-- **inversion, `open`.**  If the step was acknowledged and produced no `error` frame and no escaped
    exception, then the command named a mailbox `m`, `open_mailbox` returned `ok`: the database afterwards
    is `openDb` of the one before, the mailbox has at most two side rows (so for an IMMEDIATE re-send the
    guard of K-crowded-rejoin is implied), and the output is exactly `ack, commits` and the replay of the
    stored messages of `(a, m)`. -/
theorem orig_open {g : GSys} (hI : g.GInv) {c : Nat} {x : Conn} {a σ : String} (hx : g.sys.findConn c = some x)
    (ha : x.app = some a) (hσ : x.side = some σ) {t : Time} {id : Val} {mo : Option String}
    (hA : ∀ e ∈ (g.sys.step (.recv c t id (.open_ mo))).out, e.isFailure = false) :
    ∃ m, mo = some m ∧
      (g.sys.step (.recv c t id (.open_ mo))).db = g.sys.db.openDb a m σ t ∧
      ((g.sys.step (.recv c t id (.open_ mo))).db.mbSidesOf m).length ≤ 2 ∧
      ∃ commits, (∀ e ∈ commits, IsCommit e) ∧
        (g.sys.step (.recv c t id (.open_ mo))).out =
          .frame c (.ack id) true :: (commits ++ replayFrames (g.sys.step (.recv c t id (.open_ mo))).db c a m) := by
  have hr := not_rejected_of_noFailure hx hA
  obtain ⟨_, _, m, rfl⟩ := open_accepted hr
  obtain ⟨h1, h2, h3⟩ := open_step hI.cinv.toPInv hI.synced hx hr ha t id
  rw [getD_of_side hσ] at h2 h3
  by_cases hcl : g.sys.db.Clash a m
  · exfalso
    have := hA (.internal (some c) "IntegrityError") (by rw [(h1 hcl).1]; simp)
    simp [Event.isFailure] at this
  · by_cases hlen : ((g.sys.db.openDb a m σ t).mbSidesOf m).length > 2
    · exfalso
      obtain ⟨⟨commits, _, hout⟩, _⟩ := h2 hcl hlen
      have := hA (.frame c (.error "crowded") true) (by rw [hout]; simp)
      simp [Event.isFailure] at this
    · obtain ⟨hout, hdb, _⟩ := h3 hcl hlen
      refine ⟨m, rfl, hdb, by rw [hdb]; omega, ?_⟩
      rw [hdb]; exact hout

/-! ### close -/

/-- what the answer `closed` says about the database `Mailbox.close` worked on (`closePre`): the step was
    neither an `IntegrityError` nor `crowded`; that database satisfies the invariant and holds the row of `(a, m)`
    and the closing side's row -/
theorem close_answered {g : GSys} (hI : g.GInv) (hH : g.sys.HandleRow) {c : Nat} {x : Conn} {a σ : String}
    (hx : g.sys.findConn c = some x) (happ : x.app = some a) (hside : x.side = some σ)
    {mo mood : Option String} (hr : rejectText x (.close mo mood) = none) {m : String}
    (htg : x.closeTarget mo = some m) {t : Time} {id : Val} {b : Bool}
    (hans : Event.frame c .closed b ∈ (g.sys.step (.recv c t id (.close mo mood))).out) :
    ¬ (x.mailbox = none ∧ (g.sys.db.Clash a m ∨ ((closePre g.sys x a m t).mbSidesOf m).length > 2)) ∧
    (closePre g.sys x a m t).PInv ∧ (closePre g.sys x a m t).HasBox a m ∧
    (closePre g.sys x a m t).findMbSide m σ ≠ none := by
  have hP := hI.cinv.toPInv
  obtain ⟨h1, h2, _⟩ := close_step hP hI.cinv.npHasSide hI.synced hx hr happ htg t id
  have hnot : ¬ (x.mailbox = none ∧ (g.sys.db.Clash a m ∨ ((closePre g.sys x a m t).mbSidesOf m).length > 2)) := by
    rintro ⟨hm, hcl | hcr⟩
    · rw [(h1 hm hcl).1] at hans
      simp at hans
    · by_cases hcl : g.sys.db.Clash a m
      · rw [(h1 hm hcl).1] at hans; simp at hans
      · obtain ⟨⟨cm, hcm, ho⟩, _⟩ := h2 hm hcl hcr
        rw [ho] at hans
        simp only [List.mem_cons, List.mem_append, List.not_mem_nil, or_false] at hans
        rcases hans with h | h | h
        · cases h
        · obtain ⟨w, hw'⟩ := hcm _ h; cases hw'
        · cases h
  refine ⟨hnot, ?_⟩
  unfold closePre
  rw [getD_of_side hside]
  cases hh : x.mailbox with
  | none =>
    simp only [if_true]
    exact ⟨hP.openDb σ t (fun hcl => hnot ⟨hh, Or.inl hcl⟩), Chan.openDb_hasBox _ _ _ _ _,
      Chan.openDb_findMbSide_ne_none _ _ _ _ _⟩
  | some h =>
    have : m = h := by simp [Conn.closeTarget, hh] at htg; exact htg.symm
    subst this
    simp only [reduceCtorEq, if_false]
    have hxm := findConn_mem hx
    obtain ⟨_, a', ha', m0, hm0, hi, hma⟩ := hI.conn.handle x hxm m hh
    rw [happ] at ha'; cases ha'
    refine ⟨hP, ⟨m0, hm0, hma, hi⟩, ?_⟩
    obtain ⟨r, hr0, k1, k2⟩ := hH x hxm m hh
    rw [getD_of_side hside] at k2
    intro hnone
    exact Chan.findMbSide_eq_none.1 hnone r hr0 ⟨k1, k2⟩

/-- **inversion, `close`.**  If the step answered `closed` (from a state in which every handle has its
    side row, `HandleRow`: an invariant of reachable states, Props/C05.lean) then the command resolved
    to a mailbox `m` (`closeTarget`), the output is exactly `ack, commits, closed`, and afterwards EITHER no
    mailbox row has id `m` (this close deleted it) OR the mailbox survives with another side open and
    this side's row closed with the given mood (`CloseSurvived`). -/
theorem orig_close {g : GSys} (hI : g.GInv) (hH : g.sys.HandleRow) {c : Nat} {x : Conn} {a σ : String}
    (hx : g.sys.findConn c = some x) (ha : x.app = some a) (hσ : x.side = some σ) {t : Time} {id : Val}
    {mo mood : Option String} {b : Bool}
    (hA : Event.frame c .closed b ∈ (g.sys.step (.recv c t id (.close mo mood))).out) :
    ∃ m, x.closeTarget mo = some m ∧
      (¬ (g.sys.step (.recv c t id (.close mo mood))).db.HasId m ∨
        (g.sys.step (.recv c t id (.close mo mood))).db.CloseSurvived a m σ mood) ∧
      ∃ commits, (∀ e ∈ commits, IsCommit e) ∧
        (g.sys.step (.recv c t id (.close mo mood))).out =
          .frame c (.ack id) true :: (commits ++ [.frame c .closed true]) := by
  have hr := not_rejected_of_frame hx hA (by simp) (by simp)
  obtain ⟨_, _, ⟨mb, hn⟩, _⟩ := close_accepted hr
  obtain ⟨tgt, htg⟩ : ∃ tgt, x.closeTarget mo = some tgt := by
    unfold Conn.closeTarget
    cases x.mailbox with
    | some h => exact ⟨h, rfl⟩
    | none => exact ⟨mb, hn⟩
  obtain ⟨hgo, hPD, hbox, hside⟩ := close_answered hI hH hx ha hσ hr htg hA
  obtain ⟨_, _, h3⟩ := close_step hI.cinv.toPInv hI.cinv.npHasSide hI.synced hx hr ha htg t id
  rw [getD_of_side hσ] at h3
  obtain ⟨hout, hdb, _⟩ := h3 hgo
  refine ⟨tgt, htg, ?_, hout⟩
  rw [hdb, Chan.closeDb_of_box hbox hside]
  by_cases hoo : (closePre g.sys x a tgt t).OtherOpen tgt σ
  · rw [if_pos hoo]
    exact Or.inr (Chan.CloseSurvived.of_closeSide hbox hside hoo)
  · rw [if_neg hoo]
    exact Or.inl (fun ⟨m0, hm0, hid⟩ => Chan.dropMailbox_noId hPD.mbIds hbox m0 hm0 hid)

end Sys
end Wormhole
