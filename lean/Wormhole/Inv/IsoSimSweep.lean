/-
  C06, two-run simulation: the sweep, and one operation.

  In the full run `prune_all_apps` walks over all apps in sorted order; pruning an app other
  than `b` is a stutter step for the relation (frame lemma `prune_frameB`, Inv/IsoFrameCore.lean),
  pruning `b` is matched by the prune of `b` in the other run, whose `get_all_apps` returns `[b]`
  or `[]`.
-/
import Wormhole.Inv.IsoSimWs
import Wormhole.Inv.IsoFrameWs
import Wormhole.Props.C17

namespace Wormhole

theorem eraseDups_const {b : String} : ∀ (l : List String), (∀ a ∈ l, a = b) → l.eraseDups = if l = [] then [] else [b]
  | [], _ => by simp
  | a :: as, h => by
    have ha : a = b := h a (by simp)
    subst ha
    rw [List.eraseDups_cons]
    have : List.filter (fun x => !x == a) as = [] := by
      rw [List.filter_eq_nil_iff]
      intro x hx
      simp [h x (by simp [hx])]
    rw [this]
    simp

namespace Sys

section stutter
variable {b : String} {ρ : Nat → Nat} {s₁ s₁' s₂ : Sys}

/-- a step of the full run that leaves everything of app `b` alone is a stutter step -/
theorem IsoRel.of_frameB_left (h : IsoRel b ρ s₁ s₂) (hf : FrameB b s₁ s₁') (hfr : s₁'.frames = s₁.frames) :
    IsoRel b ρ s₁' s₂ := by
  have hids : s₁'.db.npIdsB b = s₁.db.npIdsB b := by unfold Chan.npIdsB; rw [hf.db.nps]
  refine ⟨⟨?_, ?_, ?_, ?_, ?_, ?_⟩, hf.udb.symm.trans h.udb, ?_, hf.cfg.trans h.cfg, hfr.trans h.frames⟩
  · rw [hf.db.nps]; exact h.db.nps
  · rw [hf.db.npSides]; exact h.db.sides
  · rw [hids]; exact h.db.inj
  · rw [hf.db.mbs]; exact h.db.mbs
  · rw [hf.db.mbSides]; exact h.db.mbSides
  · rw [hf.db.msgs]; exact h.db.msgs
  · have hc : All2 (fun x' x => x'.id = x.id ∧ (x' = x ∨ (x'.other b ∧ x.app ≠ some b))) s₁'.conns s₁.conns :=
      hf.conns.flip
    refine hc.comp h.conns ?_
    intro x' x x₂ r1 r2
    rcases r1.2 with rfl | ⟨ho, hnb⟩
    · exact r2
    · refine ⟨r2.1.trans r1.1.symm, fun hno => (hno ho).elim, fun _ => ?_⟩
      by_cases hox : x.other b
      · exact r2.2.2 hox
      · have e := r2.2.1 hox
        rw [e]
        cases hxa : x.app with
        | none => rfl
        | some a =>
          exfalso
          apply hox
          exact ⟨a, hxa, fun e' => hnb (by rw [hxa, e'])⟩

end stutter

section sweep
variable {b : String} {ρ : Nat → Nat} {U : String → Prop} {t : Time} {S : Prop} {now old : Time}

/-- `prune_all_apps` of the full run over a duplicate-free list of apps, against the prune of
    `b` alone (if `b` is in the list) in the other run -/
theorem pruneApps_iso (hnow : now ≤ t) (hold : old < now) : ∀ (l : List String), l.Pairwise (fun x y => x ≠ y) →
    ∀ {s₁ s₂ : Sys}, IsoRel b ρ s₁ s₂ → s₁.Good U t S →
      ∃ a₁, s₁.pruneApps now old l = (a₁, true) ∧
        IsoRel b ρ a₁ (if b ∈ l then (s₂.prune b now old).1 else s₂)
  | [], _, s₁, s₂, h, _ => ⟨s₁, rfl, by simpa using h⟩
  | a :: rest, hd, s₁, s₂, h, hG => by
    unfold pruneApps
    cases e1 : s₁.prune a now old with
    | mk m₁ r1 =>
      obtain ⟨hG1, rfl, _, _⟩ := prune_good hG hnow hold e1
      dsimp only
      by_cases hab : a = b
      · obtain rfl : b = a := hab.symm
        obtain ⟨c₁, c₂, r, f₁, f₂, h1⟩ := prune_iso h hG.db.cinv.toPInv now old
        rw [e1] at f₁
        cases f₁
        -- `b` does not come again: the rest of the list are stutter steps
        obtain ⟨a₁, ea, h2⟩ := pruneApps_iso hnow hold rest (List.pairwise_cons.1 hd).2 h1 hG1
        rw [if_neg (fun hm => List.rel_of_pairwise_cons hd hm rfl)] at h2
        exact ⟨a₁, ea, by rw [if_pos List.mem_cons_self, f₂]; exact h2⟩
      · obtain ⟨a₁, ea, h2⟩ := pruneApps_iso hnow hold rest (List.pairwise_cons.1 hd).2
          (h.of_frameB_left (prune_frameB hG hab e1) (prune_spec e1).1.frames) hG1
        have hiff : (b ∈ a :: rest) ↔ (b ∈ rest) := by simp [Ne.symm hab]
        exact ⟨a₁, ea, by simp only [hiff]; exact h2⟩

/-- the apps of the projected run: `b`, if it has a row -/
theorem allApps_proj {s₁ s₂ : Sys} (h : IsoRel b ρ s₁ s₂) :
    s₂.allApps = if b ∈ s₁.allApps then [b] else [] := by
  -- the projected run has the app columns of the full run that are `b`
  have hmem : ∀ a, a ∈ s₂.db.nameplates.map (·.app) ++ s₂.db.mailboxes.map (·.app) ++ s₂.db.messages.map (·.app) ↔
      a = b ∧ a ∈ s₁.db.nameplates.map (·.app) ++ s₁.db.mailboxes.map (·.app) ++ s₁.db.messages.map (·.app) := by
    intro a
    rw [h.db.nps, h.db.mbs, h.db.msgs]
    simp only [List.mem_append, List.mem_map, Chan.npsB, Chan.mbsB, Chan.msgsB, List.mem_filter, decide_eq_true_eq]
    constructor
    · rintro ((⟨_, ⟨n, ⟨hn, e⟩, rfl⟩, rfl⟩ | ⟨n, ⟨hn, e⟩, rfl⟩) | ⟨n, ⟨hn, e⟩, rfl⟩)
      · exact ⟨e, Or.inl (Or.inl ⟨n, hn, rfl⟩)⟩
      · exact ⟨e, Or.inl (Or.inr ⟨n, hn, rfl⟩)⟩
      · exact ⟨e, Or.inr ⟨n, hn, rfl⟩⟩
    · rintro ⟨rfl, (⟨n, hn, e⟩ | ⟨n, hn, e⟩) | ⟨n, hn, e⟩⟩
      · exact Or.inl (Or.inl ⟨_, ⟨n, ⟨hn, e⟩, rfl⟩, e⟩)
      · exact Or.inl (Or.inr ⟨n, ⟨hn, e⟩, e⟩)
      · exact Or.inr ⟨n, ⟨hn, e⟩, e⟩
  have hb : b ∈ s₁.allApps ↔
      b ∈ s₁.db.nameplates.map (·.app) ++ s₁.db.mailboxes.map (·.app) ++ s₁.db.messages.map (·.app) := by
    unfold Sys.allApps
    rw [List.mem_mergeSort, List.mem_eraseDups]
  rw [Sys.allApps, eraseDups_const _ (fun a ha => ((hmem a).1 ha).1)]
  split
  · rename_i hnil
    rw [if_neg (fun hb' => List.ne_nil_of_mem ((hmem b).2 ⟨rfl, hb.1 hb'⟩) hnil)]
    simp
  · rename_i hne
    obtain ⟨a, ha⟩ := List.exists_mem_of_ne_nil _ hne
    obtain ⟨rfl, ha'⟩ := (hmem a).1 ha
    rw [if_pos (hb.2 ha')]
    simp

theorem allApps_pairwise (s : Sys) : s.allApps.Pairwise (fun x y => x ≠ y) := by
  unfold Sys.allApps
  rw [List.Perm.pairwise_iff (fun h => Ne.symm h) (List.mergeSort_perm _ _)]
  exact pairwise_ne_eraseDups _

theorem IsoRel.dumpStats {s₁ s₂ : Sys} (h : IsoRel b ρ s₁ s₂) (now : Time) :
    IsoRel b ρ (s₁.dumpStats now) (s₂.dumpStats now) := by
  unfold Sys.dumpStats
  rw [← h.cfg]
  split
  · apply IsoRel.ucommit
    exact ⟨h.db, ⟨h.udb.nps, h.udb.mbs, h.udb.clients⟩, h.conns, h.cfg, h.frames⟩
  · exact h

/-- one firing of `expire()` -/
theorem IW.expire {s₁ s₂ : Sys} (w : IW b s₁ s₂) (hG : s₁.Good U t S) (hnow : now ≤ t) (fault : Bool) :
    IW b (s₁.expire now fault) (s₂.expire now fault) := by
  obtain ⟨ρ, h⟩ := w.rel
  refine ⟨⟨ρ, ?_⟩, w.oka.expire now fault, w.okb.expire now fault⟩
  unfold Sys.expire
  dsimp only
  apply IsoRel.dumpStats
  have h0 := h.emit (.fired now (now - Generated.expirationTicks))
  have hG0 : (s₁.emit (.fired now (now - Generated.expirationTicks))).Good U t S := hG.emit _
  have hold : now - Generated.expirationTicks < now := Int.sub_lt_self now expirationTicks_pos
  cases fault with
  | true => exact h0.emit _
  | false =>
    simp only [Bool.false_eq_true, ↓reduceIte]
    have hnp₂ : (s₂.emit (.fired now (now - Generated.expirationTicks))).db.NpOk := w.okb.np
    obtain ⟨a₁, ea, h1⟩ := pruneApps_iso hnow hold _ (allApps_pairwise _) h0 hG0
    rw [ea, allApps_proj h0]
    dsimp only
    split at h1
    · rename_i hb
      rw [if_pos hb]
      cases eb : (s₂.emit (.fired now (now - Generated.expirationTicks))).prune b now (now - Generated.expirationTicks) with
      | mk b1 rb =>
        obtain rfl : rb = true := ((prune_spec eb).2 hnp₂).2.1
        rw [eb] at h1
        simp only [pruneApps, eb]
        exact h1
    · rename_i hb
      rw [if_neg hb]
      exact h1

end sweep

section step
variable {b : String}

/-- **matched step**: one plain operation that is not a command of another app, from related
    states; `s₁` is the state of the full run at the start of the step (cleared `out`) and
    satisfies the invariant `Full` at the operation's time `t`.  The guard `NoForeign` is the
    negation of K-global-mailbox-id for this command. -/
theorem IW.stepPlain {U : String → Prop} {t : Time} {S : Prop} {s₁ s₂ : Sys} (w : IW b s₁ s₂) (hF : s₁.Full U t S)
    (op : Op) (hcr : op.isCrash = false) (ht : ∀ t', op.time? = some t' → t' = t)
    (hno : s₁.otherOp b op = false)
    (hg : ∀ c t' id cmd x, op = .recv c t' id cmd → s₁.findConn c = some x → x.app = some b →
      NoForeign s₁.db b x cmd) :
    IW b (s₁.stepPlain op) (s₂.stepPlain op) := by
  cases op with
  | connect c => exact w.connect c
  | recv c t' id cmd =>
    exact w.onMessage hF.good.db.cinv.toPInv hF.ids c t' id cmd hno (fun x hx hxa => hg c t' id cmd x rfl hx hxa)
  | drop c => exact w.dropConn c
  | sweep now fault =>
    have := ht now rfl
    subst this
    exact w.expire hF.good (Int.le_refl _) fault
  | restart t' => exact w.restart t'
  | crashIn k op => simp [Op.isCrash] at hcr

end step

end Sys

end Wormhole
