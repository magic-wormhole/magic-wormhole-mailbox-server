/-
  Every function of Core.lean except `dump_stats` preserves an arbitrary relation `R` with the
  closure properties `SimRel R`, and returns the same result in both runs.

  Shape of the lemmas, from `R a b`: for a function returning a state, `R (a.f x) (b.f x)`; for a
  function returning `Sys × result`, `SimRes R (a.f x) (b.f x)`; for the functions whose `Bool`
  says "no exception escaped", `SimOk R (a.f x) (b.f x)` — that both runs return `true` is a
  ONE-run fact supplied by the callers from `SyncLemmas` (`pruneApps_spec`) and
  `mailboxClose_true` / `releaseNameplate_true` below.

  Every proof unfolds the function once and replaces `b.db` by `a.db`; from then on both runs
  branch on the same look-ups, and each branch is a chain of closure properties.
-/
import Wormhole.Inv.SimDefs

namespace Wormhole
namespace Sys

variable {R : Sys → Sys → Prop}

section
variable (hR : SimRel R) {a b : Sys}
include hR

theorem _root_.Wormhole.SimRel.db (h : R a b) : a.db = b.db := (hR.chan h).1
theorem _root_.Wormhole.SimRel.conns (h : R a b) : a.conns = b.conns := (hR.chan h).2.2

theorem updConn_sim (h : R a b) (c : Nat) (f : Conn → Conn) : R (a.updConn c f) (b.updConn c f) := by
  unfold Sys.updConn
  rw [← hR.conns h]
  exact hR.setConns h _

theorem stopListeners_sim (h : R a b) (app mb : String) :
    R (a.stopListeners app mb) (b.stopListeners app mb) := by
  unfold Sys.stopListeners
  rw [← hR.conns h]
  exact hR.setConns h _

theorem addMailbox_sim (h : R a b) (app mb : String) (forNp : Bool) (t : Time) :
    ORel R (a.addMailbox app mb forNp t) (b.addMailbox app mb forNp t) := by
  unfold Sys.addMailbox
  rw [← hR.db h]
  cases a.db.findMailbox app mb with
  | some _ => exact h
  | none =>
    dsimp only
    cases a.db.findMailboxById mb with
    | some _ => trivial
    | none => exact hR.modDb h _

theorem mailboxOpen_sim (h : R a b) (mb side : String) (t : Time) :
    R (a.mailboxOpen mb side t) (b.mailboxOpen mb side t) := by
  unfold Sys.mailboxOpen
  rw [← hR.db h]
  cases a.db.findMbSide mb side with
  | none => exact hR.commit (hR.modDb (hR.modDb h _) _)
  | some _ => exact hR.commit (hR.modDb h _)

theorem openMailbox_sim (h : R a b) (app mb side : String) (t : Time) :
    SimRes R (a.openMailbox app mb side t) (b.openMailbox app mb side t) := by
  unfold Sys.openMailbox
  refine (addMailbox_sim hR h app mb false t).elim ⟨h, rfl⟩ fun a0 b0 h0 => ?_
  have h2 := hR.commit (mailboxOpen_sim hR h0 mb side t)
  dsimp only
  rw [← hR.db h2]
  split <;> exact ⟨h2, rfl⟩

theorem addMessage_sim (h : R a b) (app mb side : String) (ph bd : Val) (t : Time) (id : Val) :
    R (a.addMessage app mb side ph bd t id) (b.addMessage app mb side ph bd t id) := by
  unfold Sys.addMessage
  exact hR.commit (hR.modDb (hR.modDb h _) _)

theorem uNps_sim (app : String) (t : Time) (l : List Nameplate) :
    ∀ {a b : Sys}, R a b → SimOk R (a.uNps app t l) (b.uNps app t l) := by
  induction l with
  | nil => intro a b h; exact .of_rel h
  | cons np rest ih =>
    intro a b h
    unfold uNps
    rw [← hR.db h]
    exact (SimOk.of_rel (hR.uNp h app _ t false)).bind ih

theorem mailboxClose_sim (h : R a b) (app mb side : String) (mood : Option String) (t : Time) :
    SimOk R (a.mailboxClose app mb side mood t) (b.mailboxClose app mb side mood t) := by
  rw [mailboxClose_eq, mailboxClose_eq, ← hR.db h]
  cases a.db.findMailbox app mb with
  | none => exact .of_rel h
  | some row =>
    dsimp only
    cases a.db.findMbSide mb side with
    | none => exact .of_rel h
    | some _ =>
      have h1 := hR.commit (hR.modDb h (·.closeSide mb side mood))
      dsimp only
      rw [← hR.db h1]
      split
      · exact .of_rel h1
      · exact (uNps_sim hR app t _ h1).bind fun h2 =>
          .of_rel (stopListeners_sim hR (hR.commit (hR.uCommit (hR.uMb (hR.modDb h2 _) _ _ _ _ _))) _ _)

theorem claimCont_sim (h : R a b) (app : String) (npid : Nat) (mb side : String) (t : Time) :
    SimRes R (claimCont a app npid mb side t) (claimCont b app npid mb side t) := by
  unfold claimCont
  dsimp only
  refine (openMailbox_sim hR (hR.commit h) app mb side t).elim fun a3 b3 r h3 => ?_
  cases r with
  | integrity => exact ⟨h3, rfl⟩
  | crowded => exact ⟨h3, rfl⟩
  | ok =>
    dsimp only
    rw [← hR.db h3]
    split <;> exact ⟨h3, rfl⟩

theorem claimTail_sim (h : R a b) (app : String) (npid : Nat) (mb side : String) (t : Time) :
    SimRes R (a.claimTail app npid mb side t) (b.claimTail app npid mb side t) := by
  rw [claimTail_eq, claimTail_eq, ← hR.db h]
  cases a.db.findNpSide npid side with
  | none => exact claimCont_sim hR (hR.modDb h _) app npid mb side t
  | some r =>
    dsimp only
    split
    · exact claimCont_sim hR h app npid mb side t
    · exact ⟨h, rfl⟩

theorem claimNameplate_sim (h : R a b) (app name side : String) (t : Time) (fresh : String) :
    SimRes R (a.claimNameplate app name side t fresh) (b.claimNameplate app name side t fresh) := by
  unfold Sys.claimNameplate
  rw [← hR.db h]
  cases a.db.findNameplate app name with
  | some row => exact claimTail_sim hR h app row.id row.mailbox side t
  | none =>
    refine (addMailbox_sim hR h app fresh true t).elim ⟨h, rfl⟩ fun a0 b0 h0 => ?_
    dsimp only
    rw [← hR.db h0]
    exact claimTail_sim hR (hR.modDb h0 _) app _ fresh side t

theorem releaseNameplate_sim (h : R a b) (app name side : String) (t : Time) :
    SimOk R (a.releaseNameplate app name side t) (b.releaseNameplate app name side t) := by
  rw [releaseNameplate_eq, releaseNameplate_eq, ← hR.db h]
  cases a.db.findNameplate app name with
  | none => exact .of_rel h
  | some np =>
    dsimp only
    cases a.db.findNpSide np.id side with
    | none => exact .of_rel h
    | some _ =>
      have h1 := hR.commit (hR.modDb h (·.unclaim np.id side))
      dsimp only
      rw [← hR.db h1]
      split
      · exact .of_rel h1
      · exact (SimOk.of_rel (hR.uNp (hR.modDb h1 _) app _ t false)).bind fun h3 =>
          .of_rel (hR.commit (hR.uCommit h3))

theorem touchListened_sim (h : R a b) (app : String) (now : Time) :
    R (a.touchListened app now) (b.touchListened app now) := by
  unfold Sys.touchListened Sys.listeners
  rw [← hR.conns h]
  exact hR.modDb h _

theorem pruneNameplates_sim (app : String) (now : Time) (l : List Nameplate) :
    ∀ {a b : Sys}, R a b → SimOk R (a.pruneNameplates app now l) (b.pruneNameplates app now l) := by
  induction l with
  | nil => intro a b h; exact .of_rel h
  | cons np rest ih =>
    intro a b h
    rw [pruneNameplates_cons, pruneNameplates_cons, ← hR.db h]
    exact (SimOk.of_rel (hR.uNp (hR.modDb h _) app _ now true)).bind ih

theorem pruneMailboxes_sim (app : String) (now : Time) (l : List MailboxRow) :
    ∀ {a b : Sys}, R a b → R (a.pruneMailboxes app now l) (b.pruneMailboxes app now l) := by
  induction l with
  | nil => intro a b h; exact h
  | cons row rest ih =>
    intro a b h
    rw [pruneMailboxes_cons, pruneMailboxes_cons, ← hR.db h]
    exact ih (hR.uMb (hR.modDb h _) _ _ _ _ _)

theorem prune_sim (h : R a b) (app : String) (now old : Time) :
    SimOk R (a.prune app now old) (b.prune app now old) := by
  have h1 := hR.commit (touchListened_sim hR h app now)
  rw [prune_eq, prune_eq]
  dsimp only
  rw [pruneRest_eq, pruneRest_eq, ← hR.db h1]
  refine (pruneNameplates_sim hR app now _ h1).bind fun h2 => ?_
  dsimp only
  split
  · exact .of_rel (hR.uCommit (hR.commit (pruneMailboxes_sim hR app now _ h2)))
  · exact .of_rel (pruneMailboxes_sim hR app now _ h2)

theorem pruneApps_sim (now old : Time) (l : List String) :
    ∀ {a b : Sys}, R a b → SimOk R (a.pruneApps now old l) (b.pruneApps now old l) := by
  induction l with
  | nil => intro a b h; exact .of_rel h
  | cons app rest ih =>
    intro a b h
    rw [pruneApps_cons, pruneApps_cons]
    exact (prune_sim hR h app now old).bind ih

/-- from states whose nameplate tables are in order no `IndexError` is caught in either run,
    whatever the usage option -/
theorem pruneApps_simTrue (h : R a b) (hn : a.db.NpOk) (now old : Time) (l : List String) :
    SimTrue R (a.pruneApps now old l) (b.pruneApps now old l) :=
  have ta : (a.pruneApps now old l).2 = true := ((pruneApps_spec l rfl).2 hn).2.1
  have tb : (b.pruneApps now old l).2 = true := ((pruneApps_spec l rfl).2 (hR.db h ▸ hn)).2.1
  ⟨pruneApps_sim hR now old l h ta tb, ta, tb⟩

theorem expireCore_sim (h : R a b) (hn : a.db.NpOk) (now : Time) (fault : Bool) :
    R (a.expireCore now fault) (b.expireCore now fault) := by
  unfold Sys.expireCore
  dsimp only
  have h0 := hR.emit h (.fired now (now - Generated.expirationTicks))
  cases fault with
  | true => exact hR.emit h0 _
  | false =>
    simp only [Bool.false_eq_true, ↓reduceIte]
    rw [← allApps_congr (hR.db h0)]
    exact (pruneApps_simTrue hR h0 hn now _ _).elim fun a1 b1 h1 => h1

end

/-! ### one-run: the `Bool`s are `true` -/

/-- `Mailbox.close` raises nothing when every nameplate has a side row -/
theorem mailboxClose_true (s : Sys) (app mb side : String) (mood : Option String) (t : Time)
    (hs : s.db.NpHasSide) : (s.mailboxClose app mb side mood t).2 = true := by
  rw [mailboxClose_eq]
  cases s.db.findMailbox app mb with
  | none => rfl
  | some row =>
    dsimp only
    cases s.db.findMbSide mb side with
    | none => rfl
    | some r =>
      dsimp only
      split
      · rfl
      · refine snd_bind_true (uNps_true fun n hn => ?_) fun _ => rfl
        have hm : n ∈ (s.db.closeSide mb side mood).nameplates := by
          simpa using (List.mem_filter.1 hn).1
        simpa using npSidesOf_ne_nil (d := s.db.closeSide mb side mood) hs hm

/-- `release_nameplate` raises nothing -/
theorem releaseNameplate_true (s : Sys) (app name side : String) (t : Time) :
    (s.releaseNameplate app name side t).2 = true := by
  rw [releaseNameplate_eq]
  cases s.db.findNameplate app name with
  | none => rfl
  | some np =>
    dsimp only
    cases hf : s.db.findNpSide np.id side with
    | none => rfl
    | some r =>
      dsimp only
      split
      · rfl
      · exact snd_bind_true ((uNp_spec _ app _ t false).2 (by simpa using npSidesOf_unclaim_ne_nil hf))
          fun _ => rfl

end Sys
end Wormhole
