/-
  Commit discipline of Core.lean (server.py), function by function.

  For every function we record
  * what it does to the four database components `db / disk / udb / udisk`
    (in particular: on return `db = disk` and `udb = udisk`, on EVERY path);
  * that it emits no frame (`frames` unchanged) and leaves `cfg` alone;
  * that it preserves `Chan.NpOk` (Inv/NpOk.lean), which is what rules out the two paths
    that would return with uncommitted writes (`ReclaimedError` after the INSERT of a new
    nameplate; `IndexError` in `_summarize_nameplate_usage`).
  `Sys.Ok` (every frame of the step sent synced, nothing uncommitted, `NpOk`) is kept by every
  handler and every plain operation; a crashed step emits a prefix of the uncrashed one.
-/
import Wormhole.Inv.NpOk
import Wormhole.Inv.WsBodies

namespace Wormhole

theorem Op.isCrash_cases (op : Op) : op.isCrash = false ∨ ∃ k op', op = .crashIn k op' := by
  cases op <;> simp [Op.isCrash]

def Event.isFrame : Event → Bool
  | .frame _ _ _ => true
  | _ => false

namespace Sys

def frames (s : Sys) : List Event := s.out.filter Event.isFrame

def FramesOk (s : Sys) : Prop := ∀ e ∈ s.out, ∀ c f b, e = Event.frame c f b → b = true

theorem framesOk_iff (s : Sys) :
    s.FramesOk ↔ ∀ e ∈ s.frames, ∀ c f b, e = Event.frame c f b → b = true := by
  simp only [FramesOk, frames, List.mem_filter]
  constructor
  · intro h e he; exact h e he.1
  · intro h e he c f b hb
    exact h e ⟨he, by subst hb; rfl⟩ c f b hb

theorem FramesOk.of_frames {s s' : Sys} (h : s'.frames = s.frames) (hs : s.FramesOk) : s'.FramesOk := by
  rw [framesOk_iff] at hs ⊢; rw [h]; exact hs

theorem synced_iff (s : Sys) : s.synced = true ↔ s.Synced := by
  simp [synced, Synced]

section prim
variable (s : Sys)

@[simp] theorem modDb_db (f) : (s.modDb f).db = f s.db := rfl
@[simp] theorem modDb_disk (f) : (s.modDb f).disk = s.disk := rfl
@[simp] theorem modDb_udb (f) : (s.modDb f).udb = s.udb := rfl
@[simp] theorem modDb_udisk (f) : (s.modDb f).udisk = s.udisk := rfl
@[simp] theorem modDb_cfg (f) : (s.modDb f).cfg = s.cfg := rfl
@[simp] theorem modDb_frames (f) : (s.modDb f).frames = s.frames := rfl
@[simp] theorem modDb_conns (f) : (s.modDb f).conns = s.conns := rfl

@[simp] theorem modUdb_db (f) : (s.modUdb f).db = s.db := rfl
@[simp] theorem modUdb_disk (f) : (s.modUdb f).disk = s.disk := rfl
@[simp] theorem modUdb_udb (f) : (s.modUdb f).udb = f s.udb := rfl
@[simp] theorem modUdb_udisk (f) : (s.modUdb f).udisk = s.udisk := rfl
@[simp] theorem modUdb_cfg (f) : (s.modUdb f).cfg = s.cfg := rfl
@[simp] theorem modUdb_frames (f) : (s.modUdb f).frames = s.frames := rfl
@[simp] theorem modUdb_conns (f) : (s.modUdb f).conns = s.conns := rfl

@[simp] theorem updConn_db (c f) : (s.updConn c f).db = s.db := rfl
@[simp] theorem updConn_disk (c f) : (s.updConn c f).disk = s.disk := rfl
@[simp] theorem updConn_udb (c f) : (s.updConn c f).udb = s.udb := rfl
@[simp] theorem updConn_udisk (c f) : (s.updConn c f).udisk = s.udisk := rfl
@[simp] theorem updConn_cfg (c f) : (s.updConn c f).cfg = s.cfg := rfl
@[simp] theorem updConn_frames (c f) : (s.updConn c f).frames = s.frames := rfl
@[simp] theorem updConn_out (c f) : (s.updConn c f).out = s.out := rfl

@[simp] theorem stopListeners_db (a m) : (s.stopListeners a m).db = s.db := rfl
@[simp] theorem stopListeners_disk (a m) : (s.stopListeners a m).disk = s.disk := rfl
@[simp] theorem stopListeners_udb (a m) : (s.stopListeners a m).udb = s.udb := rfl
@[simp] theorem stopListeners_udisk (a m) : (s.stopListeners a m).udisk = s.udisk := rfl
@[simp] theorem stopListeners_cfg (a m) : (s.stopListeners a m).cfg = s.cfg := rfl
@[simp] theorem stopListeners_frames (a m) : (s.stopListeners a m).frames = s.frames := rfl

@[simp] theorem emit_db (e) : (s.emit e).db = s.db := rfl
@[simp] theorem emit_disk (e) : (s.emit e).disk = s.disk := rfl
@[simp] theorem emit_udb (e) : (s.emit e).udb = s.udb := rfl
@[simp] theorem emit_udisk (e) : (s.emit e).udisk = s.udisk := rfl
@[simp] theorem emit_cfg (e) : (s.emit e).cfg = s.cfg := rfl
@[simp] theorem emit_out (e) : (s.emit e).out = s.out ++ [e] := rfl
theorem emit_frames (e) : (s.emit e).frames = s.frames ++ (if e.isFrame then [e] else []) := by
  simp only [frames, emit_out, List.filter_append, List.filter_cons, List.filter_nil]

@[simp] theorem commit_db : s.commit.db = s.db := by unfold commit; split <;> rfl
@[simp] theorem commit_disk : s.commit.disk = s.db := by unfold commit; split <;> simp_all
@[simp] theorem commit_udb : s.commit.udb = s.udb := by unfold commit; split <;> rfl
@[simp] theorem commit_udisk : s.commit.udisk = s.udisk := by unfold commit; split <;> rfl
@[simp] theorem commit_cfg : s.commit.cfg = s.cfg := by unfold commit; split <;> rfl
@[simp] theorem commit_conns : s.commit.conns = s.conns := by unfold commit; split <;> rfl
@[simp] theorem commit_frames : s.commit.frames = s.frames := by
  unfold commit; split
  · rfl
  · simp [frames, List.filter_append, Event.isFrame]

@[simp] theorem ucommit_db : s.ucommit.db = s.db := by unfold ucommit; split <;> rfl
@[simp] theorem ucommit_disk : s.ucommit.disk = s.disk := by unfold ucommit; split <;> rfl
@[simp] theorem ucommit_udb : s.ucommit.udb = s.udb := by unfold ucommit; split <;> rfl
@[simp] theorem ucommit_udisk : s.ucommit.udisk = s.udb := by unfold ucommit; split <;> simp_all
@[simp] theorem ucommit_cfg : s.ucommit.cfg = s.cfg := by unfold ucommit; split <;> rfl
@[simp] theorem ucommit_conns : s.ucommit.conns = s.conns := by unfold ucommit; split <;> rfl
@[simp] theorem ucommit_frames : s.ucommit.frames = s.frames := by
  unfold ucommit; split
  · rfl
  · simp [frames, List.filter_append, Event.isFrame]

end prim

/-! ### usage summaries -/

theorem summarizeNameplate_isSome (blur : Time → Time) (added : List Time) (t : Time) (p : Bool)
    (h : added ≠ []) : ∃ u, summarizeNameplate blur added t p = some u := by
  unfold summarizeNameplate
  split
  · rename_i e
    have := List.length_mergeSort (le := fun a b : Time => decide (a ≤ b)) added
    unfold sortTimes at e
    rw [e] at this
    cases added <;> simp_all
  · exact ⟨_, rfl⟩

/-- `s1` differs from `s` by pending usage writes only (and, unseen here, in `conns`, `out`, `snaps`) -/
structure UOnly (s s1 : Sys) : Prop where
  db : s1.db = s.db
  disk : s1.disk = s.disk
  udisk : s1.udisk = s.udisk
  cfg : s1.cfg = s.cfg
  frames : s1.frames = s.frames

theorem UOnly.refl (s : Sys) : UOnly s s := ⟨rfl, rfl, rfl, rfl, rfl⟩
theorem UOnly.trans {a b c : Sys} (h1 : UOnly a b) (h2 : UOnly b c) : UOnly a c :=
  ⟨h2.db.trans h1.db, h2.disk.trans h1.disk, h2.udisk.trans h1.udisk, h2.cfg.trans h1.cfg,
   h2.frames.trans h1.frames⟩

def UdbOnly (s s' : Sys) : Prop := ∃ u, s' = { s with udb := u }

theorem UdbOnly.refl (s : Sys) : UdbOnly s s := ⟨s.udb, rfl⟩
theorem UdbOnly.trans {a b c : Sys} (h1 : UdbOnly a b) (h2 : UdbOnly b c) : UdbOnly a c := by
  obtain ⟨u, rfl⟩ := h1
  obtain ⟨v, rfl⟩ := h2
  exact ⟨v, rfl⟩

section udbOnly
variable {s s' : Sys} (h : UdbOnly s s')
include h
theorem UdbOnly.db : s'.db = s.db := by obtain ⟨u, rfl⟩ := h; rfl
theorem UdbOnly.disk : s'.disk = s.disk := by obtain ⟨u, rfl⟩ := h; rfl
theorem UdbOnly.udisk : s'.udisk = s.udisk := by obtain ⟨u, rfl⟩ := h; rfl
theorem UdbOnly.snaps : s'.snaps = s.snaps := by obtain ⟨u, rfl⟩ := h; rfl
theorem UdbOnly.conns : s'.conns = s.conns := by obtain ⟨u, rfl⟩ := h; rfl
theorem UdbOnly.cfg : s'.cfg = s.cfg := by obtain ⟨u, rfl⟩ := h; rfl
theorem UdbOnly.out : s'.out = s.out := by obtain ⟨u, rfl⟩ := h; rfl
theorem UdbOnly.uonly : UOnly s s' := by obtain ⟨u, rfl⟩ := h; exact ⟨rfl, rfl, rfl, rfl, rfl⟩
end udbOnly

theorem storeNameplateUsage_udbOnly (s : Sys) (app sides t p) :
    UdbOnly s (s.storeNameplateUsage app sides t p).1 := by
  unfold storeNameplateUsage
  split
  · exact UdbOnly.refl _
  · exact ⟨_, rfl⟩

theorem storeMailboxUsage_udbOnly (s : Sys) (app forNp sides t p) :
    UdbOnly s (s.storeMailboxUsage app forNp sides t p) := ⟨_, rfl⟩

/-- `_summarize_nameplate_and_store` raises `IndexError` only on an empty list of side rows -/
theorem storeNameplateUsage_ok {s : Sys} {app sides t p} (hne : sides ≠ []) :
    (s.storeNameplateUsage app sides t p).2 = true := by
  obtain ⟨u, hu⟩ := summarizeNameplate_isSome s.blurTime (sides.map (·.added)) t p (by simpa using hne)
  simp [storeNameplateUsage, hu]

theorem storeNameplateUsage_spec {s s1 : Sys} {app sides t p b}
    (h : s.storeNameplateUsage app sides t p = (s1, b)) :
    UOnly s s1 ∧ (sides ≠ [] → b = true) := by
  have u := storeNameplateUsage_udbOnly s app sides t p
  have ok := storeNameplateUsage_ok (s := s) (app := app) (sides := sides) (t := t) (p := p)
  rw [h] at u ok
  exact ⟨u.uonly, ok⟩

theorem storeMailboxUsage_uonly (s : Sys) (app forNp sides t p) :
    UOnly s (s.storeMailboxUsage app forNp sides t p) := ⟨rfl, rfl, rfl, rfl, rfl⟩

/-! ### Mailbox -/

section mailbox
variable (s : Sys)

@[simp] theorem mailboxOpen_disk (mb side t) : (s.mailboxOpen mb side t).disk = (s.mailboxOpen mb side t).db := by
  simp [mailboxOpen]
@[simp] theorem mailboxOpen_udb (mb side t) : (s.mailboxOpen mb side t).udb = s.udb := by
  unfold mailboxOpen; split <;> simp
@[simp] theorem mailboxOpen_udisk (mb side t) : (s.mailboxOpen mb side t).udisk = s.udisk := by
  unfold mailboxOpen; split <;> simp
@[simp] theorem mailboxOpen_cfg (mb side t) : (s.mailboxOpen mb side t).cfg = s.cfg := by
  unfold mailboxOpen; split <;> simp
@[simp] theorem mailboxOpen_frames (mb side t) : (s.mailboxOpen mb side t).frames = s.frames := by
  unfold mailboxOpen; split <;> simp
@[simp] theorem mailboxOpen_npPart (mb side t) : (s.mailboxOpen mb side t).db.npPart = s.db.npPart := by
  unfold mailboxOpen; split <;> simp

end mailbox

/-- `s1` differs from `s` by channel writes (committed or not) that leave the nameplate tables alone -/
structure DOnly (s s1 : Sys) : Prop where
  udb : s1.udb = s.udb
  udisk : s1.udisk = s.udisk
  cfg : s1.cfg = s.cfg
  frames : s1.frames = s.frames
  np : s1.db.npPart = s.db.npPart

theorem DOnly.refl (s : Sys) : DOnly s s := ⟨rfl, rfl, rfl, rfl, rfl⟩
theorem DOnly.trans {a b c : Sys} (h1 : DOnly a b) (h2 : DOnly b c) : DOnly a c :=
  ⟨h2.udb.trans h1.udb, h2.udisk.trans h1.udisk, h2.cfg.trans h1.cfg, h2.frames.trans h1.frames,
   h2.np.trans h1.np⟩

theorem addMailbox_spec {s s1 : Sys} {app mb forNp t} (h : s.addMailbox app mb forNp t = some s1) :
    DOnly s s1 ∧ s1.disk = s.disk := by
  unfold addMailbox at h
  split at h
  · cases h; exact ⟨DOnly.refl _, rfl⟩
  · split at h
    · cases h
    · cases h; exact ⟨⟨rfl, rfl, rfl, rfl, rfl⟩, rfl⟩

/-- `open_mailbox`: an IntegrityError leaves everything as it was; every other path
    (including `CrowdedError`) returns after the commit -/
theorem openMailbox_spec {s s1 : Sys} {app mb side t r} (h : s.openMailbox app mb side t = (s1, r)) :
    DOnly s s1 ∧ (r = .integrity → s1 = s) ∧ (r ≠ .integrity → s1.disk = s1.db) := by
  unfold openMailbox at h
  split at h
  · cases h
    exact ⟨DOnly.refl _, fun _ => rfl, fun h => absurd rfl h⟩
  · rename_i s0 e
    have hd : DOnly s ((s0.mailboxOpen mb side t).commit) :=
      (addMailbox_spec e).1.trans ⟨by simp, by simp, by simp, by simp, by simp⟩
    dsimp only at h
    split at h <;>
    · cases h
      exact ⟨hd, by simp, by simp⟩

section addmsg
variable (s : Sys)
@[simp] theorem addMessage_disk (app mb side ph bd t id) :
    (s.addMessage app mb side ph bd t id).disk = (s.addMessage app mb side ph bd t id).db := by
  simp [addMessage]
theorem addMessage_donly (app mb side ph bd t id) : DOnly s (s.addMessage app mb side ph bd t id) := by
  constructor <;> simp [addMessage]
end addmsg

theorem storeNameplatesOfMailbox_spec {app t} (l : List Nameplate) :
    ∀ {s s1 : Sys} {b}, s.storeNameplatesOfMailbox app t l = (s1, b) →
      UdbOnly s s1 ∧ ((∀ n ∈ l, s.db.npSidesOf n.id ≠ []) → b = true) := by
  induction l with
  | nil =>
    intro s s1 b h
    cases h
    exact ⟨UdbOnly.refl _, fun _ => rfl⟩
  | cons np rest ih =>
    intro s s1 b h
    unfold storeNameplatesOfMailbox at h
    have u0 := storeNameplateUsage_udbOnly s app (s.db.npSidesOf np.id) t false
    have ok := storeNameplateUsage_ok (s := s) (app := app) (sides := s.db.npSidesOf np.id) (t := t) (p := false)
    split at h
    all_goals
      rename_i s0 e
      rw [e] at u0 ok
    · cases h
      exact ⟨u0, fun hall => ok (hall np (by simp))⟩
    · obtain ⟨u1, hb⟩ := ih h
      refine ⟨u0.trans u1, fun hall => hb fun n hn => ?_⟩
      rw [u0.db]
      exact hall n (by simp [hn])

theorem npSidesOf_ne_nil {d : Chan} (h : d.NpHasSide) {n : Nameplate} (hn : n ∈ d.nameplates) :
    d.npSidesOf n.id ≠ [] := by
  obtain ⟨r, hr, e⟩ := h n hn
  intro h0
  have : r ∈ d.npSidesOf n.id := by simp [Chan.npSidesOf, List.mem_filter, hr, e]
  rw [h0] at this
  simp at this

/-- `s1` is reached from `s` without sending anything -/
structure Quiet (s s1 : Sys) : Prop where
  cfg : s1.cfg = s.cfg
  frames : s1.frames = s.frames

theorem Quiet.refl (s : Sys) : Quiet s s := ⟨rfl, rfl⟩
theorem Quiet.trans {a b c : Sys} (h1 : Quiet a b) (h2 : Quiet b c) : Quiet a c :=
  ⟨h2.cfg.trans h1.cfg, h2.frames.trans h1.frames⟩
theorem UOnly.quiet {s s1 : Sys} (h : UOnly s s1) : Quiet s s1 := ⟨h.cfg, h.frames⟩
theorem DOnly.quiet {s s1 : Sys} (h : DOnly s s1) : Quiet s s1 := ⟨h.cfg, h.frames⟩

/-- the usage records of repair F in `Mailbox.close`, written only when there is a usage database -/
theorem closeStore_udbOnly {s s2 : Sys} {app t l ok}
    (h : (if s.cfg.usage then s.storeNameplatesOfMailbox app t l else (s, true)) = (s2, ok)) :
    UdbOnly s s2 ∧ ((∀ n ∈ l, s.db.npSidesOf n.id ≠ []) → ok = true) ∧ (s.cfg.usage = false → s2 = s) := by
  split at h
  · rename_i hu
    obtain ⟨u, hb⟩ := storeNameplatesOfMailbox_spec l h
    exact ⟨u, hb, by simp [hu]⟩
  · cases h
    exact ⟨UdbOnly.refl _, fun _ => rfl, fun _ => rfl⟩

theorem closeStore_spec {s s2 : Sys} {app t l ok}
    (h : (if s.cfg.usage then s.storeNameplatesOfMailbox app t l else (s, true)) = (s2, ok)) :
    UOnly s s2 ∧ ((∀ n ∈ l, s.db.npSidesOf n.id ≠ []) → ok = true) ∧
      (s.cfg.usage = false → s2.udb = s.udb) := by
  obtain ⟨u, hb, hno⟩ := closeStore_udbOnly h
  exact ⟨u.uonly, hb, fun hu => by rw [hno hu]⟩

/-- the four ways `Mailbox.close` ends: nothing to close; another side still open (the UPDATE and its commit
    only); the `IndexError` of the usage loop; the deletion -/
@[elab_as_elim] theorem mailboxClose_cases {motive : Sys × Bool → Prop} (s : Sys) (app mb side : String)
    (mood : Option String) (t : Time)
    (skip : s.db.findMailbox app mb = none ∨ s.db.findMbSide mb side = none → motive (s, true))
    (upd : ∀ row s1, s.db.findMailbox app mb = some row → s1 = (s.modDb (·.closeSide mb side mood)).commit →
      (s1.db.mbSidesOf mb).any (·.opened) = true → motive (s1, true))
    (fail : ∀ row s1 s2, s.db.findMailbox app mb = some row → s1 = (s.modDb (·.closeSide mb side mood)).commit →
      (s1.db.mbSidesOf mb).any (·.opened) = false →
      (if s1.cfg.usage then s1.storeNameplatesOfMailbox app t (s1.db.nameplatesOfMailbox app mb) else (s1, true)) =
        (s2, false) →
      motive (s2, false))
    (del : ∀ row s1 s2 s3, s.db.findMailbox app mb = some row →
      s1 = (s.modDb (·.closeSide mb side mood)).commit → (s1.db.mbSidesOf mb).any (·.opened) = false →
      (if s1.cfg.usage then s1.storeNameplatesOfMailbox app t (s1.db.nameplatesOfMailbox app mb) else (s1, true)) =
        (s2, true) →
      s3 = s2.modDb (fun d =>
        ((((d.delNpSidesOfMailbox app mb).delNameplatesOfMailbox app mb).delMessagesOf mb).delMbSidesOf
          mb).delMailbox mb) →
      motive (((if s3.cfg.usage then (s3.storeMailboxUsage app row.forNp (s1.db.mbSidesOf mb) t false).ucommit
        else s3).commit).stopListeners app mb, true)) :
    motive (s.mailboxClose app mb side mood t) := by
  unfold mailboxClose
  split
  · exact skip (.inl ‹_›)
  · rename_i row hrow
    split
    · exact skip (.inr ‹_›)
    · dsimp only
      split
      · exact upd row _ hrow rfl ‹_›
      · rename_i hany
        generalize hE : (if ((s.modDb _).commit).cfg.usage then _ else _) = p
        obtain ⟨s2, ok⟩ := p
        cases ok
        · exact fail row _ s2 hrow rfl (by simpa using hany) hE
        · exact del row _ s2 _ hrow rfl (by simpa using hany) hE rfl

/-- `Mailbox.close`: returns with nothing uncommitted on every path, provided every nameplate
    has a side row (otherwise the `IndexError` of repair F's loop escapes with usage rows pending) -/
theorem mailboxClose_spec {s s1 : Sys} {app mb side mood t b}
    (h : s.mailboxClose app mb side mood t = (s1, b)) :
    Quiet s s1 ∧ (s.db.NpOk → s1.db.NpOk) ∧ (s.Synced → s.db.NpHasSide → s1.Synced) := by
  revert h
  refine mailboxClose_cases s app mb side mood t ?_ ?_ ?_ ?_
  · rintro _ ⟨⟩
    exact ⟨Quiet.refl _, id, fun h _ => h⟩
  · rintro _ _ _ rfl _ ⟨⟩
    exact ⟨⟨by simp, by simp⟩, fun hn => hn.of_npPart (by simp), fun hs _ => by simpa [Synced] using hs.2⟩
  · rintro _ _ s₂ _ rfl _ hE ⟨⟩
    obtain ⟨u, hok, -⟩ := closeStore_udbOnly hE
    simp only [commit_db, modDb_db] at hok
    refine ⟨⟨by simp [u.cfg], by simp [u.uonly.frames]⟩, fun hn => hn.of_npPart (by simp [u.db]),
      fun _ hh => ?_⟩
    have : false = true := hok fun n hn =>
      npSidesOf_ne_nil (d := s.db.closeSide mb side mood) hh (List.mem_filter.1 hn).1
    cases this
  · rintro _ _ s₂ _ _ rfl _ hE rfl ⟨⟩
    obtain ⟨u, -, hno⟩ := closeStore_udbOnly hE
    have u1 := u.db
    have u4 := u.cfg
    have u5 := u.uonly.frames
    simp only [commit_db, commit_cfg, commit_frames, modDb_db, modDb_cfg, modDb_frames] at u1 u4 u5 hno
    refine ⟨?_, fun hn => (hn.delOfMailbox app mb).of_npPart ?_, fun hs _ => ⟨by simp, ?_⟩⟩
    · constructor
      · split <;> simp [u4, storeMailboxUsage]
      · split <;> simp [u5, storeMailboxUsage]
    · split
      · simp [u1, storeMailboxUsage]; rfl
      · simp [u1]; rfl
    · split
      · simp
      · rename_i hu
        simp only [modDb_cfg, u4, Bool.not_eq_true] at hu
        simp [hno hu, hs.2]

/-! ### AppNamespace -/

section lcv
variable (s : Sys)
@[simp] theorem logClientVersion_db (a sd t i v) : (s.logClientVersion a sd t i v).db = s.db := by
  unfold logClientVersion; split <;> simp
@[simp] theorem logClientVersion_disk (a sd t i v) : (s.logClientVersion a sd t i v).disk = s.disk := by
  unfold logClientVersion; split <;> simp
@[simp] theorem logClientVersion_cfg (a sd t i v) : (s.logClientVersion a sd t i v).cfg = s.cfg := by
  unfold logClientVersion; split <;> simp
@[simp] theorem logClientVersion_frames (a sd t i v) : (s.logClientVersion a sd t i v).frames = s.frames := by
  unfold logClientVersion; split <;> simp
@[simp] theorem logClientVersion_conns (a sd t i v) : (s.logClientVersion a sd t i v).conns = s.conns := by
  unfold logClientVersion; split <;> simp
theorem logClientVersion_usync (a sd t i v) (h : s.udb = s.udisk) :
    (s.logClientVersion a sd t i v).udb = (s.logClientVersion a sd t i v).udisk := by
  unfold logClientVersion; split <;> simp [h]
end lcv

/-- the continuation of `claim_nameplate` after the side row is known to be there:
    `db.commit()`, `open_mailbox`, the crowding check -/
def claimCont (s1 : Sys) (app : String) (npid : Nat) (mb side : String) (t : Time) : Sys × ClaimRes :=
  let s2 := s1.commit
  match s2.openMailbox app mb side t with
  | (s3, .integrity) => (s3, .integrity)
  | (s3, .crowded) => (s3, .crowded)
  | (s3, .ok) => if (s3.db.npSidesOf npid).length > 2 then (s3, .crowded) else (s3, .ok mb)

theorem claimTail_eq (s : Sys) (app : String) (npid : Nat) (mb side : String) (t : Time) :
    s.claimTail app npid mb side t =
      match s.db.findNpSide npid side with
      | none => claimCont (s.modDb (·.insNpSide ⟨npid, true, side, t⟩)) app npid mb side t
      | some r => if r.claimed then claimCont s app npid mb side t else (s, .reclaimed) := rfl

/-- every path through the continuation returns after a commit (`CrowdedError` and the
    IntegrityError of `_add_mailbox` included) -/
theorem claimCont_spec {s s1 : Sys} {app npid mb side t r} (h : claimCont s app npid mb side t = (s1, r)) :
    DOnly s s1 ∧ s1.disk = s1.db ∧ r ≠ .reclaimed := by
  unfold claimCont at h
  dsimp only at h
  split at h
  all_goals
    rename_i s3 e
    obtain ⟨d, hi, hni⟩ := openMailbox_spec e
    have d' : DOnly s s3 := DOnly.trans ⟨by simp, by simp, by simp, by simp, by simp⟩ d
  · cases h
    refine ⟨d', ?_, by simp⟩
    rw [hi rfl]; simp
  · cases h
    exact ⟨d', hni (by simp), by simp⟩
  · split at h <;>
    · cases h
      exact ⟨d', hni (by simp), by simp⟩

/-- `s1` is reached from `s` by channel writes only -/
structure CQuiet (s s1 : Sys) : Prop where
  udb : s1.udb = s.udb
  udisk : s1.udisk = s.udisk
  cfg : s1.cfg = s.cfg
  frames : s1.frames = s.frames

theorem DOnly.cquiet {s s1 : Sys} (h : DOnly s s1) : CQuiet s s1 := ⟨h.udb, h.udisk, h.cfg, h.frames⟩
theorem CQuiet.refl (s : Sys) : CQuiet s s := ⟨rfl, rfl, rfl, rfl⟩
theorem CQuiet.trans {a b c : Sys} (h1 : CQuiet a b) (h2 : CQuiet b c) : CQuiet a c :=
  ⟨h2.udb.trans h1.udb, h2.udisk.trans h1.udisk, h2.cfg.trans h1.cfg, h2.frames.trans h1.frames⟩
theorem CQuiet.quiet {s s1 : Sys} (h : CQuiet s s1) : Quiet s s1 := ⟨h.cfg, h.frames⟩
theorem CQuiet.modDb (s : Sys) (f) : CQuiet s (s.modDb f) := ⟨rfl, rfl, rfl, rfl⟩

/-- `claim_nameplate`: `ReclaimedError` is raised before any write (`s1 = s`); every other
    path returns after a commit.  A `ReclaimedError` right after the INSERT of a new nameplate
    row would leave that row uncommitted; it cannot happen because no side row carries the
    fresh id. -/
theorem claimNameplate_spec {s s1 : Sys} {app name side t fresh r}
    (h : s.claimNameplate app name side t fresh = (s1, r)) (hb : s.db.IdsBounded) :
    CQuiet s s1 ∧ (s.db.NpOk → s1.db.NpOk) ∧ (s.db = s.disk → s1.db = s1.disk) := by
  unfold claimNameplate at h
  split at h
  · split at h
    · cases h
      exact ⟨CQuiet.refl _, id, id⟩
    · rename_i s0 e
      obtain ⟨d0, _⟩ := addMailbox_spec e
      have hfresh : (s0.modDb (·.insNameplate app name fresh)).db.findNpSide s0.db.nextNp side = none :=
        (hb.of_npPart d0.np).findNpSide_fresh side
      dsimp only at h
      rw [claimTail_eq, hfresh] at h
      dsimp only at h
      obtain ⟨d1, hd, _⟩ := claimCont_spec h
      refine ⟨d0.cquiet.trans ((CQuiet.modDb _ _).trans ((CQuiet.modDb _ _).trans d1.cquiet)), fun hn => ?_,
        fun _ => hd.symm⟩
      exact ((hn.of_npPart d0.np).insNew app name fresh side true t).of_npPart (by rw [d1.np]; rfl)
  · rename_i row e
    have hrow : row ∈ s.db.nameplates := List.mem_of_find?_eq_some e
    rw [claimTail_eq] at h
    split at h
    · obtain ⟨d1, hd, _⟩ := claimCont_spec h
      refine ⟨(CQuiet.modDb _ _).trans d1.cquiet, fun hn => ?_, fun _ => hd.symm⟩
      exact (hn.insNpSide ⟨row.id, true, side, t⟩ (hb.1 row hrow)).of_npPart (by rw [d1.np]; rfl)
    · split at h
      · obtain ⟨d1, hd, _⟩ := claimCont_spec h
        exact ⟨d1.cquiet, fun hn => hn.of_npPart d1.np, fun _ => hd.symm⟩
      · cases h
        exact ⟨CQuiet.refl _, id, id⟩

theorem npSidesOf_unclaim_ne_nil {d : Chan} {npid : Nat} {side : String} {r : NpSide}
    (h : d.findNpSide npid side = some r) : (d.unclaim npid side).npSidesOf npid ≠ [] := by
  have hr : r ∈ d.npSides := List.mem_of_find?_eq_some h
  have hp := List.find?_some h
  simp only [decide_eq_true_eq] at hp
  intro h0
  have : ({ r with claimed := false } : NpSide) ∈ (d.unclaim npid side).npSidesOf npid := by
    simp only [Chan.npSidesOf, Chan.unclaim, List.mem_filter, List.mem_map, decide_eq_true_eq]
    exact ⟨⟨r, hr, by simp [hp]⟩, hp.1⟩
  rw [h0] at this
  simp at this

/-- the four ways `release_nameplate` ends: nothing to release; other claimants remain (the UPDATE and its commit
    only); the deletion with its usage record; the deletion without usage database.  The `IndexError` of the usage
    record is not among them: the side row found by the second SELECT is one of the rows summarized -/
@[elab_as_elim] theorem releaseNameplate_cases {motive : Sys × Bool → Prop} (s : Sys) (app name side : String)
    (t : Time)
    (skip : (∀ np, s.db.findNameplate app name = some np → s.db.findNpSide np.id side = none) → motive (s, true))
    (upd : ∀ np r s1, s.db.findNameplate app name = some np → s.db.findNpSide np.id side = some r →
      s1 = (s.modDb (·.unclaim np.id side)).commit → (s1.db.npSidesOf np.id).any (·.claimed) = true →
      motive (s1, true))
    (rec : ∀ np r s1 s2 s3, s.db.findNameplate app name = some np → s.db.findNpSide np.id side = some r →
      s1 = (s.modDb (·.unclaim np.id side)).commit → (s1.db.npSidesOf np.id).any (·.claimed) = false →
      s2 = s1.modDb (fun d => (d.delNpSidesOf np.id).delNameplate np.id) → s2.cfg.usage = true →
      s2.storeNameplateUsage app (s1.db.npSidesOf np.id) t false = (s3, true) → motive (s3.ucommit.commit, true))
    (del : ∀ np r s1 s2, s.db.findNameplate app name = some np → s.db.findNpSide np.id side = some r →
      s1 = (s.modDb (·.unclaim np.id side)).commit → (s1.db.npSidesOf np.id).any (·.claimed) = false →
      s2 = s1.modDb (fun d => (d.delNpSidesOf np.id).delNameplate np.id) → s2.cfg.usage = false →
      motive (s2.commit, true)) :
    motive (s.releaseNameplate app name side t) := by
  unfold releaseNameplate
  split
  · rename_i e
    exact skip fun np h => by rw [e] at h; cases h
  · rename_i np hnp
    split
    · rename_i e
      exact skip fun np' h => by rw [hnp] at h; cases h; exact e
    · rename_i r hr
      dsimp only
      split
      · exact upd np r _ hnp hr rfl ‹_›
      · rename_i hany
        split
        · rename_i hu
          split
          · rename_i s3 e
            cases (storeNameplateUsage_spec e).2 (by simpa using npSidesOf_unclaim_ne_nil hr)
          · rename_i s3 e
            exact rec np r _ _ s3 hnp hr rfl (by simpa using hany) rfl hu e
        · rename_i hu
          exact del np r _ _ hnp hr rfl (by simpa using hany) rfl (by simpa using hu)

/-- `release_nameplate`: returns with nothing uncommitted on every path (the side row found by
    the first SELECT is among the rows summarized, so `IndexError` cannot be raised here) -/
theorem releaseNameplate_spec {s s1 : Sys} {app name side t b}
    (h : s.releaseNameplate app name side t = (s1, b)) :
    Quiet s s1 ∧ (s.db.NpOk → s1.db.NpOk) ∧ (s.Synced → s1.Synced) := by
  revert h
  refine releaseNameplate_cases s app name side t ?_ ?_ ?_ ?_
  · rintro _ ⟨⟩
    exact ⟨Quiet.refl _, id, id⟩
  · rintro np _ _ _ _ rfl _ ⟨⟩
    exact ⟨⟨by simp, by simp⟩, fun hn => by simpa using hn.unclaim np.id side,
      fun hs => by simpa [Synced] using hs.2⟩
  · rintro np _ _ _ s3 _ _ rfl _ rfl _ e ⟨⟩
    obtain ⟨u, _⟩ := storeNameplateUsage_spec e
    exact ⟨⟨by simp [u.cfg], by simp [u.frames]⟩,
      fun hn => by simpa [u.db] using (hn.unclaim np.id side).delById np.id, fun _ => by simp [Synced]⟩
  · rintro np _ _ _ _ _ rfl _ rfl _ ⟨⟩
    exact ⟨⟨by simp, by simp⟩, fun hn => by simpa using (hn.unclaim np.id side).delById np.id,
      fun hs => by simpa [Synced] using hs.2⟩

/-! ### prune -/

structure Pending (s s1 : Sys) : Prop where
  disk : s1.disk = s.disk
  udisk : s1.udisk = s.udisk
  cfg : s1.cfg = s.cfg
  frames : s1.frames = s.frames
  nousage : s.cfg.usage = false → s1.udb = s.udb

theorem Pending.refl (s : Sys) : Pending s s := ⟨rfl, rfl, rfl, rfl, fun _ => rfl⟩
theorem Pending.trans {a b c : Sys} (h1 : Pending a b) (h2 : Pending b c) : Pending a c :=
  ⟨h2.disk.trans h1.disk, h2.udisk.trans h1.udisk, h2.cfg.trans h1.cfg, h2.frames.trans h1.frames,
   fun h => (h2.nousage (by rw [h1.cfg]; exact h)).trans (h1.nousage h)⟩
theorem Pending.modDb (s : Sys) (f) : Pending s (s.modDb f) := ⟨rfl, rfl, rfl, rfl, fun _ => rfl⟩
theorem Pending.of_uonly {s s1 : Sys} (u : UOnly s s1) (hu : s.cfg.usage = true) : Pending s s1 :=
  ⟨u.disk, u.udisk, u.cfg, u.frames, fun h0 => by simp_all⟩

theorem pruneNameplates_spec {app now} (l : List Nameplate) :
    ∀ {s s1 : Sys} {b}, s.pruneNameplates app now l = (s1, b) →
      Pending s s1 ∧
      (s.db.NpOk → (∀ n ∈ l, n ∈ s.db.nameplates) → l.Pairwise (fun a b => ¬ a.id = b.id) →
        s1.db.NpOk ∧ b = true) := by
  induction l with
  | nil =>
    intro s s1 b h
    cases h
    exact ⟨Pending.refl _, fun hn _ _ => ⟨hn, rfl⟩⟩
  | cons np rest ih =>
    intro s s1 b h
    unfold pruneNameplates at h
    dsimp only at h
    -- the hypotheses hold again after the two DELETEs (the ids of `rest` differ from `np.id`)
    have key : ∀ s0 : Sys, s0.db = (s.modDb fun d => (d.delNpSidesOf np.id).delNameplate np.id).db →
        s.db.NpOk → (∀ n ∈ np :: rest, n ∈ s.db.nameplates) →
        (np :: rest).Pairwise (fun a b => ¬ a.id = b.id) →
        s0.db.NpOk ∧ (∀ n ∈ rest, n ∈ s0.db.nameplates) ∧ rest.Pairwise (fun a b => ¬ a.id = b.id) := by
      intro s0 e hn hmem hpw
      rw [List.pairwise_cons] at hpw
      rw [e]
      refine ⟨hn.delById np.id, fun n hnr => ?_, hpw.2⟩
      simp only [modDb_db, Chan.delNameplate, Chan.delNpSidesOf, List.mem_filter, decide_not,
        Bool.not_eq_eq_eq_not, Bool.not_true, decide_eq_false_iff_not]
      exact ⟨hmem n (by simp [hnr]), fun e' => hpw.1 n hnr e'.symm⟩
    split at h
    · rename_i hu
      split at h
      all_goals
        rename_i s2 e
        obtain ⟨u, hok⟩ := storeNameplateUsage_spec e
        have p1 : Pending s s2 := (Pending.modDb _ _).trans (.of_uonly u hu)
      · cases h
        refine ⟨p1, fun hn hmem _ => ?_⟩
        have := hok (npSidesOf_ne_nil hn.hasSide (hmem np (by simp)))
        simp at this
      · obtain ⟨p2, hrest⟩ := ih h
        refine ⟨p1.trans p2, fun hn hmem hpw => ?_⟩
        obtain ⟨k1, k2, k3⟩ := key s2 u.db hn hmem hpw
        exact hrest k1 k2 k3
    · obtain ⟨p2, hrest⟩ := ih h
      refine ⟨(Pending.modDb _ _).trans p2, fun hn hmem hpw => ?_⟩
      obtain ⟨k1, k2, k3⟩ := key _ rfl hn hmem hpw
      exact hrest k1 k2 k3

theorem pruneMailboxes_spec {app now} (l : List MailboxRow) :
    ∀ (s : Sys), Pending s (s.pruneMailboxes app now l) ∧
      (s.pruneMailboxes app now l).db.npPart = s.db.npPart := by
  induction l with
  | nil => intro s; exact ⟨Pending.refl _, rfl⟩
  | cons row rest ih =>
    intro s
    unfold pruneMailboxes
    dsimp only
    split
    · rename_i hu
      obtain ⟨p, hnp⟩ := ih ((s.modDb fun d => ((d.delMessagesOf row.id).delMbSidesOf row.id).delMailbox row.id).storeMailboxUsage
        app row.forNp (s.db.mbSidesOf row.id) now true)
      exact ⟨((Pending.modDb _ _).trans (.of_uonly (storeMailboxUsage_uonly ..) hu)).trans p, by rw [hnp]; rfl⟩
    · obtain ⟨p, hnp⟩ := ih (s.modDb fun d => ((d.delMessagesOf row.id).delMbSidesOf row.id).delMailbox row.id)
      exact ⟨(Pending.modDb _ _).trans p, by rw [hnp]; rfl⟩

/-- `prune` after its first commit -/
def pruneRest (s1 : Sys) (app : String) (now : Time) (oldMb : List MailboxRow) (oldNp : List Nameplate) :
    Sys × Bool :=
  match s1.pruneNameplates app now oldNp with
  | (s2, false) => (s2, false)
  | (s2, true) =>
    let s3 := s2.pruneMailboxes app now oldMb
    if oldNp ≠ [] ∨ oldMb ≠ [] then
      let s4 := s3.commit
      (if s4.cfg.usage then s4.ucommit else s4, true)
    else (s3, true)

theorem prune_eq (s : Sys) (app : String) (now old : Time) :
    s.prune app now old =
      let s1 := (s.touchListened app now).commit
      let oldMb := (s1.db.mailboxesOfApp app).filter (fun r => ¬ r.updated > old)
      let oldNp := (s1.db.nameplatesOfApp app).filter (fun r => r.mailbox ∈ oldMb.map (·.id))
      pruneRest s1 app now oldMb oldNp := rfl

theorem pruneRest_spec {s s1 : Sys} {app now oldMb oldNp b}
    (h : pruneRest s app now oldMb oldNp = (s1, b)) :
    Quiet s s1 ∧
    (s.db.NpOk → (∀ n ∈ oldNp, n ∈ s.db.nameplates) → oldNp.Pairwise (fun a b => ¬ a.id = b.id) →
      s1.db.NpOk ∧ b = true ∧ (s.Synced → s1.Synced)) := by
  unfold pruneRest at h
  split at h
  all_goals
    rename_i s2 e
    obtain ⟨p, hk⟩ := pruneNameplates_spec _ e
  · cases h
    refine ⟨⟨p.cfg, p.frames⟩, fun hn hmem hpw => ?_⟩
    have := (hk hn hmem hpw).2
    simp at this
  · obtain ⟨p3, hnp⟩ := pruneMailboxes_spec (app := app) (now := now) oldMb s2
    have p' := p.trans p3
    dsimp only at h
    split at h
    · cases h
      refine ⟨⟨by split <;> simp [p'.cfg], by split <;> simp [p'.frames]⟩, fun hn hmem hpw => ⟨?_, rfl, fun hs => ?_⟩⟩
      · have := ((hk hn hmem hpw).1).of_npPart hnp
        split <;> simpa using this
      · refine ⟨by split <;> simp, ?_⟩
        split
        · simp
        · rename_i hu
          simp only [commit_cfg, p'.cfg, Bool.not_eq_true] at hu
          simp [p'.nousage hu, p'.udisk, hs.2]
    · -- both lists are empty: nothing was done
      rename_i hne
      simp only [ne_eq, not_or, Decidable.not_not] at hne
      obtain ⟨rfl, rfl⟩ := hne
      cases e
      cases h
      exact ⟨Quiet.refl _, fun hn _ _ => ⟨hn, rfl, id⟩⟩

/-- `AppNamespace.prune`: with unique nameplate ids and a side row for every nameplate it
    does not fail, and returns with nothing uncommitted -/
theorem prune_spec {s s1 : Sys} {app now old b} (h : s.prune app now old = (s1, b)) :
    Quiet s s1 ∧ (s.db.NpOk → s1.db.NpOk ∧ b = true ∧ (s.Synced → s1.Synced)) := by
  rw [prune_eq] at h
  dsimp only at h
  obtain ⟨q, hk⟩ := pruneRest_spec h
  refine ⟨⟨by simpa [touchListened] using q.cfg, by simpa [touchListened] using q.frames⟩, fun hn => ?_⟩
  have hn0 : ((s.touchListened app now).commit).db.NpOk := hn.of_npPart (by simp [touchListened]; rfl)
  obtain ⟨k1, k2, k3⟩ := hk hn0 (fun n hn => (List.mem_filter.1 (List.mem_filter.1 hn).1).1)
    (List.Pairwise.filter _ (List.Pairwise.filter _ hn0.ids))
  exact ⟨k1, k2, fun hs => k3 ⟨by simp, by simpa [touchListened] using hs.2⟩⟩

theorem pruneApps_spec {now old} (l : List String) :
    ∀ {s s1 : Sys} {b}, s.pruneApps now old l = (s1, b) →
      Quiet s s1 ∧ (s.db.NpOk → s1.db.NpOk ∧ b = true ∧ (s.Synced → s1.Synced)) := by
  induction l with
  | nil =>
    intro s s1 b h
    cases h
    exact ⟨Quiet.refl _, fun hn => ⟨hn, rfl, id⟩⟩
  | cons app rest ih =>
    intro s s1 b h
    unfold pruneApps at h
    split at h
    all_goals
      rename_i s2 e
      obtain ⟨q, hk⟩ := prune_spec e
    · cases h
      refine ⟨q, fun hn => ?_⟩
      have := (hk hn).2.1
      simp at this
    · obtain ⟨q2, hk2⟩ := ih h
      refine ⟨q.trans q2, fun hn => ?_⟩
      obtain ⟨a1, _, a3⟩ := hk hn
      obtain ⟨b1, b2, b3⟩ := hk2 a1
      exact ⟨b1, b2, fun hs => b3 (a3 hs)⟩

section dump
variable (s : Sys)
@[simp] theorem dumpStats_db (now) : (s.dumpStats now).db = s.db := by
  unfold dumpStats; split <;> simp
@[simp] theorem dumpStats_disk (now) : (s.dumpStats now).disk = s.disk := by
  unfold dumpStats; split <;> simp
@[simp] theorem dumpStats_cfg (now) : (s.dumpStats now).cfg = s.cfg := by
  unfold dumpStats; split <;> simp
@[simp] theorem dumpStats_frames (now) : (s.dumpStats now).frames = s.frames := by
  unfold dumpStats; split <;> simp
theorem dumpStats_usync (now) (h : s.udb = s.udisk) : (s.dumpStats now).udb = (s.dumpStats now).udisk := by
  unfold dumpStats; split <;> simp [h]
end dump

/-! ### the invariant of C09 between and inside steps -/

/-- every frame of the current step was sent in a synced state, nothing is uncommitted now,
    and the nameplate tables are in order -/
structure Ok (s : Sys) : Prop where
  frames : s.FramesOk
  synced : s.Synced
  np : s.db.NpOk

theorem Ok.of_quiet {s s1 : Sys} (h : s.Ok) (q : Quiet s s1) (hs : s1.Synced) (hn : s1.db.NpOk) : s1.Ok :=
  ⟨h.frames.of_frames q.frames, hs, hn⟩

theorem Ok.send {s : Sys} (h : s.Ok) (c : Nat) (f : Frame) : (s.send c f).Ok := by
  refine ⟨?_, h.synced, h.np⟩
  intro e he c' f' b hb
  simp only [Sys.send, emit_out, List.mem_append, List.mem_singleton] at he
  rcases he with he | rfl
  · exact h.frames e he c' f' b hb
  · cases hb
    exact (synced_iff s).2 h.synced

theorem Ok.sendError {s : Sys} (h : s.Ok) (c : Nat) (t : String) : (s.sendError c t).Ok := h.send c _

theorem Ok.emit {s : Sys} (h : s.Ok) (e : Event) (he : e.isFrame = false) : (s.emit e).Ok := by
  refine ⟨?_, h.synced, h.np⟩
  apply h.frames.of_frames
  rw [emit_frames]; simp [he]

theorem Ok.internalErr {s : Sys} (h : s.Ok) (c : Nat) (cls : String) : (s.internalErr c cls).Ok :=
  h.emit _ rfl

theorem Ok.updConn {s : Sys} (h : s.Ok) (c : Nat) (f : Conn → Conn) : (s.updConn c f).Ok :=
  ⟨h.frames, h.synced, h.np⟩

theorem Ok.pruneApps {s s1 : Sys} (h : s.Ok) {now old l b} (e : s.pruneApps now old l = (s1, b)) : s1.Ok := by
  obtain ⟨q, hk⟩ := pruneApps_spec _ e
  obtain ⟨a1, _, a3⟩ := hk h.np
  exact h.of_quiet q (a3 h.synced) a1

theorem Ok.expire {s : Sys} (h : s.Ok) (now : Time) (fault : Bool) : (s.expire now fault).Ok := by
  unfold Sys.expire
  dsimp only
  have h0 := h.emit (.fired now (now - Generated.expirationTicks)) rfl
  have key : ∀ s1 : Sys, s1.Ok → (s1.dumpStats now).Ok := fun s1 h1 =>
    ⟨h1.frames.of_frames (by simp), ⟨by simpa using h1.synced.1, dumpStats_usync _ _ h1.synced.2⟩,
      by simpa using h1.np⟩
  apply key
  split
  · exact h0.emit _ rfl
  · split
    · rename_i e; exact h0.pruneApps e
    · rename_i e; exact (h0.pruneApps e).emit _ rfl

theorem Ok.claimNameplate {s s1 : Sys} (h : s.Ok) {app name side t fresh r}
    (e : s.claimNameplate app name side t fresh = (s1, r)) : s1.Ok := by
  obtain ⟨q, hn, hd⟩ := claimNameplate_spec e h.np.bounded
  refine h.of_quiet q.quiet ⟨hd h.synced.1, ?_⟩ (hn h.np)
  rw [q.udb, q.udisk]; exact h.synced.2

theorem Ok.releaseNameplate {s s1 : Sys} (h : s.Ok) {app name side t b}
    (e : s.releaseNameplate app name side t = (s1, b)) : s1.Ok := by
  obtain ⟨q, hn, hs⟩ := releaseNameplate_spec e
  exact h.of_quiet q (hs h.synced) (hn h.np)

theorem Ok.openMailbox {s s1 : Sys} (h : s.Ok) {app mb side t r}
    (e : s.openMailbox app mb side t = (s1, r)) : s1.Ok := by
  obtain ⟨d, hi, hni⟩ := openMailbox_spec e
  by_cases hr : r = .integrity
  · rw [hi hr]; exact h
  · refine h.of_quiet d.quiet ⟨(hni hr).symm, ?_⟩ (h.np.of_npPart d.np)
    rw [d.udb, d.udisk]; exact h.synced.2

theorem Ok.mailboxClose {s s1 : Sys} (h : s.Ok) {app mb side mood t b}
    (e : s.mailboxClose app mb side mood t = (s1, b)) : s1.Ok := by
  obtain ⟨q, hn, hs⟩ := mailboxClose_spec e
  exact h.of_quiet q (hs h.synced h.np.hasSide) (hn h.np)

theorem Ok.addMessage {s : Sys} (h : s.Ok) (app mb side ph bd t id) :
    (s.addMessage app mb side ph bd t id).Ok := by
  have d := addMessage_donly s app mb side ph bd t id
  refine h.of_quiet d.quiet ⟨by simp, ?_⟩ (h.np.of_npPart d.np)
  rw [d.udb, d.udisk]; exact h.synced.2

theorem Ok.logClientVersion {s : Sys} (h : s.Ok) (a sd t i v) : (s.logClientVersion a sd t i v).Ok :=
  ⟨h.frames.of_frames (by simp), ⟨by simpa using h.synced.1, logClientVersion_usync _ _ _ _ _ _ h.synced.2⟩,
    by simpa using h.np⟩

/-! ### server_websocket.py -/

theorem Ok.handlePing {s : Sys} (h : s.Ok) (c v) : (s.handlePing c v).Ok := by
  unfold Sys.handlePing; split
  · exact h.sendError _ _
  · exact h.send _ _

theorem Ok.handleBind {s : Sys} (h : s.Ok) (x t a sd i v) : (s.handleBind x t a sd i v).Ok := by
  unfold Sys.handleBind
  split
  · exact h.sendError _ _
  · split
    · exact h.sendError _ _
    · split
      · exact h.sendError _ _
      · exact (h.updConn _ _).logClientVersion _ _ _ _ _

theorem Ok.handleList {s : Sys} (h : s.Ok) (x app) : (s.handleList x app).Ok := h.send _ _

theorem Ok.handleAllocate {s : Sys} (h : s.Ok) (x app side t pick draws fresh) :
    (s.handleAllocate x app side t pick draws fresh).Ok := by
  unfold Sys.handleAllocate
  split
  · exact h.sendError _ _
  · split
    · exact h.internalErr _ _
    · split
      all_goals
        rename_i s1 _ e
        have h1 := h.claimNameplate e
      · exact (h1.updConn _ _).send _ _
      · exact h1.internalErr _ _
      · exact h1.internalErr _ _
      · exact h1.internalErr _ _

theorem Ok.handleClaim {s : Sys} (h : s.Ok) (x app side t n fresh) :
    (s.handleClaim x app side t n fresh).Ok := by
  unfold Sys.handleClaim
  split
  · exact h.sendError _ _
  · split
    · exact h.sendError _ _
    · dsimp only
      split
      all_goals
        rename_i e
        have h1 := (h.updConn _ _).claimNameplate e
      · exact h1.send _ _
      · exact h1.sendError _ _
      · exact h1.sendError _ _
      · exact h1.internalErr _ _

theorem Ok.releaseWith {s : Sys} (h : s.Ok) (x app side t name) : (s.releaseWith x app side t name).Ok := by
  unfold Sys.releaseWith
  split
  all_goals
    rename_i e
    have h1 := (h.updConn _ _).releaseNameplate e
  · exact h1.send _ _
  · exact h1.internalErr _ _

theorem Ok.handleRelease {s : Sys} (h : s.Ok) (x app side t n) :
    (s.handleRelease x app side t n).Ok := by
  rw [handleRelease_eq]
  split
  · exact h.sendError _ _
  · split
    · split
      · exact h.sendError _ _
      · exact h.releaseWith _ _ _ _ _
    · exact h.releaseWith _ _ _ _ _
    · exact h.releaseWith _ _ _ _ _
    · exact h.sendError _ _

theorem Ok.replay {s : Sys} (h : s.Ok) (c app mb) : (s.replay c app mb).Ok :=
  replay_closed (T := Ok) (fun _ c f h => h.send c f) h c app mb

theorem Ok.broadcast {s : Sys} (h : s.Ok) (app mb f) : (s.broadcast app mb f).Ok :=
  broadcast_closed (T := Ok) (fun _ c f h => h.send c f) h app mb f

theorem Ok.handleOpen {s : Sys} (h : s.Ok) (x app side t m) : (s.handleOpen x app side t m).Ok := by
  unfold Sys.handleOpen
  split
  · exact h.sendError _ _
  · split
    · exact h.sendError _ _
    · dsimp only
      split
      all_goals
        rename_i e
        have h1 := (h.updConn _ _).openMailbox e
      · exact h1.sendError _ _
      · exact h1.internalErr _ _
      · exact (h1.updConn _ _).replay _ _ _

theorem Ok.handleAdd {s : Sys} (h : s.Ok) (x app side t id ph bd) :
    (s.handleAdd x app side t id ph bd).Ok := by
  unfold Sys.handleAdd
  split
  · exact h.sendError _ _
  · split
    · exact h.sendError _ _
    · split
      · exact h.sendError _ _
      · exact (h.addMessage _ _ _ _ _ _ _).broadcast _ _ _

theorem Ok.closeOpened {s : Sys} (h : s.Ok) (x app side t mb) : (s.closeOpened x app side t mb).1.Ok := by
  unfold Sys.closeOpened
  split
  · exact h
  · split
    rename_i e
    exact (h.openMailbox e).updConn _ _

theorem Ok.closeFinish (x app side t mood) (p : Sys × OpenRes × String) (h1 : p.1.Ok) :
    (closeFinish x app side t mood p).Ok := by
  obtain ⟨s1, r, hd⟩ := p
  cases r
  · dsimp only [Sys.closeFinish]
    split
    all_goals
      rename_i e
      have h3 := (h1.updConn _ _).mailboxClose e
    · exact h3.internalErr _ _
    · exact (h3.updConn _ _).send _ _
  · exact h1.sendError _ _
  · exact h1.internalErr _ _

theorem Ok.handleClose {s : Sys} (h : s.Ok) (x app side t m mood) :
    (s.handleClose x app side t m mood).Ok := by
  rw [handleClose_eq]
  have go (mb : String) := Ok.closeFinish x app side t mood _ (h.closeOpened x app side t mb)
  split
  · exact h.sendError _ _
  · split
    · split
      · exact h.sendError _ _
      · exact go _
    · exact go _
    · exact go _
    · exact h.sendError _ _

theorem Ok.handleBound {s : Sys} (h : s.Ok) (c x app t id cmd) : (s.handleBound c x app t id cmd).Ok := by
  cases cmd with
  | list => exact h.handleList _ _
  | allocate pick draws fresh => exact h.handleAllocate _ _ _ _ _ _ _
  | claim n fresh => exact h.handleClaim _ _ _ _ _ _
  | release n => exact h.handleRelease _ _ _ _ _
  | open_ m => exact h.handleOpen _ _ _ _ _
  | add ph bd => exact h.handleAdd _ _ _ _ _ _ _
  | close m mood => exact h.handleClose _ _ _ _ _ _
  | _ => exact h.sendError _ _

theorem Ok.onMessage {s : Sys} (h : s.Ok) (c t id cmd) : (s.onMessage c t id cmd).Ok := by
  rw [onMessage_dispatch]
  split
  · exact h
  · have ha := h.send c (.ack id)
    split
    · exact h.sendError _ _
    · exact ha.handlePing _ _
    · exact ha.handleBind _ _ _ _ _ _
    · split
      · exact ha.sendError _ _
      · exact ha.handleBound _ _ _ _ _ _

theorem Ok.connect {s : Sys} (h : s.Ok) (c : Nat) : (s.connect c).Ok := by
  unfold Sys.connect
  exact Ok.send (s := { s with conns := s.conns ++ [({ id := c } : Conn)] }) ⟨h.frames, h.synced, h.np⟩ _ _

theorem Ok.dropConn {s : Sys} (h : s.Ok) (c : Nat) : (s.dropConn c).Ok := ⟨h.frames, h.synced, h.np⟩

theorem Ok.restart {s : Sys} (h : s.Ok) (t : Time) : (s.restart t).Ok := by
  refine ⟨h.frames, ⟨rfl, rfl⟩, ?_⟩
  show s.disk.NpOk
  rw [← h.synced.1]; exact h.np

/-- every operation, run from a state with nothing uncommitted, sends all its frames in
    synced states and ends with nothing uncommitted (`crashIn` is the identity of `stepPlain`) -/
theorem Ok.stepPlain {s : Sys} (h : s.Ok) (op : Op) : (s.stepPlain op).Ok := by
  cases op with
  | connect c => exact h.connect c
  | recv c t id cmd => exact h.onMessage c t id cmd
  | drop c => exact h.dropConn c
  | sweep now fault => exact h.expire now fault
  | restart t => exact h.restart t
  | crashIn k op => exact h

theorem Ok.clear {s : Sys} (hs : s.Synced) (hn : s.db.NpOk) : ({ s with out := [], snaps := [] } : Sys).Ok :=
  ⟨by intro e he; simp at he, hs, hn⟩

theorem step_eq_of_not_crash (s : Sys) {op : Op} (h : op.isCrash = false) :
    s.step op = ({ s with out := [], snaps := [] } : Sys).stepPlain op := by
  cases op <;> first | rfl | simp [Op.isCrash] at h

theorem Ok.step {s : Sys} (hs : s.Synced) (hn : s.db.NpOk) {op : Op} (h : op.isCrash = false) :
    (s.step op).Ok := by
  rw [step_eq_of_not_crash s h]
  exact (Ok.clear hs hn).stepPlain op

/-! ### crashes -/

theorem cutAtCommit_isPrefix : ∀ (k : Nat) (l : List Event), cutAtCommit k l <+: l
  | 0, l => by cases l <;> exact List.nil_prefix
  | _ + 1, [] => List.nil_prefix
  | k + 1, .commit _ :: rest => (List.prefix_cons_inj _).2 (cutAtCommit_isPrefix k rest)
  | k + 1, .frame .. :: rest => (List.prefix_cons_inj _).2 (cutAtCommit_isPrefix (k + 1) rest)
  | k + 1, .internal .. :: rest => (List.prefix_cons_inj _).2 (cutAtCommit_isPrefix (k + 1) rest)
  | k + 1, .fired .. :: rest => (List.prefix_cons_inj _).2 (cutAtCommit_isPrefix (k + 1) rest)

theorem mem_cutAtCommit (k : Nat) (l : List Event) (e : Event) (he : e ∈ cutAtCommit k l) : e ∈ l :=
  (cutAtCommit_isPrefix k l).subset he

theorem step_crash_synced (s : Sys) (k : Nat) (op : Op) : (s.step (.crashIn k op)).Synced := by
  unfold Sys.step
  dsimp only
  split <;> exact ⟨rfl, rfl⟩

theorem step_crash_out_subset (s : Sys) (k : Nat) (op : Op) {e : Event} (he : e ∈ (s.step (.crashIn k op)).out) :
    e ∈ (({ s with out := [], snaps := [] } : Sys).stepPlain op).out := by
  unfold Sys.step at he
  dsimp only at he
  split at he
  · cases he
  · exact mem_cutAtCommit _ _ e he
  · exact he

theorem step_crash_framesOk {s : Sys} (hs : s.Synced) (hn : s.db.NpOk) (k : Nat) (op : Op) :
    (s.step (.crashIn k op)).FramesOk :=
  fun e he => ((Ok.clear hs hn).stepPlain op).frames e (step_crash_out_subset s k op he)

end Sys
end Wormhole
