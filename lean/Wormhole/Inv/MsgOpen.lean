/-
  The accepted `open`: when `open_mailbox` answers ok (as a function of the database), and the
  exact output of the step (ack, commits, one `message` frame per stored row, ordered by `rx`).
-/
import Wormhole.Inv.MsgWs

namespace Wormhole

/-- what `AppNamespace.open_mailbox(m, σ)` under app `a` answers, as a function of the database:
    `integrity` when the id exists under another app (K-global-mailbox-id), `crowded` when the
    mailbox would have more than two side rows (K-crowded-rejoin), `ok` otherwise -/
def Chan.openRes (d : Chan) (a m σ : String) : Sys.OpenRes :=
  if d.findMailbox a m = none ∧ d.findMailboxById m ≠ none then .integrity
  else if (d.mbSidesOf m).length + (if d.findMbSide m σ = none then 1 else 0) > 2 then .crowded
  else .ok

namespace Sys

theorem addMailbox_none_iff (s : Sys) (a m : String) (f : Bool) (t : Time) :
    s.addMailbox a m f t = none ↔ s.db.findMailbox a m = none ∧ s.db.findMailboxById m ≠ none := by
  unfold addMailbox
  split
  · simp_all
  · split <;> simp_all

theorem addMailbox_mbSides {s s1 : Sys} {a m : String} {f : Bool} {t : Time}
    (h : s.addMailbox a m f t = some s1) : s1.db.mbSides = s.db.mbSides := by
  unfold addMailbox at h
  split at h
  · cases h; rfl
  · split at h
    · cases h
    · cases h; rfl

theorem mailboxOpen_sides (s : Sys) (m σ : String) (t : Time) :
    ((s.mailboxOpen m σ t).db.mbSidesOf m).length =
      (s.db.mbSidesOf m).length + (if s.db.findMbSide m σ = none then 1 else 0) := by
  unfold mailboxOpen
  split
  · rename_i h
    simp [h, Chan.mbSidesOf, Chan.touch, Chan.insMbSide, List.filter_append]
  · rename_i h
    simp [h, Chan.mbSidesOf, Chan.touch]

theorem openMailbox_res (s : Sys) (a m σ : String) (t : Time) :
    (s.openMailbox a m σ t).2 = s.db.openRes a m σ := by
  unfold openMailbox Chan.openRes
  split
  · rename_i h
    rw [if_pos ((addMailbox_none_iff s a m false t).1 h)]
  · rename_i s1 h
    have hn : ¬ (s.db.findMailbox a m = none ∧ s.db.findMailboxById m ≠ none) := by
      intro hc
      rw [(addMailbox_none_iff s a m false t).2 hc] at h
      cases h
    rw [if_neg hn]
    have hl := mailboxOpen_sides s1 m σ t
    have e1 : s1.db.mbSidesOf m = s.db.mbSidesOf m := by simp [Chan.mbSidesOf, addMailbox_mbSides h]
    have e2 : s1.db.findMbSide m σ = s.db.findMbSide m σ := by simp [Chan.findMbSide, addMailbox_mbSides h]
    rw [e1, e2] at hl
    simp only [commit_db, hl, apply_ite Prod.snd]

/-- the `message` frame that replays a stored row to connection `c` -/
def replayFrame (c : Nat) (r : Message) : Event :=
  .frame c (.message r.side r.phase r.body r.rx r.msgId) true

/-- the stored rows of `(a, m)` in replay order (`ORDER BY server_rx`, stable) -/
def _root_.Wormhole.Chan.replayRows (d : Chan) (a m : String) : List Message :=
  (d.messagesOf a m).mergeSort (fun r r' => decide (r.rx ≤ r'.rx))

theorem onMessage_open_eq {s : Sys} {x : Conn} {c : Nat} {t : Time} {id : Val} {a m : String}
    (hx : s.findConn c = some x) (ha : x.app = some a) (hm : x.mailbox = none) :
    s.onMessage c t id (.open_ (some m)) =
      match ((s.send c (.ack id)).updConn c (fun y => { y with mailboxId := some m })).openMailbox
        a m (x.side.getD "") t with
      | (s1, .crowded) => s1.sendError c "crowded"
      | (s1, .integrity) => s1.internalErr c "IntegrityError"
      | (s1, .ok) => (s1.updConn c (fun y => { y with mailbox := some m, listening := true })).replay c a m := by
  simp [Sys.onMessage, hx, ha, Sys.handleOpen, hm, findConn_id hx]
  rfl

theorem onMessage_open_spec {s : Sys} {x : Conn} {c : Nat} {t : Time} {id : Val} {a m : String}
    (hs : s.Synced) (hx : s.findConn c = some x) (ha : x.app = some a) (hm : x.mailbox = none)
    (hok : s.db.openRes a m (x.side.getD "") = .ok) :
    let s' := s.onMessage c t id (.open_ (some m))
    (∃ commits, (∀ e ∈ commits, IsCommit e) ∧
      s'.out = s.out ++ [.frame c (.ack id) true] ++ commits ++ (s.db.replayRows a m).map (replayFrame c)) ∧
    s'.conns = ((s.updConn c (fun y => { y with mailboxId := some m })).updConn c
      (fun y => { y with mailbox := some m, listening := true })).conns ∧
    Chan.Grow s.db s'.db := by
  intro s'
  have e : s' = _ := onMessage_open_eq (t := t) (id := id) (m := m) hx ha hm
  generalize hs0 : (s.send c (.ack id)).updConn c (fun y => { y with mailboxId := some m }) = s0 at e
  have hs0db : s0.db = s.db := by subst hs0; rfl
  have hres := openMailbox_res s0 a m (x.side.getD "") t
  obtain ⟨l, hl, hlc⟩ := CExt.openMailbox (OutExt.refl (s := s0)) (app := a) (mb := m) (side := x.side.getD "") (t := t)
  have hg := (AllDb.openMailbox (W := False) (P := Chan.Grow s.db) (s := s0)
    (AllDb.dbOnly (by rw [hs0db]; exact Chan.Grow.refl _)) (Chan.growClosed_grow _)
    (app := a) (mb := m) (side := x.side.getD "") (t := t)).db
  have hcn := openMailbox_conns s0 a m (x.side.getD "") t
  cases hom : s0.openMailbox a m (x.side.getD "") t with
  | mk s1 r =>
    obtain ⟨d, _, hni⟩ := openMailbox_spec hom
    rw [hom] at hres hl hg hcn e
    simp only at hres hl hg hcn
    rw [hs0db, hok] at hres
    subst hres
    -- the replay is sent with nothing uncommitted
    have hsy1 : (s1.updConn c (fun y => { y with mailbox := some m, listening := true })).synced = true := by
      rw [synced_iff]
      refine ⟨(hni (by simp)).symm, ?_⟩
      simp only [updConn_udb, updConn_udisk, d.udb, d.udisk]
      subst hs0
      exact hs.2
    have hmsg : s1.db.messagesOf a m = s.db.messagesOf a m := by simp [Chan.messagesOf, hg.msgs]
    simp only [Sys.replay, foldl_send_eq, hsy1, updConn_db, updConn_out, hl, hmsg] at e
    subst hs0
    refine ⟨⟨l, hlc, ?_⟩, ?_, ?_⟩ <;> rw [e]
    · simp [Sys.send, Sys.emit, (synced_iff s).2 hs, Chan.replayRows, replayFrame]
    · simp only [Sys.updConn, hcn]
      rfl
    · exact hg

end Sys
end Wormhole
