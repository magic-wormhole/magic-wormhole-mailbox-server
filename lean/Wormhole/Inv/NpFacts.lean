/-
  Consequences of `Chan.NpRel lbl d0 d` (Inv/NpStep.lean) by list reasoning: which nameplate
  rows and nameplate-side rows of `d` come from `d0`, which are new, which rows of `d0` are gone,
  and what the label must have been in each case.  `d0` satisfies `PInv`.
-/
import Wormhole.Inv.NpStep

namespace Wormhole
namespace Chan

theorem PInv.np_eq_of_id {d : Chan} (hp : d.PInv) {n1 n2 : Nameplate} (h1 : n1 ∈ d.nameplates)
    (h2 : n2 ∈ d.nameplates) (e : n1.id = n2.id) : n1 = n2 :=
  eq_of_pairwise_ne (f := Nameplate.id) hp.npIds h1 h2 e

theorem PInv.np_eq_of_key {d : Chan} (hp : d.PInv) {n1 n2 : Nameplate} (h1 : n1 ∈ d.nameplates)
    (h2 : n2 ∈ d.nameplates) (ea : n1.app = n2.app) (en : n1.name = n2.name) : n1 = n2 := by
  have := eq_of_pairwise_ne (f := fun n : Nameplate => (n.app, n.name)) (l := d.nameplates)
    (by simpa using hp.npKey) h1 h2 (by simp [ea, en])
  exact this

theorem PInv.ns_eq_of_key {d : Chan} (hp : d.PInv) {r1 r2 : NpSide} (h1 : r1 ∈ d.npSides)
    (h2 : r2 ∈ d.npSides) (ei : r1.npid = r2.npid) (es : r1.side = r2.side) : r1 = r2 := by
  have := eq_of_pairwise_ne (f := fun r : NpSide => (r.npid, r.side)) (l := d.npSides)
    (by simpa using hp.nsKey) h1 h2 (by simp [ei, es])
  exact this

section facts
variable {lbl : NpLbl} {d0 d : Chan}

/-- **rows of `d`**: a nameplate row of `d` is a row of `d0`, or it is THE new row of a `claim`
    that found no nameplate: `id` = the old counter, `mailbox` = the generated id -/
theorem NpRel.np_mem (h : NpRel lbl d0 d) {n : Nameplate} (hn : n ∈ d.nameplates) :
    n ∈ d0.nameplates ∨
    ∃ a nm σ fresh t, lbl = .claim a nm σ fresh t ∧ n = ⟨d0.nextNp, a, nm, fresh⟩ ∧
      d0.findNameplate a nm = none := by
  cases lbl with
  | quiet =>
    simp only [NpRel, npPart, Prod.mk.injEq] at h
    rw [h.1] at hn; exact Or.inl hn
  | claim a nm σ fresh t =>
    simp only [NpRel, npPart, Prod.mk.injEq] at h
    rcases h with h | ⟨row, _, _, h⟩ | ⟨hnone, h⟩
    · rw [h.1] at hn; exact Or.inl hn
    · rw [h.1] at hn; exact Or.inl hn
    · rw [h.1] at hn
      simp only [List.mem_append, List.mem_singleton] at hn
      rcases hn with hn | rfl
      · exact Or.inl hn
      · exact Or.inr ⟨a, nm, σ, fresh, t, rfl, rfl, hnone⟩
  | release a nm σ =>
    simp only [NpRel, npPart, unclaim, delNameplate, delNpSidesOf, Prod.mk.injEq] at h
    rcases h with h | ⟨np, r, _, _, h | ⟨_, h⟩⟩
    · rw [h.1] at hn; exact Or.inl hn
    · rw [h.1] at hn; exact Or.inl hn
    · rw [h.1] at hn; exact Or.inl (List.mem_filter.1 hn).1
  | close a hd =>
    simp only [NpRel, npPart, delNameplatesOfMailbox, delNpSidesOfMailbox, Prod.mk.injEq] at h
    rcases h with h | ⟨h, _⟩
    · rw [h.1] at hn; exact Or.inl hn
    · rw [h.1] at hn; exact Or.inl (List.mem_filter.1 hn).1
  | sweep => exact Or.inl (h.npSub n hn)

theorem NpRel.claim_np_sub {a nm σ fresh : String} {t : Time} (h : NpRel (.claim a nm σ fresh t) d0 d) :
    ∀ n ∈ d0.nameplates, n ∈ d.nameplates := by
  intro n hn
  simp only [NpRel, npPart, Prod.mk.injEq] at h
  rcases h with h | ⟨_, _, _, h⟩ | ⟨_, h⟩ <;> rw [h.1] <;> simp [hn]

theorem NpRel.nextNp_le (h : NpRel lbl d0 d) : d0.nextNp ≤ d.nextNp := by
  cases lbl with
  | quiet =>
    simp only [NpRel, npPart, Prod.mk.injEq] at h
    omega
  | claim a nm σ fresh t =>
    simp only [NpRel, npPart, Prod.mk.injEq] at h
    rcases h with h | ⟨row, _, _, h⟩ | ⟨hnone, h⟩ <;> omega
  | release a nm σ =>
    simp only [NpRel, npPart, unclaim, delNameplate, delNpSidesOf, Prod.mk.injEq] at h
    rcases h with h | ⟨np, r, _, _, h | ⟨_, h⟩⟩ <;> omega
  | close a hd =>
    simp only [NpRel, npPart, delNameplatesOfMailbox, delNpSidesOfMailbox, Prod.mk.injEq] at h
    rcases h with h | ⟨h, _⟩ <;> omega
  | sweep => exact Nat.le_of_eq h.nextNp.symm

theorem NpRel.np_same (h : NpRel lbl d0 d) (hp : d0.PInv) {n n0 : Nameplate} (hn : n ∈ d.nameplates)
    (hn0 : n0 ∈ d0.nameplates) (e : n.id = n0.id) : n = n0 := by
  rcases h.np_mem hn with h1 | ⟨a, nm, σ, fresh, t, _, rfl, _⟩
  · exact hp.np_eq_of_id h1 hn0 e
  · have := hp.bounded.1 n0 hn0
    simp at e; omega

theorem NpRel.np_id_inj (h : NpRel lbl d0 d) (hp : d0.PInv) {n1 n2 : Nameplate} (h1 : n1 ∈ d.nameplates)
    (h2 : n2 ∈ d.nameplates) (e : n1.id = n2.id) : n1 = n2 := by
  rcases h.np_mem h1 with a1 | ⟨a, nm, σ, fresh, t, hl, rfl, _⟩
  · exact (h.np_same hp h2 a1 e.symm).symm
  · rcases h.np_mem h2 with a2 | ⟨a', nm', σ', fresh', t', hl', rfl, _⟩
    · exact h.np_same hp h1 a2 e
    · rw [hl] at hl'
      cases hl'
      rfl

/-- **new claimed side rows**: a claimed nameplate-side row of `d` that is no row of `d0` is THE row
    the `claim` of the step inserted: the caller's side, on the nameplate of that name -/
theorem NpRel.ns_new (h : NpRel lbl d0 d) {r : NpSide} (hr : r ∈ d.npSides) (hc : r.claimed = true)
    (hnew : r ∉ d0.npSides) :
    ∃ a nm fresh t, lbl = .claim a nm r.side fresh t ∧
      ∃ np ∈ d.nameplates, np.id = r.npid ∧ np.app = a ∧ np.name = nm := by
  -- a claimed row of `unclaim` is a row of `d0`
  have key : ∀ (i : Nat) (σ : String),
      r ∈ d0.npSides.map (fun r => if r.npid = i ∧ r.side = σ then { r with claimed := false } else r) →
      r ∈ d0.npSides := by
    intro i σ hm
    obtain ⟨r0, hr0, rfl⟩ := List.mem_map.1 hm
    split at hc
    · cases hc
    · rename_i hne
      rw [if_neg hne]
      exact hr0
  cases lbl with
  | quiet =>
    simp only [NpRel, npPart, Prod.mk.injEq] at h
    rw [h.2.1] at hr; exact absurd hr hnew
  | claim a nm σ fresh t =>
    simp only [NpRel, npPart, Prod.mk.injEq] at h
    rcases h with h | ⟨row, hrow, _, h⟩ | ⟨_, h⟩
    · rw [h.2.1] at hr; exact absurd hr hnew
    · rw [h.2.1] at hr
      rcases List.mem_append.1 hr with hr | hr
      · exact absurd hr hnew
      · cases List.mem_singleton.1 hr
        obtain ⟨m1, m2, m3⟩ := findNameplate_some hrow
        exact ⟨a, nm, fresh, t, rfl, row, h.1 ▸ m1, rfl, m2, m3⟩
    · rw [h.2.1] at hr
      rcases List.mem_append.1 hr with hr | hr
      · exact absurd hr hnew
      · cases List.mem_singleton.1 hr
        exact ⟨a, nm, fresh, t, rfl, ⟨d0.nextNp, a, nm, fresh⟩, by rw [h.1]; simp, rfl, rfl, rfl⟩
  | release a nm σ =>
    simp only [NpRel, npPart, unclaim, delNameplate, delNpSidesOf, Prod.mk.injEq] at h
    rcases h with h | ⟨np, r', _, _, h | ⟨_, h⟩⟩
    · rw [h.2.1] at hr; exact absurd hr hnew
    · rw [h.2.1] at hr; exact absurd (key _ _ hr) hnew
    · rw [h.2.1] at hr; exact absurd (key _ _ (List.mem_filter.1 hr).1) hnew
  | close a hd =>
    simp only [NpRel, npPart, delNameplatesOfMailbox, delNpSidesOfMailbox, Prod.mk.injEq] at h
    rcases h with h | ⟨h, _⟩
    · rw [h.2.1] at hr; exact absurd hr hnew
    · rw [h.2.1] at hr; exact absurd (List.mem_filter.1 hr).1 hnew
  | sweep => exact absurd (h.nsSub r hr) hnew

/-- **side rows of a surviving nameplate**: a side row of a nameplate that is in `d0` and in `d`
    is still there, unaltered -- except in a `release` of exactly that nameplate by exactly
    that side -/
theorem NpRel.ns_kept (h : NpRel lbl d0 d) (hp : d0.PInv) {np : Nameplate} {r0 : NpSide}
    (hn0 : np ∈ d0.nameplates) (hn : np ∈ d.nameplates) (hr0 : r0 ∈ d0.npSides) (e : r0.npid = np.id) :
    r0 ∈ d.npSides ∨ lbl = .release np.app np.name r0.side := by
  cases lbl with
  | quiet =>
    simp only [NpRel, npPart, Prod.mk.injEq] at h
    rw [h.2.1]; exact Or.inl hr0
  | claim a nm σ fresh t =>
    simp only [NpRel, npPart, Prod.mk.injEq] at h
    rcases h with h | ⟨row, _, _, h⟩ | ⟨hnone, h⟩ <;> rw [h.2.1] <;> simp [hr0]
  | release a nm σ =>
    simp only [NpRel, npPart, unclaim, delNameplate, delNpSidesOf, Prod.mk.injEq] at h
    rcases h with h | ⟨np', r', hnp', _, h | ⟨_, h⟩⟩
    · rw [h.2.1]; exact Or.inl hr0
    · obtain ⟨m1, m2, m3⟩ := findNameplate_some hnp'
      rw [h.2.1]
      by_cases hc : r0.npid = np'.id ∧ r0.side = σ
      · have : np' = np := hp.np_eq_of_id m1 hn0 (by omega)
        subst this
        exact Or.inr (by rw [m2, m3, hc.2])
      · exact Or.inl (List.mem_map.2 ⟨r0, hr0, by simp [hc]⟩)
    · rw [h.1] at hn
      have hne : ¬ np.id = np'.id := by simpa using (List.mem_filter.1 hn).2
      rw [h.2.1]
      refine Or.inl (List.mem_filter.2 ⟨List.mem_map.2 ⟨r0, hr0, ?_⟩, ?_⟩)
      · have : ¬ (r0.npid = np'.id ∧ r0.side = σ) := fun hc => hne (e ▸ hc.1)
        simp [this]
      · simpa [e] using hne
  | close a hd =>
    simp only [NpRel, npPart, delNameplatesOfMailbox, delNpSidesOfMailbox, nameplatesOfMailbox, Prod.mk.injEq] at h
    rcases h with h | ⟨h, _⟩
    · rw [h.2.1]; exact Or.inl hr0
    · rw [h.1] at hn
      have hne : ¬ (np.app = a ∧ np.mailbox = hd) := by
        have := (List.mem_filter.1 hn).2
        simpa only [decide_eq_true_eq] using this
      rw [h.2.1]
      refine Or.inl (List.mem_filter.2 ⟨hr0, ?_⟩)
      apply decide_eq_true
      intro hmem
      obtain ⟨n', hn', e'⟩ := List.mem_map.1 hmem
      obtain ⟨hn'', hk⟩ := List.mem_filter.1 hn'
      have : n' = np := hp.np_eq_of_id hn'' hn0 (by omega)
      subst this
      exact hne (by simpa using hk)
  | sweep => exact Or.inl (h.nsKeep r0 hr0 ⟨np, hn, e.symm⟩)

/-- **deleted rows**: a nameplate row of `d0` that is not in `d` was deleted by
    (i) a `release` of that very nameplate after which no claimed side row would remain, or
    (ii) the `close` that deletes its mailbox, or (iii) a sweep that deletes its mailbox -/
theorem NpRel.np_gone (h : NpRel lbl d0 d) (hp : d0.PInv) {np : Nameplate}
    (hn0 : np ∈ d0.nameplates) (hn : np ∉ d.nameplates) :
    (∃ σ, lbl = .release np.app np.name σ ∧
      ∀ r ∈ d0.npSides, r.npid = np.id → r.side ≠ σ → r.claimed = false) ∨
    (lbl = .close np.app np.mailbox ∧ ∀ m ∈ d.mailboxes, m.id ≠ np.mailbox) ∨
    (lbl = .sweep ∧ ∀ m ∈ d.mailboxes, m.id ≠ np.mailbox) := by
  cases lbl with
  | quiet =>
    simp only [NpRel, npPart, Prod.mk.injEq] at h
    rw [h.1] at hn; exact absurd hn0 hn
  | claim a nm σ fresh t =>
    simp only [NpRel, npPart, Prod.mk.injEq] at h
    rcases h with h | ⟨row, _, _, h⟩ | ⟨hnone, h⟩ <;> rw [h.1] at hn <;> simp [hn0] at hn
  | release a nm σ =>
    simp only [NpRel, npPart, unclaim, delNameplate, delNpSidesOf, Prod.mk.injEq] at h
    rcases h with h | ⟨np', r', hnp', _, h | ⟨hany, h⟩⟩
    · rw [h.1] at hn; exact absurd hn0 hn
    · rw [h.1] at hn; exact absurd hn0 hn
    · obtain ⟨m1, m2, m3⟩ := findNameplate_some hnp'
      rw [h.1] at hn
      have hid : np.id = np'.id := by
        apply Classical.byContradiction
        intro hc
        exact hn (List.mem_filter.2 ⟨hn0, by simpa using hc⟩)
      have : np' = np := hp.np_eq_of_id m1 hn0 hid.symm
      subst this
      refine Or.inl ⟨σ, by rw [m2, m3], ?_⟩
      intro r hr e hs
      simp only [npSidesOf, List.any_eq_false, List.mem_filter, List.mem_map, decide_eq_true_eq,
        Bool.not_eq_true, and_imp, forall_exists_index] at hany
      have := hany r r hr (by simp [hs]) e
      exact this
  | close a hd =>
    simp only [NpRel, npPart, delNameplatesOfMailbox, delNpSidesOfMailbox, nameplatesOfMailbox, Prod.mk.injEq] at h
    rcases h with h | ⟨h, hmb⟩
    · rw [h.1] at hn; exact absurd hn0 hn
    · rw [h.1] at hn
      have hk : np.app = a ∧ np.mailbox = hd := by
        apply Classical.byContradiction
        intro hc
        exact hn (List.mem_filter.2 ⟨hn0, decide_eq_true hc⟩)
      exact Or.inr (Or.inl ⟨by rw [hk.1, hk.2], by rw [hk.2]; exact hmb⟩)
  | sweep => exact Or.inr (Or.inr ⟨rfl, h.gone np hn0 hn⟩)

theorem NpRel.sub_of_gone (h : NpRel lbl d0 d) (hp : d0.PInv) {np : Nameplate}
    (hn0 : np ∈ d0.nameplates) (hn : np ∉ d.nameplates) : ∀ n ∈ d.nameplates, n ∈ d0.nameplates := by
  intro n hn'
  rcases h.np_mem hn' with h1 | ⟨a, nm, σ, fresh, t, hl, _, _⟩
  · exact h1
  · rcases h.np_gone hp hn0 hn with ⟨σ', hl', _⟩ | ⟨hl', _⟩ | ⟨hl', _⟩ <;> rw [hl] at hl' <;> cases hl'

/-- two nameplate rows with different ids have different mailboxes -/
def NpMbInjective (d : Chan) : Prop :=
  ∀ n1 ∈ d.nameplates, ∀ n2 ∈ d.nameplates, n1.id ≠ n2.id → n1.mailbox ≠ n2.mailbox

theorem NpRel.npMbInjective (h : NpRel lbl d0 d) (hp : d0.PInv) (hinj : d0.NpMbInjective)
    (hfresh : ∀ a nm σ fresh t, lbl = .claim a nm σ fresh t → ∀ m ∈ d0.mailboxes, m.id ≠ fresh) :
    d.NpMbInjective := by
  intro n1 h1 n2 h2 hne
  have old_new : ∀ n ∈ d0.nameplates, ∀ a nm σ fresh t, lbl = .claim a nm σ fresh t → n.mailbox ≠ fresh := by
    intro n hn a nm σ fresh t hl e
    obtain ⟨m, hm, e1, _⟩ := hp.npMb n hn
    exact hfresh a nm σ fresh t hl m hm (e1.trans e)
  rcases h.np_mem h1 with a1 | ⟨a, nm, σ, fresh, t, hl, rfl, _⟩
  · rcases h.np_mem h2 with a2 | ⟨a', nm', σ', fresh', t', hl', rfl, _⟩
    · exact hinj n1 a1 n2 a2 hne
    · exact old_new n1 a1 _ _ _ _ _ hl'
  · rcases h.np_mem h2 with a2 | ⟨a', nm', σ', fresh', t', hl', rfl, _⟩
    · exact fun e => old_new n2 a2 _ _ _ _ _ hl e.symm
    · exact absurd rfl hne

end facts
end Chan
end Wormhole
