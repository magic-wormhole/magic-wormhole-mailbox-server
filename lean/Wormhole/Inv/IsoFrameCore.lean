/-
  C06 (application isolation), frame lemmas for the functions of Core.lean (server.py).

  `FrameB b s s'`: b's rows of the channel database, b's usage rows, the connection table up to
  changes of records bound to another app (`ConnsFrame`) and the configuration are the same in
  `s'` as in `s`.  Every function of Core.lean called with an app `a ≠ b` is a `FrameB b` step.

  The only fact about the state these lemmas need is `s.db.PInv` (global uniqueness of mailbox
  ids, uniqueness of nameplate ids, id bounds, the foreign key of `messages`): the `…_of_pinv`
  forms.  The forms named `<function>_frameB` take `s.Good U t S` (Inv/StepInv.lean).
  There is NO hypothesis that the ids app `a` names are disjoint from b's: if `a` opens a mailbox
  id that exists under `b`, `_add_mailbox` fails (`none`, K-global-mailbox-id) before any write.
-/
import Wormhole.Inv.IsoFramePrim
import Wormhole.Inv.SimDefs

-- `addMailbox_frameB` and `logClientVersion_frameB` do not use their hypothesis `Good`
set_option linter.unusedVariables false

namespace Wormhole

theorem All2.map_right {α β : Type} {R : α → β → Prop} (g : α → β) :
    ∀ (l : List α), (∀ x ∈ l, R x (g x)) → All2 R l (l.map g)
  | [], _ => .nil
  | a :: l, h => .cons (h a (by simp)) (All2.map_right g l (fun x hx => h x (by simp [hx])))

theorem ConnsFrame.trans {b : String} {l l' l'' : List Conn} (h : ConnsFrame b l l') (h' : ConnsFrame b l' l'') :
    ConnsFrame b l l'' := by
  refine All2.comp h h' ?_
  rintro x y z ⟨e1, c1⟩ ⟨e2, c2⟩
  refine ⟨e2.trans e1, ?_⟩
  rcases c2 with rfl | ⟨o2, n2⟩
  · exact c1
  · rcases c1 with rfl | ⟨_, n1⟩
    · exact Or.inr ⟨o2, n2⟩
    · exact Or.inr ⟨o2, n1⟩

theorem Conn.ne_of_app {b a : String} {x : Conn} (h : x.app = some a) (hab : a ≠ b) : x.app ≠ some b := by
  rw [h]; intro e; exact hab (Option.some.inj e)

theorem ConnsFrame.map {b : String} (g : Conn → Conn) (l : List Conn)
    (h : ∀ x ∈ l, (g x).id = x.id ∧ (g x = x ∨ ((g x).other b ∧ x.app ≠ some b))) : ConnsFrame b l (l.map g) :=
  All2.map_right g l h

namespace Sys

/-- `s'` has the same rows, usage rows and connections of app `b` as `s` -/
structure FrameB (b : String) (s s' : Sys) : Prop where
  db : Chan.SameB b s.db s'.db
  udb : Usage.SameB b s.udb s'.udb
  conns : ConnsFrame b s.conns s'.conns
  cfg : s'.cfg = s.cfg

section basic
variable {b : String} {s s' s'' : Sys}

theorem FrameB.refl (b : String) (s : Sys) : FrameB b s s :=
  ⟨Chan.SameB.refl _ _, Usage.SameB.refl _ _, ConnsFrame.refl _ _, rfl⟩

theorem FrameB.trans (h : FrameB b s s') (h' : FrameB b s' s'') : FrameB b s s'' :=
  ⟨h.db.trans h'.db, h.udb.trans h'.udb, h.conns.trans h'.conns, h'.cfg.trans h.cfg⟩

/-- nothing but `disk`, `udisk`, `out`, `snaps`, `rebooted` differs -/
theorem FrameB.of_eq (e1 : s'.db = s.db) (e2 : s'.udb = s.udb) (e3 : s'.conns = s.conns) (e4 : s'.cfg = s.cfg) :
    FrameB b s s' := by
  refine ⟨?_, ?_, ?_, e4⟩
  · rw [e1]; exact Chan.SameB.refl _ _
  · rw [e2]; exact Usage.SameB.refl _ _
  · rw [e3]; exact ConnsFrame.refl _ _

theorem frameB_modDb {f : Chan → Chan} (h : Chan.SameB b s.db (f s.db)) : FrameB b s (s.modDb f) :=
  ⟨h, Usage.SameB.refl _ _, ConnsFrame.refl _ _, rfl⟩

theorem frameB_modUdb {f : Usage → Usage} (h : Usage.SameB b s.udb (f s.udb)) : FrameB b s (s.modUdb f) :=
  ⟨Chan.SameB.refl _ _, h, ConnsFrame.refl _ _, rfl⟩

theorem FrameB.commit (h : FrameB b s s') : FrameB b s s'.commit :=
  h.trans (FrameB.of_eq (commit_db s') (commit_udb s') (commit_conns s') (commit_cfg s'))
theorem FrameB.ucommit (h : FrameB b s s') : FrameB b s s'.ucommit :=
  h.trans (FrameB.of_eq (ucommit_db s') (ucommit_udb s') (ucommit_conns s') (ucommit_cfg s'))
theorem FrameB.emit (h : FrameB b s s') (e : Event) : FrameB b s (s'.emit e) := h.trans (FrameB.of_eq rfl rfl rfl rfl)
theorem FrameB.send (h : FrameB b s s') (c : Nat) (f : Frame) : FrameB b s (s'.send c f) := h.emit _

theorem frameB_updConn (c : Nat) (f : Conn → Conn)
    (h : ∀ x ∈ s.conns, x.id = c → x.app ≠ some b ∧ (f x).other b ∧ (f x).id = x.id) :
    FrameB b s (s.updConn c f) := by
  refine ⟨Chan.SameB.refl _ _, Usage.SameB.refl _ _, ?_, rfl⟩
  apply ConnsFrame.map
  intro x hx
  split
  · rename_i hc
    obtain ⟨h1, h2, h3⟩ := h x hx hc
    exact ⟨h3, Or.inr ⟨h2, h1⟩⟩
  · exact ⟨rfl, Or.inl rfl⟩

/-- the stop callbacks of `Mailbox.close` of app `a`: only records bound to `a` are rewritten, and
    they stay bound to `a` -/
theorem frameB_stopListeners {a : String} (m : String) (hab : a ≠ b) : FrameB b s (s.stopListeners a m) := by
  refine ⟨Chan.SameB.refl _ _, Usage.SameB.refl _ _, ?_, rfl⟩
  apply ConnsFrame.map
  intro x _
  split
  · rename_i hc
    exact ⟨rfl, Or.inr ⟨⟨a, hc.2.1, hab⟩, Conn.ne_of_app hc.2.1 hab⟩⟩
  · exact ⟨rfl, Or.inl rfl⟩

end basic

section usage
variable {b a : String} {s : Sys}

theorem storeNameplateUsage_frameB (hab : a ≠ b) (sides : List NpSide) (t : Time) (p : Bool) :
    FrameB b s (s.storeNameplateUsage a sides t p).1 := by
  unfold storeNameplateUsage
  split
  · exact FrameB.refl _ _
  · exact frameB_modUdb (f := fun d => { d with nameplates := _ }) (Usage.addNp_sameB _ hab)

theorem storeMailboxUsage_frameB (hab : a ≠ b) (fn : Bool) (sides : List MbSide) (t : Time) (p : Bool) :
    FrameB b s (s.storeMailboxUsage a fn sides t p) :=
  frameB_modUdb (f := fun d => { d with mailboxes := _ }) (Usage.addMb_sameB _ hab)

theorem logClientVersion_frameB' (hab : a ≠ b) (side : String) (t : Time) (impl version : Option String) :
    FrameB b s (s.logClientVersion a side t impl version) := by
  unfold logClientVersion
  split
  · exact (frameB_modUdb (f := fun d => { d with clients := _ }) (Usage.addClient_sameB _ hab)).ucommit
  · exact FrameB.refl _ _

/-- `dump_stats` writes only the `current` row -/
theorem dumpStats_frameB (b : String) (s : Sys) (now : Time) : FrameB b s (s.dumpStats now) := by
  unfold dumpStats
  split
  · exact (frameB_modUdb (Usage.setCurrent_sameB _)).ucommit
  · exact FrameB.refl _ _

theorem uNp_frameB (hab : a ≠ b) {sides : List NpSide} {t : Time} {p r : Bool} {s' : Sys}
    (e : s.uNp a sides t p = (s', r)) : FrameB b s s' := by
  have h : FrameB b s (s.uNp a sides t p).1 := by
    unfold uNp
    split
    · exact storeNameplateUsage_frameB hab _ _ _
    · exact FrameB.refl _ _
  rwa [e] at h

theorem uMb_frameB (hab : a ≠ b) (fn : Bool) (sides : List MbSide) (t : Time) (p : Bool) :
    FrameB b s (s.uMb a fn sides t p) := by
  unfold uMb
  split
  · exact storeMailboxUsage_frameB hab _ _ _ _
  · exact FrameB.refl _ _

theorem uCommit_frameB (b : String) (s : Sys) : FrameB b s s.uCommit := by
  unfold uCommit
  split
  · exact (FrameB.refl _ _).ucommit
  · exact FrameB.refl _ _

theorem uNps_frameB (hab : a ≠ b) (t : Time) : ∀ (l : List Nameplate) {s s' : Sys} {r : Bool},
    s.uNps a t l = (s', r) → FrameB b s s'
  | [], s, _, _, e => by cases e; exact FrameB.refl _ _
  | np :: rest, s, _, _, e => by
    unfold uNps at e
    split at e
    · rename_i e1; cases e; exact uNp_frameB hab e1
    · rename_i e1; exact (uNp_frameB hab e1).trans (uNps_frameB hab t rest e)

theorem uNps_db {app : String} {t : Time} : ∀ (l : List Nameplate) {s s' : Sys} {r : Bool},
    s.uNps app t l = (s', r) → s'.db = s.db
  | [], s, _, _, e => by cases e; rfl
  | np :: rest, s, _, _, e => by
    unfold uNps at e
    have h1 := uNp_db s app (s.db.npSidesOf np.id) t false
    split at e
    · rename_i e1; cases e; rw [e1] at h1; exact h1
    · rename_i e1; rw [e1] at h1; exact (uNps_db rest e).trans h1

end usage

section mailbox
variable {b a : String} {s s' : Sys}

theorem addMailbox_frameB' {m : String} {fn : Bool} {t : Time} (hab : a ≠ b)
    (e : s.addMailbox a m fn t = some s') : FrameB b s s' := by
  rcases addMailbox_cases e with ⟨rfl, _⟩ | ⟨rfl, _⟩
  · exact FrameB.refl _ _
  · exact frameB_modDb (Chan.insMailbox_sameB _ hab)

theorem addMailbox_not_mem {m : String} {fn : Bool} {t : Time}
    (hu : s.db.mailboxes.Pairwise (fun x y => ¬ x.id = y.id)) (hab : a ≠ b)
    (e : s.addMailbox a m fn t = some s') : m ∉ s'.db.mbIdsB b := by
  rcases addMailbox_cases e with ⟨rfl, hmb⟩ | ⟨rfl, hfree⟩
  · exact Chan.not_mem_mbIdsB_of_hasMb' hu hmb hab
  · show m ∉ (s.db.insMailbox ⟨a, m, t, fn⟩).mbIdsB b
    rw [(Chan.insMailbox_sameB (d := s.db) (b := b) ⟨a, m, t, fn⟩ hab).mbIdsB_eq]
    exact Chan.not_mem_mbIdsB_of_findById_none hfree

theorem mailboxOpen_frameB' {m : String} (side : String) (t : Time) (hm : m ∉ s.db.mbIdsB b) :
    FrameB b s (s.mailboxOpen m side t) := by
  rw [mailboxOpen_eq]
  exact (frameB_modDb (Chan.openSide_sameB side t hm)).commit

theorem openMailbox_frameB' {m side : String} {t : Time} {r : OpenRes}
    (hu : s.db.mailboxes.Pairwise (fun x y => ¬ x.id = y.id)) (hab : a ≠ b)
    (e : s.openMailbox a m side t = (s', r)) : FrameB b s s' := by
  unfold openMailbox at e
  split at e
  · cases e; exact FrameB.refl _ _
  · rename_i s0 e0
    have f2 : FrameB b s ((s0.mailboxOpen m side t).commit) :=
      (addMailbox_frameB' hab e0).trans (mailboxOpen_frameB' side t (addMailbox_not_mem hu hab e0)).commit
    dsimp only at e
    split at e <;> (cases e; exact f2)

theorem addMessage_frameB' {m : String} (side : String) (ph bd : Val) (t : Time) (id : Val) (hab : a ≠ b)
    (hm : m ∉ s.db.mbIdsB b) : FrameB b s (s.addMessage a m side ph bd t id) := by
  unfold addMessage
  have h1 : Chan.SameB b s.db (s.db.insMessage ⟨a, m, side, ph.toText, bd.toText, t, id.toText⟩) :=
    Chan.insMessage_sameB _ hab
  exact ((frameB_modDb h1).trans (frameB_modDb (Chan.touch_sameB t (by rw [modDb_db, h1.mbIdsB_eq]; exact hm)))).commit

end mailbox

section close
variable {b a : String} {s s' : Sys}

theorem mailboxClose_frameB_of_pinv {m side : String} {mood : Option String} {t : Time} {r : Bool}
    (hp : s.db.PInv) (hab : a ≠ b) (e : s.mailboxClose a m side mood t = (s', r)) : FrameB b s s' := by
  rw [mailboxClose_eq] at e
  split at e
  · cases e; exact FrameB.refl _ _
  · rename_i row erow
    have hmb : s.db.HasMb a m := Chan.findMailbox_hasMb erow
    have hm : m ∉ s.db.mbIdsB b := Chan.not_mem_mbIdsB_of_hasMb hp hmb hab
    split at e
    · cases e; exact FrameB.refl _ _
    · dsimp only at e
      have f1 : FrameB b s ((s.modDb (·.closeSide m side mood)).commit) :=
        (frameB_modDb (Chan.closeSide_sameB side mood hm)).commit
      split at e
      · cases e; exact f1
      · have hp1 : (s.db.closeSide m side mood).PInv := hp.closeSide m side mood
        split at e
        · rename_i e2
          cases e; exact f1.trans (uNps_frameB hab t _ e2)
        · rename_i s2 e2
          have hdb2 := uNps_db _ e2
          simp only [commit_db, modDb_db] at hdb2
          have f3 : FrameB b s2 (s2.modDb (fun d =>
              ((((d.delNpSidesOfMailbox a m).delNameplatesOfMailbox a m).delMessagesOf m).delMbSidesOf
                m).delMailbox m)) := by
            apply frameB_modDb
            rw [hdb2]
            exact Chan.closeBlock_sameB hp1 (by simpa using hmb) hab
          cases e
          exact (((((f1.trans (uNps_frameB hab t _ e2)).trans f3).trans (uMb_frameB hab _ _ _ _)).trans
            (uCommit_frameB _ _)).commit).trans (frameB_stopListeners m hab)

end close

section claim
variable {b a : String} {s s' : Sys}

theorem claimCont_frameB' {m side : String} {npid : Nat} {t : Time} {r : ClaimRes}
    (hu : s.db.mailboxes.Pairwise (fun x y => ¬ x.id = y.id)) (hab : a ≠ b)
    (e : claimCont s a npid m side t = (s', r)) : FrameB b s s' := by
  unfold claimCont at e
  dsimp only at e
  have key : ∀ {s3 : Sys} {r3 : OpenRes}, s.commit.openMailbox a m side t = (s3, r3) → FrameB b s s3 :=
    fun e3 => (FrameB.refl b s).commit.trans (openMailbox_frameB' (by simpa using hu) hab e3)
  split at e
  · rename_i s3 e3; cases e; exact key e3
  · rename_i s3 e3; cases e; exact key e3
  · rename_i s3 e3
    split at e <;> (cases e; exact key e3)

theorem claimTail_frameB' {m side : String} {npid : Nat} {t : Time} {r : ClaimRes}
    (hu : s.db.mailboxes.Pairwise (fun x y => ¬ x.id = y.id)) (hnp : npid ∉ s.db.npIdsB b) (hab : a ≠ b)
    (e : s.claimTail a npid m side t = (s', r)) : FrameB b s s' := by
  rw [claimTail_eq] at e
  split at e
  · exact (frameB_modDb (Chan.insNpSide_sameB ⟨npid, true, side, t⟩ hnp)).trans
      (claimCont_frameB' (s := s.modDb (·.insNpSide ⟨npid, true, side, t⟩)) hu hab e)
  · split at e
    · exact claimCont_frameB' hu hab e
    · cases e; exact FrameB.refl _ _

theorem claimNameplate_frameB_of_pinv {name side fresh : String} {t : Time} {r : ClaimRes}
    (hp : s.db.PInv) (hab : a ≠ b) (e : s.claimNameplate a name side t fresh = (s', r)) : FrameB b s s' := by
  unfold claimNameplate at e
  split at e
  · split at e
    · cases e; exact FrameB.refl _ _
    · rename_i s0 e0
      dsimp only at e
      have f0 := addMailbox_frameB' (b := b) hab e0
      have hp0 : s0.db.PInv := by
        rcases addMailbox_cases e0 with ⟨rfl, _⟩ | ⟨rfl, hfree⟩
        · exact hp
        · exact hp.insMailbox (r := ⟨a, fresh, t, true⟩) hfree
      have h1 : Chan.SameB b s0.db (s0.db.insNameplate a name fresh) := Chan.insNameplate_sameB a name fresh hab
      refine (f0.trans (frameB_modDb h1)).trans
        (claimTail_frameB' (s := s0.modDb (·.insNameplate a name fresh)) hp0.mbIds ?_ hab e)
      rw [modDb_db, h1.npIdsB_eq]
      exact Chan.nextNp_not_mem_npIdsB hp0.bounded
  · rename_i row erow
    obtain ⟨hrow, ra, _⟩ := Chan.findNameplate_some erow
    exact claimTail_frameB' hp.mbIds (Chan.not_mem_npIdsB_of_mem hp hrow (by rw [ra]; exact hab)) hab e

theorem releaseNameplate_frameB_of_pinv {name side : String} {t : Time} {r : Bool}
    (hp : s.db.PInv) (hab : a ≠ b) (e : s.releaseNameplate a name side t = (s', r)) : FrameB b s s' := by
  rw [releaseNameplate_eq] at e
  split at e
  · cases e; exact FrameB.refl _ _
  · rename_i np enp
    obtain ⟨hnp, ra, _⟩ := Chan.findNameplate_some enp
    have hid : np.id ∉ s.db.npIdsB b := Chan.not_mem_npIdsB_of_mem hp hnp (by rw [ra]; exact hab)
    split at e
    · cases e; exact FrameB.refl _ _
    · dsimp only at e
      have f1 : FrameB b s ((s.modDb (·.unclaim np.id side)).commit) :=
        (frameB_modDb (Chan.unclaim_sameB side hid)).commit
      split at e
      · cases e; exact f1
      · have f2 : FrameB b s (((s.modDb (·.unclaim np.id side)).commit).modDb
            (fun d => (d.delNpSidesOf np.id).delNameplate np.id)) := by
          refine f1.trans (frameB_modDb (Chan.delById_sameB ?_))
          simp only [commit_db, modDb_db]
          exact hid
        split at e
        · rename_i e3; cases e; exact f2.trans (uNp_frameB hab e3)
        · rename_i e3; cases e
          exact ((f2.trans (uNp_frameB hab e3)).trans (uCommit_frameB _ _)).commit

end claim

section prune
variable {b a : String}

/-- the nameplate loop of `prune`; the side condition is over b's rows, so it is carried along -/
theorem pruneNameplates_frameB' (hab : a ≠ b) (now : Time) (l : List Nameplate) :
    ∀ {s s' : Sys} {r : Bool}, (∀ n ∈ l, n.id ∉ s.db.npIdsB b) → s.pruneNameplates a now l = (s', r) →
      FrameB b s s' := by
  induction l with
  | nil =>
    intro s s' r _ e
    simp only [pruneNameplates, Prod.mk.injEq] at e
    obtain ⟨rfl, _⟩ := e
    exact FrameB.refl _ _
  | cons np rest ih =>
    intro s s' r h e
    rw [pruneNameplates_cons] at e
    have f1 : FrameB b s (s.modDb (fun d => (d.delNpSidesOf np.id).delNameplate np.id)) :=
      frameB_modDb (Chan.delById_sameB (h np (by simp)))
    split at e
    · rename_i e2; cases e; exact f1.trans (uNp_frameB hab e2)
    · rename_i e2
      have f2 := f1.trans (uNp_frameB hab e2)
      refine f2.trans (ih ?_ e)
      intro n hn
      rw [f2.db.npIdsB_eq]
      exact h n (by simp [hn])

theorem pruneMailboxes_frameB' (hab : a ≠ b) (now : Time) (l : List MailboxRow) :
    ∀ (s : Sys), (∀ row ∈ l, row.id ∉ s.db.mbIdsB b ∧ ∀ r ∈ s.db.msgsB b, ¬ r.mailbox = row.id) →
      FrameB b s (s.pruneMailboxes a now l) := by
  induction l with
  | nil => intro s _; exact FrameB.refl _ _
  | cons row rest ih =>
    intro s h
    rw [pruneMailboxes_cons]
    obtain ⟨h1, h2⟩ := h row (by simp)
    have f1 : FrameB b s (s.modDb (fun d => ((d.delMessagesOf row.id).delMbSidesOf row.id).delMailbox row.id)) :=
      frameB_modDb (Chan.pruneBlock_sameB h1 h2)
    have f2 := f1.trans (uMb_frameB (b := b) hab row.forNp (s.db.mbSidesOf row.id) now true)
    refine f2.trans (ih _ ?_)
    intro row' hrow'
    rw [f2.db.mbIdsB_eq, f2.db.msgs]
    exact h row' (by simp [hrow'])

theorem touchListened_frameB (hab : a ≠ b) (s : Sys) (now : Time) : FrameB b s (s.touchListened a now) := by
  apply frameB_modDb
  apply Chan.mapMailboxes_sameB
  · intro r _; split <;> rfl
  · intro r _ hr
    rw [if_neg]
    rintro ⟨e, _⟩
    exact hab (e.symm.trans hr)

theorem prune_frameB_of_pinv {s s' : Sys} {now old : Time} {r : Bool} (hp : s.db.PInv) (hab : a ≠ b)
    (e : s.prune a now old = (s', r)) : FrameB b s s' := by
  rw [prune_eq] at e
  dsimp only at e
  have f1 : FrameB b s ((s.touchListened a now).commit) := (touchListened_frameB hab s now).commit
  have hp1 : ((s.touchListened a now).commit).db.PInv := by
    rw [commit_db, touchListened_db]
    exact hp.mapMailboxes _ (s.touchFn_keys a now)
  generalize (s.touchListened a now).commit = sA at e f1 hp1
  generalize hMb : ((sA.db.mailboxesOfApp a).filter (fun r => ¬ r.updated > old)) = oldMb at e
  generalize hNp : ((sA.db.nameplatesOfApp a).filter (fun r => r.mailbox ∈ oldMb.map (·.id))) = oldNp at e
  rw [pruneRest_eq] at e
  have hNpB : ∀ n ∈ oldNp, n.id ∉ sA.db.npIdsB b := by
    intro n hn
    rw [← hNp] at hn
    have h1 := (List.mem_filter.1 hn).1
    simp only [Chan.nameplatesOfApp, List.mem_filter, decide_eq_true_eq] at h1
    exact Chan.not_mem_npIdsB_of_mem hp1 h1.1 (by rw [h1.2]; exact hab)
  have hMbB : ∀ row ∈ oldMb, row.id ∉ sA.db.mbIdsB b ∧ ∀ r ∈ sA.db.msgsB b, ¬ r.mailbox = row.id := by
    intro row hrow
    rw [← hMb] at hrow
    have h1 := (List.mem_filter.1 hrow).1
    simp only [Chan.mailboxesOfApp, List.mem_filter, decide_eq_true_eq] at h1
    have hm : row.id ∉ sA.db.mbIdsB b := Chan.not_mem_mbIdsB_of_hasMb hp1 ⟨row, h1.1, rfl, h1.2⟩ hab
    exact ⟨hm, Chan.msgsB_ne_of_not_mem hp1 hm⟩
  split at e
  · rename_i s2 e2
    cases e
    exact f1.trans (pruneNameplates_frameB' hab now oldNp hNpB e2)
  · rename_i s2 e2
    have f2 := pruneNameplates_frameB' hab now oldNp hNpB e2
    have f3 : FrameB b s2 (s2.pruneMailboxes a now oldMb) := by
      apply pruneMailboxes_frameB' hab now oldMb s2
      intro row hrow
      rw [f2.db.mbIdsB_eq, f2.db.msgs]
      exact hMbB row hrow
    dsimp only at e
    split at e
    · cases e
      exact ((f1.trans (f2.trans f3)).commit).trans (uCommit_frameB _ _)
    · cases e
      exact f1.trans (f2.trans f3)

end prune

section good
variable {U : String → Prop} {t : Time} {S : Prop} {b a : String} {s s' : Sys}

theorem addMailbox_frameB {m : String} {fn : Bool} {t' : Time} (h : s.Good U t S) (hab : a ≠ b)
    (e : s.addMailbox a m fn t' = some s') : FrameB b s s' :=
  addMailbox_frameB' hab e

theorem mailboxOpen_frameB {m : String} (h : s.Good U t S) (hmb : s.db.HasMb a m) (hab : a ≠ b) (side : String)
    (t' : Time) : FrameB b s (s.mailboxOpen m side t') :=
  mailboxOpen_frameB' side t' (Chan.not_mem_mbIdsB_of_hasMb h.db.cinv.toPInv hmb hab)

theorem openMailbox_frameB {m side : String} {t' : Time} {r : OpenRes} (h : s.Good U t S) (hab : a ≠ b)
    (e : s.openMailbox a m side t' = (s', r)) : FrameB b s s' :=
  openMailbox_frameB' h.db.cinv.mbIds hab e

theorem addMessage_frameB {m : String} (h : s.Good U t S) (hmb : s.db.HasMb a m) (hab : a ≠ b) (side : String)
    (ph bd : Val) (t' : Time) (id : Val) : FrameB b s (s.addMessage a m side ph bd t' id) :=
  addMessage_frameB' side ph bd t' id hab (Chan.not_mem_mbIdsB_of_hasMb h.db.cinv.toPInv hmb hab)

theorem mailboxClose_frameB {m side : String} {mood : Option String} {t' : Time} {r : Bool} (h : s.Good U t S)
    (hab : a ≠ b) (e : s.mailboxClose a m side mood t' = (s', r)) : FrameB b s s' :=
  mailboxClose_frameB_of_pinv h.db.cinv.toPInv hab e

theorem claimNameplate_frameB {name side fresh : String} {t' : Time} {r : ClaimRes} (h : s.Good U t S)
    (hab : a ≠ b) (e : s.claimNameplate a name side t' fresh = (s', r)) : FrameB b s s' :=
  claimNameplate_frameB_of_pinv h.db.cinv.toPInv hab e

theorem releaseNameplate_frameB {name side : String} {t' : Time} {r : Bool} (h : s.Good U t S)
    (hab : a ≠ b) (e : s.releaseNameplate a name side t' = (s', r)) : FrameB b s s' :=
  releaseNameplate_frameB_of_pinv h.db.cinv.toPInv hab e

theorem prune_frameB {now old : Time} {r : Bool} (h : s.Good U t S) (hab : a ≠ b)
    (e : s.prune a now old = (s', r)) : FrameB b s s' :=
  prune_frameB_of_pinv h.db.cinv.toPInv hab e

theorem logClientVersion_frameB (h : s.Good U t S) (hab : a ≠ b) (side : String) (t' : Time)
    (impl version : Option String) : FrameB b s (s.logClientVersion a side t' impl version) :=
  logClientVersion_frameB' hab side t' impl version

end good

end Sys
end Wormhole
