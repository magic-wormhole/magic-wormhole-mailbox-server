/-
  Every function of Core.lean and Ws.lean as a composition of STATEMENTS.

  `Stmt k s s'`: the code executes one statement of kind `k` in state `s`, giving `s'`; the
  constructor carries the guard under which the code reaches the statement (the look-up that
  found nothing before an INSERT, `cfg.usage` before a write to the usage database), and the kind
  carries what a family of properties has to know about it (which mailbox a `close` acts on,
  which mailbox a sweep deletes).
  `Runs K s s'`: `s'` is reached from `s` by statements whose kinds satisfy `K`.
  One pass (`Runs.frame … stepPlain_runs`) shows which statements each function executes.
  A reflexive and transitive relation that contains those statements relates the state before
  and the state after (`Runs.lift`); in particular a property that survives them survives the
  function (`Runs.preserves`).

  `Mailbox.close`, `handle_close` and `onMessage` are first given in TWO PHASES (`…_runs₂`): a run
  up to the commit of the UPDATE of `Mailbox.close`, then a run for the deletion and the answer.
  A property may weaken between the two ("first grown, then shrunk"); the one-run versions follow.
-/
import Wormhole.Inv.SyncLemmas

namespace Wormhole

/-- the five DELETEs of `Mailbox.close` -/
def Chan.closeDeletes (d : Chan) (app mb : String) : Chan :=
  ((((d.delNpSidesOfMailbox app mb).delNameplatesOfMailbox app mb).delMessagesOf mb).delMbSidesOf
    mb).delMailbox mb

/-- the mailbox name a `close` refers to: the `mailbox` key, else the remembered `_mailbox_id` -/
def Conn.closeName (x : Conn) (m : Option String) : Option String :=
  match m with
  | some m => some m
  | none => x.mailboxId

/-- the mailbox a `close` acts on: the handle if the connection holds one, else `closeName` -/
def Conn.closeTarget (x : Conn) (m : Option String) : Option String :=
  match x.mailbox with
  | some h => some h
  | none => x.closeName m

/-- an update of a connection record that keeps identity, binding, handle and subscription -/
def Harmless (f : Conn → Conn) : Prop :=
  ∀ y, (f y).id = y.id ∧ (f y).app = y.app ∧ (f y).side = y.side ∧ (f y).mailbox = y.mailbox ∧
    (f y).listening = y.listening

def Frame.isMsg : Frame → Bool
  | .message _ _ _ _ _ => true
  | _ => false

def Event.isMsg : Event → Bool
  | .frame _ f _ => f.isMsg
  | _ => false

namespace Sys

/-- kinds of statements, so that a property can be closed under some of them only -/
inductive Kind where
  /-- a frame that is not a `message`, or a log entry (`internal`, `fired`) -/
  | ev
  /-- a frame handed to `send` by the replay of `open` or by `broadcast_message` -/
  | msg
  /-- `db.commit()`, `usage_db.commit()` -/
  | sync
  /-- a write to the usage database -/
  | usage
  /-- channel statements of claim / open / add at time `t`, other than the INSERT of the message:
      INSERTs and the `updated` stamp -/
  | grow (t : Time)
  /-- the INSERT of `_add_message` at time `t` -/
  | add (t : Time)
  /-- channel statements of `release_nameplate`: its UPDATE and its by-id DELETEs -/
  | release
  /-- the UPDATE of `Mailbox.close(side, mood)` on mailbox `(app, mb)` -/
  | closeUpd (app mb side : String) (mood : Option String)
  /-- the five DELETEs of `Mailbox.close` on mailbox `(app, mb)`, and its stop callbacks -/
  | closeDel (app mb : String)
  /-- the touch loop of `prune(now, old)` -/
  | stamp (now : Time)
  /-- the DELETEs of `prune`: of an old nameplate (`none`), of the old mailbox `id` (`some id`) -/
  | sweep (del : Option String)
  /-- a field of the connection record other than binding, handle and subscription -/
  | flag
  /-- the binding (app, side) of a connection record -/
  | bind
  /-- handle, remembered mailbox id or subscription of a connection record -/
  | conn
  /-- a connection record is added or removed: `onOpen`, `onClose` -/
  | link
  /-- the process starts again on the committed files -/
  | boot
  deriving DecidableEq

namespace Kind

def isGrow : Kind → Bool
  | .grow _ | .add _ => true
  | _ => false

def isSweep : Kind → Bool
  | .stamp _ | .sweep _ => true
  | _ => false

abbrev any : Kind → Prop := fun _ => True
/-- what every function may do: frames other than `message`, log entries, commits, usage records -/
abbrev core : Kind → Prop := fun k => k = .ev ∨ k = .sync ∨ k = .usage
/-- claim / release / open / add -/
abbrev grows : Kind → Prop := fun k => core k ∨ k.isGrow = true ∨ k = .release
/-- the handlers of those, which also set flags of the connection record -/
abbrev flags : Kind → Prop := fun k => grows k ∨ k = .flag
/-- the sweep -/
abbrev sweeps : Kind → Prop := fun k => core k ∨ k.isSweep = true

end Kind

/-- channel statements of kind `grow t`, with the look-up that guards each -/
inductive GrowStmt (t : Time) (d : Chan) : (Chan → Chan) → Prop
  | insMbSide (mb side) (h : d.findMbSide mb side = none) :
      GrowStmt t d (·.insMbSide ⟨mb, true, side, t, none⟩)
  | touch (mb) : GrowStmt t d (·.touch mb t)
  | insMailbox (app mb forNp) (h : d.findMailboxById mb = none) :
      GrowStmt t d (·.insMailbox ⟨app, mb, t, forNp⟩)
  | insNameplate (app name mb) (h : d.findNameplate app name = none) :
      GrowStmt t d (·.insNameplate app name mb)
  | insNpSide (npid side) (h : d.findNpSide npid side = none) :
      GrowStmt t d (·.insNpSide ⟨npid, true, side, t⟩)

inductive Stmt : Kind → Sys → Sys → Prop
  | frame (s c f) (h : Frame.isMsg f = false) : Stmt .ev s (s.send c f)
  | internal (s c cls) : Stmt .ev s (s.emit (.internal c cls))
  | fired (s now old) : Stmt .ev s (s.emit (.fired now old))
  | msg (s c f) : Stmt .msg s (s.send c f)
  | commit (s) : Stmt .sync s s.commit
  | ucommit (s) : Stmt .sync s s.ucommit
  | storeNp (s app sides t p) (hu : s.cfg.usage = true) :
      Stmt .usage s (s.storeNameplateUsage app sides t p).1
  | storeMb (s app forNp sides t p) (hu : s.cfg.usage = true) :
      Stmt .usage s (s.storeMailboxUsage app forNp sides t p)
  | client (s a sd t i v) (hu : s.cfg.usage = true) :
      Stmt .usage s (s.modUdb (fun d => { d with clients := d.clients ++ [⟨a, sd, s.blurTime t, i, v⟩] }))
  | current (s rows) (hu : s.cfg.usage = true) :
      Stmt .usage s (s.modUdb (fun d => { d with current := rows }))
  | grow (s t f) (h : GrowStmt t s.db f) : Stmt (.grow t) s (s.modDb f)
  | insMessage (s r) : Stmt (.add r.rx) s (s.modDb (·.insMessage r))
  | unclaim (s npid side) : Stmt .release s (s.modDb (·.unclaim npid side))
  | releaseDel (s npid) : Stmt .release s (s.modDb (fun d => (d.delNpSidesOf npid).delNameplate npid))
  | closeSide (s app mb side mood row) (h : s.db.findMailbox app mb = some row) :
      Stmt (.closeUpd app mb side mood) s (s.modDb (·.closeSide mb side mood))
  | closeDeletes (s app mb) (h : (s.db.mbSidesOf mb).any (·.opened) = false) :
      Stmt (.closeDel app mb) s (s.modDb (fun d => d.closeDeletes app mb))
  | stop (s app mb) : Stmt (.closeDel app mb) s (s.stopListeners app mb)
  | delNp (s npid) : Stmt (.sweep none) s (s.modDb (fun d => (d.delNpSidesOf npid).delNameplate npid))
  | delMb (s id) :
      Stmt (.sweep (some id)) s (s.modDb (fun d => ((d.delMessagesOf id).delMbSidesOf id).delMailbox id))
  | touchListened (s app now) : Stmt (.stamp now) s (s.touchListened app now)
  | flag (s c f) (h : Harmless f) (hm : ∀ y, (f y).mailboxId = y.mailboxId) : Stmt .flag s (s.updConn c f)
  | bind (s c a sd) : Stmt .bind s (s.updConn c (fun y => { y with app := some a, side := some sd }))
  | conn (s c f) (hid : ∀ y, (f y).id = y.id) : Stmt .conn s (s.updConn c f)
  | conns (s cs) : Stmt .link s { s with conns := cs }
  | restart (s t) : Stmt .boot s (s.restart t)

inductive Runs (K : Kind → Prop) : Sys → Sys → Prop
  | refl (s) : Runs K s s
  | tail {s s1 s2 k} (r : Runs K s s1) (hk : K k) (h : Stmt k s1 s2) : Runs K s s2

theorem Runs.lift {K : Kind → Prop} {R : Sys → Sys → Prop} (hrefl : ∀ s, R s s)
    (htrans : ∀ a b c, R a b → R b c → R a c) (hstmt : ∀ k, K k → ∀ a b, Stmt k a b → R a b)
    {s s' : Sys} (r : Runs K s s') : R s s' := by
  induction r with
  | refl => exact hrefl _
  | tail _ hk h ih => exact htrans _ _ _ ih (hstmt _ hk _ _ h)

theorem Runs.preserves {K : Kind → Prop} {T : Sys → Prop}
    (hstmt : ∀ k, K k → ∀ a b, Stmt k a b → T a → T b) {s s' : Sys} (r : Runs K s s') (h : T s) : T s' :=
  Runs.lift (R := fun a b => T a → T b) (fun _ h => h) (fun _ _ _ f g h => g (f h)) hstmt r h

theorem Runs.mono {K K' : Kind → Prop} (hK : ∀ k, K k → K' k) {s s' : Sys} (r : Runs K s s') : Runs K' s s' := by
  induction r with
  | refl => exact .refl _
  | tail _ hk h ih => exact ih.tail (hK _ hk) h

theorem Runs.trans {K : Kind → Prop} {a b c : Sys} (r1 : Runs K a b) (r2 : Runs K b c) : Runs K a c := by
  induction r2 with
  | refl => exact r1
  | tail _ hk h ih => exact ih.tail hk h

/-! ## The pass

  Every lemma extends a run that ends in `s1` by what the function does in `s1`; the kinds the
  function needs are hypotheses, named throughout
    he `.ev`    hm `.msg`   hy `.sync`   hu `.usage`   hg `.grow t`   ha `.add t`   hr `.release`
    hc `.closeUpd …`   hd `.closeDel …`   ht `.stamp now`   hw / hws `.sweep none` / `.sweep (some id)`
    hf `.flag`   hb `.bind`   hn `.conn`   (`.link`, `.boot` only in `stepPlain_runs`).
  `release_nameplate` and the sweep delete a nameplate by the same statement; it has kind `release` in the
  one and `sweep none` in the other, so that a property may survive one and not the other. -/

section pass
variable {K : Kind → Prop} {s s1 : Sys}

section ev
variable (he : K .ev)
include he

theorem Runs.frame (r : Runs K s s1) (c f) (hf : Frame.isMsg f = false := by rfl) : Runs K s (s1.send c f) :=
  r.tail he (.frame _ c f hf)
theorem Runs.sendError (r : Runs K s s1) (c text) : Runs K s (s1.sendError c text) := r.frame he c _
theorem Runs.internalErr (r : Runs K s s1) (c cls) : Runs K s (s1.internalErr c cls) :=
  r.tail he (.internal _ _ _)

theorem Runs.handlePing (r : Runs K s s1) (c v) : Runs K s (s1.handlePing c v) := by
  unfold Sys.handlePing
  split
  · exact r.sendError he _ _
  · exact r.frame he _ _

theorem Runs.handleList (r : Runs K s s1) (x app) : Runs K s (s1.handleList x app) := r.frame he _ _

end ev

theorem Runs.foldl_send (hm : K .msg) {α : Type} (g : α → Nat) (fr : α → Frame) (l : List α) :
    ∀ {s1 : Sys}, Runs K s s1 → Runs K s (l.foldl (fun s a => s.send (g a) (fr a)) s1) := by
  induction l with
  | nil => intro s1 r; exact r
  | cons a l ih => intro s1 r; exact ih (r.tail hm (.msg _ _ _))

theorem Runs.replay (hm : K .msg) (r : Runs K s s1) (c app mb) : Runs K s (s1.replay c app mb) :=
  Runs.foldl_send hm (fun _ => c) (fun (m : Message) => .message m.side m.phase m.body m.rx m.msgId) _ r

theorem Runs.broadcast (hm : K .msg) (r : Runs K s s1) (app mb f) : Runs K s (s1.broadcast app mb f) :=
  Runs.foldl_send hm (fun c => c) (fun _ => f) _ r

section usage
variable (hy : K .sync) (hu : K .usage)
include hu

theorem Runs.storeNameplateUsage (r : Runs K s s1) (husage : s1.cfg.usage = true) (app sides t p) :
    Runs K s (s1.storeNameplateUsage app sides t p).1 := r.tail hu (.storeNp _ _ _ _ _ husage)

theorem Runs.storeMailboxUsage (r : Runs K s s1) (husage : s1.cfg.usage = true) (app forNp sides t p) :
    Runs K s (s1.storeMailboxUsage app forNp sides t p) := r.tail hu (.storeMb _ _ _ _ _ _ husage)

theorem Runs.storeNameplatesOfMailbox {app t} (l : List Nameplate) :
    ∀ {s1 : Sys}, Runs K s s1 → s1.cfg.usage = true → Runs K s (s1.storeNameplatesOfMailbox app t l).1 := by
  induction l with
  | nil => intro s1 r _; exact r
  | cons np rest ih =>
    intro s1 r husage
    unfold Sys.storeNameplatesOfMailbox
    have r1 := r.storeNameplateUsage hu husage app (s1.db.npSidesOf np.id) t false
    split
    · rename_i s2 e; rw [e] at r1; exact r1
    · rename_i s2 e
      rw [e] at r1
      exact ih r1 (by rw [← husage, (storeNameplateUsage_spec e).1.cfg])

include hy

theorem Runs.logClientVersion (r : Runs K s s1) (a sd t i v) : Runs K s (s1.logClientVersion a sd t i v) := by
  unfold Sys.logClientVersion
  split
  · rename_i husage
    exact (r.tail hu (.client _ a sd t i v husage)).tail hy (.ucommit _)
  · exact r

theorem Runs.dumpStats (r : Runs K s s1) (now) : Runs K s (s1.dumpStats now) := by
  unfold Sys.dumpStats
  split
  · rename_i husage
    exact (r.tail hu (.current _ _ husage)).tail hy (.ucommit _)
  · exact r

end usage

section grow
variable (hy : K .sync)
include hy

theorem Runs.mailboxOpen (r : Runs K s s1) (mb side t) (hg : K (.grow t)) : Runs K s (s1.mailboxOpen mb side t) := by
  unfold Sys.mailboxOpen
  split
  · rename_i h
    exact ((r.tail hg (.grow _ t _ (.insMbSide mb side h))).tail hg (.grow _ t _ (.touch mb))).tail hy (.commit _)
  · exact (r.tail hg (.grow _ t _ (.touch mb))).tail hy (.commit _)

omit hy in
theorem Runs.addMailbox (r : Runs K s s1) {app mb forNp t s2} (hg : K (.grow t))
    (e : s1.addMailbox app mb forNp t = some s2) : Runs K s s2 := by
  unfold Sys.addMailbox at e
  split at e
  · cases e; exact r
  · split at e
    · cases e
    · rename_i h
      cases e
      exact r.tail hg (.grow _ t _ (.insMailbox app mb forNp h))

theorem Runs.openMailbox (r : Runs K s s1) (app mb side t) (hg : K (.grow t)) :
    Runs K s (s1.openMailbox app mb side t).1 := by
  unfold Sys.openMailbox
  split
  · exact r
  · rename_i s2 e
    have r2 := ((r.addMailbox hg e).mailboxOpen hy mb side t hg).tail hy (.commit _)
    dsimp only
    split <;> exact r2

theorem Runs.addMessage (r : Runs K s s1) (app mb side ph bd t id) (hg : K (.grow t)) (ha : K (.add t)) :
    Runs K s (s1.addMessage app mb side ph bd t id) :=
  ((r.tail ha (.insMessage _ ⟨app, mb, side, ph.toText, bd.toText, t, id.toText⟩)).tail hg
    (.grow _ t _ (.touch mb))).tail hy (.commit _)

theorem Runs.claimCont (r : Runs K s s1) (app npid mb side t) (hg : K (.grow t)) :
    Runs K s (claimCont s1 app npid mb side t).1 := by
  unfold Sys.claimCont
  have r3 := (r.tail hy (.commit _)).openMailbox hy app mb side t hg
  dsimp only
  split
  next s3 e => rw [e] at r3; exact r3
  next s3 e => rw [e] at r3; exact r3
  next s3 e => rw [e] at r3; split <;> exact r3

theorem Runs.claimTail (r : Runs K s s1) (app npid mb side t) (hg : K (.grow t)) :
    Runs K s (s1.claimTail app npid mb side t).1 := by
  rw [claimTail_eq]
  split
  · rename_i h
    exact (r.tail hg (.grow _ t _ (.insNpSide npid side h))).claimCont hy _ _ _ _ _ hg
  · split
    · exact r.claimCont hy _ _ _ _ _ hg
    · exact r

theorem Runs.claimNameplate (r : Runs K s s1) (app name side t fresh) (hg : K (.grow t)) :
    Runs K s (s1.claimNameplate app name side t fresh).1 := by
  unfold Sys.claimNameplate
  split
  · rename_i h
    split
    · exact r
    · rename_i s2 e
      have hn : s2.db.findNameplate app name = none := by
        have hp := congrArg Prod.fst (addMailbox_spec e).1.np
        exact (congrArg (List.find? _) hp).trans h
      exact ((r.addMailbox hg e).tail hg (.grow _ t _ (.insNameplate app name fresh hn))).claimTail hy _ _ _ _ _ hg
  · exact r.claimTail hy _ _ _ _ _ hg

end grow

section release
variable (hy : K .sync) (hr : K .release) (hu : K .usage)
include hy hr hu

theorem Runs.releaseNameplate (r : Runs K s s1) (app name side t) :
    Runs K s (s1.releaseNameplate app name side t).1 := by
  have r1 : ∀ np : Nameplate, Runs K s ((s1.modDb (·.unclaim np.id side)).commit) := fun np =>
    (r.tail hr (.unclaim _ _ _)).tail hy (.commit _)
  refine Sys.releaseNameplate_cases s1 app name side t ?_ ?_ ?_ ?_
  · exact fun _ => r
  · rintro np _ _ _ _ rfl _
    exact r1 np
  · rintro np _ _ _ s3 _ _ rfl _ rfl husage e
    have r3 := ((r1 np).tail hr (.releaseDel _ np.id)).storeNameplateUsage hu husage app
      (((s1.modDb (·.unclaim np.id side)).commit).db.npSidesOf np.id) t false
    rw [e] at r3
    exact (r3.tail hy (.ucommit _)).tail hy (.commit _)
  · rintro np _ _ _ _ _ rfl _ rfl _
    exact ((r1 np).tail hr (.releaseDel _ np.id)).tail hy (.commit _)

end release

/-! ### `Mailbox.close`, in two phases: up to the commit of its UPDATE, and the deletion -/

theorem mailboxClose_runs₂ {K1 K2 : Kind → Prop} (hy1 : K1 .sync) (hy2 : K2 .sync) (hu : K2 .usage)
    (s1 : Sys) (app mb side mood t) (hc : K1 (.closeUpd app mb side mood)) (hd : K2 (.closeDel app mb)) :
    ∃ sm, Runs K1 s1 sm ∧ Runs K2 sm (s1.mailboxClose app mb side mood t).1 := by
  have store : ∀ {s₁ s₂ : Sys} {ok}, (if s₁.cfg.usage then s₁.storeNameplatesOfMailbox app t
      (s₁.db.nameplatesOfMailbox app mb) else (s₁, true)) = (s₂, ok) → Runs K2 s₁ s₂ := by
    intro s₁ s₂ ok hE
    split at hE
    · rename_i husage
      have := Runs.storeNameplatesOfMailbox hu (app := app) (t := t) (s₁.db.nameplatesOfMailbox app mb) (.refl _)
        husage
      rw [hE] at this; exact this
    · cases hE; exact .refl _
  have upd : ∀ {row}, s1.db.findMailbox app mb = some row →
      Runs K1 s1 (s1.modDb (·.closeSide mb side mood)).commit := fun hrow =>
    ((Runs.refl s1).tail hc (.closeSide _ app mb side mood _ hrow)).tail hy1 (.commit _)
  refine Sys.mailboxClose_cases s1 app mb side mood t ?_ ?_ ?_ ?_
  · exact fun _ => ⟨s1, .refl _, .refl _⟩
  · rintro _ _ hrow rfl _
    exact ⟨_, upd hrow, .refl _⟩
  · rintro _ _ s₂ hrow rfl _ hE
    exact ⟨_, upd hrow, store hE⟩
  · rintro _ _ s₂ _ hrow rfl hany hE rfl
    obtain ⟨u, -, -⟩ := closeStore_spec hE
    have r3 := (store hE).tail hd (.closeDeletes s₂ app mb (by rw [u.db]; exact hany))
    refine ⟨_, upd hrow, Runs.tail (Runs.tail ?_ hy2 (.commit _)) hd (.stop _ app mb)⟩
    split
    · rename_i husage
      exact (r3.storeMailboxUsage hu husage _ _ _ _ _).tail hy2 (.ucommit _)
    · exact r3

theorem Runs.mailboxClose (hy : K .sync) (hu : K .usage) (r : Runs K s s1) (app mb side mood t)
    (hc : K (.closeUpd app mb side mood)) (hd : K (.closeDel app mb)) :
    Runs K s (s1.mailboxClose app mb side mood t).1 := by
  obtain ⟨sm, r1, r2⟩ := mailboxClose_runs₂ hy hy hu s1 app mb side mood t hc hd
  exact (r.trans r1).trans r2

section sweep
variable (hy : K .sync) (hu : K .usage) (hw : K (.sweep none))
include hu

include hw in
theorem Runs.pruneNameplates {app now} (l : List Nameplate) :
    ∀ {s1 : Sys}, Runs K s s1 → Runs K s (s1.pruneNameplates app now l).1 := by
  induction l with
  | nil => intro s1 r; exact r
  | cons np rest ih =>
    intro s1 r
    unfold Sys.pruneNameplates
    dsimp only
    have r1 := r.tail hw (.delNp _ np.id)
    split
    · rename_i husage
      have r2 := r1.storeNameplateUsage hu husage app (s1.db.npSidesOf np.id) now true
      split
      next e => rw [e] at r2; exact r2
      next e => rw [e] at r2; exact ih r2
    · exact ih r1

theorem Runs.pruneMailboxes {app now} (l : List MailboxRow) (hmb : ∀ row ∈ l, K (.sweep (some row.id))) :
    ∀ {s1 : Sys}, Runs K s s1 → Runs K s (s1.pruneMailboxes app now l) := by
  induction l with
  | nil => intro s1 r; exact r
  | cons row rest ih =>
    intro s1 r
    unfold Sys.pruneMailboxes
    dsimp only
    apply ih (fun r hr => hmb r (List.mem_cons_of_mem _ hr))
    have r1 := r.tail (hmb row (List.mem_cons_self ..)) (.delMb _ row.id)
    split
    · rename_i husage
      exact r1.storeMailboxUsage hu husage _ _ _ _ _
    · exact r1

include hy hw

/-- `prune`; the mailboxes it deletes are the old ones of the app, as found after the touch loop -/
theorem Runs.prune (r : Runs K s s1) (app now old) (ht : K (.stamp now))
    (hmb : ∀ row ∈ ((s1.touchListened app now).commit.db.mailboxesOfApp app).filter (fun r => ¬ r.updated > old),
      K (.sweep (some row.id))) : Runs K s (s1.prune app now old).1 := by
  rw [prune_eq]
  dsimp only
  have r1 : Runs K s (s1.touchListened app now).commit := (r.tail ht (.touchListened _ app now)).tail hy (.commit _)
  generalize (s1.touchListened app now).commit = s2 at r1 hmb
  unfold pruneRest
  have r2 := Runs.pruneNameplates hu hw (app := app) (now := now) ((s2.db.nameplatesOfApp app).filter
    (fun r => r.mailbox ∈ ((s2.db.mailboxesOfApp app).filter (fun r => ¬ r.updated > old)).map (·.id))) r1
  split
  · rename_i e; rw [e] at r2; exact r2
  · rename_i s3 e
    rw [e] at r2
    have r3 := Runs.pruneMailboxes hu (app := app) (now := now)
      ((s2.db.mailboxesOfApp app).filter (fun r => ¬ r.updated > old)) hmb r2
    dsimp only
    split
    · dsimp only
      split
      · exact (r3.tail hy (.commit _)).tail hy (.ucommit _)
      · exact r3.tail hy (.commit _)
    · exact r3

variable (hws : ∀ id, K (.sweep (some id)))
include hws

theorem Runs.pruneApps {now old} (ht : K (.stamp now)) (l : List String) :
    ∀ {s1 : Sys}, Runs K s s1 → Runs K s (s1.pruneApps now old l).1 := by
  induction l with
  | nil => intro s1 r; exact r
  | cons app rest ih =>
    intro s1 r
    unfold Sys.pruneApps
    have r1 := r.prune hy hu hw app now old ht (fun _ _ => hws _)
    split
    next e => rw [e] at r1; exact r1
    next e => rw [e] at r1; exact ih r1

theorem Runs.expire (he : K .ev) (r : Runs K s s1) (now fault) (ht : K (.stamp now)) :
    Runs K s (s1.expire now fault) := by
  unfold Sys.expire
  dsimp only
  apply Runs.dumpStats hy hu
  have r0 := r.tail he (.fired _ now (now - Generated.expirationTicks))
  split
  · exact r0.tail he (.internal _ _ _)
  · have r1 := Runs.pruneApps hy hu hw hws (now := now) (old := now - Generated.expirationTicks) ht
      (s1.emit (.fired now (now - Generated.expirationTicks))).allApps r0
    split
    next e => rw [e] at r1; exact r1
    next e => rw [e] at r1; exact r1.tail he (.internal _ _ _)

end sweep

/-! ### `handle_release` and `handle_close`: refused by validation, or the body of Inv/WsBodies.lean -/

theorem handleRelease_cases (s : Sys) (x : Conn) (app side : String) (t : Time) (n : Option String) :
    (∃ text ∈ ["only one release per connection", "release and claim must use same nameplate",
        "release without nameplate must follow claim"], s.handleRelease x app side t n = s.sendError x.id text) ∨
    ∃ name, s.handleRelease x app side t n = s.releaseWith x app side t name := by
  rw [handleRelease_eq]
  split
  · exact .inl ⟨_, by simp, rfl⟩
  · split
    · split
      · exact .inl ⟨_, by simp, rfl⟩
      · exact .inr ⟨_, rfl⟩
    · exact .inr ⟨_, rfl⟩
    · exact .inr ⟨_, rfl⟩
    · exact .inl ⟨_, by simp, rfl⟩

/-- `handle_close`: refused by validation (a second close, another mailbox than the remembered one,
    or none at all), or `closeFinish` after `closeOpened` for the mailbox the command refers to -/
theorem handleClose_cases (s : Sys) (x : Conn) (app side : String) (t : Time) (m mood : Option String) :
    ((∃ text ∈ ["only one close per connection", "open and close must use same mailbox",
        "close without mailbox must follow open"], s.handleClose x app side t m mood = s.sendError x.id text) ∧
      (x.didClose = true ∨ (∃ a held, m = some a ∧ x.mailboxId = some held ∧ a ≠ held) ∨
        m = none ∧ x.mailboxId = none)) ∨
    ∃ mb, x.closeName m = some mb ∧
      s.handleClose x app side t m mood = closeFinish x app side t mood (s.closeOpened x app side t mb) := by
  rw [handleClose_eq]
  split
  · exact .inl ⟨⟨_, by simp, rfl⟩, .inl ‹_›⟩
  · split
    · rename_i a held hh
      split
      · exact .inl ⟨⟨_, by simp, rfl⟩, .inr (.inl ⟨a, held, rfl, hh, ‹_›⟩)⟩
      · exact .inr ⟨_, rfl, rfl⟩
    · exact .inr ⟨_, rfl, rfl⟩
    · rename_i hh
      exact .inr ⟨_, hh, rfl⟩
    · rename_i hh
      exact .inl ⟨⟨_, by simp, rfl⟩, .inr (.inr ⟨rfl, hh⟩)⟩

section handlers
variable (he : K .ev) (hy : K .sync)
include he hy

omit hy in
theorem Runs.handleBind (hy : K .sync) (hu : K .usage) (hb : K .bind) (r : Runs K s s1) (x t a sd i v) :
    Runs K s (s1.handleBind x t a sd i v) := by
  unfold Sys.handleBind
  split
  · exact r.sendError he _ _
  · split
    · exact r.sendError he _ _
    · split
      · exact r.sendError he _ _
      · exact (r.tail hb (.bind _ _ _ _)).logClientVersion hy hu _ _ _ _ _

theorem Runs.handleAllocate (hf : K .flag) (r : Runs K s s1) (x app side t pick draws fresh) (hg : K (.grow t)) :
    Runs K s (s1.handleAllocate x app side t pick draws fresh) := by
  unfold Sys.handleAllocate
  split
  · exact r.sendError he _ _
  · split
    · exact r.internalErr he _ _
    · rename_i name _
      have r1 := r.claimNameplate hy app name side t fresh hg
      split
      next e => rw [e] at r1; exact (r1.tail hf (.flag _ x.id (fun y => { y with didAllocate := true })
          (fun _ => ⟨rfl, rfl, rfl, rfl, rfl⟩) (fun _ => rfl))).frame he _ _
      next e => rw [e] at r1; exact r1.internalErr he _ _
      next e => rw [e] at r1; exact r1.internalErr he _ _
      next e => rw [e] at r1; exact r1.internalErr he _ _

theorem Runs.handleClaim (hf : K .flag) (r : Runs K s s1) (x app side t n fresh) (hg : K (.grow t)) :
    Runs K s (s1.handleClaim x app side t n fresh) := by
  unfold Sys.handleClaim
  split
  · exact r.sendError he _ _
  · split
    · exact r.sendError he _ _
    · rename_i name _
      dsimp only
      have r1 := (r.tail hf (.flag _ x.id (fun y => { y with didClaim := true, nameplateId := some name })
        (fun _ => ⟨rfl, rfl, rfl, rfl, rfl⟩) (fun _ => rfl))).claimNameplate hy app name side t fresh hg
      split
      next e => rw [e] at r1; exact r1.frame he _ _
      next e => rw [e] at r1; exact r1.sendError he _ _
      next e => rw [e] at r1; exact r1.sendError he _ _
      next e => rw [e] at r1; exact r1.internalErr he _ _

theorem Runs.handleRelease (hr : K .release) (hu : K .usage) (hf : K .flag) (r : Runs K s s1) (x app side t n) :
    Runs K s (s1.handleRelease x app side t n) := by
  rcases handleRelease_cases s1 x app side t n with ⟨_, _, e⟩ | ⟨name, e⟩ <;> rw [e]
  · exact r.sendError he _ _
  · unfold releaseWith
    have r1 := (r.tail hf (.flag _ x.id (fun y => { y with didRelease := true })
      (fun _ => ⟨rfl, rfl, rfl, rfl, rfl⟩) (fun _ => rfl))).releaseNameplate hy hr hu app name side t
    split
    next e => rw [e] at r1; exact r1.frame he _ _
    next e => rw [e] at r1; exact r1.internalErr he _ _

theorem Runs.handleOpen (hm : K .msg) (hn : K .conn) (r : Runs K s s1) (x app side t m) (hg : K (.grow t)) :
    Runs K s (s1.handleOpen x app side t m) := by
  unfold Sys.handleOpen
  split
  · exact r.sendError he _ _
  · split
    · exact r.sendError he _ _
    · rename_i mb
      dsimp only
      have r1 := (r.tail hn (.conn _ x.id (fun y => { y with mailboxId := some mb }) (fun _ => rfl))).openMailbox
        hy app mb side t hg
      split
      next e => rw [e] at r1; exact r1.sendError he _ _
      next e => rw [e] at r1; exact r1.internalErr he _ _
      next e => rw [e] at r1; exact (r1.tail hn (.conn _ x.id (fun y => { y with mailbox := some mb, listening := true })
          (fun _ => rfl))).replay hm _ _ _

/-- `handle_add`; the INSERT is reached only with a handle, a phase and a body -/
theorem Runs.handleAdd (hm : K .msg) (r : Runs K s s1) (x app side t id ph bd) (hg : K (.grow t))
    (ha : ∀ mb p b, x.mailbox = some mb → ph = some p → bd = some b → K (.add t)) :
    Runs K s (s1.handleAdd x app side t id ph bd) := by
  unfold Sys.handleAdd
  split
  · exact r.sendError he _ _
  · rename_i mb hmb
    split
    · exact r.sendError he _ _
    · split
      · exact r.sendError he _ _
      · exact (r.addMessage hy _ _ _ _ _ _ _ hg (ha _ _ _ hmb rfl rfl)).broadcast hm _ _ _

end handlers

/-- `handle_close` in two phases: up to the commit of the UPDATE of `Mailbox.close` (the implicit
    open included), and the deletion with the answer -/
theorem handleClose_runs₂ {K1 K2 : Kind → Prop} (he1 : K1 .ev) (hy1 : K1 .sync) (hn1 : K1 .conn)
    (he2 : K2 .ev) (hy2 : K2 .sync) (hu2 : K2 .usage) (hn2 : K2 .conn)
    (s1 : Sys) (x : Conn) (app side t m mood) (hg1 : K1 (.grow t))
    (hc : ∀ tgt, x.closeTarget m = some tgt → K1 (.closeUpd app tgt side mood))
    (hd : ∀ tgt, x.closeTarget m = some tgt → K2 (.closeDel app tgt)) :
    ∃ sm, Runs K1 s1 sm ∧ Runs K2 sm (s1.handleClose x app side t m mood) := by
  have held : ∀ s2 h, x.closeTarget m = some h → Runs K1 s1 s2 →
      ∃ sm, Runs K1 s1 sm ∧ Runs K2 sm (closeFinish x app side t mood (s2, .ok, h)) := by
    intro s2 h htg r
    obtain ⟨sm, r1, r2⟩ := mailboxClose_runs₂ hy1 hy2 hu2
      (s2.updConn x.id (fun y => { y with listening := false, didClose := true })) app h side mood t
      (hc h htg) (hd h htg)
    refine ⟨sm, (r.tail hn1 (.conn _ x.id (fun y => { y with listening := false, didClose := true })
      (fun _ => rfl))).trans r1, ?_⟩
    dsimp only [closeFinish]
    split
    next e => rw [e] at r2; exact r2.internalErr he2 _ _
    next e =>
      rw [e] at r2
      exact (r2.tail hn2 (.conn _ x.id (fun y => { y with mailbox := none }) (fun _ => rfl))).frame he2 _ _
  rcases handleClose_cases s1 x app side t m mood with ⟨⟨_, _, e⟩, _⟩ | ⟨mb, hmb, e⟩ <;> rw [e]
  · exact ⟨_, (Runs.refl s1).sendError he1 _ _, .refl _⟩
  · unfold closeOpened
    cases hx : x.mailbox with
    | some h => exact held s1 h (by simp [Conn.closeTarget, hx]) (.refl _)
    | none =>
      have r1 := (Runs.refl s1).openMailbox hy1 app mb side t hg1
      cases hom : s1.openMailbox app mb side t with
      | mk s2 r =>
        rw [hom] at r1
        have r2 := r1.tail hn1 (.conn _ x.id (fun y => if r = .ok then { y with mailbox := some mb } else y)
          (fun y => by split <;> rfl))
        cases r
        · exact held _ mb (by simp [Conn.closeTarget, hx, hmb]) r2
        · exact ⟨_, r2.sendError he1 _ _, .refl _⟩
        · exact ⟨_, r2.internalErr he1 _ _, .refl _⟩

section
variable (he : K .ev) (hy : K .sync)
include he hy

theorem Runs.handleClose (hu : K .usage) (hn : K .conn) (r : Runs K s s1) (x : Conn) (app side t m mood)
    (hg : K (.grow t))
    (hc : ∀ tgt, x.closeTarget m = some tgt → K (.closeUpd app tgt side mood))
    (hd : ∀ tgt, x.closeTarget m = some tgt → K (.closeDel app tgt)) :
    Runs K s (s1.handleClose x app side t m mood) := by
  obtain ⟨sm, r1, r2⟩ := handleClose_runs₂ he hy hn he hy hu hn s1 x app side t m mood hg hc hd
  exact (r.trans r1).trans r2

end

/-! ### `onMessage`, and the operations of a history -/

/-- `onMessage` in two phases, the second being the deletion of `Mailbox.close` and the answer to the
    `close`.  In the first phase: `message` frames and the INSERT of a message only for `add` (accepted)
    and `open`; binding only for `bind`; handle / subscription only for `open`, `close`; usage records
    only for `bind`, `release`; the statements of `release_nameplate` only for `release` -/
theorem onMessage_runs₂ {K1 K2 : Kind → Prop} (he : K1 .ev) (hy : K1 .sync) (hf : K1 .flag) {cmd : Cmd}
    (s : Sys) (c t id) (hg : K1 (.grow t))
    (hm : ((∃ ph bd, cmd = .add ph bd) ∨ ∃ m, cmd = .open_ m) → K1 .msg)
    (ha : ∀ x a mb ph bd, s.findConn c = some x → cmd = .add (some ph) (some bd) → x.app = some a →
      x.mailbox = some mb → K1 (.add t))
    (hb : (∃ a sd i v, cmd = .bind a sd i v) → K1 .bind)
    (hn : ((∃ m, cmd = .open_ m) ∨ ∃ m mood, cmd = .close m mood) → K1 .conn)
    (hu : ((∃ a sd i v, cmd = .bind a sd i v) ∨ ∃ n, cmd = .release n) → K1 .usage)
    (hr : (∃ n, cmd = .release n) → K1 .release)
    (hc : ∀ x m mood app tgt, s.findConn c = some x → cmd = .close m mood → x.app = some app →
      x.closeTarget m = some tgt → K1 (.closeUpd app tgt (x.side.getD "") mood) ∧ K2 (.closeDel app tgt))
    (h2 : (∃ m mood, cmd = .close m mood) → K2 .ev ∧ K2 .sync ∧ K2 .usage ∧ K2 .conn) :
    ∃ sm, Runs K1 s sm ∧ Runs K2 sm (s.onMessage c t id cmd) := by
  have one : ∀ {s'}, Runs K1 s s' → ∃ sm, Runs K1 s sm ∧ Runs K2 sm s' := fun r => ⟨_, r, .refl _⟩
  rw [onMessage_dispatch]
  split
  · exact one (.refl _)
  · rename_i x hx
    have ra : Runs K1 s (s.send c (.ack id)) := (Runs.refl s).frame he _ _
    split
    · exact one ((Runs.refl s).sendError he _ _)
    · exact one (ra.handlePing he _ _)
    · exact one (ra.handleBind he hy (hu (.inl ⟨_, _, _, _, rfl⟩)) (hb ⟨_, _, _, _, rfl⟩) _ _ _ _ _ _)
    · split
      · exact one (ra.sendError he _ _)
      · rename_i app happ
        cases cmd with
        | list => exact one (ra.handleList he _ _)
        | allocate pick draws fresh => exact one (ra.handleAllocate he hy hf _ _ _ _ _ _ _ hg)
        | claim n fresh => exact one (ra.handleClaim he hy hf _ _ _ _ _ _ hg)
        | release n => exact one (ra.handleRelease he hy (hr ⟨_, rfl⟩) (hu (.inr ⟨_, rfl⟩)) hf _ _ _ _ _)
        | open_ m => exact one (ra.handleOpen he hy (hm (.inr ⟨_, rfl⟩)) (hn (.inl ⟨_, rfl⟩)) _ _ _ _ _ hg)
        | add ph bd =>
          exact one (ra.handleAdd he hy (hm (.inl ⟨_, _, rfl⟩)) _ _ _ _ _ _ _ hg
            (fun mb p b hmb hp hb' => ha x app mb p b hx (by rw [hp, hb']) happ hmb))
        | close m mood =>
          obtain ⟨he2, hy2, hu2, hn2⟩ := h2 ⟨_, _, rfl⟩
          obtain ⟨sm, r1, r2⟩ := handleClose_runs₂ he hy (hn (.inr ⟨_, _, rfl⟩)) he2 hy2 hu2 hn2
            (s.send c (.ack id)) x app (x.side.getD "") t m mood hg
            (fun tgt htg => (hc x m mood app tgt hx rfl happ htg).1)
            (fun tgt htg => (hc x m mood app tgt hx rfl happ htg).2)
          exact ⟨sm, ra.trans r1, r2⟩
        | _ => exact one (ra.sendError he _ _)

theorem onMessage_runs (he : K .ev) (hy : K .sync) (hf : K .flag) {cmd : Cmd} (s : Sys) (c t id)
    (hg : K (.grow t))
    (hm : ((∃ ph bd, cmd = .add ph bd) ∨ ∃ m, cmd = .open_ m) → K .msg)
    (ha : ∀ x a mb ph bd, s.findConn c = some x → cmd = .add (some ph) (some bd) → x.app = some a →
      x.mailbox = some mb → K (.add t))
    (hb : (∃ a sd i v, cmd = .bind a sd i v) → K .bind)
    (hn : ((∃ m, cmd = .open_ m) ∨ ∃ m mood, cmd = .close m mood) → K .conn)
    (hu : ((∃ a sd i v, cmd = .bind a sd i v) ∨ (∃ n, cmd = .release n) ∨ ∃ m mood, cmd = .close m mood) → K .usage)
    (hr : (∃ n, cmd = .release n) → K .release)
    (hc : ∀ x m mood app tgt, s.findConn c = some x → cmd = .close m mood → x.app = some app →
      x.closeTarget m = some tgt → K (.closeUpd app tgt (x.side.getD "") mood) ∧ K (.closeDel app tgt)) :
    Runs K s (s.onMessage c t id cmd) := by
  obtain ⟨sm, r1, r2⟩ := onMessage_runs₂ (K1 := K) (K2 := K) he hy hf s c t id hg hm ha hb hn
    (fun h => hu (h.elim .inl (fun h => .inr (.inl h)))) hr hc
    (fun h => ⟨he, hy, hu (.inr (.inr h)), hn (.inr h)⟩)
  exact r1.trans r2

theorem onMessage_runs_all (hK : ∀ k, k ≠ .link → k ≠ .boot → K k) (s : Sys) (c t id cmd) :
    Runs K s (s.onMessage c t id cmd) :=
  have h : ∀ {k} (_ : k ≠ .link := by nofun) (_ : k ≠ .boot := by nofun), K k := fun a b => hK _ a b
  onMessage_runs (he := h) (hy := h) (hf := h) s c t id (hg := h) (hm := fun _ => h) (ha := fun _ _ _ _ _ _ _ _ _ => h)
    (hb := fun _ => h) (hn := fun _ => h) (hu := fun _ => h) (hr := fun _ => h)
    (hc := fun _ _ _ _ _ _ _ _ _ => ⟨h, h⟩)

theorem stepPlain_runs (hK : ∀ k, K k) (s : Sys) (op : Op) : Runs K s (s.stepPlain op) := by
  cases op with
  | connect c => exact ((Runs.refl s).tail (hK .link) (.conns _ _)).frame (hK _) _ _
  | recv c t id cmd => exact onMessage_runs_all (fun k _ _ => hK k) s c t id cmd
  | drop c => exact (Runs.refl s).tail (hK .link) (.conns _ _)
  | sweep now fault => exact (Runs.refl s).expire (hK _) (hK _) (hK _) (fun _ => hK _) (hK _) now fault (hK _)
  | restart t => exact (Runs.refl s).tail (hK .boot) (.restart _ t)
  | crashIn _ _ => exact .refl _

end pass

end Sys
end Wormhole
