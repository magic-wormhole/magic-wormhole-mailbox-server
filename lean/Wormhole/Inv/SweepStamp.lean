/-
  `mailboxes.updated` is stamped by every successful open / claim / add (`Mailbox._touch`,
  `_add_mailbox`): Core-level lemmas behind `C12_activity_stamps_*`.
-/
import Wormhole.Inv.MsgWs

namespace Wormhole

namespace Chan

/-- `UPDATE mailboxes SET updated=? WHERE id=?` -/
theorem touch_updated {d : Chan} {mb : String} {t : Time} {r : MailboxRow}
    (hr : r ∈ (d.touch mb t).mailboxes) (e : r.id = mb) : r.updated = t := by
  simp only [touch, List.mem_map] at hr
  obtain ⟨r0, _, rfl⟩ := hr
  by_cases h : r0.id = mb
  · simp [h]
  · simp [h] at e

theorem touch_mem {d : Chan} {mb : String} {t : Time} {r : MailboxRow} (hr : r ∈ d.mailboxes) (e : r.id = mb) :
    ({ r with updated := t } : MailboxRow) ∈ (d.touch mb t).mailboxes := by
  simp only [touch, List.mem_map]
  exact ⟨r, hr, by simp [e]⟩

end Chan

namespace Sys

/-- the row of `(app, mb)` is there and carries `updated = t` -/
def Stamped (s : Sys) (app mb : String) (t : Time) : Prop :=
  (∃ r ∈ s.db.mailboxes, r.id = mb ∧ r.app = app ∧ r.updated = t) ∧
  ∀ r ∈ s.db.mailboxes, r.id = mb → r.updated = t

instance (s : Sys) (app mb : String) (t : Time) : Decidable (s.Stamped app mb t) := by
  unfold Stamped; infer_instance

theorem mailboxOpen_mailboxes (s : Sys) (mb side : String) (t : Time) :
    (s.mailboxOpen mb side t).db.mailboxes = (s.db.touch mb t).mailboxes := by
  unfold mailboxOpen
  split <;> simp [Chan.touch, Chan.insMbSide]

theorem addMailbox_row {s s1 : Sys} {app mb forNp t} (h : s.addMailbox app mb forNp t = some s1) :
    ∃ r ∈ s1.db.mailboxes, r.id = mb ∧ r.app = app := by
  unfold addMailbox at h
  split at h
  · rename_i row e
    cases h
    have := List.find?_some e
    simp only [decide_eq_true_eq] at this
    exact ⟨row, List.mem_of_find?_eq_some e, this.2, this.1⟩
  · split at h
    · cases h
    · cases h
      exact ⟨⟨app, mb, t, forNp⟩, by simp [Chan.insMailbox], rfl, rfl⟩

/-- `open_mailbox` (also when it ends in `CrowdedError`) stamps the row -/
theorem openMailbox_stamped {s s1 : Sys} {app mb side t r} (h : s.openMailbox app mb side t = (s1, r))
    (hr : r ≠ .integrity) : s1.Stamped app mb t := by
  unfold openMailbox at h
  split at h
  · simp only [Prod.mk.injEq] at h
    exact absurd h.2.symm hr
  · rename_i s0 e
    obtain ⟨row, hrow, e1, e2⟩ := addMailbox_row e
    have hdb : s1.db.mailboxes = (s0.db.touch mb t).mailboxes := by
      dsimp only at h
      split at h <;>
      · simp only [Prod.mk.injEq] at h
        rw [← h.1, commit_db, mailboxOpen_mailboxes]
    constructor
    · refine ⟨{ row with updated := t }, ?_, e1, e2, rfl⟩
      rw [hdb]; exact Chan.touch_mem hrow e1
    · intro r' hr' e'
      rw [hdb] at hr'
      exact Chan.touch_updated hr' e'

/-- `claim_nameplate` from the point where the side row is known: unless `open_mailbox` raised
    `IntegrityError`, it has stamped the mailbox (before `CrowdedError`, too) -/
theorem claimCont_stamped {s s1 : Sys} {app npid mb side t r}
    (h : claimCont s app npid mb side t = (s1, r)) (hr : r ≠ .integrity) :
    s1.Stamped app mb t ∧ s1.db.nameplates = s.db.nameplates ∧ ∀ mb', r = .ok mb' → mb' = mb := by
  have hnp := (claimCont_spec h).1.np
  simp only [Chan.npPart, Prod.mk.injEq] at hnp
  unfold claimCont at h
  dsimp only at h
  split at h
  · simp only [Prod.mk.injEq] at h; exact absurd h.2.symm hr
  · rename_i s3 e
    simp only [Prod.mk.injEq] at h
    obtain ⟨rfl, rfl⟩ := h
    exact ⟨openMailbox_stamped e (by simp), hnp.1, fun _ e' => by cases e'⟩
  · rename_i s3 e
    split at h <;>
    · simp only [Prod.mk.injEq] at h
      obtain ⟨rfl, rfl⟩ := h
      exact ⟨openMailbox_stamped e (by simp), hnp.1, fun _ e' => by cases e' <;> rfl⟩

theorem claimTail_stamped {s s1 : Sys} {app npid mb side t r}
    (h : s.claimTail app npid mb side t = (s1, r)) (hr : r ≠ .integrity) (hr' : r ≠ .reclaimed) :
    s1.Stamped app mb t ∧ s1.db.nameplates = s.db.nameplates ∧ ∀ mb', r = .ok mb' → mb' = mb := by
  rw [claimTail_eq] at h
  split at h
  · obtain ⟨a, b, c⟩ := claimCont_stamped h hr
    exact ⟨a, b, c⟩
  · split at h
    · exact claimCont_stamped h hr
    · simp only [Prod.mk.injEq] at h; exact absurd h.2.symm hr'

/-- `claim_nameplate(name, side, when)` that returns or raises `CrowdedError`: the nameplate `(app, name)`
    exists, the row of its mailbox is stamped `when`, and that mailbox is the one returned -/
theorem claimNameplate_stamped {s s1 : Sys} {app name side t fresh r}
    (h : s.claimNameplate app name side t fresh = (s1, r)) (hr : r ≠ .integrity) (hr' : r ≠ .reclaimed) :
    ∃ n ∈ s1.db.nameplates, n.app = app ∧ n.name = name ∧ s1.Stamped app n.mailbox t ∧
      ∀ mb, r = .ok mb → mb = n.mailbox := by
  unfold claimNameplate at h
  split at h
  · split at h
    · simp only [Prod.mk.injEq] at h; exact absurd h.2.symm hr
    · rename_i s0 e
      obtain ⟨a, b, c⟩ := claimTail_stamped h hr hr'
      refine ⟨⟨s0.db.nextNp, app, name, fresh⟩, ?_, rfl, rfl, a, c⟩
      rw [b]; simp [Chan.insNameplate]
  · rename_i row e
    obtain ⟨a, b, c⟩ := claimTail_stamped h hr hr'
    have := List.find?_some e
    simp only [decide_eq_true_eq] at this
    exact ⟨row, by rw [b]; exact List.mem_of_find?_eq_some e, this.1, this.2, a, c⟩

/-- `Mailbox._add_message` stamps every row with that id -/
theorem addMessage_updated (s : Sys) (app mb side : String) (ph bd : Val) (t : Time) (id : Val)
    {r : MailboxRow} (hr : r ∈ (s.addMessage app mb side ph bd t id).db.mailboxes) (e : r.id = mb) :
    r.updated = t := by
  simp only [addMessage, commit_db, modDb_db] at hr
  exact Chan.touch_updated hr e

theorem addMessage_mem (s : Sys) (app mb side : String) (ph bd : Val) (t : Time) (id : Val)
    {r : MailboxRow} (hr : r ∈ s.db.mailboxes) (e : r.id = mb) :
    ({ r with updated := t } : MailboxRow) ∈ (s.addMessage app mb side ph bd t id).db.mailboxes := by
  simp only [addMessage, commit_db, modDb_db]
  exact Chan.touch_mem (d := s.db.insMessage _) hr e

@[simp] theorem sw_send_db (s : Sys) (c f) : (s.send c f).db = s.db := rfl
@[simp] theorem sw_sendError_db (s : Sys) (c t) : (s.sendError c t).db = s.db := rfl
@[simp] theorem sw_internalErr_db (s : Sys) (c t) : (s.internalErr c t).db = s.db := rfl

@[simp] theorem sw_broadcast_db (s : Sys) (app mb f) : (s.broadcast app mb f).db = s.db := by
  rw [Sys.broadcast, foldl_send_eq]

@[simp] theorem sw_replay_db (s : Sys) (c app mb) : (s.replay c app mb).db = s.db := by
  rw [Sys.replay, foldl_send_eq]

end Sys
end Wormhole
