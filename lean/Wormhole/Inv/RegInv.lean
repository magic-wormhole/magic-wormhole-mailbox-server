/-
  The registry invariant `RSys.RegInv` and the lemmas about dict / heap look-ups.

  `RegInv r` (every clause is about the registry and the connection records only, never about
  the databases):
   * dicts have unique keys, heaps have unique oids below `nextOid`;
   * `_apps[a]` is a namespace object of app `a`; `ns._mailboxes[m]` is a Mailbox object created by
     `ns` for `(ns.app, m)`; a namespace that has any Mailbox object is registered (`nsReg`);
   * a connection's held object exists and belongs to the connection's app (`heldObj`); if the
     connection is LISTENING the object is the registered one (`heldReg`); it is in the object's
     listener dict iff it is listening (`listenIff`);
   * every listener of every object is a live connection holding that object (`lisConn`).
  Consequences (below): at most one registered object per (app, mailbox id)
  (`Registered.unique`); an unregistered object has no listeners (`RegInv.unregistered_no_listeners`).
  A connection that holds WITHOUT listening exists only inside `handle_close`; with the `Sys`-side
  fact "handle ⇒ listening" (`ConnInv.handle`, part of `GInv`) `heldReg` covers every holder
  (`RegInv.held_registered`).
-/
import Wormhole.Inv.RegFrame
import Wormhole.Inv.NpOk

namespace Wormhole

theorem pw_snoc {α β : Type} {f : α → β} {l : List α} {x : α} (h : l.Pairwise (fun a b => ¬ f a = f b))
    (hx : ∀ a ∈ l, ¬ f a = f x) : (l ++ [x]).Pairwise (fun a b => ¬ f a = f b) := by
  rw [List.pairwise_append]
  exact ⟨h, List.pairwise_singleton _ _, fun a ha b hb => by rw [List.mem_singleton.1 hb]; exact hx a ha⟩

theorem find?_pw {α β : Type} [DecidableEq β] {f : α → β} {l : List α}
    (h : l.Pairwise (fun a b => ¬ f a = f b)) {v : β} {a : α} :
    l.find? (fun x => f x = v) = some a ↔ a ∈ l ∧ f a = v := by
  constructor
  · intro e
    exact ⟨List.mem_of_find?_eq_some e, by simpa using List.find?_some e⟩
  · rintro ⟨ha, rfl⟩
    induction l with
    | nil => simp at ha
    | cons x xs ih =>
      simp only [List.pairwise_cons] at h
      simp only [List.mem_cons] at ha
      simp only [List.find?_cons]
      grind

theorem alookup_eq_some {l : List (String × Nat)} (hk : l.Pairwise (fun a b => ¬ a.1 = b.1)) {k : String} {v : Nat} :
    alookup l k = some v ↔ (k, v) ∈ l := by
  unfold alookup
  simp only [Option.map_eq_some_iff, find?_pw (f := Prod.fst) hk]
  constructor
  · rintro ⟨p, ⟨hp, rfl⟩, rfl⟩
    exact hp
  · intro h
    exact ⟨_, ⟨h, rfl⟩, rfl⟩

theorem alookup_eq_none {l : List (String × Nat)} {k : String} :
    alookup l k = none ↔ ∀ p ∈ l, ¬ p.1 = k := by
  unfold alookup
  simp [List.find?_eq_none]

/-- `_mailbox_id` of the Mailbox object `o`, if it is in the heap -/
def mbIdOf (mbs : List MbObj) (o : Nat) : Option String := (mbs.find? (fun k => k.oid = o)).map (·.mailboxId)

namespace RSys

theorem absConn_mailbox (mbs : List MbObj) (x : RConn) :
    (absConn mbs x).mailbox = x.mailbox.bind (mbIdOf mbs) := rfl

theorem abs_eq (r : RSys) : r.abs = r.core.setConns (r.conns.map (absConn r.mbs)) := rfl

/-- `server._apps[app]._mailboxes[mb]` is the object `o` -/
def Registered (r : RSys) (app mb : String) (o : Nat) : Prop :=
  ∃ ns ∈ r.nss, (app, ns.oid) ∈ r.apps ∧ (mb, o) ∈ ns.boxes

structure RegInv (r : RSys) : Prop where
  connIds : r.conns.Pairwise (fun a b => ¬ a.id = b.id)
  appsKey : r.apps.Pairwise (fun a b => ¬ a.1 = b.1)
  nsOids : r.nss.Pairwise (fun a b => ¬ a.oid = b.oid)
  mbOids : r.mbs.Pairwise (fun a b => ¬ a.oid = b.oid)
  nsBound : ∀ ns ∈ r.nss, ns.oid < r.nextOid
  mbBound : ∀ k ∈ r.mbs, k.oid < r.nextOid
  appsNs : ∀ p ∈ r.apps, ∃ ns ∈ r.nss, ns.oid = p.2 ∧ ns.app = p.1
  boxesKey : ∀ ns ∈ r.nss, ns.boxes.Pairwise (fun a b => ¬ a.1 = b.1)
  boxesMb : ∀ ns ∈ r.nss, ∀ p ∈ ns.boxes,
    ∃ k ∈ r.mbs, k.oid = p.2 ∧ k.nsOid = ns.oid ∧ k.app = ns.app ∧ k.mailboxId = p.1
  nsReg : ∀ ns ∈ r.nss, ns.boxes ≠ [] → (ns.app, ns.oid) ∈ r.apps
  mbNs : ∀ k ∈ r.mbs, ∃ ns ∈ r.nss, ns.oid = k.nsOid ∧ ns.app = k.app
  heldObj : ∀ x ∈ r.conns, ∀ o, x.mailbox = some o → ∃ k ∈ r.mbs, k.oid = o ∧ x.app = some k.app
  heldReg : ∀ x ∈ r.conns, ∀ k ∈ r.mbs, x.mailbox = some k.oid → x.listening = true →
    r.Registered k.app k.mailboxId k.oid
  listenIff : ∀ x ∈ r.conns, ∀ k ∈ r.mbs, x.mailbox = some k.oid → (x.id ∈ k.listeners ↔ x.listening = true)
  lisConn : ∀ k ∈ r.mbs, ∀ c ∈ k.listeners, ∃ x ∈ r.conns, x.id = c ∧ x.mailbox = some k.oid
  lisNodup : ∀ k ∈ r.mbs, k.listeners.Pairwise (fun a b => ¬ a = b)

/-- "a connection that holds a Mailbox is subscribed to it" (`ConnInv.handle`, from `GInv`) -/
def HoldsListen (r : RSys) : Prop := ∀ x ∈ r.conns, x.mailbox.isSome → x.listening = true

section lookups
variable {r : RSys}

theorem findNs_eq_some (h : r.RegInv) {n : Nat} {ns : Ns} : r.findNs n = some ns ↔ ns ∈ r.nss ∧ ns.oid = n :=
  find?_pw (f := Ns.oid) h.nsOids

theorem findMb_eq_some (h : r.RegInv) {o : Nat} {k : MbObj} : r.findMb o = some k ↔ k ∈ r.mbs ∧ k.oid = o :=
  find?_pw (f := MbObj.oid) h.mbOids

theorem findConn_eq_some (h : r.RegInv) {c : Nat} {x : RConn} : r.findConn c = some x ↔ x ∈ r.conns ∧ x.id = c :=
  find?_pw (f := RConn.id) h.connIds

theorem mbIdOf_eq (h : r.RegInv) {k : MbObj} (hk : k ∈ r.mbs) : mbIdOf r.mbs k.oid = some k.mailboxId := by
  have := (findMb_eq_some h).2 ⟨hk, rfl⟩
  unfold findMb at this
  simp [mbIdOf, this]

theorem RegInv.conn_eq (h : r.RegInv) {x y : RConn} (hx : x ∈ r.conns) (hy : y ∈ r.conns) (e : x.id = y.id) : x = y :=
  Chan.eq_of_pairwise_ne (f := RConn.id) h.connIds hx hy e

theorem RegInv.mb_eq (h : r.RegInv) {k k' : MbObj} (hk : k ∈ r.mbs) (hk' : k' ∈ r.mbs) (e : k.oid = k'.oid) : k = k' :=
  Chan.eq_of_pairwise_ne (f := MbObj.oid) h.mbOids hk hk' e

theorem RegInv.ns_eq (h : r.RegInv) {n n' : Ns} (hn : n ∈ r.nss) (hn' : n' ∈ r.nss) (e : n.oid = n'.oid) : n = n' :=
  Chan.eq_of_pairwise_ne (f := Ns.oid) h.nsOids hn hn' e

theorem RegInv.findNs_app (h : r.RegInv) {app : String} {n : Nat} (hn : (app, n) ∈ r.apps) :
    ∃ ns, r.findNs n = some ns ∧ ns ∈ r.nss ∧ ns.oid = n ∧ ns.app = app := by
  obtain ⟨ns, hns, e1, e2⟩ := h.appsNs _ hn
  exact ⟨ns, (findNs_eq_some h).2 ⟨hns, e1⟩, hns, e1, e2⟩

theorem RegInv.appNs_eq (h : r.RegInv) {a : String} {n n' : Ns} (hn : n ∈ r.nss) (hn' : n' ∈ r.nss)
    (hr : (a, n.oid) ∈ r.apps) (hr' : (a, n'.oid) ∈ r.apps) : n = n' :=
  h.ns_eq hn hn' (Prod.mk.inj (Chan.eq_of_pairwise_ne (f := Prod.fst) h.appsKey hr hr' rfl)).2

/-- at most one registered Mailbox object per (app, mailbox id) -/
theorem Registered.unique (h : r.RegInv) {app mb : String} {o o' : Nat} (h1 : r.Registered app mb o)
    (h2 : r.Registered app mb o') : o = o' := by
  obtain ⟨ns, hns, ha, hb⟩ := h1
  obtain ⟨ns', hns', ha', hb'⟩ := h2
  cases h.appNs_eq hns hns' ha ha'
  exact (Prod.mk.inj (Chan.eq_of_pairwise_ne (f := Prod.fst) (h.boxesKey ns hns) hb hb' rfl)).2

theorem Registered.obj (h : r.RegInv) {app mb : String} {o : Nat} (h1 : r.Registered app mb o) :
    ∃ k ∈ r.mbs, k.oid = o ∧ k.app = app ∧ k.mailboxId = mb := by
  obtain ⟨ns, hns, ha, hb⟩ := h1
  obtain ⟨k, hk, e1, _, e3, e4⟩ := h.boxesMb ns hns _ hb
  obtain ⟨ns', hns', e5, e6⟩ := h.appsNs _ ha
  cases h.ns_eq hns' hns e5
  exact ⟨k, hk, e1, e3.trans e6, e4⟩

theorem RegInv.heldMem (h : r.RegInv) {x : RConn} (hx : x ∈ r.conns) {k : MbObj} (hk : k ∈ r.mbs)
    (hm : x.mailbox = some k.oid) : x.app = some k.app := by
  obtain ⟨k', hk', e, ha⟩ := h.heldObj x hx _ hm
  cases h.mb_eq hk' hk e
  exact ha

theorem RegInv.listened_registered (h : r.RegInv) {k : MbObj} (hk : k ∈ r.mbs) {c : Nat} (hc : c ∈ k.listeners) :
    r.Registered k.app k.mailboxId k.oid := by
  obtain ⟨x, hx, e, hm⟩ := h.lisConn k hk c hc
  exact h.heldReg x hx k hk hm ((h.listenIff x hx k hk hm).1 (by rw [e]; exact hc))

theorem RegInv.unregistered_no_listeners (h : r.RegInv) {k : MbObj} (hk : k ∈ r.mbs)
    (hu : ¬ r.Registered k.app k.mailboxId k.oid) : k.listeners = [] := by
  cases hl : k.listeners with
  | nil => rfl
  | cons c _ => exact absurd (h.listened_registered hk (c := c) (by simp [hl])) hu

theorem RegInv.held_registered (h : r.RegInv) (hl : r.HoldsListen) {x : RConn} (hx : x ∈ r.conns) {o : Nat}
    (hm : x.mailbox = some o) :
    ∃ k ∈ r.mbs, k.oid = o ∧ x.app = some k.app ∧ r.Registered k.app k.mailboxId o ∧ x.id ∈ k.listeners := by
  obtain ⟨k, hk, rfl, ha⟩ := h.heldObj x hx o hm
  have hL := hl x hx (by simp [hm])
  exact ⟨k, hk, rfl, ha, h.heldReg x hx k hk hm hL, (h.listenIff x hx k hk hm).2 hL⟩

theorem RegInv.unregistered_not_held (h : r.RegInv) (hl : r.HoldsListen) {k : MbObj} (hk : k ∈ r.mbs)
    (hu : ¬ r.Registered k.app k.mailboxId k.oid) : ∀ x ∈ r.conns, ¬ x.mailbox = some k.oid := by
  intro x hx hm
  obtain ⟨k', hk', e, _, hr, _⟩ := h.held_registered hl hx hm
  cases h.mb_eq hk' hk e
  exact hu hr

end lookups

end RSys
end Wormhole
