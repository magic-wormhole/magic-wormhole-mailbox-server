/-
  The expiry sweep against the registry: the touch loop over `self._mailboxes.values()` touches
  exactly the rows `Sys.touchListened` touches; `prune_all_apps` with its `get_app` / `del
  self._apps[app_id]` is `Sys.pruneApps`; `dump_stats` writes the number of listening connections.

  `Sys`-side facts used (all part of `Sys.Good`, Inv/StepInv.lean, which every sweep preserves):
  a listening connection's handle points at a mailbox row of its app, and `mailboxes.id` is unique.
-/
import Wormhole.Inv.RegStep
import Wormhole.Inv.StepInv

namespace Wormhole
namespace RSys

/-- the mailbox ids the loop touches: those of the objects with a listener, in dict order -/
def touchIds (r : RSys) (l : List (String × Nat)) : List String :=
  (l.filter (fun p => match r.findMb p.2 with | some k => decide (k.listeners ≠ []) | none => false)).map (·.1)

/-- `UPDATE mailboxes SET updated=now WHERE id=?` for every id of the list -/
def touchAll (ids : List String) (now : Time) (d : Chan) : Chan := ids.foldl (fun d m => d.touch m now) d

theorem touchAll_eq (now : Time) (ids : List String) : ∀ d : Chan,
    touchAll ids now d =
      { d with mailboxes := d.mailboxes.map (fun row => if row.id ∈ ids then { row with updated := now } else row) } := by
  induction ids with
  | nil => intro d; simp [touchAll]
  | cons m rest ih =>
    intro d
    unfold touchAll at ih ⊢
    rw [List.foldl_cons, ih]
    simp only [Chan.touch, List.map_map]
    congr 1
    apply List.map_congr_left
    intro row _
    simp only [Function.comp, List.mem_cons]
    by_cases e1 : row.id = m <;> by_cases e2 : row.id ∈ rest <;> simp [e1, e2]

theorem touchLoop_eq (now : Time) (l : List (String × Nat)) : ∀ (r : RSys), r.RegInv →
    (∀ p ∈ l, ∃ k ∈ r.mbs, k.oid = p.2 ∧ k.mailboxId = p.1) →
    r.touchLoop now l = { r with core := r.core.modDb (touchAll (r.touchIds l) now) } := by
  induction l with
  | nil => intro r _ _; rfl
  | cons p rest ih =>
    intro r h hl
    obtain ⟨hp, hrest⟩ := List.forall_mem_cons.1 hl
    obtain ⟨k, hk, e1, e2⟩ := hp
    have hf : r.findMb p.2 = some k := (findMb_eq_some h).2 ⟨hk, e1⟩
    unfold touchLoop
    rw [hf]
    dsimp only
    by_cases hne : k.listeners ≠ []
    · rw [if_pos hne, ih _ (h.onCore _) hrest]
      have : r.touchIds (p :: rest) = p.1 :: r.touchIds rest := by
        simp only [touchIds, List.filter_cons, hf, decide_eq_true hne, if_true, List.map_cons]
      rw [this, ← e2]
      rfl
    · rw [if_neg hne, ih _ h hrest]
      have : r.touchIds (p :: rest) = r.touchIds rest := by
        simp only [touchIds, List.filter_cons, hf, decide_eq_false hne, Bool.false_eq_true, if_false]
      rw [this]

/-- what the `Sys` side must know for the touch loops to agree -/
structure TouchOk (s : Sys) : Prop where
  lh : s.LHandleOk
  mbIds : s.db.mailboxes.Pairwise (fun a b => ¬ a.id = b.id)

theorem TouchOk.of_good {U : String → Prop} {t : Time} {S : Prop} {s : Sys} (g : s.Good U t S) : TouchOk s :=
  ⟨g.lh, g.db.cinv.toPInv.mbIds⟩

theorem touchLoop_spec {r : RSys} {s : Sys} (h : Abs r s) (hs : TouchOk s) {ns : Ns} (hns : ns ∈ r.nss)
    (hreg : (ns.app, ns.oid) ∈ r.apps) (now : Time) :
    ∃ c, r.touchLoop now ns.boxes = { r with core := c } ∧ s.touchListened ns.app now = c.setConns r.aconns := by
  obtain ⟨h, rfl⟩ := h
  refine ⟨_, touchLoop_eq now ns.boxes r h (fun p hp => ?_), ?_⟩
  · obtain ⟨k, hk, e1, _, _, e4⟩ := h.boxesMb ns hns p hp
    exact ⟨k, hk, e1, e4⟩
  show r.abs.touchListened ns.app now = r.abs.modDb (touchAll (r.touchIds ns.boxes) now)
  unfold Sys.touchListened Sys.modDb
  rw [touchAll_eq]
  simp only [Sys.mk.injEq, true_and, and_true, Chan.mk.injEq, abs_db]
  apply List.map_congr_left
  intro row hrow
  suffices key : (row.app = ns.app ∧ r.abs.listeners ns.app row.id ≠ []) ↔ row.id ∈ r.touchIds ns.boxes by
    by_cases hin : row.id ∈ r.touchIds ns.boxes
    · rw [if_pos hin, if_pos (key.2 hin)]
    · rw [if_neg hin, if_neg (fun hc => hin (key.1 hc))]
  have hobj : ∀ p ∈ ns.boxes, ∃ k ∈ r.mbs, r.findMb p.2 = some k ∧ k.app = ns.app ∧ k.mailboxId = p.1 ∧
      k.listeners.Perm (r.abs.listeners ns.app p.1) := by
    intro p hp
    obtain ⟨k, hk, e1, _, e3, e4⟩ := h.boxesMb ns hns p hp
    have := h.listeners_perm hk ⟨ns, hns, by rw [e3]; exact hreg, by rw [e4, e1]; exact hp⟩
    rw [e3, e4] at this
    exact ⟨k, hk, (findMb_eq_some h).2 ⟨hk, e1⟩, e3, e4, this⟩
  simp only [touchIds, List.mem_map, List.mem_filter]
  constructor
  · rintro ⟨_, hne⟩
    -- some connection listens on (app, row.id); it holds the registered object, which is in `ns`
    obtain ⟨c, hc⟩ := List.exists_mem_of_ne_nil _ hne
    simp only [Sys.listeners, List.mem_map, List.mem_filter, decide_eq_true_eq, abs_conns, aconns] at hc
    obtain ⟨_, ⟨⟨y, hy, rfl⟩, hzl, hza, hzm⟩, _⟩ := hc
    obtain ⟨k, hk, hm, _, _, ns', hns', ha', hb'⟩ := h.listening_registered hy hzl hza hzm
    cases h.appNs_eq hns' hns ha' hreg
    obtain ⟨k', _, hf, _, _, hperm⟩ := hobj _ hb'
    refine ⟨_, ⟨hb', ?_⟩, rfl⟩
    rw [hf]
    simp only [decide_eq_true_eq]
    exact fun h0 => hne (List.Perm.eq_nil (h0 ▸ hperm.symm))
  · rintro ⟨p, ⟨hp, hlis⟩, e⟩
    obtain ⟨k, hk, hf, e3, e4, hperm⟩ := hobj p hp
    rw [e] at hperm
    rw [hf] at hlis
    simp only [decide_eq_true_eq] at hlis
    refine ⟨?_, fun h0 => hlis (List.Perm.eq_nil (h0 ▸ hperm))⟩
    -- a listener's handle points at a row of its app; ids are unique
    obtain ⟨c, hc⟩ := List.exists_mem_of_ne_nil _ hlis
    obtain ⟨y, hy, ey, hmy⟩ := h.lisConn k hk c hc
    have hyl := (h.listenIff y hy k hk hmy).1 (ey ▸ hc)
    obtain ⟨a, ha, row', hrow', er1, er2⟩ := hs.lh _ (List.mem_map.2 ⟨y, hy, rfl⟩) hyl k.mailboxId
      (absConn_mailbox_eq h hk hmy)
    rw [absConn_app, h.heldMem hy hk hmy, Option.some.injEq] at ha
    cases Chan.eq_of_pairwise_ne (f := MailboxRow.id) hs.mbIds hrow' hrow (by rw [er1, e4, e])
    rw [er2, ← ha, e3]

/-! ### prune, prune_all_apps -/

/-- the registry components are those of `r` -/
structure SameReg (r r' : RSys) : Prop where
  conns : r'.conns = r.conns
  apps : r'.apps = r.apps
  nss : r'.nss = r.nss
  mbs : r'.mbs = r.mbs
  nextOid : r'.nextOid = r.nextOid

theorem SameReg.regInv {r r' : RSys} (e : SameReg r r') (h : r.RegInv) : r'.RegInv := by
  have : r' = { r with core := r'.core } := by
    cases r'; cases r
    simp only [RSys.mk.injEq, true_and]
    exact ⟨e.conns, e.apps, e.nss, e.mbs, e.nextOid⟩
  rw [this]; exact h.core _

theorem SameReg.aconns {r r' : RSys} (e : SameReg r r') : r'.aconns = r.aconns := by
  unfold RSys.aconns; rw [e.conns, e.mbs]

/-- `AppNamespace.prune` on the registered namespace of `app` -/
theorem prune_spec {r : RSys} {s : Sys} (h : Abs r s) (hs : TouchOk s) {app : String} {n : Nat} (hn : (app, n) ∈ r.apps)
    (now old : Time) :
    ∃ ns ∈ r.nss, ns.oid = n ∧ ns.app = app ∧ ∃ c b,
      r.prune n now old = ({ r with core := c }, b, !ns.boxes.isEmpty) ∧ s.prune app now old = (c.setConns r.aconns, b) := by
  obtain ⟨ns, hf, hns, e1, rfl⟩ := h.inv.findNs_app hn
  obtain ⟨c, t1, t2⟩ := touchLoop_spec h hs hns (by rw [e1]; exact hn) now
  refine ⟨ns, hns, e1, rfl, (c.commit.pruneTail ns.app now old).1, (c.commit.pruneTail ns.app now old).2, ?_, ?_⟩
  · unfold prune
    rw [hf]
    dsimp only
    rw [t1]
    rfl
  · rw [Sys.prune_eq_tail, t2, Sys.commit_setConns, Sys.pruneTail_setConns]

/-- `del self._apps[app_id]` for a namespace without Mailbox objects -/
theorem Abs.delApp {r : RSys} {s : Sys} (h : Abs r s) {ns : Ns} (hns : ns ∈ r.nss) (hreg : (ns.app, ns.oid) ∈ r.apps)
    (hempty : ns.boxes = []) : Abs { r with apps := r.apps.filter (fun p => ¬ p.1 = ns.app) } s := by
  refine ⟨?_, h.eq⟩
  replace h := h.inv
  have hstay : ∀ ns' ∈ r.nss, (ns'.app, ns'.oid) ∈ r.apps → ns'.boxes ≠ [] →
      (ns'.app, ns'.oid) ∈ r.apps.filter (fun p => ¬ p.1 = ns.app) := by
    intro ns' hns' hr' hne
    refine List.mem_filter.2 ⟨hr', ?_⟩
    simp only [decide_not, Bool.not_eq_eq_eq_not, Bool.not_true, decide_eq_false_iff_not]
    intro ea
    cases h.appNs_eq hns' hns hr' (ea ▸ hreg)
    exact hne hempty
  refine ⟨h.connIds, List.Pairwise.filter _ h.appsKey, h.nsOids, h.mbOids, h.nsBound, h.mbBound, ?_, h.boxesKey,
    h.boxesMb, ?_, h.mbNs, h.heldObj, ?_, h.listenIff, h.lisConn, h.lisNodup⟩
  · intro p hp
    exact h.appsNs p (List.mem_filter.1 hp).1
  · intro ns' hns' hne
    exact hstay ns' hns' (h.nsReg ns' hns' hne) hne
  · intro x hx k hk hm hl
    obtain ⟨ns', hns', ha', hb'⟩ := h.heldReg x hx k hk hm hl
    obtain ⟨ns2, hns2, e1, e2⟩ := h.appsNs _ ha'
    cases h.ns_eq hns2 hns' e1
    refine ⟨ns', hns', ?_, hb'⟩
    have := hstay ns' hns' (by rw [e2]; exact ha') (List.ne_nil_of_mem hb')
    rwa [e2] at this

/-- the loop of `Server.prune_all_apps` -/
theorem pruneApps_spec {U : String → Prop} {t : Time} {S : Prop} {now old : Time} (hnow : now ≤ t) (hold : old < now)
    (l : List String) : ∀ {r : RSys} {s : Sys}, Abs r s → s.Good U t S →
    ∃ r1 s1 b, r.pruneApps now old l = (r1, b) ∧ s.pruneApps now old l = (s1, b) ∧ Abs r1 s1 ∧ r1.conns = r.conns := by
  induction l with
  | nil => intro r s h _; exact ⟨_, _, _, rfl, rfl, h, rfl⟩
  | cons app rest ih =>
    intro r s h g
    unfold pruneApps Sys.pruneApps
    obtain ⟨j, hn, jc, _⟩ := h.getApp app
    obtain ⟨ns, hns, en1, en2, c, b, hq, hsq⟩ := prune_spec j (TouchOk.of_good g) hn now old
    rw [hq, hsq]
    cases b
    · exact ⟨_, _, _, rfl, rfl, j.withCore c, jc⟩
    · dsimp only
      obtain ⟨g1, _⟩ := Sys.prune_good g hnow hold hsq
      have h1 := j.withCore c
      cases hu : ns.boxes.isEmpty
      · obtain ⟨_, _, _, iq, is, i, ic⟩ := ih h1 g1
        exact ⟨_, _, _, iq, is, i, ic.trans jc⟩
      · -- `del self._apps[app_id]`
        have := h1.delApp (ns := ns) hns (by rw [en1, en2]; exact hn) (List.isEmpty_iff.1 hu)
        rw [en2] at this
        obtain ⟨_, _, _, iq, is, i, ic⟩ := ih this g1
        exact ⟨_, _, _, iq, is, i, ic.trans jc⟩

/-- all listener handles of all registered Mailbox objects, in the order `dump_stats` walks them -/
def allListeners (r : RSys) : List Nat :=
  r.apps.flatMap (fun p => match r.findNs p.2 with
    | some ns => ns.boxes.flatMap (fun q => match r.findMb q.2 with | some k => k.listeners | none => [])
    | none => [])

theorem countListeners_eq (r : RSys) : r.countListeners = r.allListeners.length := by
  unfold countListeners allListeners nsCount
  rw [List.length_flatMap]
  congr 1
  apply List.map_congr_left
  intro p _
  cases r.findNs p.2 with
  | none => rfl
  | some ns =>
    dsimp only
    rw [List.length_flatMap]
    congr 1
    apply List.map_congr_left
    intro q _
    cases r.findMb q.2 <;> rfl

theorem mem_walk {r : RSys} (h : r.RegInv) {p : String × Nat} (hp : p ∈ r.apps) {c : Nat} :
    c ∈ (match r.findNs p.2 with
      | some ns => ns.boxes.flatMap (fun (q : String × Nat) => match r.findMb q.2 with | some k => k.listeners | none => [])
      | none => []) ↔
    ∃ k ∈ r.mbs, k.app = p.1 ∧ r.Registered k.app k.mailboxId k.oid ∧ c ∈ k.listeners := by
  obtain ⟨ns, hf, hns, e1, e2⟩ := h.findNs_app (app := p.1) (n := p.2) hp
  have hreg : (ns.app, ns.oid) ∈ r.apps := by rw [e1, e2]; exact hp
  rw [hf]
  simp only [List.mem_flatMap]
  constructor
  · rintro ⟨q, hq, hc⟩
    obtain ⟨k, hk, e3, _, e5, e6⟩ := h.boxesMb ns hns q hq
    rw [(findMb_eq_some h).2 ⟨hk, e3⟩] at hc
    exact ⟨k, hk, e5.trans e2, ⟨ns, hns, by rw [e5]; exact hreg, by rw [e6, e3]; exact hq⟩, hc⟩
  · rintro ⟨k, hk, ea, ⟨ns', hns', ha', hb'⟩, hc⟩
    cases h.appNs_eq hns' hns ha' (by rw [ea, ← e2]; exact hreg)
    exact ⟨_, hb', by rw [(findMb_eq_some h).2 ⟨hk, rfl⟩]; exact hc⟩

theorem RegInv.same_of_common {r : RSys} (h : r.RegInv) {k1 k2 : MbObj} (h1 : k1 ∈ r.mbs) (h2 : k2 ∈ r.mbs) {c : Nat}
    (c1 : c ∈ k1.listeners) (c2 : c ∈ k2.listeners) : k1 = k2 := by
  obtain ⟨y1, hy1, e1, m1⟩ := h.lisConn k1 h1 c c1
  obtain ⟨y2, hy2, e2, m2⟩ := h.lisConn k2 h2 c c2
  cases h.conn_eq hy1 hy2 (e1.trans e2.symm)
  exact h.mb_eq h1 h2 (Option.some.inj (m1.symm.trans m2))

theorem allListeners_nodup {r : RSys} (h : r.RegInv) : r.allListeners.Pairwise (fun a b => ¬ a = b) := by
  unfold allListeners
  rw [List.pairwise_flatMap]
  constructor
  · intro p hp
    obtain ⟨ns, hf, hns, _⟩ := h.findNs_app (app := p.1) (n := p.2) hp
    rw [hf]
    dsimp only
    rw [List.pairwise_flatMap]
    constructor
    · intro q hq
      obtain ⟨k, hk, e3, _⟩ := h.boxesMb ns hns q hq
      rw [(findMb_eq_some h).2 ⟨hk, e3⟩]
      exact h.lisNodup k hk
    · refine List.Pairwise.imp_of_mem ?_ (h.boxesKey ns hns)
      intro q1 q2 hq1 hq2 hne x hx y hy exy
      obtain ⟨k1, hk1, a1, _, _, a4⟩ := h.boxesMb ns hns q1 hq1
      obtain ⟨k2, hk2, b1, _, _, b4⟩ := h.boxesMb ns hns q2 hq2
      rw [(findMb_eq_some h).2 ⟨hk1, a1⟩] at hx
      rw [(findMb_eq_some h).2 ⟨hk2, b1⟩] at hy
      subst exy
      cases h.same_of_common hk1 hk2 hx hy
      exact hne (a4.symm.trans b4)
  · refine List.Pairwise.imp_of_mem ?_ h.appsKey
    intro p1 p2 hp1 hp2 hne x hx y hy exy
    obtain ⟨k1, hk1, a1, _, c1⟩ := (mem_walk h hp1).1 hx
    obtain ⟨k2, hk2, a2, _, c2⟩ := (mem_walk h hp2).1 hy
    subst exy
    cases h.same_of_common hk1 hk2 c1 c2
    exact hne (a1.symm.trans a2)

/-- **the number `dump_stats` computes is the number of listening connections** -/
theorem countListeners_spec {r : RSys} (h : r.RegInv) (hl : ∀ x ∈ r.conns, x.listening = true → x.mailbox.isSome = true) :
    r.countListeners = (r.conns.filter (·.listening)).length := by
  rw [countListeners_eq]
  have hperm : r.allListeners.Perm ((r.conns.filter (·.listening)).map (·.id)) := by
    apply (List.perm_ext_iff_of_nodup (allListeners_nodup h) ?_).2
    · intro c
      unfold allListeners
      simp only [List.mem_flatMap, List.mem_map, List.mem_filter]
      constructor
      · rintro ⟨p, hp, hc⟩
        obtain ⟨k, hk, _, _, ck⟩ := (mem_walk h hp).1 hc
        obtain ⟨y, hy, e1, m1⟩ := h.lisConn k hk c ck
        exact ⟨y, ⟨hy, (h.listenIff y hy k hk m1).1 (e1 ▸ ck)⟩, e1⟩
      · rintro ⟨y, ⟨hy, hyl⟩, rfl⟩
        obtain ⟨o, hm⟩ := Option.isSome_iff_exists.1 (hl y hy hyl)
        obtain ⟨k, hk, rfl, _⟩ := h.heldObj y hy o hm
        obtain ⟨ns, hns, ha, hb⟩ := h.heldReg y hy k hk hm hyl
        exact ⟨_, ha, (mem_walk h ha).2 ⟨k, hk, rfl, ⟨ns, hns, ha, hb⟩, (h.listenIff y hy k hk hm).2 hyl⟩⟩
    · show List.Pairwise _ _
      rw [List.pairwise_map]
      exact List.Pairwise.filter _ h.connIds
  rw [hperm.length_eq, List.length_map]

theorem aconns_listening_length (r : RSys) :
    (r.aconns.filter (·.listening)).length = (r.conns.filter (·.listening)).length := by
  unfold aconns
  rw [List.filter_map, List.length_map]
  rfl

theorem dumpStats_spec {r : RSys} {s : Sys} (h : Abs r s)
    (hl : ∀ x ∈ r.conns, x.listening = true → x.mailbox.isSome = true) (now : Time) :
    Abs (r.dumpStats now) (s.dumpStats now) := by
  obtain ⟨h, rfl⟩ := h
  unfold dumpStats Sys.dumpStats
  rw [abs_cfg]
  refine Abs.ite _ (fun _ => ⟨h.onCore _, ?_⟩) (fun _ => ⟨h, rfl⟩)
  rw [abs_onCore _ _ (by intro s cs; simp), countListeners_spec h hl, ← aconns_listening_length]
  rfl

theorem expire_spec {U : String → Prop} {t : Time} {S : Prop} {r : RSys} {s : Sys} (h : Abs r s) (g : s.Good U t S)
    (hl : ∀ x ∈ r.conns, x.listening = true → x.mailbox.isSome = true) {now : Time} (hnow : now ≤ t) (fault : Bool) :
    Abs (r.expire now fault) (s.expire now fault) := by
  unfold expire Sys.expire
  dsimp only
  have h0 := h.emit (.fired now (now - Generated.expirationTicks))
  cases fault with
  | true => exact dumpStats_spec (h0.emit _) hl now
  | false =>
    simp only [Bool.false_eq_true, if_false]
    obtain ⟨r1, s1, b, hq, hs, p, pc⟩ := pruneApps_spec hnow (Int.sub_lt_self now expirationTicks_pos)
      (r.emit (.fired now (now - Generated.expirationTicks))).core.allApps h0 (g.emit _)
    rw [show (s.emit (.fired now (now - Generated.expirationTicks))).allApps =
      (r.emit (.fired now (now - Generated.expirationTicks))).core.allApps from h.eq ▸ rfl, hq, hs]
    cases b
    · exact dumpStats_spec (p.emit _) (pc ▸ hl) now
    · exact dumpStats_spec p (pc ▸ hl) now

end RSys
end Wormhole
