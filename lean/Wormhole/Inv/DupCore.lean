/-
  C14 (re-sending an acknowledged command), part 2: the functions of Core.lean called a second
  time with the same arguments on the database the first call left.

  * `openMailbox_again`       `open_mailbox` answered `ok`  ⇒ a second call answers `ok`, database unchanged
  * `claimNameplate_ok_done`  what a claim answered `ok m` leaves behind (`Chan.ClaimDone`) — in particular
                              at most two side rows on the nameplate and on the mailbox, so the
                              K-crowded-rejoin guard is IMPLIED for an immediate re-send
  * `claimNameplate_again`    ... ⇒ a second call (any `fresh`) answers `ok m`, database unchanged
  * `releaseNameplate_again`  a second `release_nameplate` returns `true`, database unchanged
  * `Chan.closeDb_openDb_gone`, `Chan.closeDb_openDb_survived`
                              `open_mailbox` followed by `Mailbox.close` — what `handle_close` does on a
                              fresh connection — on the database an earlier close left: unchanged if
                              that close deleted the mailbox, `touch m t` of it if the mailbox survived
                              (finding K-close-touch)
-/
import Wormhole.Inv.DupChan

namespace Wormhole
namespace Sys

/-! ### open -/

/-- **`open_mailbox` twice.**  If `open_mailbox(a, m, σ, t)` answered `ok` (state `s1`), then on
    every state with the database of `s1` a second `open_mailbox(a, m, σ, t)` answers `ok` again and
    leaves the channel database, the connection records, the usage database and the
    configuration as they are.  (The guard "at most two side rows" holds because the first call
    checked it.) -/
theorem openMailbox_again {s s1 s' : Sys} {a m σ : String} {t : Time} (hP : s.db.PInv)
    (h : s.openMailbox a m σ t = (s1, .ok)) (hdb : s'.db = s1.db) :
    s1.db = s.db.openDb a m σ t ∧ (s1.db.mbSidesOf m).length ≤ 2 ∧
    ∃ s2, s'.openMailbox a m σ t = (s2, .ok) ∧ s2.db = s'.db ∧ s2.disk = s2.db ∧ SameRest s' s2 := by
  obtain ⟨hint, _, hne, hcrowd⟩ := openMailbox_exact hP h
  have hnc : ¬ s.db.Clash a m := fun hc => by cases hint.2 hc
  obtain ⟨hdb1, _, _⟩ := hne (by simp)
  have hlen : ¬ ((s.db.openDb a m σ t).mbSidesOf m).length > 2 := fun hl => by cases hcrowd.2 ⟨hnc, hl⟩
  have hP1 : s'.db.PInv := by rw [hdb, hdb1]; exact hP.openDb σ t hnc
  refine ⟨hdb1, by rw [hdb1]; omega, ?_⟩
  cases e : s'.openMailbox a m σ t with
  | mk s2 r2 =>
    obtain ⟨hint2, _, hne2, hcrowd2⟩ := openMailbox_exact hP1 e
    have hbox : s'.db.HasBox a m := by rw [hdb, hdb1]; exact Chan.openDb_hasBox _ _ _ _ _
    have hnc2 : ¬ s'.db.Clash a m := fun hc => hc.2 hbox
    have hidem : s'.db.openDb a m σ t = s'.db := by rw [hdb, hdb1]; exact Chan.openDb_idem _ _ _ _ _
    have hr2 : r2 = .ok := by
      cases r2 with
      | ok => rfl
      | integrity => exact absurd (hint2.1 rfl) hnc2
      | crowded =>
        have := (hcrowd2.1 rfl).2
        rw [hidem, hdb, hdb1] at this
        exact absurd this hlen
    subst hr2
    obtain ⟨e1, e2, e3⟩ := hne2 (by simp)
    exact ⟨s2, rfl, by rw [e1, hidem], e2, e3⟩

theorem openMailbox_ok_touched {s s1 : Sys} {a m σ : String} {t : Time}
    (e : s.openMailbox a m σ t = (s1, .ok)) : ∀ r ∈ s1.db.mailboxes, r.id = m → r.updated = t := by
  unfold openMailbox at e
  split at e
  · cases e
  · rename_i s0 e0
    dsimp only at e
    split at e
    · cases e
    · simp only [Prod.mk.injEq, and_true] at e
      subst e
      intro r hr hid
      simp only [commit_db, mailboxOpen_db, Chan.touch, List.mem_map] at hr
      obtain ⟨r0, _, rfl⟩ := hr
      by_cases hc : r0.id = m
      · simp [hc]
      · rw [if_neg hc] at hid
        exact absurd hid hc

/-! ### claim -/

theorem claimCont_ok_open {s s1 : Sys} {a : String} {npid : Nat} {mb σ : String} {t : Time} {m : String}
    (h : claimCont s a npid mb σ t = (s1, .ok m)) :
    s.commit.openMailbox a mb σ t = (s1, .ok) ∧ m = mb ∧ (s1.db.npSidesOf npid).length ≤ 2 := by
  unfold claimCont at h
  dsimp only at h
  split at h
  · cases h
  · cases h
  · rename_i s3 e
    split at h
    · cases h
    · simp only [Prod.mk.injEq, ClaimRes.ok.injEq] at h
      obtain ⟨rfl, rfl⟩ := h
      exact ⟨e, rfl, by omega⟩

end Sys

/-- what a claim of `(a, n)` by side `σ` at `t` answered `ok m` leaves in the database -/
structure Chan.ClaimDone (d : Chan) (a n σ m : String) (t : Time) : Prop where
  /-- the nameplate row points at `m`; the side's row on it is claimed; at most two side rows -/
  row : ∃ row, d.findNameplate a n = some row ∧ row.mailbox = m ∧
    (∃ r, d.findNpSide row.id σ = some r ∧ r.claimed = true) ∧ (d.npSidesOf row.id).length ≤ 2
  box : d.HasBox a m
  side : d.findMbSide m σ ≠ none
  stamped : ∀ r ∈ d.mailboxes, r.id = m → r.updated = t
  /-- the guard of K-crowded-rejoin, implied by the answer `ok` -/
  two : (d.mbSidesOf m).length ≤ 2

namespace Sys

/-- **what `claimed m` guarantees about the database afterwards** (`hP1`: the database after the
    call satisfies the invariant, as it does after the whole step by `GInv.step`) -/
theorem claimNameplate_ok_done {s s1 : Sys} {a n σ : String} {t : Time} {f m : String} (hP1 : s1.db.PInv)
    (h : s.claimNameplate a n σ t f = (s1, .ok m)) : s1.db.ClaimDone a n σ m t := by
  obtain ⟨s2, row, hrow, hra, hrn, ⟨r, hr, hri, hrs, hrc⟩, hc⟩ := claimNameplate_ok_call h
  obtain ⟨eo, hm, hlen⟩ := claimCont_ok_open hc
  subst hm
  obtain ⟨_, hpart, _, hmlen, hside⟩ := claimCont_ok hc
  simp only [Chan.npPart, Prod.mk.injEq] at hpart
  obtain ⟨hp1, hp2, _⟩ := hpart
  have hrow1 : row ∈ s1.db.nameplates := by rw [hp1]; exact hrow
  have hr1 : r ∈ s1.db.npSides := by rw [hp2]; exact hr
  -- the look-ups
  obtain ⟨row', hf⟩ : ∃ row', s1.db.findNameplate a n = some row' := by
    cases hf : s1.db.findNameplate a n with
    | some row' => exact ⟨row', rfl⟩
    | none => exact absurd ⟨hra, hrn⟩ (Chan.findNameplate_none hf row hrow1)
  obtain ⟨k1, k2, k3⟩ := Chan.findNameplate_some hf
  have hrr : row' = row := hP1.np_eq_of_key k1 hrow1 (k2.trans hra.symm) (k3.trans hrn.symm)
  subst hrr
  obtain ⟨r', hf2⟩ : ∃ r', s1.db.findNpSide row'.id σ = some r' := by
    cases hf2 : s1.db.findNpSide row'.id σ with
    | some r' => exact ⟨r', rfl⟩
    | none =>
      simp only [Chan.findNpSide, List.find?_eq_none, decide_eq_true_eq] at hf2
      exact absurd ⟨hri, hrs⟩ (hf2 r hr1)
  obtain ⟨j1, j2, j3⟩ := Chan.findNpSide_some hf2
  have hrr' : r' = r := hP1.ns_eq_of_key j1 hr1 (j2.trans hri.symm) (j3.trans hrs.symm)
  subst hrr'
  refine ⟨⟨row', hf, rfl, ⟨r', hf2, hrc⟩, hlen⟩, ?_, ?_, openMailbox_ok_touched eo, hmlen⟩
  · obtain ⟨mr, hmr, e1, e2⟩ := hP1.npMb row' hrow1
    exact ⟨mr, hmr, e2.trans hra, e1⟩
  · intro hnone
    simp only [Chan.sidesOf, Chan.mbSidesOf, List.mem_map, List.mem_filter, decide_eq_true_eq] at hside
    obtain ⟨sr, ⟨hsr, e1⟩, e2⟩ := hside
    exact Chan.findMbSide_eq_none.1 hnone sr hsr ⟨e1, e2⟩

/-- **`claim_nameplate` twice.**  On a database in the state a successful claim left
    (`ClaimDone`), a second `claim_nameplate(a, n, σ, t)` — with ANY generated id `f'`, which is not
    used — answers `ok m` again and leaves the database and the connection records unchanged. -/
theorem claimNameplate_again_eq {s' s2 : Sys} {a n σ m : String} {t : Time} {f' : String} {r2 : ClaimRes}
    (e : s'.claimNameplate a n σ t f' = (s2, r2)) (hP : s'.db.PInv) (hD : s'.db.ClaimDone a n σ m t) :
    r2 = .ok m ∧ s2.db = s'.db ∧ s2.conns = s'.conns := by
  obtain ⟨row, hrow, hm, ⟨r, hr, hcl⟩, hlen⟩ := hD.row
  obtain ⟨sr, hsr⟩ := Option.ne_none_iff_exists'.1 hD.side
  rcases Np.claimNameplate_present hP hrow e with ⟨r0, h0, hf, _, _⟩ | ⟨_, e1, e2, e3⟩
  · rw [hr] at h0; cases h0
    rw [hcl] at hf; cases hf
  · have hself : s'.db.npClaim row.id row.mailbox σ t = s'.db := by
      unfold Chan.npClaim Chan.npOpen
      rw [hr, hm]
      dsimp only
      rw [hsr]
      exact Chan.touch_eq_self hD.stamped
    rw [hself] at e1
    refine ⟨?_, e1, e2⟩
    rw [e3, e1]
    unfold Chan.npClaimRes
    rw [hm, if_neg (by have := hD.two; omega), if_neg (by omega)]

theorem claimNameplate_again {s' : Sys} {a n σ m : String} {t : Time} (hP : s'.db.PInv)
    (hD : s'.db.ClaimDone a n σ m t) (f' : String) :
    ∃ s2, s'.claimNameplate a n σ t f' = (s2, .ok m) ∧ s2.db = s'.db ∧ s2.conns = s'.conns := by
  cases e : s'.claimNameplate a n σ t f' with
  | mk s2 r2 =>
    obtain ⟨rfl, h1, h2⟩ := claimNameplate_again_eq e hP hD
    exact ⟨s2, rfl, h1, h2⟩

/-! ### release -/

theorem releaseNameplate_db (s : Sys) (a n σ : String) (t : Time) :
    (s.releaseNameplate a n σ t).1.db = s.db.releaseDb a n σ := by
  obtain ⟨_, _, h⟩ := Np.releaseNameplate_exact (s := s) (s1 := (s.releaseNameplate a n σ t).1)
    (b := (s.releaseNameplate a n σ t).2) (app := a) (name := n) (side := σ) (t := t) rfl
  unfold Chan.releaseDb
  rcases h with ⟨h1, h2⟩ | ⟨np, h1, h2, h3⟩ | ⟨np, r0, h1, h2, h3⟩
  · rw [h1, h2]
  · rw [h1]; dsimp only; rw [h2, h3]
  · rw [h1]; dsimp only; rw [h2]; dsimp only
    rcases h3 with ⟨ha, hd, _⟩ | ⟨ha, hd, _⟩
    · rw [if_pos ha]; exact hd
    · rw [if_neg (by rw [ha]; simp)]; exact hd

/-- **`release_nameplate` twice.**  Whatever the first call did — nothing (no such nameplate, no row
    of this side), `claimed := false` on the side's row with another side still claiming, or the
    deletion of the nameplate — a second call (at any time `t'`) on a state with the resulting
    database returns normally and leaves the database and the connection records unchanged
    (`Chan.releaseDb_releaseDb`). -/
theorem releaseNameplate_again {s s1 s' s2 : Sys} {a n σ : String} {t t' : Time} {b b2 : Bool}
    (e : s'.releaseNameplate a n σ t' = (s2, b2)) (hP : s.db.PInv)
    (h : s.releaseNameplate a n σ t = (s1, b)) (hdb : s'.db = s1.db) :
    b2 = true ∧ s2.db = s'.db ∧ s2.conns = s'.conns := by
  obtain ⟨hb2, hconns2, _⟩ := Np.releaseNameplate_exact e
  have e2 := releaseNameplate_db s' a n σ t'
  have e1 := releaseNameplate_db s a n σ t
  rw [e] at e2
  rw [h] at e1
  dsimp only at e1 e2
  exact ⟨hb2, by rw [e2, hdb, e1, Chan.releaseDb_releaseDb hP], hconns2⟩

end Sys

/-! ### close: `open_mailbox` then `Mailbox.close` on the database an earlier close left -/

namespace Chan

theorem PInv.no_side_of_gone {d : Chan} (hP : d.PInv) {m : String} (hgone : ¬ d.HasId m) :
    ∀ r ∈ d.mbSides, r.mailbox ≠ m := by
  intro r hr hk
  obtain ⟨m0, hm0, hi⟩ := hP.msFk r hr
  exact hgone ⟨m0, hm0, hi.trans hk⟩

theorem PInv.not_otherOpen_openDb_of_gone {d : Chan} (hP : d.PInv) {m : String} (hgone : ¬ d.HasId m)
    (a σ : String) (t : Time) : ¬ (d.openDb a m σ t).OtherOpen m σ := by
  rw [otherOpen_openDb]
  rintro ⟨r, hr, hk, _⟩
  exact hP.no_side_of_gone hgone r hr hk

theorem PInv.openDb_of_gone {d : Chan} (hP : d.PInv) {m : String} (hgone : ¬ d.HasId m) (a σ : String) (t : Time) :
    ¬ d.Clash a m ∧ ((d.openDb a m σ t).mbSidesOf m).length ≤ 2 := by
  refine ⟨fun ⟨⟨m0, hm0, hi, _⟩, _⟩ => hgone ⟨m0, hm0, hi⟩, ?_⟩
  have hnoside : d.mbSidesOf m = [] := List.filter_eq_nil_iff.2
    (fun r hr => by simpa using hP.no_side_of_gone hgone r hr)
  rw [openDb_mbSidesOf, hnoside]
  split <;> simp

/-- the mailbox row is gone (the earlier close deleted it): the implicit open of the re-sent close
    re-creates mailbox row and side row, `Mailbox.close` deletes them again -/
theorem closeDb_openDb_gone {d : Chan} (hP : d.PInv) {a m σ : String} {mood : Option String} {t : Time}
    (hgone : ¬ d.HasId m) : (d.openDb a m σ t).closeDb a m σ mood = d := by
  unfold closeDb
  rw [if_pos ⟨openDb_hasBox _ _ _ _ _, openDb_findMbSide_ne_none _ _ _ _ _⟩,
    if_neg (hP.not_otherOpen_openDb_of_gone hgone a σ t), dropMailbox_openDb, dropMailbox_eq_self hP hgone]

/-- what a close by side `σ` of mailbox `(a, m)` with mood `mood` leaves when another side is
    still open: the row exists, the side's row says `opened = false, mood = mood` -/
structure CloseSurvived (d : Chan) (a m σ : String) (mood : Option String) : Prop where
  box : d.HasBox a m
  own : d.findMbSide m σ ≠ none
  closed : ∀ r ∈ d.mbSides, r.mailbox = m → r.side = σ → r.opened = false ∧ r.mood = mood
  other : d.OtherOpen m σ

theorem CloseSurvived.of_closeSide {d : Chan} {a m σ : String} {mood : Option String} (h1 : d.HasBox a m)
    (h2 : d.findMbSide m σ ≠ none) (h3 : d.OtherOpen m σ) : (d.closeSide m σ mood).CloseSurvived a m σ mood :=
  ⟨h1, closeSide_findMbSide_ne_none.2 h2, closeSide_closed d m σ mood, closeSide_otherOpen.2 h3⟩

theorem CloseSurvived.openDb_mbSidesOf {d : Chan} {a m σ : String} {mood : Option String}
    (h : d.CloseSurvived a m σ mood) (t : Time) : (d.openDb a m σ t).mbSidesOf m = d.mbSidesOf m := by
  rw [Chan.openDb_mbSidesOf]
  simp [h.own]

/-- the mailbox survived the earlier close (another side still open): the implicit open of the
    re-sent close finds row and side row and STAMPS the row (K-close-touch); `Mailbox.close`
    rewrites `opened = false, mood` to the same values.  Result: `touch m t` of the database. -/
theorem closeDb_openDb_survived {d : Chan} (hids : d.mailboxes.Pairwise (fun a b => ¬ a.id = b.id))
    {a m σ : String} {mood : Option String} {t : Time} (h : d.CloseSurvived a m σ mood) :
    (d.openDb a m σ t).closeDb a m σ mood = d.touch m t := by
  have := (closeRun_of_point hids mood t h.box h.own (Or.inl rfl)).2.2
  rw [closeDb_of_box h.box h.own, if_pos h.other, closeSide_eq_self h.closed] at this
  exact this

end Chan
end Wormhole
