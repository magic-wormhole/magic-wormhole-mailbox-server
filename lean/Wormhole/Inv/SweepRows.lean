/-
  Row-level reading of `Chan.sweepP` (Inv/SweepDb.lean) under `PInv`: what is kept, unchanged
  (`SameChannel`); what is deleted (only things of swept mailboxes); that nothing of a swept mailbox is
  left; `Sys.sweep_keeps`: the first of these for one firing of the sweep.
-/
import Wormhole.Inv.SweepSys

namespace Wormhole

/-- everything that belongs to the channel of mailbox row `r` is the same in `d'` as in `d`
    (same rows in the same order): its messages (by mailbox id, and as `get_messages` of its app
    sees them), its side rows, the nameplates pointing at it and their side rows -/
structure Chan.SameChannel (d d' : Chan) (r : MailboxRow) : Prop where
  messages : d'.messages.filter (fun x => x.mailbox = r.id) = d.messages.filter (fun x => x.mailbox = r.id)
  messagesOf : d'.messagesOf r.app r.id = d.messagesOf r.app r.id
  sides : d'.mbSidesOf r.id = d.mbSidesOf r.id
  nameplates : d'.nameplates.filter (fun n => n.mailbox = r.id) = d.nameplates.filter (fun n => n.mailbox = r.id)
  nameplatesOf : d'.nameplatesOfMailbox r.app r.id = d.nameplatesOfMailbox r.app r.id
  npSides : ∀ n ∈ d.nameplates, n.mailbox = r.id → d'.npSidesOf n.id = d.npSidesOf n.id

theorem Chan.SameChannel.refl (d : Chan) (r : MailboxRow) : Chan.SameChannel d d r :=
  ⟨rfl, rfl, rfl, rfl, rfl, fun _ _ _ => rfl⟩

theorem Chan.SameChannel.of_key {d d' : Chan} {r r' : MailboxRow} (h : Chan.SameChannel d d' r)
    (e1 : r'.id = r.id) (e2 : r'.app = r.app) : Chan.SameChannel d d' r' := by
  obtain ⟨a, b, c, e, f, g⟩ := h
  constructor <;> simp only [e1, e2] <;> assumption

theorem Chan.SameChannel.trans {d d' d'' : Chan} {r : MailboxRow} (h1 : Chan.SameChannel d d' r)
    (h2 : Chan.SameChannel d' d'' r) : Chan.SameChannel d d'' r := by
  refine ⟨h2.messages.trans h1.messages, h2.messagesOf.trans h1.messagesOf, h2.sides.trans h1.sides,
    h2.nameplates.trans h1.nameplates, h2.nameplatesOf.trans h1.nameplatesOf, ?_⟩
  intro n hn e
  have : n ∈ d'.nameplates := by
    have : n ∈ d.nameplates.filter (fun n => n.mailbox = r.id) := by simp [List.mem_filter, hn, e]
    rw [← h1.nameplates] at this
    exact (List.mem_filter.1 this).1
  exact (h2.npSides n this e).trans (h1.npSides n hn e)

namespace Chan

section rows
variable {d : Chan} {A : String → Bool} {L : LFun} {now old : Time}

theorem sweepP_keep_id {i : String} (hi : ¬ i ∈ d.deadIds A L old) :
    (d.sweepP A L now old).messages.filter (fun r => r.mailbox = i) = d.messages.filter (fun r => r.mailbox = i) ∧
    (d.sweepP A L now old).mbSidesOf i = d.mbSidesOf i ∧
    (d.sweepP A L now old).nameplates.filter (fun n => n.mailbox = i) = d.nameplates.filter (fun n => n.mailbox = i) := by
  refine ⟨?_, ?_, ?_⟩ <;>
  · refine filter_filter_of_imp fun x _ hx => ?_
    simpa [of_decide_eq_true hx] using hi

theorem sweepP_keep (h : d.PInv) {m : MailboxRow} (hm : m ∈ d.mailboxes) (hd : dead A L old m = false) :
    stamp A L now m ∈ (d.sweepP A L now old).mailboxes ∧ SameChannel d (d.sweepP A L now old) m := by
  have hi : ¬ m.id ∈ d.deadIds A L old := by
    rw [mem_deadIds_of_mem h.mbIds hm, hd]; simp
  obtain ⟨k1, k2, k3⟩ := sweepP_keep_id (now := now) hi
  refine ⟨mem_sweepP_mailboxes.2 ⟨m, hm, hi, rfl⟩, k1, ?_, k2, k3, ?_, ?_⟩
  · have := congrArg (List.filter (fun r : Message => r.app = m.app)) k1
    simpa only [messagesOf, List.filter_filter, Bool.decide_and] using this
  · have := congrArg (List.filter (fun r : Nameplate => r.app = m.app)) k3
    simpa only [nameplatesOfMailbox, List.filter_filter, Bool.decide_and] using this
  · intro n hn e
    refine filter_filter_of_imp fun r _ hr => ?_
    rw [of_decide_eq_true hr, decide_eq_true_eq, mem_deadNps_of_mem h.npIds hn, e]
    exact hi

theorem sweepP_other_app (h : d.PInv) {a : String} (ha : A a = false) :
    (d.sweepP A L now old).mailboxesOfApp a = d.mailboxesOfApp a ∧
    (d.sweepP A L now old).nameplatesOfApp a = d.nameplatesOfApp a ∧
    (d.sweepP A L now old).messages.filter (fun r => r.app = a) = d.messages.filter (fun r => r.app = a) ∧
    (∀ m ∈ d.mailboxes, m.app = a → (d.sweepP A L now old).mbSidesOf m.id = d.mbSidesOf m.id) ∧
    (∀ n ∈ d.nameplates, n.app = a → (d.sweepP A L now old).npSidesOf n.id = d.npSidesOf n.id) := by
  have hnd : ∀ m ∈ d.mailboxes, m.app = a → dead A L old m = false := by
    intro m _ e; simp [dead, e, ha]
  have hni : ∀ m ∈ d.mailboxes, m.app = a → ¬ m.id ∈ d.deadIds A L old := by
    intro m hm e
    rw [mem_deadIds_of_mem h.mbIds hm, hnd m hm e]; simp
  refine ⟨?_, ?_, ?_, ?_, ?_⟩
  · simp only [sweepP, mailboxesOfApp, List.filter_map, List.filter_filter]
    conv => rhs; rw [← List.map_id (List.filter _ _)]
    apply filter_map_congr
    · intro m hm
      by_cases e : m.app = a
      · simp [e, hni m hm e]
      · simp [e]
    · intro m _ hq
      simp only [decide_eq_true_eq] at hq
      simp [stamp, hq, ha]
  · refine filter_filter_of_imp fun n hn e => ?_
    obtain ⟨m, hm, e1, e2⟩ := h.npMb n hn
    simpa [e1] using hni m hm (e2.trans (of_decide_eq_true e))
  · refine filter_filter_of_imp fun r hr e => ?_
    obtain ⟨m, hm, e1, e2⟩ := h.msgFk r hr
    simpa [e1] using hni m hm (e2.trans (of_decide_eq_true e))
  · intro m hm e
    exact (sweepP_keep h hm (hnd m hm e)).2.sides
  · intro n hn e
    obtain ⟨m, hm, e1, e2⟩ := h.npMb n hn
    exact (sweepP_keep h hm (hnd m hm (e2.trans e))).2.npSides n hn e1.symm

theorem sweepP_sublist :
    (d.sweepP A L now old).nameplates.Sublist d.nameplates ∧
    (d.sweepP A L now old).npSides.Sublist d.npSides ∧
    (d.sweepP A L now old).mbSides.Sublist d.mbSides ∧
    (d.sweepP A L now old).messages.Sublist d.messages ∧
    (∀ m' ∈ (d.sweepP A L now old).mailboxes, ∃ m ∈ d.mailboxes, m' = stamp A L now m) ∧
    (d.sweepP A L now old).nextNp = d.nextNp := by
  refine ⟨List.filter_sublist, List.filter_sublist, List.filter_sublist, List.filter_sublist, ?_, rfl⟩
  intro m' hm'
  obtain ⟨m, hm, _, e⟩ := mem_sweepP_mailboxes.1 hm'
  exact ⟨m, hm, e.symm⟩

theorem sweepP_gone_mailbox (h : d.PInv) {m : MailboxRow} (hm : m ∈ d.mailboxes)
    (hgone : ∀ m' ∈ (d.sweepP A L now old).mailboxes, m'.id ≠ m.id) : dead A L old m = true := by
  cases hd : dead A L old m with
  | true => rfl
  | false => exact absurd (by simp) (hgone _ (sweepP_keep (now := now) h hm hd).1)

theorem sweepP_gone_message (h : d.PInv) {r : Message} (hr : r ∈ d.messages)
    (hgone : r ∉ (d.sweepP A L now old).messages) :
    ∃ m ∈ d.mailboxes, m.id = r.mailbox ∧ m.app = r.app ∧ dead A L old m = true := by
  obtain ⟨m, hm, e1, e2⟩ := h.msgFk r hr
  refine ⟨m, hm, e1, e2, ?_⟩
  rw [← mem_deadIds_of_mem h.mbIds hm, e1]
  exact Classical.byContradiction fun hc => hgone (mem_sweepP_messages.2 ⟨hr, hc⟩)

theorem sweepP_gone_mbSide (h : d.PInv) {r : MbSide} (hr : r ∈ d.mbSides)
    (hgone : r ∉ (d.sweepP A L now old).mbSides) :
    ∃ m ∈ d.mailboxes, m.id = r.mailbox ∧ dead A L old m = true := by
  obtain ⟨m, hm, e1⟩ := h.msFk r hr
  refine ⟨m, hm, e1, ?_⟩
  rw [← mem_deadIds_of_mem h.mbIds hm, e1]
  exact Classical.byContradiction fun hc => hgone (mem_sweepP_mbSides.2 ⟨hr, hc⟩)

theorem sweepP_gone_nameplate (h : d.PInv) {n : Nameplate} (hn : n ∈ d.nameplates)
    (hgone : n ∉ (d.sweepP A L now old).nameplates) :
    ∃ m ∈ d.mailboxes, m.id = n.mailbox ∧ m.app = n.app ∧ dead A L old m = true := by
  obtain ⟨m, hm, e1, e2⟩ := h.npMb n hn
  refine ⟨m, hm, e1, e2, ?_⟩
  rw [← mem_deadIds_of_mem h.mbIds hm, e1]
  exact Classical.byContradiction fun hc => hgone (mem_sweepP_nameplates.2 ⟨hn, hc⟩)

theorem sweepP_gone_npSide (h : d.PInv) {r : NpSide} (hr : r ∈ d.npSides)
    (hgone : r ∉ (d.sweepP A L now old).npSides) :
    ∃ n ∈ d.nameplates, n.id = r.npid ∧
      ∃ m ∈ d.mailboxes, m.id = n.mailbox ∧ m.app = n.app ∧ dead A L old m = true := by
  have hj : r.npid ∈ d.deadNps A L old :=
    Classical.byContradiction fun hc => hgone (mem_sweepP_npSides.2 ⟨hr, hc⟩)
  obtain ⟨n, hn, hd, e⟩ := mem_deadNps.1 hj
  obtain ⟨m, hm, e1, e2⟩ := h.npMb n hn
  refine ⟨n, hn, e, m, hm, e1, e2, ?_⟩
  rw [← mem_deadIds_of_mem h.mbIds hm, e1]
  exact hd

theorem sweepP_complete {m : MailboxRow} (hm : m ∈ d.mailboxes) (hd : dead A L old m = true) :
    (∀ m' ∈ (d.sweepP A L now old).mailboxes, m'.id ≠ m.id) ∧
    (∀ r ∈ (d.sweepP A L now old).messages, r.mailbox ≠ m.id) ∧
    (∀ r ∈ (d.sweepP A L now old).mbSides, r.mailbox ≠ m.id) ∧
    (∀ n ∈ (d.sweepP A L now old).nameplates, n.mailbox ≠ m.id) ∧
    (∀ n ∈ d.nameplates, n.mailbox = m.id → ∀ r ∈ (d.sweepP A L now old).npSides, r.npid ≠ n.id) := by
  have hi : m.id ∈ d.deadIds A L old := mem_deadIds.2 ⟨m, hm, hd, rfl⟩
  refine ⟨?_, ?_, ?_, ?_, ?_⟩
  · intro m' hm' e
    obtain ⟨m0, _, h0, rfl⟩ := mem_sweepP_mailboxes.1 hm'
    simp only [stamp_id] at e
    exact h0 (e ▸ hi)
  · intro r hr e; exact (mem_sweepP_messages.1 hr).2 (e ▸ hi)
  · intro r hr e; exact (mem_sweepP_mbSides.1 hr).2 (e ▸ hi)
  · intro n hn e; exact (mem_sweepP_nameplates.1 hn).2 (e ▸ hi)
  · intro n hn e r hr e'
    exact (mem_sweepP_npSides.1 hr).2 (mem_deadNps.2 ⟨n, hn, e ▸ hi, e'.symm⟩)

theorem sweepP_empty (h : d.PInv) (hall : ∀ m ∈ d.mailboxes, dead A L old m = true) :
    (d.sweepP A L now old).nameplates = [] ∧ (d.sweepP A L now old).npSides = [] ∧
    (d.sweepP A L now old).mailboxes = [] ∧ (d.sweepP A L now old).mbSides = [] ∧
    (d.sweepP A L now old).messages = [] := by
  have hi : ∀ m ∈ d.mailboxes, m.id ∈ d.deadIds A L old := fun m hm => mem_deadIds.2 ⟨m, hm, hall m hm, rfl⟩
  have hnp : (d.sweepP A L now old).nameplates = [] :=
    List.filter_eq_nil_iff.2 fun n hn => by
      obtain ⟨m, hm, e, _⟩ := h.npMb n hn
      simpa [e] using hi m hm
  refine ⟨hnp, ?_, List.map_eq_nil_iff.2 (List.filter_eq_nil_iff.2 fun m hm => by simpa using hi m hm), ?_, ?_⟩
  · -- a side row needs its nameplate, also after the sweep
    rw [List.eq_nil_iff_forall_not_mem]
    intro r hr
    obtain ⟨n, hn, _⟩ := (h.sweepP A L now old).nsFk r hr
    rw [hnp] at hn
    cases hn
  · refine List.filter_eq_nil_iff.2 fun r hr => ?_
    obtain ⟨m, hm, e⟩ := h.msFk r hr
    simpa [e] using hi m hm
  · refine List.filter_eq_nil_iff.2 fun r hr => ?_
    obtain ⟨m, hm, e, _⟩ := h.msgFk r hr
    simpa [e] using hi m hm

end rows

theorem dead_all {L : LFun} {old : Time} {m : MailboxRow} :
    dead (fun _ => true) L old m = true ↔ L m.app m.id = false ∧ m.updated ≤ old := by
  simp [dead_iff]

theorem stamp_all {L : LFun} {now : Time} {m : MailboxRow} :
    stamp (fun _ => true) L now m = if L m.app m.id = true then { m with updated := now } else m := by
  simp [stamp]

end Chan
end Wormhole

namespace Wormhole
namespace Sys

/-- one `AppNamespace.prune(now, old)` with `old < now` (as in `expire()`) from a state whose database
    satisfies the commit-point invariant: no exception escapes, and the database is the sweep of that
    single app -/
theorem prune_sweepP {s s1 : Sys} {app : String} {now old : Time} {b : Bool} (h : s.db.CInv)
    (hlt : old < now) (hp : s.prune app now old = (s1, b)) :
    b = true ∧ s1.db = s.db.sweepP (fun a => a == app) s.listened now old ∧ Fixed s s1 ∧
      s1.db.CInv ∧ (s.Synced → s1.Synced) := by
  obtain ⟨_, hk⟩ := prune_spec hp
  obtain ⟨_, hb, hs⟩ := hk h.npOk
  subst hb
  obtain ⟨hd, hf⟩ := prune_db hp
  rw [Chan.pruneApp_eq_sweepP h.toPInv _ _ hlt] at hd
  exact ⟨rfl, hd, hf, by rw [hd]; exact h.sweepP _ _ _ _, hs⟩

/-- any firing keeps a mailbox row that is recent or listened to, and a faulted firing every row: re-stamped
    iff the firing is not faulted and somebody listens -/
theorem sweep_keeps {s : Sys} (h : s.db.CInv) (now : Time) (fault : Bool) {r : MailboxRow}
    (hr : r ∈ s.db.mailboxes)
    (hlive : fault = true ∨ now - r.updated < Generated.expirationTicks ∨ s.listened r.app r.id = true) :
    Chan.stamp (fun _ => !fault) s.listened now r ∈ (s.step (.sweep now fault)).db.mailboxes ∧
    Chan.SameChannel s.db (s.step (.sweep now fault)).db r ∧
    (s.step (.sweep now fault)).conns = s.conns := by
  obtain ⟨hd, hf⟩ := step_sweep_db h now fault
  rw [hd, ← and_assoc]
  refine ⟨Chan.sweepP_keep h.toPInv hr (Bool.eq_false_iff.2 fun hdd => ?_), hf.conns⟩
  obtain ⟨h1, h2, h3⟩ := Chan.dead_iff.1 hdd
  rcases hlive with rfl | hl | hl
  · cases h1
  · exact not_old_of_recent hl h3
  · rw [hl] at h2; cases h2

end Sys
end Wormhole
