/-
  C06, two-run simulation: server_websocket.py.

  `IW b s₁ s₂` = the two runs are related (`IsoRel b ρ` for some renaming `ρ` of nameplate ids)
  and both are at a point of a step where nothing is uncommitted (`Sys.Ok`, the invariant of
  C09): so every frame is sent with the flag `true` in both runs and frames can be compared with
  their flags.

  Result: every handler run on behalf of a connection that is bound to `b` (same record `x` in
  both runs), `onMessage` for a connection that is not bound to another app, `connect`,
  `dropConn`, `restart` preserve `IW b`.  The guard of K-global-mailbox-id enters where a mailbox
  id is named: `claim`/`allocate` (the generated id), `open`, `close`.
-/
import Wormhole.Inv.IsoSimCore

namespace Wormhole
namespace Sys

structure IW (b : String) (s₁ s₂ : Sys) : Prop where
  rel : ∃ ρ, IsoRel b ρ s₁ s₂
  oka : s₁.Ok
  okb : s₂.Ok

section basics
variable {b : String} {ρ : Nat → Nat} {s₁ s₂ : Sys}

theorem IsoRel.emit (h : IsoRel b ρ s₁ s₂) (e : Event) : IsoRel b ρ (s₁.emit e) (s₂.emit e) :=
  ⟨h.db, h.udb, h.conns, h.cfg, by rw [emit_frames, emit_frames, h.frames]⟩

theorem IsoRel.updConn_of (h : IsoRel b ρ s₁ s₂) (c : Nat) (f : Conn → Conn)
    (hf : ∀ x₁ ∈ s₁.conns, ∀ x₂, x₁.id = c → ConnRel b x₁ x₂ → ConnRel b (f x₁) (f x₂)) :
    IsoRel b ρ (s₁.updConn c f) (s₂.updConn c f) := by
  unfold Sys.updConn
  refine h.setConns (All2.map _ _ h.conns (fun x₁ hx₁ x₂ _ r => ?_))
  rw [r.1]
  split
  · rename_i hid
    exact hf x₁ hx₁ x₂ hid r
  · exact r

theorem IsoRel.updConn (h : IsoRel b ρ s₁ s₂) (c : Nat) (f : Conn → Conn)
    (hf : ∀ y, (f y).app = y.app ∧ (f y).id = y.id) : IsoRel b ρ (s₁.updConn c f) (s₂.updConn c f) := by
  refine h.updConn_of c f (fun x₁ _ x₂ _ r => ⟨by rw [(hf x₂).2, (hf x₁).2, r.1], fun ho => ?_, ?_⟩)
  · have : ¬ x₁.other b := by
      intro ⟨a, ha, hab⟩; exact ho ⟨a, by rw [(hf x₁).1]; exact ha, hab⟩
    rw [r.2.1 this]
  · intro ⟨a, ha, hab⟩
    rw [(hf x₂).1]
    exact r.2.2 ⟨a, by rw [← (hf x₁).1]; exact ha, hab⟩

theorem IW.send (w : IW b s₁ s₂) (c : Nat) (f : Frame) : IW b (s₁.send c f) (s₂.send c f) := by
  obtain ⟨ρ, h⟩ := w.rel
  refine ⟨⟨ρ, ?_⟩, w.oka.send c f, w.okb.send c f⟩
  unfold Sys.send
  rw [(synced_iff s₁).2 w.oka.synced, (synced_iff s₂).2 w.okb.synced]
  exact h.emit _

theorem IW.sendError (w : IW b s₁ s₂) (c : Nat) (t : String) : IW b (s₁.sendError c t) (s₂.sendError c t) :=
  w.send c _

theorem IW.internalErr (w : IW b s₁ s₂) (c : Nat) (cls : String) :
    IW b (s₁.internalErr c cls) (s₂.internalErr c cls) := by
  obtain ⟨ρ, h⟩ := w.rel
  exact ⟨⟨ρ, h.emit _⟩, w.oka.internalErr c cls, w.okb.internalErr c cls⟩

theorem IW.updConn (w : IW b s₁ s₂) (c : Nat) (f : Conn → Conn) (hf : ∀ y, (f y).app = y.app ∧ (f y).id = y.id) :
    IW b (s₁.updConn c f) (s₂.updConn c f) := by
  obtain ⟨ρ, h⟩ := w.rel
  exact ⟨⟨ρ, h.updConn c f hf⟩, w.oka.updConn c f, w.okb.updConn c f⟩

theorem IW.foldl_send {α : Type} (g : α → Nat) (fr : α → Frame) (l : List α) :
    ∀ {s₁ s₂ : Sys}, IW b s₁ s₂ →
      IW b (l.foldl (fun s x => s.send (g x) (fr x)) s₁) (l.foldl (fun s x => s.send (g x) (fr x)) s₂) := by
  induction l with
  | nil => intro s₁ s₂ w; exact w
  | cons x l ih => intro s₁ s₂ w; exact ih (w.send _ _)

theorem results_of_both {α : Type} {P : Sys → Sys → Prop} {p₁ p₂ : Sys × α}
    (h : ∃ a₁ a₂ r, p₁ = (a₁, r) ∧ p₂ = (a₂, r) ∧ P a₁ a₂) {a₁ a₂ : Sys} {r₁ r₂ : α} (e₁ : p₁ = (a₁, r₁))
    (e₂ : p₂ = (a₂, r₂)) : P a₁ a₂ ∧ r₁ = r₂ := by
  obtain ⟨_, _, _, rfl, rfl, hP⟩ := h
  cases e₁; cases e₂
  exact ⟨hP, rfl⟩

theorem IW.claimNameplate_both (w : IW b s₁ s₂) (hp : s₁.db.PInv) (name side : String) (t : Time) {fresh : String}
    (hg : ¬ s₁.db.ForeignMb b fresh) :
    ∃ a₁ a₂ r, s₁.claimNameplate b name side t fresh = (a₁, r) ∧ s₂.claimNameplate b name side t fresh = (a₂, r) ∧
      IW b a₁ a₂ := by
  obtain ⟨ρ, h⟩ := w.rel
  obtain ⟨ρ', a₁, a₂, r, e₁, e₂, h'⟩ := claimNameplate_iso h hp w.okb.np.bounded.1 name side t hg
  exact ⟨a₁, a₂, r, e₁, e₂, ⟨ρ', h'⟩, w.oka.claimNameplate e₁, w.okb.claimNameplate e₂⟩

theorem IW.claimNameplate (w : IW b s₁ s₂) (hp : s₁.db.PInv) {name side : String} {t : Time} {fresh : String}
    (hg : ¬ s₁.db.ForeignMb b fresh) {a₁ a₂ : Sys} {r₁ r₂ : ClaimRes}
    (e₁ : s₁.claimNameplate b name side t fresh = (a₁, r₁)) (e₂ : s₂.claimNameplate b name side t fresh = (a₂, r₂)) :
    IW b a₁ a₂ ∧ r₁ = r₂ :=
  results_of_both (w.claimNameplate_both hp name side t hg) e₁ e₂

theorem IW.releaseNameplate_both (w : IW b s₁ s₂) (name side : String) (t : Time) :
    ∃ a₁ a₂ r, s₁.releaseNameplate b name side t = (a₁, r) ∧ s₂.releaseNameplate b name side t = (a₂, r) ∧
      IW b a₁ a₂ := by
  obtain ⟨ρ, h⟩ := w.rel
  obtain ⟨a₁, a₂, r, e₁, e₂, h'⟩ := releaseNameplate_iso h name side t
  exact ⟨a₁, a₂, r, e₁, e₂, ⟨ρ, h'⟩, w.oka.releaseNameplate e₁, w.okb.releaseNameplate e₂⟩

theorem IW.releaseNameplate (w : IW b s₁ s₂) {name side : String} {t : Time} {a₁ a₂ : Sys} {r₁ r₂ : Bool}
    (e₁ : s₁.releaseNameplate b name side t = (a₁, r₁)) (e₂ : s₂.releaseNameplate b name side t = (a₂, r₂)) :
    IW b a₁ a₂ ∧ r₁ = r₂ :=
  results_of_both (w.releaseNameplate_both name side t) e₁ e₂

theorem IW.openMailbox_both (w : IW b s₁ s₂) (hp : s₁.db.PInv) (m side : String) (t : Time)
    (hg : ¬ s₁.db.ForeignMb b m) :
    ∃ a₁ a₂ r, s₁.openMailbox b m side t = (a₁, r) ∧ s₂.openMailbox b m side t = (a₂, r) ∧
      (IW b a₁ a₂ ∧ a₁.db.npPart = s₁.db.npPart) := by
  obtain ⟨ρ, h⟩ := w.rel
  obtain ⟨a₁, a₂, r, e₁, e₂, h', _, hn⟩ := openMailbox_iso h m side t (absent_of_pinv hp hg)
  exact ⟨a₁, a₂, r, e₁, e₂, ⟨⟨ρ, h'⟩, w.oka.openMailbox e₁, w.okb.openMailbox e₂⟩, hn⟩

theorem IW.openMailbox (w : IW b s₁ s₂) (hp : s₁.db.PInv) {m side : String} {t : Time}
    (hg : ¬ s₁.db.ForeignMb b m) {a₁ a₂ : Sys} {r₁ r₂ : OpenRes}
    (e₁ : s₁.openMailbox b m side t = (a₁, r₁)) (e₂ : s₂.openMailbox b m side t = (a₂, r₂)) :
    IW b a₁ a₂ ∧ r₁ = r₂ ∧ a₁.db.npPart = s₁.db.npPart :=
  have ⟨⟨w', hn⟩, hr⟩ := results_of_both (w.openMailbox_both hp m side t hg) e₁ e₂
  ⟨w', hr, hn⟩

theorem IW.mailboxClose_both (w : IW b s₁ s₂) (hu : s₁.db.NpIdsUnique) (m side : String) (mood : Option String)
    (t : Time) :
    ∃ a₁ a₂ r, s₁.mailboxClose b m side mood t = (a₁, r) ∧ s₂.mailboxClose b m side mood t = (a₂, r) ∧
      IW b a₁ a₂ := by
  obtain ⟨ρ, h⟩ := w.rel
  obtain ⟨a₁, a₂, r, e₁, e₂, h'⟩ := mailboxClose_iso h hu m side mood t
  exact ⟨a₁, a₂, r, e₁, e₂, ⟨ρ, h'⟩, w.oka.mailboxClose e₁, w.okb.mailboxClose e₂⟩

theorem IW.mailboxClose (w : IW b s₁ s₂) (hu : s₁.db.NpIdsUnique) {m side : String} {mood : Option String} {t : Time}
    {a₁ a₂ : Sys} {r₁ r₂ : Bool} (e₁ : s₁.mailboxClose b m side mood t = (a₁, r₁))
    (e₂ : s₂.mailboxClose b m side mood t = (a₂, r₂)) : IW b a₁ a₂ ∧ r₁ = r₂ :=
  results_of_both (w.mailboxClose_both hu m side mood t) e₁ e₂

theorem IW.addMessage (w : IW b s₁ s₂) (m side : String) (ph bd : Val) (t : Time) (id : Val) :
    IW b (s₁.addMessage b m side ph bd t id) (s₂.addMessage b m side ph bd t id) := by
  obtain ⟨ρ, h⟩ := w.rel
  exact ⟨⟨ρ, addMessage_iso h m side ph bd t id⟩, w.oka.addMessage _ _ _ _ _ _ _, w.okb.addMessage _ _ _ _ _ _ _⟩

theorem IsoRel.lcv (h : IsoRel b ρ s₁ s₂) (side : String) (t : Time) (i v : Option String) :
    IsoRel b ρ (s₁.logClientVersion b side t i v) (s₂.logClientVersion b side t i v) := by
  unfold Sys.logClientVersion
  rw [← h.cfg, ← h.blurTime]
  split
  · apply IsoRel.ucommit
    refine ⟨h.db, ?_, h.conns, h.cfg, h.frames⟩
    obtain ⟨u1, u2, u3⟩ := h.udb
    refine ⟨u1, u2, ?_⟩
    simp only [Usage.clientsB, Sys.modUdb, List.filter_append] at u3 ⊢
    rw [u3]
  · exact h

end basics

section handlers
variable {b : String} {s₁ s₂ : Sys}

theorem IW.handlePing (w : IW b s₁ s₂) (c : Nat) (v : Option Val) : IW b (s₁.handlePing c v) (s₂.handlePing c v) := by
  unfold Sys.handlePing
  cases v with
  | none => exact w.sendError _ _
  | some v => exact w.send _ _

/-- `bind`: `x` is the record of the acting connection in both runs; the bind, if accepted, is
    to app `b` -/
theorem IW.handleBind (w : IW b s₁ s₂) (x : Conn) (hx : ∀ y ∈ s₁.conns, y.id = x.id → y = x) (t : Time)
    (app side impl version : Option String)
    (hab : ¬ (x.app.isSome = true ∨ (x.side.isSome = true ∧ x.side ≠ some "")) → ∀ a, app = some a → side.isSome → a = b) :
    IW b (s₁.handleBind x t app side impl version) (s₂.handleBind x t app side impl version) := by
  unfold Sys.handleBind
  split
  · exact w.sendError _ _
  · rename_i hc
    cases app with
    | none => exact w.sendError _ _
    | some ap =>
      cases side with
      | none => exact w.sendError _ _
      | some sd =>
        dsimp only
        obtain rfl : ap = b := hab hc ap rfl rfl
        obtain ⟨ρ, h⟩ := w.rel
        have hxa : x.app = none := by
          cases hh : x.app with
          | none => rfl
          | some a => exact absurd (Or.inl (by simp [hh])) hc
        have h1 := h.updConn_of x.id (fun y => { y with app := some ap, side := some sd }) (fun x₁ hx₁ x₂ hid r => by
          have hno : ¬ x₁.other ap := by
            rw [hx x₁ hx₁ hid]; intro ⟨a, ha, _⟩; rw [hxa] at ha; cases ha
          rw [r.2.1 hno]
          exact ⟨rfl, fun _ => rfl, fun ⟨a, ha, hne⟩ => absurd (Option.some.inj ha).symm hne⟩)
        exact ⟨⟨ρ, h1.lcv sd t impl version⟩, (w.oka.updConn _ _).logClientVersion _ _ _ _ _,
          (w.okb.updConn _ _).logClientVersion _ _ _ _ _⟩

theorem IW.handleList (w : IW b s₁ s₂) (x : Conn) : IW b (s₁.handleList x b) (s₂.handleList x b) := by
  obtain ⟨ρ, h⟩ := w.rel
  unfold Sys.handleList
  rw [← h.cfg, h.db.namesOfApp]
  exact w.send _ _

theorem IW.handleAllocate (w : IW b s₁ s₂) (hp : s₁.db.PInv) (x : Conn) (side : String) (t : Time) (pick : Nat)
    (draws : List Nat) (fresh : String) (hg : ¬ s₁.db.ForeignMb b fresh) :
    IW b (s₁.handleAllocate x b side t pick draws fresh) (s₂.handleAllocate x b side t pick draws fresh) := by
  obtain ⟨ρ, h⟩ := w.rel
  unfold Sys.handleAllocate
  rw [h.db.namesOfApp]
  split
  · exact w.sendError _ _
  · cases findAvailable (s₁.db.namesOfApp b) pick draws with
    | none => exact w.internalErr _ _
    | some name =>
      dsimp only
      obtain ⟨a₁, a₂, r, e₁, e₂, w1⟩ := w.claimNameplate_both hp name side t hg
      rw [e₁, e₂]
      cases r with
      | ok m => exact (w1.updConn _ _ (by intro; exact ⟨rfl, rfl⟩)).send _ _
      | _ => exact w1.internalErr _ _

theorem IW.handleClaim (w : IW b s₁ s₂) (hp : s₁.db.PInv) (x : Conn) (side : String) (t : Time) (n : Option String)
    (fresh : String) (hg : ¬ s₁.db.ForeignMb b fresh) :
    IW b (s₁.handleClaim x b side t n fresh) (s₂.handleClaim x b side t n fresh) := by
  unfold Sys.handleClaim
  cases n with
  | none => exact w.sendError _ _
  | some name =>
    dsimp only
    split
    · exact w.sendError _ _
    · obtain ⟨a₁, a₂, r, e₁, e₂, w1⟩ :=
        (w.updConn x.id (fun y => { y with didClaim := true, nameplateId := some name })
          (fun _ => ⟨rfl, rfl⟩)).claimNameplate_both hp name side t hg
      rw [e₁, e₂]
      cases r with
      | ok m => exact w1.send _ _
      | crowded | reclaimed => exact w1.sendError _ _
      | integrity => exact w1.internalErr _ _

theorem IW.handleRelease (w : IW b s₁ s₂) (x : Conn) (side : String) (t : Time) (n : Option String) :
    IW b (s₁.handleRelease x b side t n) (s₂.handleRelease x b side t n) := by
  rw [handleRelease_eq, handleRelease_eq]
  have go : ∀ name : String, IW b (s₁.releaseWith x b side t name) (s₂.releaseWith x b side t name) := by
    intro name
    obtain ⟨a₁, a₂, r, e₁, e₂, w1⟩ :=
      (w.updConn x.id (fun y => { y with didRelease := true }) (fun _ => ⟨rfl, rfl⟩)).releaseNameplate_both name side t
    unfold releaseWith
    rw [e₁, e₂]
    cases r with
    | true => exact w1.send _ _
    | false => exact w1.internalErr _ _
  split
  · exact w.sendError _ _
  · split
    · split
      · exact w.sendError _ _
      · exact go _
    · exact go _
    · exact go _
    · exact w.sendError _ _

theorem IW.replay (w : IW b s₁ s₂) (c : Nat) (m : String) : IW b (s₁.replay c b m) (s₂.replay c b m) := by
  obtain ⟨ρ, h⟩ := w.rel
  unfold Sys.replay
  rw [h.db.messagesOf]
  exact IW.foldl_send (fun _ => c) (fun (m : Message) => .message m.side m.phase m.body m.rx m.msgId) _ w

theorem IW.broadcast (w : IW b s₁ s₂) (m : String) (f : Frame) : IW b (s₁.broadcast b m f) (s₂.broadcast b m f) := by
  obtain ⟨ρ, h⟩ := w.rel
  unfold Sys.broadcast
  rw [h.listeners m]
  exact IW.foldl_send (fun c => c) (fun _ => f) _ w

theorem IW.handleOpen (w : IW b s₁ s₂) (hp : s₁.db.PInv) (x : Conn) (side : String) (t : Time) (m : Option String)
    (hg : ∀ mb, m = some mb → ¬ s₁.db.ForeignMb b mb) :
    IW b (s₁.handleOpen x b side t m) (s₂.handleOpen x b side t m) := by
  unfold Sys.handleOpen
  split
  · exact w.sendError _ _
  · cases m with
    | none => exact w.sendError _ _
    | some mb =>
      dsimp only
      obtain ⟨a₁, a₂, r, e₁, e₂, w1, _⟩ :=
        (w.updConn x.id (fun y => { y with mailboxId := some mb }) (fun _ => ⟨rfl, rfl⟩)).openMailbox_both hp mb side t
          (hg mb rfl)
      rw [e₁, e₂]
      cases r with
      | crowded => exact w1.sendError _ _
      | integrity => exact w1.internalErr _ _
      | ok => exact (w1.updConn _ _ (by intro; exact ⟨rfl, rfl⟩)).replay _ _

theorem IW.handleAdd (w : IW b s₁ s₂) (x : Conn) (side : String) (t : Time) (id : Val) (ph bd : Option Val) :
    IW b (s₁.handleAdd x b side t id ph bd) (s₂.handleAdd x b side t id ph bd) := by
  unfold Sys.handleAdd
  cases x.mailbox with
  | none => exact w.sendError _ _
  | some mb =>
    cases ph with
    | none => exact w.sendError _ _
    | some p =>
      cases bd with
      | none => exact w.sendError _ _
      | some d => exact (w.addMessage _ _ _ _ _ _).broadcast _ _

theorem IW.closeFinish {c₁ c₂ : Sys} (w1 : IW b c₁ c₂) (hu : c₁.db.NpIdsUnique) (x : Conn) (side : String)
    (mood : Option String) (t : Time) (r : OpenRes) (hd : String) :
    IW b (Sys.closeFinish x b side t mood (c₁, r, hd)) (Sys.closeFinish x b side t mood (c₂, r, hd)) := by
  unfold Sys.closeFinish
  cases r with
  | crowded => exact w1.sendError _ _
  | integrity => exact w1.internalErr _ _
  | ok =>
    dsimp only
    obtain ⟨a₁, a₂, r, e₁, e₂, w3⟩ :=
      (w1.updConn x.id (fun y => { y with listening := false, didClose := true })
        (fun _ => ⟨rfl, rfl⟩)).mailboxClose_both hu hd side mood t
    rw [e₁, e₂]
    cases r with
    | true => exact (w3.updConn _ _ (by intro; exact ⟨rfl, rfl⟩)).send _ _
    | false => exact w3.internalErr _ _

theorem IW.handleClose (w : IW b s₁ s₂) (hp : s₁.db.PInv) (x : Conn) (side : String) (t : Time)
    (m mood : Option String)
    (hg : ∀ mb, (m = some mb ∨ (m = none ∧ x.mailboxId = some mb)) → ¬ s₁.db.ForeignMb b mb) :
    IW b (s₁.handleClose x b side t m mood) (s₂.handleClose x b side t m mood) := by
  rw [handleClose_eq, handleClose_eq]
  have go : ∀ mb : String, ((x.mailbox = none) → ¬ s₁.db.ForeignMb b mb) →
      IW b (Sys.closeFinish x b side t mood (s₁.closeOpened x b side t mb))
        (Sys.closeFinish x b side t mood (s₂.closeOpened x b side t mb)) := by
    intro mb hgm
    unfold closeOpened
    cases hx : x.mailbox with
    | some hd => exact w.closeFinish hp.npIds x side mood t .ok hd
    | none =>
      dsimp only
      obtain ⟨a₁, a₂, r, e₁, e₂, w1, hn⟩ := w.openMailbox_both hp mb side t (hgm hx)
      rw [e₁, e₂]
      have hu : a₁.db.NpIdsUnique := by
        unfold Chan.NpIdsUnique; rw [(npPart_eq hn).1]; exact hp.npIds
      exact (w1.updConn _ _ (fun y => by split <;> exact ⟨rfl, rfl⟩)).closeFinish hu x side mood t r mb
  split
  · exact w.sendError _ _
  · split
    · rename_i mm held hmid
      split
      · exact w.sendError _ _
      · exact go _ (fun _ => hg mm (Or.inl rfl))
    · rename_i mm _
      exact go _ (fun _ => hg mm (Or.inl rfl))
    · rename_i held hmid
      exact go _ (fun _ => hg held (Or.inr ⟨rfl, hmid⟩))
    · exact w.sendError _ _

end handlers

/-- the mailbox ids a command makes the server look up on behalf of connection record `x`
    (`close` without a `mailbox` key uses the id remembered from `open`) -/
def namedIds (x : Conn) : Cmd → List String
  | .allocate _ _ fresh => [fresh]
  | .claim _ fresh => [fresh]
  | .open_ (some m) => [m]
  | .close (some m) _ => [m]
  | .close none _ => x.mailboxId.toList
  | _ => []

/-- none of the ids the command names exists under another app only (the situation of
    K-global-mailbox-id does not arise for this command) -/
def NoForeign (d : Chan) (b : String) (x : Conn) (cmd : Cmd) : Prop :=
  ∀ m ∈ namedIds x cmd, ¬ d.ForeignMb b m

section ops
variable {b : String} {s₁ s₂ : Sys}

theorem IW.handleBound (w : IW b s₁ s₂) (hp : s₁.db.PInv) (c : Nat) (x : Conn) (t : Time) (id : Val) (cmd : Cmd)
    (hg : NoForeign s₁.db b x cmd) : IW b (s₁.handleBound c x b t id cmd) (s₂.handleBound c x b t id cmd) := by
  cases cmd with
  | list => exact w.handleList _
  | allocate pick draws fresh => exact w.handleAllocate hp _ _ _ _ _ _ (hg fresh (by simp [namedIds]))
  | claim n fresh => exact w.handleClaim hp _ _ _ _ _ (hg fresh (by simp [namedIds]))
  | release n => exact w.handleRelease _ _ _ _
  | open_ m => exact w.handleOpen hp _ _ _ _ (fun mb e => hg mb (by subst e; simp [namedIds]))
  | add ph bd => exact w.handleAdd _ _ _ _ _ _
  | close m mood =>
    refine w.handleClose hp _ _ _ _ _ (fun mb hmb => hg mb ?_)
    rcases hmb with rfl | ⟨rfl, e⟩
    · simp [namedIds]
    · simp [namedIds, e]
  | _ => exact w.sendError _ _

theorem IW.onMessage (w : IW b s₁ s₂) (hp : s₁.db.PInv) (hids : s₁.conns.Pairwise (fun a b => ¬ a.id = b.id))
    (c : Nat) (t : Time) (id : Val) (cmd : Cmd) (hno : s₁.otherOp b (.recv c t id cmd) = false)
    (hg : ∀ x, s₁.findConn c = some x → x.app = some b → NoForeign s₁.db b x cmd) :
    IW b (s₁.onMessage c t id cmd) (s₂.onMessage c t id cmd) := by
  obtain ⟨ρ, h⟩ := w.rel
  rw [onMessage_dispatch, onMessage_dispatch]
  rcases All2.find? (fun x : Conn => decide (x.id = c)) (fun x : Conn => decide (x.id = c)) h.conns
    (by intro x₁ _ x₂ _ r; rw [r.1]) with ⟨h1, h2⟩ | ⟨x, x₂, h1, h2, r⟩
  · rw [show s₁.findConn c = none from h1, show s₂.findConn c = none from h2]; exact w
  · have e1 : s₁.findConn c = some x := h1
    simp only [Sys.otherOp, e1] at hno
    -- the acting connection is not bound to another app, so its record is the same in both runs
    have hnoth : ¬ x.other b := by
      intro ⟨a, ha, hab⟩
      rw [ha] at hno
      simp [hab] at hno
    obtain rfl : x₂ = x := r.2.1 hnoth
    rw [e1, show s₂.findConn c = some x₂ from h2]
    dsimp only
    have wa := w.send c (.ack id)
    cases cmd with
    | noType => exact w.sendError _ _
    | ping v => exact wa.handlePing _ _
    | bind ap sd i v =>
      refine wa.handleBind x₂ (fun y hy hyid => Chan.eq_of_pairwise_ne hids hy (findConn_mem e1) hyid) t ap sd i v
        (fun hc a ha hsd => ?_)
      -- accepted only on an unbound connection, and then `otherOp` is false only for `a = b`
      have hxa : x₂.app = none := by
        cases hh : x₂.app with
        | none => rfl
        | some a' => exact absurd (Or.inl (by simp [hh])) hc
      subst ha
      obtain ⟨sd', rfl⟩ := Option.isSome_iff_exists.1 hsd
      have hc2 : ¬ (x₂.side.isSome = true ∧ x₂.side ≠ some "") := fun h' => hc (Or.inr h')
      rw [hxa] at hno
      simpa [hc2] using hno
    | _ =>
      dsimp only
      cases hxa : x₂.app with
      | none => exact wa.sendError _ _
      | some app =>
        obtain rfl : app = b := by
          rw [hxa] at hno
          simpa using hno
        exact wa.handleBound hp c x₂ t id _ (hg x₂ e1 hxa)

/-- `onOpen` -/
theorem IW.connect (w : IW b s₁ s₂) (c : Nat) : IW b (s₁.connect c) (s₂.connect c) := by
  obtain ⟨ρ, h⟩ := w.rel
  unfold Sys.connect
  rw [show s₂.cfg.welcome = s₁.cfg.welcome by rw [h.cfg]]
  have hr : ConnRel b { id := c } { id := c } := ⟨rfl, fun _ => rfl, fun _ => rfl⟩
  exact IW.send ⟨⟨ρ, h.setConns (h.conns.append (.cons hr .nil))⟩,
    ⟨w.oka.frames, w.oka.synced, w.oka.np⟩, ⟨w.okb.frames, w.okb.synced, w.okb.np⟩⟩ _ _

/-- `onClose` -/
theorem IW.dropConn (w : IW b s₁ s₂) (c : Nat) : IW b (s₁.dropConn c) (s₂.dropConn c) := by
  obtain ⟨ρ, h⟩ := w.rel
  unfold Sys.dropConn
  refine ⟨⟨ρ, h.setConns ?_⟩, ⟨w.oka.frames, w.oka.synced, w.oka.np⟩, ⟨w.okb.frames, w.okb.synced, w.okb.np⟩⟩
  apply All2.filter _ _ h.conns
  intro x₁ _ x₂ _ r
  rw [r.1]

theorem IW.restart (w : IW b s₁ s₂) (t : Time) : IW b (s₁.restart t) (s₂.restart t) := by
  obtain ⟨ρ, h⟩ := w.rel
  refine ⟨⟨ρ, ?_⟩, w.oka.restart t, w.okb.restart t⟩
  unfold Sys.restart
  refine ⟨?_, ?_, .nil, h.cfg, h.frames⟩
  · show Chan.ViewRel b ρ s₁.disk s₂.disk
    rw [← w.oka.synced.1, ← w.okb.synced.1]; exact h.db
  · show Usage.SameB b s₁.udisk s₂.udisk
    rw [← w.oka.synced.2, ← w.okb.synced.2]; exact h.udb

end ops

end Sys
end Wormhole
