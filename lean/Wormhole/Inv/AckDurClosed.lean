/-
  Properties that must tell `send` from the emission of other events (for `C09_ack_durable`).

  `AClosed T`: the property `T` of system states survives the primitives of Sys.lean:
    `send` (a frame, flag computed by `send` itself), `emit` of an `internal` or `fired` event
    (`Note`), `commit`, `ucommit`, `modDb f` and `modUdb f` for arbitrary `f`, any change of
    `conns`, any change of `rebooted`.
  `T` then survives every statement of Inv/Acts.lean (`AClosed.stmt`), hence every function of the
  model, up to `AClosed.stepPlain`.
  (`UClosed` of Inv/UsageTrack.lean is closed under ALL events, which cannot express "every frame is
  produced by `send`", and there the usage database is written by four named statements only.)
-/
import Wormhole.Inv.Acts

namespace Wormhole
namespace Sys

/-- the events other than frames and commits: `internal` (an exception was logged) and `fired` -/
def Note : Event → Prop
  | .internal _ _ => True
  | .fired _ _ => True
  | _ => False

structure AClosed (T : Sys → Prop) : Prop where
  send0 : ∀ s c f, T s → T (s.send c f)
  note : ∀ s e, Note e → T s → T (s.emit e)
  commit : ∀ s, T s → T s.commit
  ucommit : ∀ s, T s → T s.ucommit
  modDb : ∀ s f, T s → T (s.modDb f)
  modUdb : ∀ s f, T s → T (s.modUdb f)
  conns : ∀ s cs, T s → T { s with conns := cs }
  reboot : ∀ s t, T s → T { s with rebooted := t }

section
variable {T : Sys → Prop} (hT : AClosed T)
include hT

theorem AClosed.storeNp (s : Sys) (app sides t p) (h : T s) : T (s.storeNameplateUsage app sides t p).1 := by
  unfold Sys.storeNameplateUsage
  split
  · exact h
  · dsimp only
    exact hT.modUdb _ _ h

theorem AClosed.stmt {k : Kind} {a b : Sys} (h : Stmt k a b) : T a → T b := by
  intro ha
  cases h with
  | frame | msg => exact hT.send0 _ _ _ ha
  | internal | fired => exact hT.note _ _ trivial ha
  | commit => exact hT.commit _ ha
  | ucommit => exact hT.ucommit _ ha
  | storeNp => exact hT.storeNp _ _ _ _ _ ha
  | storeMb => unfold Sys.storeMailboxUsage; exact hT.modUdb _ _ ha
  | client | current => exact hT.modUdb _ _ ha
  | grow | insMessage | unclaim | releaseDel | closeSide | closeDeletes | delNp | delMb | touchListened =>
    exact hT.modDb _ _ ha
  | stop | flag | bind | conn | conns => exact hT.conns _ _ ha
  | restart _ t =>
    exact hT.reboot _ t (hT.conns _ [] (hT.modUdb _ (fun _ => a.udisk) (hT.modDb _ (fun _ => a.disk) ha)))

theorem AClosed.runs {K : Kind → Prop} {s s' : Sys} (r : Runs K s s') (h : T s) : T s' :=
  r.preserves (fun _ _ _ _ => hT.stmt) h

theorem AClosed.stopListeners {s : Sys} (h : T s) (a m) : T (s.stopListeners a m) := hT.stmt (.stop s a m) h

theorem AClosed.replay {s : Sys} (h : T s) (c app mb) : T (s.replay c app mb) :=
  hT.runs ((Runs.refl s).replay (K := Kind.any) trivial c app mb) h

theorem AClosed.broadcast {s : Sys} (h : T s) (app mb f) : T (s.broadcast app mb f) :=
  hT.runs ((Runs.refl s).broadcast (K := Kind.any) trivial app mb f) h

theorem AClosed.storeNameplatesOfMailbox {app t} (l : List Nameplate) :
    ∀ {s : Sys}, T s → T (s.storeNameplatesOfMailbox app t l).1 := by
  induction l with
  | nil => intro s h; exact h
  | cons np rest ih =>
    intro s h
    unfold Sys.storeNameplatesOfMailbox
    have h1 := hT.storeNp s app (s.db.npSidesOf np.id) t false h
    split
    · rename_i s2 e; rw [e] at h1; exact h1
    · rename_i s2 e; rw [e] at h1; exact ih h1

theorem AClosed.openMailbox {s : Sys} (h : T s) (app mb side t) : T (s.openMailbox app mb side t).1 :=
  hT.runs ((Runs.refl s).openMailbox (K := Kind.any) trivial app mb side t trivial) h

theorem AClosed.addMessage {s : Sys} (h : T s) (app mb side ph bd t id) :
    T (s.addMessage app mb side ph bd t id) :=
  hT.runs ((Runs.refl s).addMessage (K := Kind.any) trivial app mb side ph bd t id trivial trivial) h

theorem AClosed.mailboxClose {s : Sys} (h : T s) (app mb side mood t) :
    T (s.mailboxClose app mb side mood t).1 :=
  hT.runs ((Runs.refl s).mailboxClose (K := Kind.any) trivial trivial app mb side mood t trivial trivial) h

theorem AClosed.claimNameplate {s : Sys} (h : T s) (app name side t fresh) :
    T (s.claimNameplate app name side t fresh).1 :=
  hT.runs ((Runs.refl s).claimNameplate (K := Kind.any) trivial app name side t fresh trivial) h

theorem AClosed.releaseNameplate {s : Sys} (h : T s) (app name side t) :
    T (s.releaseNameplate app name side t).1 :=
  hT.runs ((Runs.refl s).releaseNameplate (K := Kind.any) trivial trivial trivial app name side t) h

theorem AClosed.pruneApps {now old} (l : List String) :
    ∀ {s : Sys}, T s → T (s.pruneApps now old l).1 :=
  fun {s} h => hT.runs (Runs.pruneApps (K := Kind.any) trivial trivial trivial (fun _ => trivial) trivial l (.refl s)) h

theorem AClosed.dumpStats {s : Sys} (h : T s) (now) : T (s.dumpStats now) :=
  hT.runs ((Runs.refl s).dumpStats (K := Kind.any) trivial trivial now) h

theorem AClosed.expire {s : Sys} (h : T s) (now fault) : T (s.expire now fault) :=
  hT.runs ((Runs.refl s).expire (K := Kind.any) trivial trivial trivial (fun _ => trivial) trivial now fault trivial) h

theorem AClosed.onMessage {s : Sys} (h : T s) (c t id cmd) : T (s.onMessage c t id cmd) :=
  hT.runs (onMessage_runs_all (K := Kind.any) (fun _ _ _ => trivial) s c t id cmd) h

theorem AClosed.restart {s : Sys} (h : T s) (t : Time) : T (s.restart t) := hT.stmt (.restart s t) h

theorem AClosed.stepPlain {s : Sys} (h : T s) (op : Op) : T (s.stepPlain op) :=
  hT.runs (stepPlain_runs (K := Kind.any) (fun _ => trivial) s op) h

end

end Sys
end Wormhole
