/-
  `RebRel`, the two-run relation of C11.

  The two runs have the same channel side, the same configuration and the same usage tables
  `nameplates`, `mailboxes`, `client_versions` (in `udb` and in `udisk`); they may differ in
  `rebooted` and in the usage `current` row.  Inside a step, before `dump_stats`, the `current`
  row is not written, so in each run `udb.current = udisk.current` stays true and
  `udb = udisk` holds in one run iff it holds in the other: usage commits are effective in both
  runs or in neither, and the events are compared EXACTLY (`a.out = b.out`).

  `dump_stats` is the one function that reads `rebooted`: it overwrites `current` and commits,
  so an effective usage commit may happen in one run and not in the other
  (`RebRel.dumpStats`: the outputs are equal up to one trailing `commit .usage` each).
-/
import Wormhole.Inv.SimWs

namespace Wormhole

/-- the three usage tables that do not mention the start time -/
def Usage.core (u : Usage) : List UNameplate × List UMailbox × List UClient :=
  (u.nameplates, u.mailboxes, u.clients)

theorem Usage.core_eq_iff {u v : Usage} :
    u.core = v.core ↔ u.nameplates = v.nameplates ∧ u.mailboxes = v.mailboxes ∧ u.clients = v.clients := by
  simp [Usage.core]

theorem Usage.eq_iff (u v : Usage) : u = v ↔ u.core = v.core ∧ u.current = v.current := by
  cases u; cases v
  simp only [Usage.core, Usage.mk.injEq, Prod.mk.injEq]
  constructor <;> intro h <;> simp [h]

namespace Sys

structure RebRel (a b : Sys) : Prop where
  chan : ChanEq a b
  cfg : a.cfg = b.cfg
  out : a.out = b.out
  udb : a.udb.core = b.udb.core
  udisk : a.udisk.core = b.udisk.core
  cura : a.udb.current = a.udisk.current
  curb : b.udb.current = b.udisk.current

theorem RebRel.usync {a b : Sys} (h : RebRel a b) : a.udb = a.udisk ↔ b.udb = b.udisk := by
  rw [Usage.eq_iff, Usage.eq_iff, h.udb, h.udisk]
  simp [h.cura, h.curb]

theorem RebRel.blurTime {a b : Sys} (h : RebRel a b) : a.blurTime = b.blurTime := by
  funext t
  unfold Sys.blurTime Sys.blurTicks
  rw [h.cfg]

theorem RebRel.commit {a b : Sys} (h : RebRel a b) : RebRel a.commit b.commit :=
  h.chan.commit_cases h
    ⟨⟨h.chan.1, h.chan.1, h.chan.2.2⟩, h.cfg, by simp [h.out], h.udb, h.udisk, h.cura, h.curb⟩

theorem RebRel.ucommit {a b : Sys} (h : RebRel a b) : RebRel a.ucommit b.ucommit := by
  unfold Sys.ucommit
  by_cases hq : a.udb = a.udisk
  · rw [if_pos hq, if_pos (h.usync.1 hq)]
    exact h
  · rw [if_neg hq, if_neg (mt h.usync.2 hq)]
    exact ⟨h.chan, h.cfg, by simp [h.out], h.udb, h.udb, rfl, rfl⟩

theorem RebRel.emit {a b : Sys} (h : RebRel a b) (e : Event) : RebRel (a.emit e) (b.emit e) :=
  ⟨h.chan, h.cfg, by simp [h.out], h.udb, h.udisk, h.cura, h.curb⟩

/-- the same write, in both runs, to the usage tables other than `current` -/
theorem RebRel.modUdb {a b : Sys} (h : RebRel a b) {f : Usage → Usage}
    (hf : ∀ {u v : Usage}, u.core = v.core → (f u).core = (f v).core) (hc : ∀ u, (f u).current = u.current) :
    RebRel (a.modUdb f) (b.modUdb f) :=
  ⟨h.chan, h.cfg, h.out, hf h.udb, h.udisk, (hc _).trans h.cura, (hc _).trans h.curb⟩

theorem RebRel.uNp {a b : Sys} (h : RebRel a b) (app sides t p) :
    RebRel (a.uNp app sides t p).1 (b.uNp app sides t p).1 := by
  unfold Sys.uNp Sys.storeNameplateUsage
  rw [← h.cfg, ← h.blurTime]
  split
  · split
    · exact h
    · dsimp only
      apply h.modUdb
      · intro u v e; simp_all [Usage.core]
      · intro u; rfl
  · exact h

theorem RebRel.uMb {a b : Sys} (h : RebRel a b) (app f sides t p) :
    RebRel (a.uMb app f sides t p) (b.uMb app f sides t p) := by
  unfold Sys.uMb Sys.storeMailboxUsage
  rw [← h.cfg, ← h.blurTime]
  split
  · apply h.modUdb
    · intro u v e; simp_all [Usage.core]
    · intro u; rfl
  · exact h

theorem RebRel.uCommit {a b : Sys} (h : RebRel a b) : RebRel a.uCommit b.uCommit := by
  unfold Sys.uCommit
  rw [← h.cfg]
  split
  · exact h.ucommit
  · exact h

theorem RebRel.lcv {a b : Sys} (h : RebRel a b) (app side t i v) :
    RebRel (a.logClientVersion app side t i v) (b.logClientVersion app side t i v) := by
  unfold Sys.logClientVersion
  rw [← h.cfg, ← h.blurTime]
  split
  · apply RebRel.ucommit
    apply h.modUdb
    · intro u v e; simp_all [Usage.core]
    · intro u; rfl
  · exact h

theorem rebRel_simRel : SimRel RebRel where
  chan h := h.chan
  welcome h := by rw [h.cfg]
  modDb h f := ⟨⟨congrArg f h.chan.1, h.chan.2.1, h.chan.2.2⟩, h.cfg, h.out, h.udb, h.udisk, h.cura, h.curb⟩
  commit h := h.commit
  setConns h _ := ⟨⟨h.chan.1, h.chan.2.1, rfl⟩, h.cfg, h.out, h.udb, h.udisk, h.cura, h.curb⟩
  emit h e := h.emit e
  list h ha hb x app := by
    unfold Sys.handleList
    rw [send_of_synced ha, send_of_synced hb, h.cfg, h.chan.1]
    exact h.emit _
  uNp h app sides t p := h.uNp app sides t p
  uMb h app f sides t p := h.uMb app f sides t p
  uCommit h := h.uCommit
  lcv h app side t i v := h.lcv app side t i v
  restart h _ := ⟨⟨h.chan.2.1, h.chan.2.1, rfl⟩, h.cfg, h.out, h.udisk, h.udisk, rfl, rfl⟩

/-- what `dump_stats` may append: nothing, or one effective usage commit -/
def DumpTail (d : List Event) : Prop := d = [] ∨ d = [.commit .usage]

/-- equal up to the usage commit of `dump_stats` at the end -/
def EqUpToDump (o₁ o₂ : List Event) : Prop :=
  ∃ pre d₁ d₂, o₁ = pre ++ d₁ ∧ o₂ = pre ++ d₂ ∧ DumpTail d₁ ∧ DumpTail d₂

theorem EqUpToDump.of_eq {o₁ o₂ : List Event} (h : o₁ = o₂) : EqUpToDump o₁ o₂ :=
  ⟨o₁, [], [], by simp, by simp [h], Or.inl rfl, Or.inl rfl⟩

theorem EqUpToDump.eraseUsage {o₁ o₂ : List Event} (h : EqUpToDump o₁ o₂) :
    o₁.filterMap eraseUsage = o₂.filterMap eraseUsage := by
  obtain ⟨pre, d₁, d₂, rfl, rfl, h1, h2⟩ := h
  rcases h1 with rfl | rfl <;> rcases h2 with rfl | rfl <;> simp [List.filterMap_append, Wormhole.eraseUsage]

theorem dumpStats_out (s : Sys) (now : Time) : ∃ d, (s.dumpStats now).out = s.out ++ d ∧ DumpTail d := by
  unfold Sys.dumpStats Sys.ucommit
  split
  · split
    · exact ⟨[], by simp [Sys.modUdb], Or.inl rfl⟩
    · exact ⟨[.commit .usage], by simp [Sys.modUdb], Or.inr rfl⟩
  · exact ⟨[], by simp, Or.inl rfl⟩

/-- `dump_stats` from related states: everything is related again except the events, which are
    equal up to the trailing usage commit; afterwards nothing of the usage side is pending
    provided nothing of it was pending before, and in any case `udb.current = udisk.current`. -/
theorem RebRel.dumpStats {a b : Sys} (h : RebRel a b) (now : Time) :
    ChanEq (a.dumpStats now) (b.dumpStats now) ∧ (a.dumpStats now).cfg = (b.dumpStats now).cfg ∧
    (a.dumpStats now).udb.core = (b.dumpStats now).udb.core ∧
    (a.dumpStats now).udisk.core = (b.dumpStats now).udisk.core ∧
    EqUpToDump (a.dumpStats now).out (b.dumpStats now).out := by
  obtain ⟨da, hoa, hda⟩ := dumpStats_out a now
  obtain ⟨db, hob, hdb⟩ := dumpStats_out b now
  refine ⟨⟨by simpa using h.chan.1, by simpa using h.chan.2.1, ?_⟩, by simpa using h.cfg, ?_, ?_,
    ⟨a.out, da, db, hoa, by rw [hob, h.out], hda, hdb⟩⟩
  · unfold Sys.dumpStats; split <;> split <;> simp [h.chan.2.2]
  · unfold Sys.dumpStats
    rw [← h.cfg]
    have := h.udb
    simp only [Usage.core, Prod.mk.injEq] at this
    split <;> simp [Usage.core, Sys.modUdb, this]
  · unfold Sys.dumpStats
    rw [← h.cfg]
    have h1 := h.udb
    have h2 := h.udisk
    simp only [Usage.core, Prod.mk.injEq] at h1 h2
    split
    · simp [Usage.core, Sys.modUdb, h1]
    · simp [Usage.core, h2]

end Sys
end Wormhole
