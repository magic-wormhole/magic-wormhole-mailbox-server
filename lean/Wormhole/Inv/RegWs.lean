/-
  server_websocket.py against the registry: from states related by `Abs`, every handler of Reg.lean
  and the handler of Ws.lean end in states related by `Abs` -- except that `handle_add` delivers the
  broadcast in the order of the object's listener dict (`_listeners.values()`), a permutation of the
  order `Sys.broadcast` uses (`AbsOut`).
-/
import Wormhole.Inv.RegCore
import Wormhole.Inv.RegTrace
import Wormhole.Inv.MbStep

namespace Wormhole
namespace RSys

theorem appOf_fixed (r : RSys) (x : RConn) (app : String) : r.appOf .fixed x app = r.getApp app := rfl

theorem RegInv.unbound_no_mailbox {r : RSys} (h : r.RegInv) {x : RConn} (hx : x ∈ r.conns) (ha : x.app = none) :
    x.mailbox = none := by
  cases e : x.mailbox with
  | none => rfl
  | some o =>
    obtain ⟨k, _, _, e2⟩ := h.heldObj x hx o e
    rw [ha] at e2; cases e2

theorem findConn_abs {r : RSys} (c : Nat) : r.abs.findConn c = (r.findConn c).map (absConn r.mbs) := by
  unfold Sys.findConn findConn
  rw [abs_conns, aconns, List.find?_map]
  rfl

/-- `handle_release` and `handle_close` take the id from the message or, failing that, the one the
    connection remembers; the two must agree when both are there -/
theorem Abs.sameOrHeld {A : String → RSys} {A' : String → Sys} {E1 E2 : RSys} {E1' E2' : Sys} (o held : Option String)
    (hA : ∀ n, Abs (A n) (A' n)) (h1 : Abs E1 E1') (h2 : Abs E2 E2') :
    Abs (match o, held with
          | some n, some hd => if n ≠ hd then E1 else A n
          | some n, none => A n
          | none, some hd => A hd
          | none, none => E2)
        (match o, held with
          | some n, some hd => if n ≠ hd then E1' else A' n
          | some n, none => A' n
          | none, some hd => A' hd
          | none, none => E2') := by
  cases o <;> cases held
  · exact h2
  · exact hA _
  · exact hA _
  · exact Abs.ite _ (fun _ => h1) (fun _ => hA _)

theorem handleBind_spec {r : RSys} {s : Sys} (h : Abs r s) {x : RConn} (hx : x ∈ r.conns) (t : Time)
    (app side impl version : Option String) :
    Abs (r.handleBind .fixed x t app side impl version) (s.handleBind (absConn r.mbs x) t app side impl version) := by
  unfold handleBind Sys.handleBind
  simp only [absConn_app, absConn_side, absConn_id, appOf_fixed]
  rcases Option.eq_none_or_eq_some x.app with hxa | ⟨a0, hxa⟩
  · simp only [hxa, Option.isSome_none, Bool.false_eq_true, false_or]
    refine Abs.ite _ (fun _ => h.sendError _ _) (fun _ => ?_)
    cases app with
    | none => exact h.sendError _ _
    | some a =>
      cases side with
      | none => exact h.sendError _ _
      | some sd =>
        simp only [Variant.fixed, Bool.false_eq_true, if_false]
        have h1 : Abs (r.updConn x.id (fun y => { y with app := some a, side := some sd }))
            (s.updConn x.id (fun y => { y with app := some a, side := some sd })) := by
          refine h.updConn (h.inv.updConn _ _ (fun _ => rfl) ?_) (fun _ _ _ => rfl)
          intro y hy e
          have hm : y.mailbox = none := by
            rw [h.inv.conn_eq hy hx e]; exact h.inv.unbound_no_mailbox hx hxa
          simp only [hm]
          exact ⟨by simp, by simp, fun k hk => by simp [h.inv.listener_iff hy hk, hm]⟩
        exact (h1.getApp a).1.onCore (fun s cs => by simp)
  · simp only [hxa, Option.isSome_some, true_or, if_true]
    exact (h.getApp a0).1.sendError _ _

theorem handleList_spec {r : RSys} {s : Sys} (h : Abs r s) (x : RConn) (app : String) :
    Abs (r.handleList .fixed x app) (s.handleList (absConn r.mbs x) app) := by
  unfold handleList Sys.handleList
  simp only [appOf_fixed]
  obtain ⟨j, hn, _⟩ := h.getApp app
  obtain ⟨ns, hf, _, _, rfl⟩ := j.inv.findNs_app hn
  rw [hf]
  exact j.onCore (fun _ _ => rfl)

theorem handleAllocate_spec {r : RSys} {s : Sys} (h : Abs r s) (x : RConn) (app side : String) (t : Time) (pick : Nat)
    (draws : List Nat) (fresh : String) :
    Abs (r.handleAllocate .fixed x app side t pick draws fresh)
      (s.handleAllocate (absConn r.mbs x) app side t pick draws fresh) := by
  unfold handleAllocate Sys.handleAllocate
  simp only [appOf_fixed, absConn_didAllocate, absConn_id]
  refine Abs.ite _ (fun _ => h.sendError _ _) (fun _ => ?_)
  obtain ⟨j, hn, _⟩ := h.getApp app
  obtain ⟨ns, hf, _, _, rfl⟩ := j.inv.findNs_app hn
  rw [hf]
  dsimp only
  rw [j.db]
  cases Sys.findAvailable (s.db.namesOfApp ns.app) pick draws with
  | none => exact j.internalErr _ _
  | some name =>
    dsimp only
    obtain ⟨r1, s1, res, hq, hs, k⟩ := claimNameplate_spec j hn name side t fresh
    rw [hq, hs]
    cases res with
    | ok m =>
      refine (k.updConn_flags ?_ ?_).send _ _
      · exact fun _ => ⟨rfl, rfl, rfl, rfl⟩
      · exact fun _ => rfl
    | crowded => exact k.internalErr _ _
    | reclaimed => exact k.internalErr _ _
    | integrity => exact k.internalErr _ _

theorem handleClaim_spec {r : RSys} {s : Sys} (h : Abs r s) (x : RConn) (app side : String) (t : Time)
    (nameplate : Option String) (fresh : String) :
    Abs (r.handleClaim .fixed x app side t nameplate fresh)
      (s.handleClaim (absConn r.mbs x) app side t nameplate fresh) := by
  unfold handleClaim Sys.handleClaim
  simp only [appOf_fixed, absConn_didClaim, absConn_id]
  cases nameplate with
  | none => exact h.sendError _ _
  | some name =>
    dsimp only
    refine Abs.ite _ (fun _ => h.sendError _ _) (fun _ => ?_)
    have h0 : Abs (r.updConn x.id (fun y => { y with didClaim := true, nameplateId := some name }))
        (s.updConn x.id (fun y => { y with didClaim := true, nameplateId := some name })) :=
      h.updConn_flags (fun _ => ⟨rfl, rfl, rfl, rfl⟩) (fun _ => rfl)
    obtain ⟨j, hn, _⟩ := h0.getApp app
    obtain ⟨r1, s1, res, hq, hs, k⟩ := claimNameplate_spec j hn name side t fresh
    rw [hq, hs]
    cases res with
    | ok m => exact k.send _ _
    | crowded => exact k.sendError _ _
    | reclaimed => exact k.sendError _ _
    | integrity => exact k.internalErr _ _

theorem handleRelease_spec {r : RSys} {s : Sys} (h : Abs r s) (x : RConn) (app side : String) (t : Time)
    (nameplate : Option String) :
    Abs (r.handleRelease .fixed x app side t nameplate) (s.handleRelease (absConn r.mbs x) app side t nameplate) := by
  unfold handleRelease Sys.handleRelease
  simp only [absConn_didRelease, absConn_id, absConn_nameplateId]
  refine Abs.ite _ (fun _ => h.sendError _ _) (fun _ => ?_)
  refine Abs.sameOrHeld _ _ (fun name => ?_) (h.sendError _ _) (h.sendError _ _)
  have h0 : Abs (r.updConn x.id (fun y => { y with didRelease := true }))
      (s.updConn x.id (fun y => { y with didRelease := true })) :=
    h.updConn_flags (fun _ => ⟨rfl, rfl, rfl, rfl⟩) (fun _ => rfl)
  obtain ⟨j, hn, _⟩ := h0.getApp app
  obtain ⟨ns, hf, _, _, rfl⟩ := j.inv.findNs_app hn
  rw [appOf_fixed, hf]
  dsimp only
  rw [← j.eq, abs_eq', Sys.releaseNameplate_setConns]
  rcases ((r.updConn x.id (fun y => { y with didRelease := true })).getApp ns.app).1.core.releaseNameplate ns.app name
    side t with ⟨c1, b⟩
  cases b
  · exact (j.withCore c1).internalErr _ _
  · exact (j.withCore c1).send _ _

/-- `self._mailbox = <registered object>; self._listening = True; mailbox.add_listener(self, …)` -/
theorem subscribe_spec {r : RSys} {s : Sys} (h : Abs r s) {y : RConn} (hy : y ∈ r.conns) (hmb : y.mailbox = none)
    {app mb : String} {o : Nat} (happ : y.app = some app) (hreg : r.Registered app mb o) :
    Abs ((r.updConn y.id (fun z => { z with mailbox := some o, listening := true })).addListener o y.id)
      (s.updConn y.id (fun z => { z with mailbox := some mb, listening := true })) := by
  obtain ⟨h, rfl⟩ := h
  obtain ⟨k0, hk0, ek0, ea0, em0⟩ := hreg.obj h
  have hk0u : ∀ k ∈ r.mbs, k.oid = o → k = k0 := fun k hk e => h.mb_eq hk hk0 (e.trans ek0.symm)
  have hyu : ∀ z ∈ r.conns, z.id = y.id → z = y := fun z hz e => h.conn_eq hz hy e
  constructor
  · refine h.relabel (fun z => if z.id = y.id then { z with mailbox := some o, listening := true } else z)
      (fun k => if k.oid = o then { k with listeners := if y.id ∈ k.listeners then k.listeners else k.listeners ++ [y.id] }
        else k) rfl rfl ?_ ?_ ?_ ?_ ?_ ?_ ?_
    · intro z; split <;> rfl
    · intro k; split <;> exact ⟨rfl, rfl, rfl, rfl⟩
    · intro z hz o'
      have := h.heldObj z hz o'
      have := hyu z hz
      grind
    · intro z hz k hk
      have := h.heldReg z hz k hk
      have := hk0u k hk
      grind
    · intro z hz k hk
      have := h.listener_iff hz hk
      have := hyu z hz
      grind
    · intro k hk c hc
      have := h.lisConn k hk c
      grind
    · intro k hk
      have := h.lisNodup k hk
      split
      · split
        · exact this
        · rename_i hn
          exact pw_snoc (f := id) this (fun a ha e => hn ((show a = y.id from e) ▸ ha))
      · exact this
  · rw [abs_addListener]
    apply abs_updConn
    intro z _ _
    exact absConn_hold (by rw [← ek0, mbIdOf_eq h hk0, em0]) z true

theorem handleOpen_spec {r : RSys} {s : Sys} (h : Abs r s) {x : RConn} (hx : x ∈ r.conns) {app : String}
    (happ : x.app = some app) (side : String) (t : Time) (mailbox : Option String) :
    Abs (r.handleOpen .fixed x app side t mailbox) (s.handleOpen (absConn r.mbs x) app side t mailbox) := by
  unfold handleOpen Sys.handleOpen
  simp only [appOf_fixed, absConn_id, absConn_mailbox_isSome h.inv hx]
  refine Abs.ite _ (fun _ => h.sendError _ _) (fun hm => ?_)
  cases mailbox with
  | none => exact h.sendError _ _
  | some mb =>
    dsimp only
    have hnone : x.mailbox = none := by
      cases e : x.mailbox with
      | none => rfl
      | some o => simp [e] at hm
    have h0 : Abs (r.updConn x.id (fun y => { y with mailboxId := some mb }))
        (s.updConn x.id (fun y => { y with mailboxId := some mb })) :=
      h.updConn_flags (fun _ => ⟨rfl, rfl, rfl, rfl⟩) (fun _ => rfl)
    have hx0 : ({ x with mailboxId := some mb } : RConn) ∈ (r.updConn x.id (fun y => { y with mailboxId := some mb })).conns :=
      List.mem_map.2 ⟨x, hx, by simp⟩
    obtain ⟨j, hn, jc, _⟩ := h0.getApp app
    obtain ⟨r1, s1, res, o, hq, hs, k, kc, _, kreg⟩ := openMailbox_spec j hn mb side t
    rw [hq, hs]
    cases res with
    | crowded => exact k.sendError _ _
    | integrity => exact k.internalErr _ _
    | ok =>
      dsimp only
      have m := subscribe_spec k (y := { x with mailboxId := some mb }) (by rw [kc, jc]; exact hx0) hnone happ (kreg rfl)
      obtain ⟨ko, hko, ek1, ek2, ek3⟩ := Registered.obj m.inv (kreg rfl)
      rw [(findMb_eq_some m.inv).2 ⟨hko, ek1⟩]
      dsimp only
      rw [ek2, ek3]
      exact m.onCore (fun s cs => by simp)

theorem RegInv.listeners_perm {r : RSys} (h : r.RegInv) {k : MbObj} (hk : k ∈ r.mbs)
    (hreg : r.Registered k.app k.mailboxId k.oid) : k.listeners.Perm (r.abs.listeners k.app k.mailboxId) := by
  have hform : r.abs.listeners k.app k.mailboxId =
      (r.conns.filter (fun y => decide (y.listening = true ∧ y.app = some k.app ∧
        (absConn r.mbs y).mailbox = some k.mailboxId))).map (·.id) := by
    unfold Sys.listeners
    rw [abs_conns, aconns, List.filter_map, List.map_map]
    rfl
  rw [hform]
  apply (List.perm_ext_iff_of_nodup (h.lisNodup k hk) ?_).2
  · intro c
    simp only [List.mem_map, List.mem_filter, decide_eq_true_eq]
    constructor
    · intro hc
      obtain ⟨y, hy, e1, _⟩ := h.lisConn k hk c hc
      exact ⟨y, ⟨hy, (h.mem_listeners_iff hk hreg hy).1 (by rw [e1]; exact hc)⟩, e1⟩
    · rintro ⟨y, ⟨hy, hp⟩, rfl⟩
      exact (h.mem_listeners_iff hk hreg hy).2 hp
  · show List.Pairwise _ _
    rw [List.pairwise_map]
    exact List.Pairwise.filter _ h.connIds

theorem abs_broadcast (r : RSys) (ls : List Nat) (f : Frame) :
    (r.broadcast ls f).abs = ls.foldl (fun s c => s.send c f) r.abs := by
  unfold broadcast
  induction ls generalizing r with
  | nil => rfl
  | cons c rest ih => simp only [List.foldl_cons]; rw [ih, abs_send]

theorem RegInv.broadcast {r : RSys} (h : r.RegInv) (ls : List Nat) (f : Frame) : (r.broadcast ls f).RegInv := by
  unfold RSys.broadcast
  induction ls generalizing r with
  | nil => exact h
  | cons c rest ih => simp only [List.foldl_cons]; exact ih (h.send c f)

/-- as `Abs`, except that the events of the current step agree only up to the order of the
    recipients inside a broadcast -/
structure AbsOut (r : RSys) (s : Sys) : Prop where
  inv : r.RegInv
  eq : OutEq r.abs s

theorem Abs.out {r : RSys} {s : Sys} (h : Abs r s) : AbsOut r s := ⟨h.inv, .of_eq h.eq⟩

theorem handleAdd_spec {r : RSys} {s : Sys} (h : Abs r s) {x : RConn} (hx : x ∈ r.conns) {app : String}
    (happ : x.app = some app) (hl : x.mailbox.isSome → x.listening = true) (side : String) (t : Time) (id : Val)
    (phase body : Option Val) :
    AbsOut (r.handleAdd x side t id phase body) (s.handleAdd (absConn r.mbs x) app side t id phase body) := by
  unfold handleAdd Sys.handleAdd
  simp only [absConn_id]
  cases hm : x.mailbox with
  | none =>
    rw [absConn_mailbox_none hm]
    exact (h.sendError _ _).out
  | some o =>
    obtain ⟨k, hk, rfl, ha⟩ := h.inv.heldObj x hx o hm
    rw [absConn_mailbox_eq h.inv hk hm]
    dsimp only
    cases phase with
    | none => exact (h.sendError _ _).out
    | some ph =>
      cases body with
      | none => exact (h.sendError _ _).out
      | some bd =>
        dsimp only
        rw [(findMb_eq_some h.inv).2 ⟨hk, rfl⟩]
        dsimp only
        have hka : k.app = app := by rw [happ] at ha; exact (Option.some.inj ha).symm
        subst hka
        have hreg := h.inv.heldReg x hx k hk hm (hl (by simp [hm]))
        have h1 := h.onCore (f := fun s => s.addMessage k.app k.mailboxId side ph bd t id) (fun s cs => by simp)
        have hperm := h1.inv.listeners_perm hk hreg
        refine ⟨h1.inv.broadcast _ _, ?_⟩
        rw [abs_broadcast]
        rw [h1.eq] at hperm ⊢
        rw [Sys.broadcast_eq, Sys.foldl_send_eq (fun c => c) (fun _ => _)]
        have hb := TraceEq.batch (.message side ph bd t id) (s.addMessage k.app k.mailboxId side ph bd t id).synced
          (a := []) (b := []) rfl hperm TraceEq.nil
        simp only [List.append_nil] at hb
        exact ⟨rfl, (TraceEq.refl _).append hb⟩

/-- `self._mailbox.remove_listener(self); self._listening = False; self._did_close = True`
    (in `handle_close`; `_mailbox` is kept) -/
theorem unlisten_spec {r : RSys} {s : Sys} (h : Abs r s) {y : RConn} (hy : y ∈ r.conns) {o : Nat}
    (hm : y.mailbox = some o) :
    Abs ((r.removeListener o y.id).updConn y.id (fun z => { z with listening := false, didClose := true }))
      (s.updConn y.id (fun z => { z with listening := false, didClose := true })) := by
  obtain ⟨h, rfl⟩ := h
  have hyu : ∀ z ∈ r.conns, z.id = y.id → z = y := fun z hz e => h.conn_eq hz hy e
  refine ⟨?_, by
    rw [abs_updConn _ _ _ (fun z => { z with listening := false, didClose := true }) (fun _ _ _ => rfl),
      abs_removeListener]⟩
  refine h.relabel (fun z => if z.id = y.id then { z with listening := false, didClose := true } else z)
    (fun k => if k.oid = o then { k with listeners := k.listeners.filter (fun d => ¬ d = y.id) } else k)
    rfl rfl ?_ ?_ ?_ ?_ ?_ ?_ ?_
  · intro z; split <;> rfl
  · intro k; split <;> exact ⟨rfl, rfl, rfl, rfl⟩
  · intro z hz o'
    have := h.heldObj z hz o'
    grind
  · intro z hz k hk
    have := h.heldReg z hz k hk
    grind
  · intro z hz k hk
    have := h.listener_iff hz hk
    have := hyu z hz
    grind
  · intro k hk c hc
    have := h.lisConn k hk c
    grind
  · intro k hk
    have := h.lisNodup k hk
    split
    · exact List.Pairwise.filter _ this
    · exact this

/-- the end of `handle_close`: `self._mailbox.close(...)`, `self._mailbox = None`, the answer -/
theorem closeFinish_spec {r2 : RSys} {s1 : Sys} {x : Conn}
    (h2 : Abs r2 (s1.updConn x.id (fun y => { y with listening := false, didClose := true }))) {app mb : String} {o : Nat}
    (hreg : r2.Registered app mb o) (hnl : ∀ y ∈ r2.conns, y.id = x.id → y.listening = false)
    (side : String) (mood : Option String) (t : Time) :
    Abs (match r2.mailboxClose .fixed o side mood t with
        | (r3, false) => r3.internalErr x.id "IndexError"
        | (r3, true) => (r3.updConn x.id (fun y => { y with mailbox := none })).send x.id .closed)
      (Sys.closeFinish x app side t mood (s1, .ok, mb)) := by
  unfold Sys.closeFinish
  dsimp only
  obtain ⟨k, hk, rfl, rfl, rfl⟩ := hreg.obj h2.inv
  obtain ⟨r3, s3, b, hq, hs, k1, k4⟩ := mailboxClose_spec h2 hk hreg side mood t
  rw [hq, hs]
  cases b
  · exact k1.internalErr _ _
  · dsimp only
    refine (k1.updConn_idle ?_ (fun y hy e => ?_) ?_).send _ _
    · exact fun _ => rfl
    · have : y.listening = false := by
        cases hyl : y.listening with
        | false => rfl
        | true => exact hyl.symm.trans (hnl y (k4 y hy hyl) e)
      exact ⟨this, this, fun o e => by cases e⟩
    · exact fun _ _ _ => rfl

theorem handleClose_spec {r : RSys} {s : Sys} (h : Abs r s) {x : RConn} (hx : x ∈ r.conns) {app : String}
    (happ : x.app = some app) (hcoh : x.mailbox.isSome = true ↔ x.listening = true) (side : String) (t : Time)
    (mailbox : Option String) (mood : Option String) :
    Abs (r.handleClose .fixed x app side t mailbox mood) (s.handleClose (absConn r.mbs x) app side t mailbox mood) := by
  rw [Sys.handleClose_eq]
  unfold handleClose Sys.closeOpened
  simp only [absConn_didClose, absConn_id, absConn_mailboxId]
  refine Abs.ite _ (fun _ => h.sendError _ _) (fun _ => ?_)
  refine Abs.sameOrHeld _ _ (fun mb => ?_) (h.sendError _ _) (h.sendError _ _)
  have hnl : ∀ (r2 : RSys) (f : RConn → RConn), (∀ y, (f y).listening = false) →
      ∀ y ∈ (r2.updConn x.id f).conns, y.id = x.id → y.listening = false := by
    intro r2 f hf y hy e
    obtain ⟨y0, _, rfl⟩ := List.mem_map.1 hy
    split at e <;> simp_all
  cases hm : x.mailbox with
  | some o =>
    obtain ⟨k, hk, rfl, ha⟩ := h.inv.heldObj x hx o hm
    have hka : k.app = app := by rw [happ] at ha; exact (Option.some.inj ha).symm
    subst hka
    have hlis : x.listening = true := hcoh.1 (by simp [hm])
    rw [absConn_mailbox_eq h.inv hk hm]
    simp only [hlis, if_true]
    exact closeFinish_spec (x := absConn r.mbs x) (unlisten_spec h hx hm) (h.inv.heldReg x hx k hk hm hlis)
      (hnl _ _ (fun _ => rfl)) side mood t
  | none =>
    rw [absConn_mailbox_none hm]
    dsimp only
    have hl0 : x.listening = false := by
      cases e : x.listening with
      | false => rfl
      | true => have := hcoh.2 e; simp [hm] at this
    rw [appOf_fixed]
    obtain ⟨j, hn, jc, _⟩ := h.getApp app
    obtain ⟨r1, s1, res, o, hq, hs, m, mc, _, mreg⟩ := openMailbox_spec j hn mb side t
    rw [hq, hs]
    have hxu : ∀ y ∈ r1.conns, y.id = x.id → y = x := by
      rw [mc, jc]; exact fun y hy e => h.inv.conn_eq hy hx e
    cases res with
    | crowded =>
      exact (m.updConn_flags (fun _ => ⟨rfl, rfl, rfl, rfl⟩) (fun _ => rfl)).sendError _ _
    | integrity =>
      exact (m.updConn_flags (fun _ => ⟨rfl, rfl, rfl, rfl⟩) (fun _ => rfl)).internalErr _ _
    | ok =>
      simp only [if_true, hl0, Bool.false_eq_true, if_false]
      obtain ⟨k, hk, rfl, ek2, ek3⟩ := (mreg rfl).obj m.inv
      -- `self._mailbox = <the registered object>` on a connection that does not listen
      have h1 : Abs (r1.updConn x.id (fun y => { y with mailbox := some k.oid }))
          (s1.updConn x.id (fun y => { y with mailbox := some mb })) := by
        refine m.updConn_idle (fun _ => rfl) ?_
          (fun y _ _ => absConn_hold (by rw [mbIdOf_eq m.inv hk, ek3]) y y.listening)
        intro y hy e
        rw [hxu y hy e]
        exact ⟨hl0, hl0, fun o e => ⟨k, hk, (Option.some.inj e), by rw [ek2]; exact happ⟩⟩
      have h2 : Abs ((r1.updConn x.id (fun y => { y with mailbox := some k.oid })).updConn x.id
            (fun y => { y with listening := false, didClose := true }))
          ((s1.updConn x.id (fun y => { y with mailbox := some mb })).updConn x.id
            (fun y => { y with listening := false, didClose := true })) := by
        refine h1.updConn_idle (fun _ => rfl) ?_ (fun _ _ _ => rfl)
        intro y hy e
        obtain ⟨y0, hy0, rfl⟩ := List.mem_map.1 hy
        have e0 : y0.id = x.id := by split at e <;> exact e
        rw [if_pos e0, hxu y0 hy0 e0]
        exact ⟨hl0, rfl, fun o e => ⟨k, hk, (Option.some.inj e), by rw [ek2]; exact happ⟩⟩
      exact closeFinish_spec (x := absConn r.mbs x) h2 (mreg rfl) (hnl _ _ (fun _ => rfl)) side mood t

end RSys
end Wormhole
