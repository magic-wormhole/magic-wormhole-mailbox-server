/-
  C14 (re-sending an acknowledged command), part 1: the relational facts.

  Each statement says that one of the SQL statements of server.py, or a composite of them, changes nothing
  when it is executed a second time with the same arguments on the database the first execution left:
  `touch`, `unclaim`, `closeSide`; `openDb` (Inv/MbSpec.lean: what `open_mailbox` does); `releaseDb` (what
  `release_nameplate` does), also from its intermediate commit point `releaseMid`; `closeRun` (the implicit
  `open_mailbox` + `Mailbox.close` of a `close` on a fresh connection) from any commit point of a `close`, up
  to the stamp.
-/
import Wormhole.Inv.MbClaim
import Wormhole.Inv.NpFacts

namespace Wormhole
namespace Chan

theorem dup_find?_map {α : Type} (f : α → α) (p : α → Bool) (h : ∀ x, p (f x) = p x) (l : List α) :
    (l.map f).find? p = (l.find? p).map f := by
  induction l with
  | nil => rfl
  | cons x l ih =>
    simp only [List.map_cons, List.find?_cons, h]
    split
    · rfl
    · exact ih

/-! ### `touch` -/

/-- `UPDATE mailboxes SET updated=t WHERE id=m` on rows that already carry `t` -/
theorem touch_eq_self {d : Chan} {m : String} {t : Time}
    (h : ∀ r ∈ d.mailboxes, r.id = m → r.updated = t) : d.touch m t = d := by
  have e : d.mailboxes.map (fun r => if r.id = m then { r with updated := t } else r) = d.mailboxes := by
    apply map_eq_self
    intro r hr
    by_cases hc : r.id = m
    · have := h r hr hc
      rw [if_pos hc]
      cases r
      simp_all
    · rw [if_neg hc]
  unfold touch
  rw [e]

theorem touch_touch (d : Chan) (m : String) (t : Time) : (d.touch m t).touch m t = d.touch m t := by
  apply touch_eq_self
  intro r hr hid
  simp only [touch, List.mem_map] at hr
  obtain ⟨r0, _, rfl⟩ := hr
  by_cases hc : r0.id = m
  · simp [hc]
  · rw [if_neg hc] at hid
    exact absurd hid hc

theorem touch_other (d : Chan) (m : String) (t : Time) :
    (d.touch m t).nameplates = d.nameplates ∧ (d.touch m t).npSides = d.npSides ∧
    (d.touch m t).mbSides = d.mbSides ∧ (d.touch m t).messages = d.messages ∧
    (d.touch m t).nextNp = d.nextNp := ⟨rfl, rfl, rfl, rfl, rfl⟩

/-! ### `openDb` -/

theorem openDb_updated (d : Chan) (app mb side : String) (t : Time) :
    ∀ r ∈ (d.openDb app mb side t).mailboxes, r.app = app → r.id = mb → r.updated = t := by
  intro r hr ha hi
  unfold openDb at hr
  cases hm : d.findMailbox app mb with
  | some row =>
    simp only [hm, List.mem_map] at hr
    obtain ⟨r0, _, rfl⟩ := hr
    by_cases hc : r0.app = app ∧ r0.id = mb
    · simp [hc]
    · rw [if_neg hc] at ha hi
      exact absurd ⟨ha, hi⟩ hc
  | none =>
    simp only [hm, List.mem_append, List.mem_singleton] at hr
    rcases hr with hr | rfl
    · exact absurd ⟨r, hr, ha, hi⟩ (findMailbox_eq_none.1 hm)
    · rfl

theorem openDb_of_present {d : Chan} {app mb side : String} {t : Time} (h1 : d.HasBox app mb)
    (h2 : d.findMbSide mb side ≠ none) :
    d.openDb app mb side t =
      { d with mailboxes := d.mailboxes.map (fun r => if r.app = app ∧ r.id = mb then { r with updated := t } else r) } := by
  obtain ⟨row, hrow⟩ := Option.ne_none_iff_exists'.1 (fun hf => findMailbox_eq_none.1 hf h1)
  obtain ⟨sr, hsr⟩ := Option.ne_none_iff_exists'.1 h2
  unfold openDb
  simp only [hrow, hsr]

theorem openDb_eq_self {d : Chan} {app mb side : String} {t : Time} (h1 : d.HasBox app mb)
    (h2 : d.findMbSide mb side ≠ none)
    (h3 : ∀ r ∈ d.mailboxes, r.app = app → r.id = mb → r.updated = t) :
    d.openDb app mb side t = d := by
  have e : d.mailboxes.map (fun r => if r.app = app ∧ r.id = mb then { r with updated := t } else r) =
      d.mailboxes := by
    apply map_eq_self
    intro r hr
    by_cases hc : r.app = app ∧ r.id = mb
    · have := h3 r hr hc.1 hc.2
      rw [if_pos hc]
      cases r
      simp_all
    · rw [if_neg hc]
  rw [openDb_of_present h1 h2, e]

/-- **`open_mailbox` twice = once** (same side, same time; no invariant needed) -/
theorem openDb_idem (d : Chan) (app mb side : String) (t : Time) :
    (d.openDb app mb side t).openDb app mb side t = d.openDb app mb side t :=
  openDb_eq_self (openDb_hasBox d app mb side t) (openDb_findMbSide_ne_none d app mb side t)
    (openDb_updated d app mb side t)

theorem openDb_eq_touch {d : Chan} (hids : d.mailboxes.Pairwise (fun a b => ¬ a.id = b.id))
    {app mb side : String} {t : Time} (h1 : d.HasBox app mb) (h2 : d.findMbSide mb side ≠ none) :
    d.openDb app mb side t = d.touch mb t := by
  rw [openDb_of_present h1 h2]
  unfold touch
  congr 1
  apply List.map_congr_left
  intro r hr
  by_cases hid : r.id = mb
  · simp [hid, app_of_id hids h1 hr hid]
  · simp [hid]

/-! ### `unclaim` -/

theorem unclaim_unclaim (d : Chan) (i : Nat) (σ : String) : (d.unclaim i σ).unclaim i σ = d.unclaim i σ := by
  have e : (d.npSides.map (fun r => if r.npid = i ∧ r.side = σ then { r with claimed := false } else r)).map
      (fun r => if r.npid = i ∧ r.side = σ then { r with claimed := false } else r) =
      d.npSides.map (fun r => if r.npid = i ∧ r.side = σ then { r with claimed := false } else r) := by
    rw [List.map_map]
    apply List.map_congr_left
    intro r _
    by_cases h : r.npid = i ∧ r.side = σ <;> simp [h]
  unfold unclaim
  simp only [e]

theorem findNpSide_unclaim (d : Chan) (i : Nat) (σ : String) (j : Nat) (τ : String) :
    (d.unclaim i σ).findNpSide j τ =
      (d.findNpSide j τ).map (fun r => if r.npid = i ∧ r.side = σ then { r with claimed := false } else r) := by
  unfold findNpSide unclaim
  apply dup_find?_map
  intro x
  split <;> rfl

theorem npSidesOf_unclaim_unclaim (d : Chan) (i : Nat) (σ : String) (j : Nat) :
    ((d.unclaim i σ).unclaim i σ).npSidesOf j = (d.unclaim i σ).npSidesOf j := by
  rw [unclaim_unclaim]

/-! ### `closeSide` -/

/-- `UPDATE mailbox_sides SET opened=0, mood=?` on a row that already says so -/
theorem closeSide_eq_self {d : Chan} {m σ : String} {mood : Option String}
    (h : ∀ r ∈ d.mbSides, r.mailbox = m → r.side = σ → r.opened = false ∧ r.mood = mood) :
    d.closeSide m σ mood = d := by
  have e : d.mbSides.map (fun r => if r.mailbox = m ∧ r.side = σ then { r with opened := false, mood := mood } else r) =
      d.mbSides := by
    apply map_eq_self
    intro r hr
    by_cases hc : r.mailbox = m ∧ r.side = σ
    · have := h r hr hc.1 hc.2
      rw [if_pos hc]
      cases r
      simp_all
    · rw [if_neg hc]
  unfold closeSide
  rw [e]

theorem closeSide_closed (d : Chan) (m σ : String) (mood : Option String) :
    ∀ r ∈ (d.closeSide m σ mood).mbSides, r.mailbox = m → r.side = σ → r.opened = false ∧ r.mood = mood := by
  intro r hr h1 h2
  simp only [closeSide, List.mem_map] at hr
  obtain ⟨r0, _, rfl⟩ := hr
  by_cases hc : r0.mailbox = m ∧ r0.side = σ
  · simp [hc]
  · rw [if_neg hc] at h1 h2
    exact absurd ⟨h1, h2⟩ hc

theorem closeSide_touch (d : Chan) (m σ : String) (mood : Option String) (m' : String) (t : Time) :
    (d.touch m' t).closeSide m σ mood = (d.closeSide m σ mood).touch m' t := rfl

theorem closeSide_otherOpen {d : Chan} {m σ : String} {mood : Option String} :
    (d.closeSide m σ mood).OtherOpen m σ ↔ d.OtherOpen m σ := by
  unfold OtherOpen
  constructor
  · rintro ⟨r, hr, h1, h2, h3⟩
    rcases mem_closeSide_mbSides.1 hr with ⟨h0, _⟩ | ⟨r0, _, _, h5, rfl⟩
    · exact ⟨r, h0, h1, h2, h3⟩
    · exact absurd h5 h2
  · rintro ⟨r, hr, h1, h2, h3⟩
    exact ⟨r, mem_closeSide_mbSides.2 (Or.inl ⟨hr, fun hk => h2 hk.2⟩), h1, h2, h3⟩

theorem closeSide_findMbSide_ne_none {d : Chan} {m σ : String} {mood : Option String} {m' σ' : String} :
    (d.closeSide m σ mood).findMbSide m' σ' ≠ none ↔ d.findMbSide m' σ' ≠ none := by
  have : (d.closeSide m σ mood).findMbSide m' σ' =
      (d.findMbSide m' σ').map (fun r => if r.mailbox = m ∧ r.side = σ then { r with opened := false, mood := mood } else r) := by
    unfold findMbSide closeSide
    apply dup_find?_map
    intro x
    split <;> rfl
  rw [this]
  cases d.findMbSide m' σ' <;> simp

theorem closeSide_mbSidesOf_length (d : Chan) (m σ : String) (mood : Option String) (m' : String) :
    ((d.closeSide m σ mood).mbSidesOf m').length = (d.mbSidesOf m').length := by
  have := closeSide_sidesOf d m σ mood m'
  have h1 : ((d.closeSide m σ mood).sidesOf m').length = (d.sidesOf m').length := by rw [this]
  simpa [sidesOf] using h1

/-! ### `release_nameplate` -/

/-- the channel database after `release_nameplate(a, n, σ)` -/
def releaseDb (d : Chan) (a n σ : String) : Chan :=
  match d.findNameplate a n with
  | none => d
  | some np =>
    match d.findNpSide np.id σ with
    | none => d
    | some _ =>
      if ((d.unclaim np.id σ).npSidesOf np.id).any (·.claimed) then d.unclaim np.id σ
      else ((d.unclaim np.id σ).delNpSidesOf np.id).delNameplate np.id

/-- the commit point of `release_nameplate` between its UPDATE and its DELETEs -/
def releaseMid (d : Chan) (a n σ : String) : Chan :=
  match d.findNameplate a n with
  | none => d
  | some np => d.unclaim np.id σ

theorem findNameplate_unclaim (d : Chan) (i : Nat) (σ a n : String) :
    (d.unclaim i σ).findNameplate a n = d.findNameplate a n := rfl

theorem unclaim_eq_self_of_none {d : Chan} {i : Nat} {σ : String} (h : d.findNpSide i σ = none) :
    d.unclaim i σ = d :=
  unclaim_eq_self (fun r hr h1 h2 => by
    simp only [findNpSide, List.find?_eq_none, decide_eq_true_eq] at h
    exact absurd ⟨h1, h2⟩ (h r hr))

theorem releaseDb_releaseMid (d : Chan) (a n σ : String) :
    (d.releaseMid a n σ).releaseDb a n σ = d.releaseDb a n σ := by
  unfold releaseMid releaseDb
  cases hnp : d.findNameplate a n with
  | none => simp only [hnp]
  | some np =>
    dsimp only
    rw [findNameplate_unclaim, hnp]
    dsimp only
    rw [findNpSide_unclaim]
    cases hs : d.findNpSide np.id σ with
    | none => simp [unclaim_eq_self_of_none hs]
    | some r0 => simp only [Option.map_some, unclaim_unclaim]

theorem releaseDb_mid_or_gone {d : Chan} (hP : d.PInv) (a n σ : String) :
    (d.releaseDb a n σ = d.releaseMid a n σ ∧ ∀ np, d.findNameplate a n = some np →
      d.findNpSide np.id σ = none ∨ ((d.unclaim np.id σ).npSidesOf np.id).any (·.claimed) = true) ∨
    (d.releaseDb a n σ).findNameplate a n = none := by
  unfold releaseDb releaseMid
  cases hnp : d.findNameplate a n with
  | none => exact Or.inr hnp
  | some np =>
    dsimp only
    cases hs : d.findNpSide np.id σ with
    | none => exact Or.inl ⟨(unclaim_eq_self_of_none hs).symm, fun _ e => by cases e; exact Or.inl hs⟩
    | some r0 =>
      dsimp only
      by_cases hany : ((d.unclaim np.id σ).npSidesOf np.id).any (·.claimed) = true
      · rw [if_pos hany]
        exact Or.inl ⟨rfl, fun _ e => by cases e; exact Or.inr hany⟩
      · rw [if_neg hany]
        right
        simp only [findNameplate, delNameplate, delNpSidesOf, unclaim, List.find?_eq_none, List.mem_filter,
          decide_not, Bool.not_eq_eq_eq_not, Bool.not_true, decide_eq_false_iff_not, decide_eq_true_eq, not_and,
          and_imp]
        intro r hr hne ha hn
        obtain ⟨k0, k1, k2⟩ := findNameplate_some hnp
        exact hne (by rw [hP.np_eq_of_key hr k0 (ha.trans k1.symm) (hn.trans k2.symm)])

/-- **`release_nameplate` twice = once** -/
theorem releaseDb_releaseDb {d : Chan} (hP : d.PInv) (a n σ : String) :
    (d.releaseDb a n σ).releaseDb a n σ = d.releaseDb a n σ := by
  rcases releaseDb_mid_or_gone hP a n σ with ⟨e, _⟩ | h
  · rw [e, releaseDb_releaseMid, ← e]
  · generalize d.releaseDb a n σ = d' at h ⊢
    unfold releaseDb; rw [h]

/-! ### `close` -/

/-- what `handle_close` does to the database on a connection without a handle: implicit
    `open_mailbox`, then `Mailbox.close` -/
def closeRun (d : Chan) (a m σ : String) (mood : Option String) (t : Time) : Chan :=
  (d.openDb a m σ t).closeDb a m σ mood

theorem closeRun_eq (d : Chan) (a m σ : String) (mood : Option String) (t : Time) :
    d.closeRun a m σ mood t =
      if d.OtherOpen m σ then (d.openDb a m σ t).closeSide m σ mood else d.dropMailbox a m := by
  unfold closeRun closeDb
  rw [if_pos ⟨openDb_hasBox _ _ _ _ _, openDb_findMbSide_ne_none _ _ _ _ _⟩]
  by_cases h : d.OtherOpen m σ
  · rw [if_pos ((otherOpen_openDb _ _ _ _ _).2 h), if_pos h]
  · rw [if_neg (fun h' => h ((otherOpen_openDb _ _ _ _ _).1 h')), if_neg h, dropMailbox_openDb]

theorem closeDb_of_box {d : Chan} {a m σ : String} {mood : Option String} (hb : d.HasBox a m)
    (hs : d.findMbSide m σ ≠ none) :
    d.closeDb a m σ mood = if d.OtherOpen m σ then d.closeSide m σ mood else d.dropMailbox a m := by
  unfold closeDb; rw [if_pos ⟨hb, hs⟩]

theorem dropMailbox_idem (d : Chan) (a m : String) : (d.dropMailbox a m).dropMailbox a m = d.dropMailbox a m := by
  unfold dropMailbox
  simp only [List.filter_filter, Bool.and_self]
  congr 1
  apply List.filter_congr
  intro r _
  simp
  intro h x hx _
  exact h x hx

theorem dropMailbox_not_otherOpen (d : Chan) (a m σ : String) : ¬ (d.dropMailbox a m).OtherOpen m σ := by
  rintro ⟨r, hr, hm, _⟩
  exact ((mem_dropMailbox_mbSides d a m).1 hr).2 hm

theorem touch_eq_self_of_noId {d : Chan} {m : String} (h : ∀ r ∈ d.mailboxes, r.id ≠ m) (t : Time) :
    d.touch m t = d := touch_eq_self (fun r hr e => absurd e (h r hr))

theorem dropMailbox_noId {d : Chan} (hids : d.mailboxes.Pairwise (fun a b => ¬ a.id = b.id)) {a m : String}
    (hb : d.HasBox a m) : ∀ r ∈ (d.dropMailbox a m).mailboxes, r.id ≠ m := by
  intro r hr e
  obtain ⟨hr0, hne⟩ := (mem_dropMailbox_mailboxes d a m).1 hr
  exact hne ⟨app_of_id hids hb hr0 e, e⟩

/-- **`close` run again from a commit point `D` of a `close`** that worked on `pre` (the database at the entry
    of `Mailbox.close`): no `IntegrityError`, no more side rows of `m` than `pre` has (one, if the mailbox is
    gone), and the final database up to the column `updated` of row `m` -/
theorem closeRun_of_point {pre : Chan} (hids : pre.mailboxes.Pairwise (fun a b => ¬ a.id = b.id)) {a m σ : String}
    (mood : Option String) (t : Time) (hb : pre.HasBox a m) (hs : pre.findMbSide m σ ≠ none) {D : Chan}
    (hD : D = pre ∨ D = pre.closeSide m σ mood ∨ D = pre.closeDb a m σ mood) :
    ¬ D.Clash a m ∧ ((D.openDb a m σ t).mbSidesOf m).length ≤ max (pre.mbSidesOf m).length 1 ∧
    D.closeRun a m σ mood t = (pre.closeDb a m σ mood).touch m t := by
  have hb' : (pre.closeSide m σ mood).HasBox a m := hb
  have hs' : (pre.closeSide m σ mood).findMbSide m σ ≠ none := closeSide_findMbSide_ne_none.2 hs
  obtain ⟨r, hr⟩ := Option.ne_none_iff_exists'.1 hs
  obtain ⟨r', hr'⟩ := Option.ne_none_iff_exists'.1 hs'
  have l1 : ((pre.openDb a m σ t).mbSidesOf m).length = (pre.mbSidesOf m).length := by
    rw [openDb_mbSidesOf, hr]; simp
  have l2 : (((pre.closeSide m σ mood).openDb a m σ t).mbSidesOf m).length = (pre.mbSidesOf m).length := by
    rw [openDb_mbSidesOf, hr']; simp [closeSide_mbSidesOf_length]
  rw [closeDb_of_box hb hs] at hD ⊢
  by_cases ho : pre.OtherOpen m σ
  · -- the mailbox survives: from `pre` and from `pre.closeSide` the implicit open only stamps the row
    rw [if_pos ho] at hD ⊢
    have k1 : pre.closeRun a m σ mood t = (pre.closeSide m σ mood).touch m t := by
      rw [closeRun_eq, if_pos ho, openDb_eq_touch hids hb hs, closeSide_touch]
    have k2 : (pre.closeSide m σ mood).closeRun a m σ mood t = (pre.closeSide m σ mood).touch m t := by
      rw [closeRun_eq, if_pos (closeSide_otherOpen.2 ho), openDb_eq_touch (d := pre.closeSide m σ mood) hids hb' hs',
        closeSide_touch, closeSide_eq_self (closeSide_closed pre m σ mood)]
    rcases hD with rfl | rfl | rfl
    · exact ⟨fun h => h.2 hb, by omega, k1⟩
    · exact ⟨fun h => h.2 hb', by omega, k2⟩
    · exact ⟨fun h => h.2 hb', by omega, k2⟩
  · -- the mailbox is deleted: every re-run ends with `dropMailbox`, which has no row `m` to stamp
    rw [if_neg ho] at hD ⊢
    rw [touch_eq_self_of_noId (dropMailbox_noId hids hb) t]
    rcases hD with rfl | rfl | rfl
    · exact ⟨fun h => h.2 hb, by omega, by rw [closeRun_eq, if_neg ho]⟩
    · exact ⟨fun h => h.2 hb', by omega,
        by rw [closeRun_eq, if_neg (fun h => ho (closeSide_otherOpen.1 h)), dropMailbox_closeSide]⟩
    · refine ⟨?_, ?_, by rw [closeRun_eq, if_neg (dropMailbox_not_otherOpen pre a m σ), dropMailbox_idem]⟩
      · rintro ⟨⟨row, hrow, hid, _⟩, _⟩
        exact dropMailbox_noId hids hb row hrow hid
      · have hn : (pre.dropMailbox a m).findMbSide m σ = none := by
          rw [findMbSide_eq_none]
          intro r hr hk
          exact ((mem_dropMailbox_mbSides pre a m).1 hr).2 hk.1
        have l3 : (((pre.dropMailbox a m).openDb a m σ t).mbSidesOf m).length = 1 := by
          rw [openDb_mbSidesOf, hn, dropMailbox_mbSidesOf_self]; simp
        omega

end Chan
end Wormhole
