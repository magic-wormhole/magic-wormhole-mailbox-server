/-
  Assembly: what ONE non-crash operation does to the usage database, for every operation.

  `UsageStep s s' B t pruned cl`: the configuration is unchanged; usage `nameplates` (`mailboxes`) of
  `s'` is that of `s` followed by one record per nameplate (mailbox) row of the base `B` whose id is
  absent from the channel database of `s'` -- as lists up to order --, each record being
  `npRecord` / `mbRecord` of the row's side rows IN `B`; `client_versions` gains exactly `cl`.

  The base `Sys.usageBase s op` is the channel database of `s`, except for an accepted `close`: there
  it is the database at the moment `Mailbox.close` tests whether any side is still open, i.e. after
  the implicit `open_mailbox` of a connection without a handle (which may CREATE the mailbox row and
  the closing side's row: `closePre`, a commit point of the step) and after the UPDATE that closes
  the closing side's row with the submitted mood (the next commit point).

  `step_usage`: every non-crash operation from a state with `CInv`, nothing uncommitted and a usage
  database configured is a `UsageStep`.
-/
import Wormhole.Inv.UsageSweep
import Wormhole.Inv.UsageKeep
import Wormhole.Inv.UsageTrack
import Wormhole.Inv.UsageClose

namespace Wormhole
namespace Sys

structure UsageStep (s s' : Sys) (B : Chan) (t : Time) (pruned : Bool) (cl : List UClient) : Prop where
  cfg : s'.cfg = s.cfg
  nameplates : ∃ recs, s'.udb.nameplates = s.udb.nameplates ++ recs ∧
    recs.Perm ((B.retiredNp s'.db).map (B.npRec s.blurTime t pruned))
  mailboxes : ∃ recs, s'.udb.mailboxes = s.udb.mailboxes ++ recs ∧
    recs.Perm ((B.retiredMb s'.db).map (B.mbRec s.blurTime t pruned))
  clients : s'.udb.clients = s.udb.clients ++ cl

theorem UsageStep.of_sled {s s' : Sys} {t : Time} {pruned : Bool}
    (h : SLed s.db s.udb s.cfg t pruned s') : UsageStep s s' s.db t pruned [] := by
  refine ⟨h.cfg, ?_, ?_, by rw [h.led.clients, List.append_nil]⟩
  · rw [blurTime_eq_cfg]; exact h.led.recNp
  · rw [blurTime_eq_cfg]; exact h.led.recMb

theorem UsageStep.of_keep {s s' : Sys} {B : Chan} {cl : List UClient} (h : Keep B s.udb cl s')
    (hc : s'.cfg = s.cfg) (t : Time) (pruned : Bool) : UsageStep s s' B t pruned cl := by
  refine ⟨hc, ⟨[], by rw [h.unp, List.append_nil], ?_⟩, ⟨[], by rw [h.umb, List.append_nil], ?_⟩, h.ucl⟩
  · rw [Chan.retiredNp_eq_nil h.np]; exact List.Perm.refl _
  · rw [Chan.retiredMb_eq_nil h.mb]; exact List.Perm.refl _

theorem UsageStep.of_same {s s' : Sys} {B : Chan} (hc : s'.cfg = s.cfg) (hu : s'.udb = s.udb)
    (hn : s'.db.nameplates = B.nameplates) (hm : s'.db.mailboxes = B.mailboxes) (t : Time) (pruned : Bool) :
    UsageStep s s' B t pruned [] :=
  UsageStep.of_keep ⟨by rw [hu], by rw [hu], by rw [hu, List.append_nil],
    fun n h => List.mem_map.2 ⟨n, hn ▸ h, rfl⟩, fun m h => List.mem_map.2 ⟨m, hm ▸ h, rfl⟩⟩ hc t pruned

/-! ### `release` -/

theorem handleRelease_led {B : Chan} {U0 : Usage} {c0 : Cfg} {t : Time} (hB : B.PInv) (hN : B.NpHasSide)
    (hu : c0.usage = true) {s : Sys} (h : SLed B U0 c0 t false s) (x : Conn) (app side : String)
    (n : Option String) : SLed B U0 c0 t false (s.handleRelease x app side t n) := by
  rcases handleRelease_cases s x app side t n with ⟨_, _, e⟩ | ⟨name, e⟩ <;> rw [e]
  · exact h.sendError _ _
  · obtain ⟨s1, e1, h1⟩ := releaseNameplate_led hB hN hu app name side
      (h.updConn x.id (fun y => { y with didRelease := true }))
    unfold releaseWith
    rw [e1]
    exact h1.send _ _

theorem onMessage_release_led {B : Chan} {U0 : Usage} {c0 : Cfg} {t : Time} (hB : B.PInv)
    (hN : B.NpHasSide) (hu : c0.usage = true) {s : Sys} (h : SLed B U0 c0 t false s) (c : Nat) (id : Val) (n : Option String) :
    SLed B U0 c0 t false (s.onMessage c t id (.release n)) := by
  unfold Sys.onMessage
  split
  · exact h
  · dsimp only
    split
    · exact (h.send _ _).sendError _ _
    · exact handleRelease_led hB hN hu (h.send _ _) _ _ _ _

/-! ### `close` -/

/-- the base of the retirements of an operation (see the header) -/
def usageBase (s : Sys) : Op → Chan
  | .recv c t _ (.close m mood) =>
    match s.findConn c with
    | none => s.db
    | some x =>
      match x.app, x.closeTarget m with
      | some app, some tgt =>
        if rejectText x (.close m mood) = none ∧ ¬ (x.mailbox = none ∧ s.db.Clash app tgt) then
          (closePre s x app tgt t).closeSide tgt (x.side.getD "") mood
        else s.db
      | _, _ => s.db
  | _ => s.db

theorem usageBase_of_not_close (s : Sys) {op : Op} (h : ∀ c t id m mood, op ≠ .recv c t id (.close m mood)) :
    s.usageBase op = s.db := by
  unfold usageBase
  split
  · rename_i c t id m mood
    exact absurd rfl (h c t id m mood)
  · rfl

theorem close_ustep {s : Sys} (hP : s.db.PInv) (hN : s.db.NpHasSide) (hS : s.Synced)
    (hu : s.cfg.usage = true) {c : Nat} {x : Conn} (hx : s.findConn c = some x) {m mood : Option String}
    (hr : rejectText x (.close m mood) = none) (t : Time) (id : Val) :
    UsageStep s (s.step (.recv c t id (.close m mood))) (s.usageBase (.recv c t id (.close m mood))) t false [] := by
  obtain ⟨⟨app, happ⟩, _, ⟨mb, hn⟩, _⟩ := close_accepted hr
  have htg : ∃ tgt, x.closeTarget m = some tgt := by
    unfold Conn.closeTarget
    cases x.mailbox with
    | some h => exact ⟨h, rfl⟩
    | none => exact ⟨mb, hn⟩
  obtain ⟨tgt, htg⟩ := htg
  obtain ⟨hclash, hcrowd, hmain⟩ := close_step hP hN hS hx hr happ htg t id
  have hc := step_cfg s (.recv c t id (.close m mood))
  generalize hs' : s.step (.recv c t id (.close m mood)) = s' at hclash hcrowd hmain hc ⊢
  by_cases hcl : x.mailbox = none ∧ s.db.Clash app tgt
  · -- IntegrityError: nothing changes, the base is the database itself
    have hB : s.usageBase (.recv c t id (.close m mood)) = s.db := by
      simp [usageBase, hx, happ, htg, hr, hcl]
    rw [hB]
    obtain ⟨_, hun⟩ := hclash hcl.1 hcl.2
    exact UsageStep.of_same hc hun.udb (by rw [hun.db]) (by rw [hun.db]) t false
  · have hB : s.usageBase (.recv c t id (.close m mood)) =
        (closePre s x app tgt t).closeSide tgt (x.side.getD "") mood := by
      simp [usageBase, hx, happ, htg, hr, hcl]
    rw [hB]
    generalize hpre : closePre s x app tgt t = pre at *
    have hpreP : pre.PInv := by rw [← hpre]; exact closePre_pinv hP x app tgt t hcl
    by_cases hcr : x.mailbox = none ∧ (pre.mbSidesOf tgt).length > 2
    · -- crowded: the implicit open is committed, nothing else
      obtain ⟨_, hdb, _, hrest⟩ := hcrowd hcr.1 (fun h => hcl ⟨hcr.1, h⟩) hcr.2
      exact UsageStep.of_same hc hrest.udb (by rw [hdb]; rfl) (by rw [hdb]; rfl) t false
    · have hnot : ¬ (x.mailbox = none ∧ (s.db.Clash app tgt ∨ (pre.mbSidesOf tgt).length > 2)) := by
        rintro ⟨h1, h2 | h2⟩
        · exact hcl ⟨h1, h2⟩
        · exact hcr ⟨h1, h2⟩
      obtain ⟨_, hdb, _, _, _, hsurv, hdel⟩ := hmain hnot
      by_cases hd : pre.HasBox app tgt ∧ pre.findMbSide tgt (x.side.getD "") ≠ none ∧
          ¬ pre.OtherOpen tgt (x.side.getD "")
      · -- the mailbox is deleted
        obtain ⟨hbox, hside, hoo⟩ := hd
        have hdb' : s'.db = pre.dropMailbox app tgt := by
          rw [hdb]; unfold Chan.closeDb; rw [if_pos ⟨hbox, hside⟩, if_neg hoo]
        obtain ⟨row, hrow⟩ := Option.isSome_iff_exists.1 (Chan.findMailbox_isSome.2 hbox)
        obtain ⟨r0, hr0⟩ := Option.ne_none_iff_exists'.1 hside
        have hany : ((pre.closeSide tgt (x.side.getD "") mood).mbSidesOf tgt).any (·.opened) = false := by
          have := (not_congr (Chan.closeSide_any_opened pre tgt (x.side.getD "") mood)).2 hoo
          simpa using this
        have hudb := close_step_udb hP hN hu hx hr happ htg t id (by rw [hpre]; exact hnot)
          (row := row) (r0 := r0) (by rw [hpre]; exact hrow) (by rw [hpre]; exact hr0) (by rw [hpre]; exact hany)
        rw [hs', hpre] at hudb
        obtain ⟨_, hrowapp, hrowid⟩ := Chan.findMailbox_some_mbx hrow
        refine ⟨hc, ⟨_, by rw [hudb], ?_⟩, ⟨_, by rw [hudb], ?_⟩, by rw [hudb]; simp⟩
        · -- nameplates: those of the app that point at the mailbox
          rw [hdb', Chan.retiredNp_dropMailbox (B := pre.closeSide tgt (x.side.getD "") mood) hpreP rfl]
          refine List.Perm.of_eq (List.map_congr_left fun n hn => ?_)
          have hna : n.app = app := by
            have := (List.mem_filter.1 hn).2
            simp only [decide_eq_true_eq] at this
            exact this.1
          unfold Chan.npRec
          rw [hna]
          rfl
        · -- mailboxes: the one row (app, tgt)
          rw [hdb', Chan.retiredMb_dropMailbox (B := pre.closeSide tgt (x.side.getD "") mood) hpreP rfl hrow]
          simp only [List.map_cons, List.map_nil, Chan.mbRec, hrowapp, hrowid]
          exact List.Perm.refl _
      · -- the mailbox survives (or was not there): rows closed at most, nothing written
        obtain ⟨_, hudb⟩ := hsurv hd
        have hkeep : s'.db.nameplates = pre.nameplates ∧ s'.db.mailboxes = pre.mailboxes := by
          rw [hdb]
          unfold Chan.closeDb
          split
          · rename_i h1
            split
            · exact ⟨rfl, rfl⟩
            · rename_i h2; exact absurd ⟨h1.1, h1.2, h2⟩ hd
          · exact ⟨rfl, rfl⟩
        exact UsageStep.of_same (B := pre.closeSide tgt (x.side.getD "") mood) hc hudb hkeep.1 hkeep.2 t false

/-! ### every operation -/

/-- the `client_versions` rows an operation writes -/
def newClients (s : Sys) : Op → List UClient
  | .recv c t _ cmd => s.cmdClients c t cmd
  | _ => []

theorem step_usage {s : Sys} (hC : s.db.CInv) (hS : s.Synced) (hu : s.cfg.usage = true) (op : Op)
    (hop : op.isCrash = false) (t0 : Time) :
    UsageStep s (s.step op) (s.usageBase op) (op.time?.getD t0) op.isSweep (s.newClients op) := by
  have hP : s.db.PInv := hC.toPInv
  have hN : s.db.NpHasSide := hC.npHasSide
  have hc := step_cfg s op
  cases op with
  | crashIn k op' => simp [Op.isCrash] at hop
  | connect c => exact UsageStep.of_keep (s' := s.step (.connect c)) ((Keep.start s).of_eq rfl rfl) hc _ _
  | drop c => exact UsageStep.of_keep (s' := s.step (.drop c)) ((Keep.start s).of_eq rfl rfl) hc _ _
  | restart t' =>
    exact UsageStep.of_keep (s' := s.step (.restart t')) ((Keep.start s).of_eq hS.1.symm hS.2.symm) hc _ _
  | sweep now fault =>
    apply UsageStep.of_sled
    have h0 : SLed s.db s.udb s.cfg now true ({ s with out := [], snaps := [] } : Sys) :=
      ⟨rfl, Led.start hP⟩
    exact expire_led hP hN hu now fault h0
  | recv c t id cmd =>
    by_cases hrel : ∃ n, cmd = .release n
    · obtain ⟨n, rfl⟩ := hrel
      apply UsageStep.of_sled
      have h0 : SLed s.db s.udb s.cfg t false ({ s with out := [], snaps := [] } : Sys) :=
        ⟨rfl, Led.start hP⟩
      exact onMessage_release_led hP hN hu h0 c id n
    · by_cases hclose : ∃ m mood, cmd = .close m mood
      · obtain ⟨m, mood, rfl⟩ := hclose
        show UsageStep s _ _ t false []
        cases hx : s.findConn c with
        | none =>
          have hB : s.usageBase (.recv c t id (.close m mood)) = s.db := by simp only [usageBase, hx]
          have : s.step (.recv c t id (.close m mood)) = ({ s with out := [], snaps := [] } : Sys) := by
            rw [step_recv]; unfold Sys.onMessage
            rw [show ({ s with out := [], snaps := [] } : Sys).findConn c = none from hx]
          rw [hB, this]
          exact UsageStep.of_same (s := s) (s' := { s with out := [], snaps := [] }) rfl rfl rfl rfl t false
        | some x =>
          cases hr : rejectText x (.close m mood) with
          | none => exact close_ustep hP hN hS hu hx hr t id
          | some text =>
            have hB : s.usageBase (.recv c t id (.close m mood)) = s.db := by
              simp only [usageBase, hx, hr]
              split <;> simp
            have hun := (C17_validation_error t id hx (rejected_of_rejectText hr)).2
            rw [hB]
            exact UsageStep.of_same hc hun.udb (by rw [hun.db]) (by rw [hun.db]) t false
      · have hB : s.usageBase (.recv c t id cmd) = s.db :=
          usageBase_of_not_close s (by
            intro c' t' id' m mood e
            cases e
            exact hclose ⟨m, mood, rfl⟩)
        rw [hB]
        have h0 : Keep s.db s.udb [] ({ s with out := [], snaps := [] } : Sys) :=
          (Keep.start s).of_eq rfl rfl
        have hk := h0.onMessage c t id (cmd := cmd) (fun n e => hrel ⟨n, e⟩)
          (fun m mood e => hclose ⟨m, mood, e⟩)
        exact UsageStep.of_keep hk hc _ _

end Sys
end Wormhole
