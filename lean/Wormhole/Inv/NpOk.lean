/-
  The fragment of the channel invariant that the commit-discipline proof (C09) needs, and
  its preservation by the statements on the nameplate tables:

    `Chan.NpOk d` = ids bounded by the AUTOINCREMENT counter (`Chan.IdsBounded`)
                  ∧ `nameplates.id` unique        (= `Chan.PInv.npIds`)
                  ∧ every nameplate has a side row (= `Chan.CInv.npHasSide`).

  Why C09 needs it: the only ways a Core function returns with uncommitted writes are
  * `ReclaimedError` raised after a NEW nameplate row was inserted (impossible: no side row
    carries the fresh id — needs `IdsBounded`);
  * `IndexError` from `_summarize_nameplate_usage` on an empty list of side rows
    (impossible if every nameplate has a side row; inside the loops of `prune` this must
    still hold after the earlier iterations deleted rows by id — needs unique ids).
-/
import Wormhole.Inv.Defs

namespace Wormhole
namespace Chan

/-- `nameplates.id` is unique (the field `PInv.npIds`) -/
def NpIdsUnique (d : Chan) : Prop := d.nameplates.Pairwise (fun a b => ¬ a.id = b.id)

/-- every nameplate has a side row (the field `CInv.npHasSide`): `_summarize_nameplate_usage`
    cannot raise `IndexError` -/
def NpHasSide (d : Chan) : Prop := ∀ n ∈ d.nameplates, ∃ r ∈ d.npSides, r.npid = n.id

structure NpOk (d : Chan) : Prop where
  bounded : d.IdsBounded
  ids : d.NpIdsUnique
  hasSide : d.NpHasSide

theorem CInv.npOk {d : Chan} (h : d.CInv) : d.NpOk := ⟨h.bounded, h.npIds, h.npHasSide⟩

/-- the three components `NpOk` talks about -/
def npPart (d : Chan) : List Nameplate × List NpSide × Nat := (d.nameplates, d.npSides, d.nextNp)

theorem IdsBounded.of_npPart {d d' : Chan} (hd : d.IdsBounded) (h : d'.npPart = d.npPart) : d'.IdsBounded := by
  simp only [npPart, Prod.mk.injEq] at h
  obtain ⟨h1, h2, h3⟩ := h
  unfold IdsBounded
  rw [h1, h2, h3]
  exact hd

theorem NpOk.of_npPart {d d' : Chan} (h : d'.npPart = d.npPart) (hd : d.NpOk) : d'.NpOk := by
  refine ⟨hd.bounded.of_npPart h, ?_, ?_⟩
  all_goals
    simp only [npPart, Prod.mk.injEq] at h
    obtain ⟨h1, h2, _⟩ := h
  · unfold NpIdsUnique; rw [h1]; exact hd.ids
  · unfold NpHasSide; rw [h1, h2]; exact hd.hasSide

/-! ### lists: a row appended at the end; the row a `.fetchone()` finds -/

theorem pairwise_concat {α : Type} {R : α → α → Prop} {l : List α} {x : α} :
    (l ++ [x]).Pairwise R ↔ l.Pairwise R ∧ ∀ a ∈ l, R a x := by
  simp [List.pairwise_append]

theorem forall_mem_concat {α : Type} {Q : α → Prop} {l : List α} {x : α} :
    (∀ a ∈ l ++ [x], Q a) ↔ (∀ a ∈ l, Q a) ∧ Q x := by
  simp [or_imp, forall_and]

theorem of_find?_some {α : Type} {P : α → Prop} [DecidablePred P] {l : List α} {a : α}
    (h : l.find? (fun r => decide (P r)) = some a) : a ∈ l ∧ P a :=
  ⟨List.mem_of_find?_eq_some h, by simpa using List.find?_some h⟩

theorem eq_of_pairwise_ne {α β : Type} {f : α → β} {l : List α}
    (h : l.Pairwise (fun a b => ¬ f a = f b)) {a b : α} (ha : a ∈ l) (hb : b ∈ l)
    (hab : f a = f b) : a = b := by
  induction l with
  | nil => simp at ha
  | cons x xs ih =>
    simp only [List.pairwise_cons] at h
    simp only [List.mem_cons] at ha hb
    grind

/-! ### the statements that leave the nameplate tables alone -/

@[simp] theorem npPart_insMailbox (d : Chan) (r) : (d.insMailbox r).npPart = d.npPart := rfl
@[simp] theorem npPart_insMbSide (d : Chan) (r) : (d.insMbSide r).npPart = d.npPart := rfl
@[simp] theorem npPart_insMessage (d : Chan) (r) : (d.insMessage r).npPart = d.npPart := rfl
@[simp] theorem npPart_touch (d : Chan) (mb t) : (d.touch mb t).npPart = d.npPart := rfl
@[simp] theorem npPart_closeSide (d : Chan) (mb side mood) :
    (d.closeSide mb side mood).npPart = d.npPart := rfl
@[simp] theorem npPart_delMessagesOf (d : Chan) (mb) : (d.delMessagesOf mb).npPart = d.npPart := rfl
@[simp] theorem npPart_delMbSidesOf (d : Chan) (mb) : (d.delMbSidesOf mb).npPart = d.npPart := rfl
@[simp] theorem npPart_delMailbox (d : Chan) (mb) : (d.delMailbox mb).npPart = d.npPart := rfl

/-! ### the statements on the nameplate tables -/

theorem NpOk.unclaim {d : Chan} (h : d.NpOk) (npid : Nat) (side : String) :
    (d.unclaim npid side).NpOk := by
  obtain ⟨⟨b1, b2⟩, i, hs⟩ := h
  refine ⟨⟨b1, ?_⟩, i, ?_⟩
  · intro r hr
    simp only [Chan.unclaim, List.mem_map] at hr
    obtain ⟨r0, hr0, rfl⟩ := hr
    have := b2 r0 hr0
    show _ < d.nextNp
    split <;> simpa using this
  · intro n hn
    obtain ⟨r, hr, e⟩ := hs n hn
    simp only [Chan.unclaim, List.mem_map]
    refine ⟨_, ⟨r, hr, rfl⟩, ?_⟩
    split <;> simpa using e

/-- DELETEs on the two nameplate tables that keep the side rows of every nameplate they keep -/
theorem NpOk.filter {d : Chan} (h : d.NpOk) (P : Nameplate → Bool) (Q : NpSide → Bool)
    (hPQ : ∀ n ∈ d.nameplates, P n = true → ∀ r ∈ d.npSides, r.npid = n.id → Q r = true) :
    ({ d with nameplates := d.nameplates.filter P, npSides := d.npSides.filter Q } : Chan).NpOk := by
  obtain ⟨⟨b1, b2⟩, i, hs⟩ := h
  refine ⟨⟨fun n hn => b1 n (List.mem_filter.1 hn).1, fun r hr => b2 r (List.mem_filter.1 hr).1⟩, i.filter _,
    fun n hn => ?_⟩
  obtain ⟨hn, hp⟩ := List.mem_filter.1 hn
  obtain ⟨r, hr, e⟩ := hs n hn
  exact ⟨r, List.mem_filter.2 ⟨hr, hPQ n hn hp r hr e⟩, e⟩

/-- `DELETE FROM nameplate_sides WHERE nameplates_id=?; DELETE FROM nameplates WHERE id=?` -/
theorem NpOk.delById {d : Chan} (h : d.NpOk) (npid : Nat) :
    ((d.delNpSidesOf npid).delNameplate npid).NpOk :=
  h.filter _ _ fun n _ hp r _ e => by simpa [e] using hp

/-- the two nameplate statements of `Mailbox.close`: a nameplate that stays has another id than
    those that go, so its side rows stay -/
theorem NpOk.delOfMailbox {d : Chan} (h : d.NpOk) (app mb : String) :
    ((d.delNpSidesOfMailbox app mb).delNameplatesOfMailbox app mb).NpOk := by
  refine h.filter _ _ fun n hn hp r _ e => decide_eq_true ?_
  simp only [nameplatesOfMailbox, List.mem_map, List.mem_filter, decide_eq_true_eq, not_exists, not_and]
  intro n' ⟨hn', hk⟩ e'
  have : n' = n := eq_of_pairwise_ne (f := Nameplate.id) h.ids hn' hn (by omega)
  subst this
  simp_all

theorem NpOk.insNpSide {d : Chan} (h : d.NpOk) (r : NpSide) (hr : r.npid < d.nextNp) :
    (d.insNpSide r).NpOk :=
  ⟨⟨h.bounded.1, forall_mem_concat.2 ⟨h.bounded.2, hr⟩⟩, h.ids,
    fun n hn => (h.hasSide n hn).imp fun _ h' => ⟨List.mem_append_left _ h'.1, h'.2⟩⟩

theorem NpOk.insNew {d : Chan} (h : d.NpOk) (app name mb side : String) (claimed : Bool) (t : Time) :
    ((d.insNameplate app name mb).insNpSide ⟨d.nextNp, claimed, side, t⟩).NpOk := by
  obtain ⟨⟨b1, b2⟩, i, hs⟩ := h
  exact ⟨⟨forall_mem_concat.2 ⟨fun n hn => Nat.lt_succ_of_lt (b1 n hn), Nat.lt_succ_self _⟩,
      forall_mem_concat.2 ⟨fun r hr => Nat.lt_succ_of_lt (b2 r hr), Nat.lt_succ_self _⟩⟩,
    pairwise_concat.2 ⟨i, fun a ha => Nat.ne_of_lt (b1 a ha)⟩,
    forall_mem_concat.2 ⟨fun n hn => (hs n hn).imp fun _ h' => ⟨List.mem_append_left _ h'.1, h'.2⟩,
      _, List.mem_append_right _ (List.mem_singleton.2 rfl), rfl⟩⟩

theorem IdsBounded.findNpSide_fresh {d : Chan} (h : d.IdsBounded) (side : String) :
    d.findNpSide d.nextNp side = none := by
  simp only [findNpSide, List.find?_eq_none, decide_eq_true_eq, not_and]
  intro r hr e
  have := h.2 r hr
  omega

end Chan
end Wormhole
