/-
  `messages` / mailbox rows through the sweep, the websocket handlers and whole steps
  (continuation of Inv/MsgDb.lean).
-/
import Wormhole.Inv.MsgDb
import Wormhole.Props.C17

namespace Wormhole
namespace Chan

/-- mailbox ids are unique across apps (PRIMARY KEY), stated on the keys -/
def UniqIds (d : Chan) : Prop := d.mbKeys.Pairwise (fun k k' => ¬ k.2 = k'.2)

theorem PInv.uniqIds {d : Chan} (h : d.PInv) : d.UniqIds := by
  simpa [UniqIds, mbKeys, List.pairwise_map] using h.mbIds

theorem UniqIds.of_shrink {dead} {d d' : Chan} (h : ShrinkBy dead d d') (u : d.UniqIds) : d'.UniqIds := by
  unfold UniqIds; rw [h.keys]; exact u.filter _

theorem UniqIds.of_delStep {ok} {d d' : Chan} (h : DelStep ok d d') (u : d.UniqIds) : d'.UniqIds := by
  obtain ⟨_, s, _⟩ := h; exact u.of_shrink s

theorem UniqIds.eq {d : Chan} (u : d.UniqIds) {k k' : String × String} (hk : k ∈ d.mbKeys)
    (hk' : k' ∈ d.mbKeys) (h : k.2 = k'.2) : k = k' :=
  eq_of_pairwise_ne (f := Prod.snd) u hk hk' h

theorem mem_mbKeys {d : Chan} {k : String × String} :
    k ∈ d.mbKeys ↔ ∃ r ∈ d.mailboxes, r.app = k.1 ∧ r.id = k.2 := by
  simp only [mbKeys, List.mem_map]
  constructor
  · rintro ⟨r, hr, rfl⟩; exact ⟨r, hr, rfl, rfl⟩
  · rintro ⟨r, hr, h1, h2⟩; exact ⟨r, hr, by rw [h1, h2]⟩

theorem findMailbox_isSome_iff {d : Chan} {a m : String} :
    (d.findMailbox a m).isSome ↔ (a, m) ∈ d.mbKeys := by
  simp [findMailbox, mem_mbKeys, List.find?_isSome]

theorem findMailbox_eq_none_iff {d : Chan} {a m : String} :
    d.findMailbox a m = none ↔ (a, m) ∉ d.mbKeys := by
  rw [← findMailbox_isSome_iff]; simp

end Chan

namespace Sys

section sweep
variable {W : Prop} {P : Chan → Prop} {ok : String → String → Prop}

/-- `AppNamespace.prune`: the deleted mailbox rows had no listener, PROVIDED `old < now`
    (a touched row is stamped `now`) and mailbox ids are unique (the DELETEs go by id) -/
theorem AllDb.prune {s : Sys} (a : AllDb W P s) (hP : Chan.DelClosed ok P) (hu : s.db.UniqIds)
    {now old : Time} (hlt : old < now) (hok : ∀ a' m, s.listeners a' m = [] → ok a' m) {app : String} :
    AllDb W P (s.prune app now old).1 := by
  -- the statements of `prune`: those that keep `mpart`, and the DELETEs of the old rows
  have r := (Runs.refl s).prune (K := fun k => k.keepsMpart = true ∨ ∃ row ∈
      ((s.touchListened app now).commit.db.mailboxesOfApp app).filter (fun r => ¬ r.updated > old),
        k = .sweep (some row.id))
    (.inl rfl) (.inl rfl) (.inl rfl) app now old (.inl rfl) (fun row hrow => .inr ⟨row, hrow, rfl⟩)
  -- along them no mailbox key is new
  have hQ : Chan.DelClosed (fun _ _ => True) (fun d => ∀ k ∈ d.mbKeys, k ∈ s.db.mbKeys) := by
    rintro d d' hq ⟨dead, sh, _⟩ k hk
    rw [sh.keys] at hk
    exact hq k (List.mem_filter.1 hk).1
  refine (r.preserves (T := fun s' => AllDb W P s' ∧ AllDb False (fun d => ∀ k ∈ d.mbKeys, k ∈ s.db.mbKeys) s')
    ?_ ⟨a, AllDb.dbOnly fun _ h => h⟩).1
  rintro _ (hk | ⟨row, hrow, rfl⟩) s1 s2 h ⟨a1, q1⟩
  · exact ⟨a1.stmt_same hP.same h hk, q1.stmt_same hQ.same h hk⟩
  · refine ⟨a1.stmt_delMb hP ?_ h, q1.stmt_delMb hQ (fun _ _ _ => trivial) h⟩
    -- an old row was not touched, so its mailbox had no listener
    intro k hk hid
    simp only [List.mem_filter, Chan.mailboxesOfApp, commit_db, decide_eq_true_eq, decide_not, Bool.not_eq_eq_eq_not,
      Bool.not_true, decide_eq_false_iff_not] at hrow
    obtain ⟨⟨hrow', happ⟩, hold⟩ := hrow
    have hrow'' : row ∈ s.db.mailboxes.map (fun r =>
      if r.app = app ∧ s.listeners app r.id ≠ [] then { r with updated := now } else r) := hrow'
    obtain ⟨r0, hr0, hf⟩ := List.mem_map.1 hrow''
    by_cases hc : r0.app = app ∧ s.listeners app r0.id ≠ []
    · rw [if_pos hc] at hf
      subst hf
      exact absurd hlt hold
    · rw [if_neg hc] at hf
      subst hf
      have := hu.eq (k' := (r0.app, r0.id)) (q1.db k hk) (Chan.mem_mbKeys.2 ⟨r0, hr0, rfl, rfl⟩) hid
      subst this
      apply hok
      by_cases hne : s.listeners app r0.id = []
      · rw [happ]; exact hne
      · exact absurd ⟨happ, hne⟩ hc

theorem prune_delStep {s : Sys} (hu : s.db.UniqIds) {now old : Time} (hlt : old < now) (app : String) :
    Chan.DelStep (fun a' m => s.listeners a' m = []) s.db (s.prune app now old).1.db :=
  (AllDb.prune (W := False) (AllDb.dbOnly (Chan.DelStep.refl s.db)) (Chan.delClosed_delStep _ _) hu hlt
    (fun _ _ h => h)).db

theorem AllDb.pruneApps (hP : Chan.DelClosed ok P) {now old : Time} (hlt : old < now) (l : List String) :
    ∀ {s : Sys}, AllDb W P s → s.db.UniqIds → (∀ a' m, s.listeners a' m = [] → ok a' m) →
      AllDb W P (s.pruneApps now old l).1 := by
  induction l with
  | nil => intro s a _ _; exact a
  | cons app rest ih =>
    intro s a hu hok
    unfold Sys.pruneApps
    have a1 := a.prune hP hu hlt hok (app := app)
    have u1 := hu.of_delStep (prune_delStep hu hlt app)
    have c1 := prune_conns s app now old
    split <;> rename_i s1 heq <;> rw [heq] at a1 u1 c1
    · exact a1
    · exact ih a1 u1 (fun a' m h => hok a' m (by rw [← listeners_congr c1]; exact h))

theorem expirationTicks_pos : 0 < Generated.expirationTicks := by decide

theorem AllDb.expire {s : Sys} (a : AllDb W P s) (hP : Chan.DelClosed ok P) (hu : s.db.UniqIds)
    (hok : ∀ a' m, s.listeners a' m = [] → ok a' m) {now : Time} {fault : Bool} :
    AllDb W P (s.expire now fault) := by
  unfold Sys.expire
  simp only []
  apply AllDb.dumpStats
  split
  · exact a.emit.emit
  · have hlt : now - Generated.expirationTicks < now := Int.sub_lt_self now expirationTicks_pos
    have h1 := AllDb.pruneApps hP hlt ((s.emit (.fired now (now - Generated.expirationTicks))).allApps)
      (s := s.emit (.fired now (now - Generated.expirationTicks))) a.emit hu hok
    split <;> rename_i heq <;> rw [heq] at h1
    · exact h1
    · exact h1.emit

end sweep

abbrev anyOk : String → String → Prop := fun _ _ => True

section handlers
variable {W : Prop} {P : Chan → Prop} {s : Sys} {x : Conn}

theorem AllDb.replay (a : AllDb W P s) {c app mb} : AllDb W P (s.replay c app mb) := by
  unfold Sys.replay
  exact AllDb.foldl_send (fun _ => c) (fun (m : Message) => .message m.side m.phase m.body m.rx m.msgId) _ a

theorem onMessage_add {c : Nat} {t : Time} {id : Val} {app mb : String} {ph bd : Val}
    (hx : s.findConn c = some x) (ha : x.app = some app) (hm : x.mailbox = some mb) :
    s.onMessage c t id (.add (some ph) (some bd)) =
      ((s.send c (.ack id)).addMessage app mb (x.side.getD "") ph bd t id).broadcast app mb
        (.message (x.side.getD "") ph bd t id) := by
  simp [Sys.onMessage, hx, ha, Sys.handleAdd, hm]

/-- every command other than an accepted `add` -/
theorem AllDb.onMessage {P2 : Chan → Prop} (a : AllDb W P s) (hP : Chan.GrowClosed P)
    (hP2 : Chan.DelClosed anyOk P2) (h12 : ∀ d, P d → P2 d) {c : Nat} {t : Time} {id : Val} {cmd : Cmd}
    (hna : ∀ x, s.findConn c = some x → ∀ ph bd, cmd = .add (some ph) (some bd) →
      x.app = none ∨ x.mailbox = none) :
    AllDb W P2 (s.onMessage c t id cmd) := by
  obtain ⟨sm, r1, r2⟩ := onMessage_runs₂ (K1 := fun k => k.keepsMpart = true ∨ ∃ t, k = .grow t)
    (K2 := fun k => k.keepsMpart = true ∨ ∃ app mb, k = .closeDel app mb)
    (.inl rfl) (.inl rfl) (.inl rfl) s c t id (.inr ⟨_, rfl⟩) (cmd := cmd) (fun _ => .inl rfl)
    (fun x a' mb ph bd hx hcmd ha hm => by
      rcases hna x hx ph bd hcmd with h | h
      · rw [h] at ha; cases ha
      · rw [h] at hm; cases hm)
    (fun _ => .inl rfl) (fun _ => .inl rfl) (fun _ => .inl rfl) (fun _ => .inl rfl)
    (fun _ _ _ _ _ _ _ _ _ => ⟨.inl rfl, .inr ⟨_, _, rfl⟩⟩) (fun _ => ⟨.inl rfl, .inl rfl, .inl rfl, .inl rfl⟩)
  refine r2.preserves ?_ ((a.runs_grow hP r1).mono h12)
  rintro _ (hk | ⟨app, mb, rfl⟩) _ _ h a2
  · exact a2.stmt_same hP2.same h hk
  · exact a2.stmt_closeDel hP2 (fun _ => trivial) h

end handlers

/-- the operation a (possibly crashing) operation executes -/
def _root_.Wormhole.Op.plain : Op → Op
  | .crashIn _ op => op
  | op => op

/-- the row an accepted `add` stores: `some` exactly when the (plain) operation is an `add` with
    phase and body on an existing connection that is bound and holds a mailbox handle -/
def addRowOf (s : Sys) : Op → Option Message
  | .recv c t id (.add (some ph) (some bd)) =>
    match s.findConn c with
    | some x =>
      match x.app, x.mailbox with
      | some a, some m => some ⟨a, m, x.side.getD "", ph.toText, bd.toText, t, id.toText⟩
      | _, _ => none
    | none => none
  | _ => none

/-- the condition the rows deleted by `op` satisfy: a sweep only deletes mailboxes without listener -/
def okOf (s : Sys) : Op → String → String → Prop
  | .sweep _ _ => fun a m => s.listeners a m = []
  | _ => fun _ _ => True

theorem AllDb.start {P : Chan → Prop} {s : Sys} (hs : s.Synced) (h : P s.db) :
    AllDb True P ({ s with out := [], snaps := [] } : Sys) :=
  ⟨h, fun _ => ⟨by rw [show ({ s with out := [], snaps := [] } : Sys).disk = s.disk from rfl, ← hs.1]; exact h,
    by simp⟩⟩

theorem AllDb.of_eq {W : Prop} {P : Chan → Prop} {s s' : Sys} (a : AllDb W P s) (h1 : s'.db = s.db)
    (h2 : s'.disk = s.disk) (h3 : s'.snaps = s.snaps) : AllDb W P s' :=
  ⟨h1 ▸ a.db, fun w => ⟨h2 ▸ (a.rest w).1, h3 ▸ (a.rest w).2⟩⟩

/-- every plain operation other than an accepted `add`: the live database, the committed one and
    every crash point arise from the initial database by first adding mailbox rows, then deleting
    mailbox rows together with their messages -/
theorem stepPlain_tr {s : Sys} (hs : s.Synced) (hu : s.db.UniqIds) (op : Op)
    (hna : addRowOf s op = none) :
    AllDb True (Chan.Tr (okOf s op) s.db) (({ s with out := [], snaps := [] } : Sys).stepPlain op) := by
  have a0 : AllDb True (Chan.Grow s.db) ({ s with out := [], snaps := [] } : Sys) :=
    AllDb.start hs (Chan.Grow.refl _)
  cases op with
  | connect c => exact (a0.mono fun d h => Chan.Tr.of_grow h).of_eq rfl rfl rfl
  | drop c => exact (a0.mono fun d h => Chan.Tr.of_grow h).of_eq rfl rfl rfl
  | restart t =>
    exact ⟨Chan.Tr.of_grow (a0.rest trivial).1, fun w => ⟨Chan.Tr.of_grow (a0.rest w).1,
      by simp [Sys.stepPlain, Sys.restart]⟩⟩
  | crashIn k op' => exact a0.mono fun d h => Chan.Tr.of_grow h
  | sweep now fault =>
    have a1 : AllDb True (Chan.Tr (okOf s (.sweep now fault)) s.db) ({ s with out := [], snaps := [] } : Sys) :=
      a0.mono fun d h => Chan.Tr.of_grow h
    exact a1.expire (Chan.delClosed_tr _ _) hu (fun a' m h => h)
  | recv c t id cmd =>
    refine a0.onMessage (Chan.growClosed_grow _) (Chan.delClosed_tr anyOk s.db)
      (fun d h => Chan.Tr.of_grow h) ?_
    intro x hx ph bd hcmd
    subst hcmd
    have hx' : s.findConn c = some x := hx
    simp only [addRowOf, hx'] at hna
    cases ha : x.app with
    | none => exact .inl rfl
    | some a =>
      cases hm : x.mailbox with
      | none => exact .inr rfl
      | some m => simp [ha, hm] at hna

/-- the database a step leaves is the live database of the executed operation, its committed
    database, one of its crash points, or (crash before the first commit) the committed database
    it started from: what holds of all of these holds of it -/
theorem AllDb.step_db {P : Chan → Prop} {s : Sys} {op : Op} (h0 : P s.disk)
    (a : AllDb True P (({ s with out := [], snaps := [] } : Sys).stepPlain op.plain)) : P (s.step op).db := by
  cases op with
  | crashIn k op' =>
    simp only [Sys.step]
    cases k with
    | zero => exact h0
    | succ k =>
      cases h : (({ s with out := [], snaps := [] } : Sys).stepPlain op').snaps[k + 1 - 1]? with
      | none => exact (a.rest trivial).1
      | some p => exact (a.rest trivial).2 p (List.mem_of_getElem? h)
  | _ => exact a.db

/-- **every step other than an accepted `add`** (crashes included, whatever the crash point) -/
theorem step_tr {s : Sys} (hs : s.Synced) (hu : s.db.UniqIds) (op : Op)
    (hna : addRowOf s op.plain = none) :
    Chan.Tr (okOf s op.plain) s.db (s.step op).db :=
  AllDb.step_db (by rw [← hs.1]; exact Chan.Tr.of_grow (Chan.Grow.refl _)) (stepPlain_tr hs hu op.plain hna)

/-- `_add_message` from a state whose channel database is committed: one effective commit -/
theorem addMessage_eq {s : Sys} (hd : s.disk = s.db) (app mb side : String) (ph bd : Val) (t : Time) (id : Val) :
    s.addMessage app mb side ph bd t id =
      let d' := (s.db.insMessage ⟨app, mb, side, ph.toText, bd.toText, t, id.toText⟩).touch mb t
      { s with db := d', disk := d', out := s.out ++ [.commit .chan], snaps := s.snaps ++ [(d', s.udisk)] } := by
  have hne : ¬ ((s.modDb (·.insMessage ⟨app, mb, side, ph.toText, bd.toText, t, id.toText⟩)).modDb
      (·.touch mb t)).db = ((s.modDb (·.insMessage ⟨app, mb, side, ph.toText, bd.toText, t, id.toText⟩)).modDb
      (·.touch mb t)).disk := by
    intro h
    have := congrArg (fun d => d.messages.length) h
    simp [hd, Chan.touch, Chan.insMessage] at this
  unfold Sys.addMessage Sys.commit
  rw [if_neg hne]
  rfl

/-- the state after an accepted `add`: the row is stored and committed, then every listener is sent
    the message as submitted -/
theorem onMessage_add_eq {s : Sys} {x : Conn} {c : Nat} {t : Time} {id : Val} {app mb : String}
    {ph bd : Val} (hs : s.Synced) (hx : s.findConn c = some x) (ha : x.app = some app)
    (hm : x.mailbox = some mb) :
    s.onMessage c t id (.add (some ph) (some bd)) =
      let d' := (s.db.insMessage ⟨app, mb, x.side.getD "", ph.toText, bd.toText, t, id.toText⟩).touch mb t
      { s with db := d', disk := d', snaps := s.snaps ++ [(d', s.udisk)],
               out := s.out ++ [.frame c (.ack id) true, .commit .chan] ++
                 (s.listeners app mb).map (fun c' => .frame c' (.message (x.side.getD "") ph bd t id) true) } := by
  rw [onMessage_add hx ha hm, broadcast_eq, addMessage_eq (s := s.send c (.ack id)) hs.1.symm]
  simp [Sys.send, Sys.emit, Sys.synced, Sys.listeners, hs.1, hs.2]

/-- **an accepted `add` appends exactly its row** (crash-free, or crash after the commit);
    a crash before the first commit leaves the database as it was -/
theorem step_add {s : Sys} (hs : s.Synced) (op : Op) {r : Message} (h : addRowOf s op.plain = some r) :
    ((∃ op', op = .crashIn 0 op') ∧ (s.step op).db = s.db) ∨
    ((¬ ∃ op', op = .crashIn 0 op') ∧ (s.step op).db = (s.db.insMessage r).touch r.mailbox r.rx) := by
  have key : ∀ op1, addRowOf s op1 = some r →
      let s1 := ({ s with out := [], snaps := [] } : Sys).stepPlain op1
      s1.db = (s.db.insMessage r).touch r.mailbox r.rx ∧ s1.disk = s1.db ∧
        s1.snaps = [((s.db.insMessage r).touch r.mailbox r.rx, s.udisk)] := by
    intro op1 h1
    unfold addRowOf at h1
    split at h1
    · rename_i c t id ph bd
      split at h1
      · rename_i x hx
        split at h1
        · rename_i a m ha hm
          cases h1
          have e := onMessage_add_eq (s := { s with out := [], snaps := [] }) (t := t) (id := id) (ph := ph)
            (bd := bd) hs hx ha hm
          simp [Sys.stepPlain, e]
        · cases h1
      · cases h1
    · cases h1
  cases op with
  | crashIn k op' =>
    obtain ⟨k1, k2, k3⟩ := key op' h
    cases k with
    | zero => exact .inl ⟨⟨op', rfl⟩, by simp [Sys.step, Sys.crashTo, hs.1]⟩
    | succ k =>
      refine .inr ⟨by simp, ?_⟩
      simp only [Sys.step]
      cases k with
      | zero => simp [k3, Sys.crashTo]
      | succ k => simp [k3, Sys.crashTo, k2, k1]
  | _ => exact .inr ⟨by simp, (key _ h).1⟩

end Sys
end Wormhole
