/-
  C06, two-run simulation: server.py (Core.lean).

  `IsoRel b ρ s₁ s₂`: `s₂` (the run without the other apps' commands) holds exactly the rows of
  app `b` of `s₁` (the full run) up to the renaming `ρ` of `nameplates.id`; the usage rows of
  app `b` agree; the connection tables agree record by record for the connections that are not
  bound to another app (`ConnRel`); same configuration; same frames emitted so far in this step.

  Every function of Core.lean called with app `b` maps related states to related states and
  returns the same result: for a function `f` that returns a pair the statement is
  `∃ a₁ a₂ r, f s₁ = (a₁, r) ∧ f s₂ = (a₂, r) ∧ IsoRel b ρ a₁ a₂`, so that a caller rewrites with
  the two equations and both runs' `match` on the result reduce together.  What is needed of the
  full run's database beyond the relation is stated per function (`PInv` facts: foreign keys,
  uniqueness of `nameplates.id`), and the guard of finding K-global-mailbox-id appears exactly
  once: in `addMailbox_iso`.
-/
import Wormhole.Inv.IsoSimPrim
import Wormhole.Inv.IsoFrameCore

namespace Wormhole

/-- the records of one connection in the two runs -/
def ConnRel (b : String) (x₁ x₂ : Conn) : Prop :=
  x₂.id = x₁.id ∧ (¬ x₁.other b → x₂ = x₁) ∧ (x₁.other b → x₂.app = none)

theorem ConnRel.listens {b : String} {x₁ x₂ : Conn} (h : ConnRel b x₁ x₂) (m : String) :
    decide (x₁.listening ∧ x₁.app = some b ∧ x₁.mailbox = some m) =
      decide (x₂.listening ∧ x₂.app = some b ∧ x₂.mailbox = some m) := by
  by_cases ho : x₁.other b
  · obtain ⟨a, ha, hab⟩ := ho
    have h2 := h.2.2 ⟨a, ha, hab⟩
    simp [ha, h2, hab]
  · rw [h.2.1 ho]

namespace Sys

structure IsoRel (b : String) (ρ : Nat → Nat) (s₁ s₂ : Sys) : Prop where
  db : Chan.ViewRel b ρ s₁.db s₂.db
  udb : Usage.SameB b s₁.udb s₂.udb
  conns : All2 (ConnRel b) s₁.conns s₂.conns
  cfg : s₁.cfg = s₂.cfg
  frames : s₁.frames = s₂.frames

section basics
variable {b : String} {ρ : Nat → Nat} {s₁ s₂ : Sys}

theorem IsoRel.modDb (h : IsoRel b ρ s₁ s₂) {ρ' : Nat → Nat} (f₁ f₂ : Chan → Chan)
    (hf : Chan.ViewRel b ρ' (f₁ s₁.db) (f₂ s₂.db)) : IsoRel b ρ' (s₁.modDb f₁) (s₂.modDb f₂) :=
  ⟨hf, h.udb, h.conns, h.cfg, h.frames⟩

theorem IsoRel.commit (h : IsoRel b ρ s₁ s₂) : IsoRel b ρ s₁.commit s₂.commit :=
  ⟨by simpa using h.db, by simpa using h.udb, by simpa using h.conns, by simpa using h.cfg, by simpa using h.frames⟩

theorem IsoRel.ucommit (h : IsoRel b ρ s₁ s₂) : IsoRel b ρ s₁.ucommit s₂.ucommit :=
  ⟨by simpa using h.db, by simpa using h.udb, by simpa using h.conns, by simpa using h.cfg, by simpa using h.frames⟩

theorem IsoRel.uCommit (h : IsoRel b ρ s₁ s₂) : IsoRel b ρ s₁.uCommit s₂.uCommit := by
  unfold Sys.uCommit
  rw [← h.cfg]
  split
  · exact h.ucommit
  · exact h

theorem IsoRel.blurTime (h : IsoRel b ρ s₁ s₂) : s₁.blurTime = s₂.blurTime := by
  funext t
  unfold Sys.blurTime Sys.blurTicks
  rw [h.cfg]

theorem IsoRel.setConns (h : IsoRel b ρ s₁ s₂) {l₁ l₂ : List Conn} (hl : All2 (ConnRel b) l₁ l₂) :
    IsoRel b ρ { s₁ with conns := l₁ } { s₂ with conns := l₂ } :=
  ⟨h.db, h.udb, hl, h.cfg, h.frames⟩

theorem IsoRel.listeners (h : IsoRel b ρ s₁ s₂) (m : String) : s₁.listeners b m = s₂.listeners b m := by
  unfold Sys.listeners
  apply All2.map_eq (R := ConnRel b)
  · apply All2.filter _ _ h.conns
    intro x₁ _ x₂ _ r
    exact r.listens m
  · intro x₁ _ x₂ _ r
    exact r.1.symm

/-- the side rows of the two runs differ in `npid` only -/
theorem IsoRel.uNp (h : IsoRel b ρ s₁ s₂) (sides : List NpSide) (t : Time) (p : Bool) :
    ∃ a₁ a₂ r, s₁.uNp b sides t p = (a₁, r) ∧ s₂.uNp b (sides.map (Chan.rnSide ρ)) t p = (a₂, r) ∧
      IsoRel b ρ a₁ a₂ := by
  have hs : (sides.map (Chan.rnSide ρ)).map (·.added) = sides.map (·.added) := by rw [List.map_map]; rfl
  unfold Sys.uNp Sys.storeNameplateUsage
  rw [← h.cfg, ← h.blurTime, hs]
  split
  · cases summarizeNameplate s₁.blurTime (sides.map (·.added)) t p with
    | none => exact ⟨_, _, _, rfl, rfl, h⟩
    | some u =>
      refine ⟨_, _, _, rfl, rfl, h.db, ?_, h.conns, h.cfg, h.frames⟩
      obtain ⟨u1, u2, u3⟩ := h.udb
      refine ⟨?_, u2, u3⟩
      simp only [Usage.npsB, Sys.modUdb, List.filter_append] at u1 ⊢
      rw [u1]
  · exact ⟨_, _, _, rfl, rfl, h⟩

theorem IsoRel.uMb (h : IsoRel b ρ s₁ s₂) (forNp : Bool) (sides : List MbSide) (t : Time) (p : Bool) :
    IsoRel b ρ (s₁.uMb b forNp sides t p) (s₂.uMb b forNp sides t p) := by
  unfold Sys.uMb Sys.storeMailboxUsage
  rw [← h.cfg, ← h.blurTime]
  split
  · refine ⟨h.db, ?_, h.conns, h.cfg, h.frames⟩
    obtain ⟨u1, u2, u3⟩ := h.udb
    refine ⟨u1, ?_, u3⟩
    simp only [Usage.mbsB, Sys.modUdb, List.filter_append] at u2 ⊢
    rw [u2]
  · exact h

end basics

section mailbox
variable {b : String} {ρ : Nat → Nat} {s₁ s₂ : Sys}

/-- "if the id is not b's, it is nobody's, and no side row mentions it": the guard of
    K-global-mailbox-id (no row with this id under another app) together with the foreign key
    of `mailbox_sides` -/
def Absent (d : Chan) (b m : String) : Prop :=
  ¬ d.HasMb b m → (∀ x ∈ d.mbSides, ¬ x.mailbox = m) ∧ (∀ r ∈ d.mailboxes, ¬ r.id = m)

theorem absent_of_pinv {d : Chan} {b m : String} (hp : d.PInv) (hg : ¬ d.ForeignMb b m) : Absent d b m := by
  intro hno
  have h2 : ∀ r ∈ d.mailboxes, ¬ r.id = m := fun r hr e => hg ⟨hno, r, hr, e⟩
  refine ⟨?_, h2⟩
  intro x hx e
  obtain ⟨r, hr, er⟩ := hp.msFk x hx
  exact h2 r hr (er.trans e)

theorem addMailbox_iso (h : IsoRel b ρ s₁ s₂) (m : String) (forNp : Bool) (t : Time) (ha : Absent s₁.db b m) :
    ∃ s₁' s₂', s₁.addMailbox b m forNp t = some s₁' ∧ s₂.addMailbox b m forNp t = some s₂' ∧
      IsoRel b ρ s₁' s₂' ∧ s₁'.db.HasMb b m ∧ s₁'.db.npPart = s₁.db.npPart ∧ s₂'.db.npPart = s₂.db.npPart := by
  unfold Sys.addMailbox
  rw [h.db.findMailbox m, h.db.findMailboxById m]
  cases hf : s₁.db.findMailbox b m with
  | some row => exact ⟨s₁, s₂, rfl, rfl, h, Chan.findMailbox_hasMb hf, rfl, rfl⟩
  | none =>
    have hno : ¬ s₁.db.HasMb b m := Chan.findMailbox_none hf
    obtain ⟨h1, h2⟩ := ha hno
    have hid : s₁.db.findMailboxById m = none := by
      unfold Chan.findMailboxById
      rw [List.find?_eq_none]
      intro r hr; simpa using h2 r hr
    rw [hid]
    refine ⟨_, _, rfl, rfl, h.modDb _ _ (h.db.insMailbox ⟨b, m, t, forNp⟩ rfl h1), ?_, rfl, rfl⟩
    exact ⟨⟨b, m, t, forNp⟩, by simp [Sys.modDb, Chan.insMailbox], rfl, rfl⟩

theorem mailboxOpen_iso (h : IsoRel b ρ s₁ s₂) {m : String} (hm : s₁.db.HasMb b m) (side : String) (t : Time) :
    IsoRel b ρ (s₁.mailboxOpen m side t) (s₂.mailboxOpen m side t) := by
  unfold Sys.mailboxOpen
  rw [h.db.findMbSide hm side]
  cases s₁.db.findMbSide m side with
  | none =>
    exact ((h.modDb _ _ (h.db.insMbSide ⟨m, true, side, t, none⟩ hm)).modDb _ _
      ((h.db.insMbSide ⟨m, true, side, t, none⟩ hm).touch m t)).commit
  | some _ => exact (h.modDb _ _ (h.db.touch m t)).commit

theorem hasMb_mailboxOpen {s : Sys} {a m' m side : String} {t : Time} :
    (s.mailboxOpen m side t).db.HasMb a m' ↔ s.db.HasMb a m' := by
  unfold Sys.mailboxOpen
  cases s.db.findMbSide m side <;> simp [Sys.modDb]

/-- `open_mailbox`: never the `IntegrityError`, and the nameplate tables are not written -/
theorem openMailbox_iso (h : IsoRel b ρ s₁ s₂) (m side : String) (t : Time) (ha : Absent s₁.db b m) :
    ∃ a₁ a₂ r, s₁.openMailbox b m side t = (a₁, r) ∧ s₂.openMailbox b m side t = (a₂, r) ∧
      IsoRel b ρ a₁ a₂ ∧ r ≠ .integrity ∧ a₁.db.npPart = s₁.db.npPart := by
  obtain ⟨c₁, c₂, ea₁, ea₂, hr, hm, hn₁, _⟩ := addMailbox_iso h m false t ha
  unfold Sys.openMailbox
  rw [ea₁, ea₂]
  dsimp only
  have h2 : IsoRel b ρ ((c₁.mailboxOpen m side t).commit) ((c₂.mailboxOpen m side t).commit) :=
    (mailboxOpen_iso hr hm side t).commit
  have hm2 : ((c₁.mailboxOpen m side t).commit).db.HasMb b m := by
    rw [commit_db, hasMb_mailboxOpen]; exact hm
  have hp₁ : ((c₁.mailboxOpen m side t).commit).db.npPart = s₁.db.npPart := by
    rw [commit_db, mailboxOpen_npPart, hn₁]
  rw [h2.db.mbSidesOf hm2]
  split
  · exact ⟨_, _, _, rfl, rfl, h2, nofun, hp₁⟩
  · exact ⟨_, _, _, rfl, rfl, h2, nofun, hp₁⟩

theorem addMessage_iso (h : IsoRel b ρ s₁ s₂) (m side : String) (ph bd : Val) (t : Time) (id : Val) :
    IsoRel b ρ (s₁.addMessage b m side ph bd t id) (s₂.addMessage b m side ph bd t id) := by
  unfold Sys.addMessage
  exact ((h.modDb _ _ (h.db.insMessage _ rfl)).modDb _ _ ((h.db.insMessage _ rfl).touch m t)).commit

theorem IsoRel.stopListeners (h : IsoRel b ρ s₁ s₂) (m : String) :
    IsoRel b ρ (s₁.stopListeners b m) (s₂.stopListeners b m) := by
  unfold Sys.stopListeners
  apply h.setConns
  apply All2.map _ _ h.conns
  intro x₁ _ x₂ _ r
  have hl := r.listens m
  by_cases ho : x₁.other b
  · obtain ⟨a, ha, hab⟩ := ho
    have h2 := r.2.2 ⟨a, ha, hab⟩
    have c1 : ¬ (x₁.listening = true ∧ x₁.app = some b ∧ x₁.mailbox = some m) := by simp [ha, hab]
    have c2 : ¬ (x₂.listening = true ∧ x₂.app = some b ∧ x₂.mailbox = some m) := by simp [h2]
    rw [if_neg c1, if_neg c2]
    exact r
  · have e := r.2.1 ho
    subst e
    split
    · refine ⟨rfl, fun _ => rfl, fun ho' => (ho ?_).elim⟩
      obtain ⟨a, ha, hab⟩ := ho'
      exact ⟨a, ha, hab⟩
    · exact r

/-- the loop of repair F over the nameplates that die with their mailbox -/
theorem uNps_iso (t : Time) : ∀ (l : List Nameplate) {s₁ s₂ : Sys}, IsoRel b ρ s₁ s₂ →
    (∀ n ∈ l, n.id ∈ s₁.db.npIdsB b) →
    ∃ a₁ a₂ r, s₁.uNps b t l = (a₁, r) ∧ s₂.uNps b t (l.map (Chan.rnNp ρ)) = (a₂, r) ∧ IsoRel b ρ a₁ a₂
  | [], _, _, h, _ => ⟨_, _, _, rfl, rfl, h⟩
  | np :: rest, s₁, s₂, h, hl => by
    have hi : np.id ∈ s₁.db.npIdsB b := hl np (by simp)
    obtain ⟨a₁, a₂, r, e₁, e₂, h1⟩ := h.uNp (s₁.db.npSidesOf np.id) t false
    have hdb : a₁.db = s₁.db := by
      have := s₁.uNp_db b (s₁.db.npSidesOf np.id) t false
      rw [e₁] at this; exact this
    simp only [List.map_cons, Sys.uNps, Chan.rnNp_id, h.db.npSidesOf hi, e₁, e₂]
    cases r with
    | false => exact ⟨_, _, _, rfl, rfl, h1⟩
    | true => exact uNps_iso t rest h1 (fun n hn => by rw [hdb]; exact hl n (by simp [hn]))

theorem mailboxClose_iso (h : IsoRel b ρ s₁ s₂) (hu : s₁.db.NpIdsUnique) (m side : String) (mood : Option String)
    (t : Time) :
    ∃ a₁ a₂ r, s₁.mailboxClose b m side mood t = (a₁, r) ∧ s₂.mailboxClose b m side mood t = (a₂, r) ∧
      IsoRel b ρ a₁ a₂ := by
  rw [mailboxClose_eq, mailboxClose_eq, h.db.findMailbox m]
  cases hf : s₁.db.findMailbox b m with
  | none => exact ⟨_, _, _, rfl, rfl, h⟩
  | some row =>
    have hm : s₁.db.HasMb b m := Chan.findMailbox_hasMb hf
    dsimp only
    rw [h.db.findMbSide hm side]
    cases s₁.db.findMbSide m side with
    | none => exact ⟨_, _, _, rfl, rfl, h⟩
    | some sr =>
      dsimp only
      have h1 : IsoRel b ρ ((s₁.modDb (·.closeSide m side mood)).commit) ((s₂.modDb (·.closeSide m side mood)).commit) :=
        (h.modDb _ _ (h.db.closeSide m side mood)).commit
      rw [h1.db.mbSidesOf (by simpa using hm)]
      split
      · exact ⟨_, _, _, rfl, rfl, h1⟩
      · rw [h1.db.nameplatesOfMailbox m]
        obtain ⟨a₁, a₂, r, e₁, e₂, h2⟩ := uNps_iso t _ h1 (fun n hn => Chan.mem_nameplatesOfMailbox_npIdsB hn)
        have hu2 : a₁.db.NpIdsUnique := by
          rw [uNps_db _ e₁]
          simpa [Chan.NpIdsUnique, Chan.closeSide] using hu
        rw [e₁, e₂]
        cases r with
        | false => exact ⟨_, _, _, rfl, rfl, h2⟩
        | true =>
          exact ⟨_, _, _, rfl, rfl, (((((h2.modDb _ _
            (((h2.db.delNpOfMailbox hu2 m).delMessagesOf m).delMbBlock m)).uMb row.forNp _ t false).uCommit).commit).stopListeners
              m)⟩

end mailbox

section nameplates
variable {b : String} {ρ : Nat → Nat} {s₁ s₂ : Sys}

theorem npPart_eq {d d' : Chan} (h : d'.npPart = d.npPart) :
    d'.nameplates = d.nameplates ∧ d'.npSides = d.npSides ∧ d'.nextNp = d.nextNp := by
  simpa [Chan.npPart] using h

theorem npIdsB_of_npPart {d d' : Chan} (h : d'.npPart = d.npPart) (b : String) : d'.npIdsB b = d.npIdsB b := by
  unfold Chan.npIdsB Chan.npsB
  rw [(npPart_eq h).1]

theorem claimCont_iso (h : IsoRel b ρ s₁ s₂) {i : Nat} (hi : i ∈ s₁.db.npIdsB b) (mb side : String) (t : Time)
    (hm : s₁.db.HasMb b mb) :
    ∃ a₁ a₂ r, claimCont s₁ b i mb side t = (a₁, r) ∧ claimCont s₂ b (ρ i) mb side t = (a₂, r) ∧
      IsoRel b ρ a₁ a₂ := by
  unfold claimCont
  dsimp only
  obtain ⟨a₁, a₂, r, e₁, e₂, h3, hni, hp₁⟩ :=
    openMailbox_iso h.commit mb side t (fun h' => (h' (by simpa using hm)).elim)
  rw [e₁, e₂]
  cases r with
  | integrity => exact absurd rfl hni
  | crowded => exact ⟨_, _, _, rfl, rfl, h3⟩
  | ok =>
    dsimp only
    have hi3 : i ∈ a₁.db.npIdsB b := by
      rw [npIdsB_of_npPart hp₁]; simpa using hi
    rw [h3.db.npSidesOf hi3, List.length_map]
    split
    · exact ⟨_, _, _, rfl, rfl, h3⟩
    · exact ⟨_, _, _, rfl, rfl, h3⟩

theorem claimTail_iso (h : IsoRel b ρ s₁ s₂) {i : Nat} (hi : i ∈ s₁.db.npIdsB b) (mb side : String) (t : Time)
    (hm : s₁.db.HasMb b mb) :
    ∃ a₁ a₂ r, s₁.claimTail b i mb side t = (a₁, r) ∧ s₂.claimTail b (ρ i) mb side t = (a₂, r) ∧
      IsoRel b ρ a₁ a₂ := by
  rw [claimTail_eq, claimTail_eq, h.db.findNpSide hi side]
  cases s₁.db.findNpSide i side with
  | none =>
    exact claimCont_iso (h.modDb _ _ (h.db.insNpSide ⟨i, true, side, t⟩ hi)) hi mb side t (by simpa using hm)
  | some r =>
    dsimp only [Option.map]
    by_cases hc : r.claimed = true
    · rw [if_pos hc, if_pos (show (Chan.rnSide ρ r).claimed = true from hc)]
      exact claimCont_iso h hi mb side t hm
    · rw [if_neg hc, if_neg (show ¬ (Chan.rnSide ρ r).claimed = true from hc)]
      exact ⟨_, _, _, rfl, rfl, h⟩

/-- `claim_nameplate`.  `hg` is the guard of K-global-mailbox-id for the generated id (implied
    by its freshness). -/
theorem claimNameplate_iso (h : IsoRel b ρ s₁ s₂) (hp : s₁.db.PInv)
    (hb₂ : ∀ n ∈ s₂.db.nameplates, n.id < s₂.db.nextNp) (name side : String) (t : Time) {fresh : String}
    (hg : ¬ s₁.db.ForeignMb b fresh) :
    ∃ ρ' a₁ a₂ r, s₁.claimNameplate b name side t fresh = (a₁, r) ∧
      s₂.claimNameplate b name side t fresh = (a₂, r) ∧ IsoRel b ρ' a₁ a₂ := by
  unfold Sys.claimNameplate
  rw [h.db.findNameplate name]
  cases hf : s₁.db.findNameplate b name with
  | some row =>
    have hrow := Chan.findNameplate_some hf
    obtain ⟨mrow, hm1, hm2, hm3⟩ := hp.npMb row hrow.1
    have hm : s₁.db.HasMb b row.mailbox := ⟨mrow, hm1, hm2, by rw [hm3]; exact hrow.2.1⟩
    exact ⟨ρ, claimTail_iso h (Chan.findNameplate_mem_npIdsB hf) row.mailbox side t hm⟩
  | none =>
    dsimp only [Option.map]
    obtain ⟨c₁, c₂, ea₁, ea₂, hr, hm, hn₁, hn₂⟩ := addMailbox_iso h fresh true t (absent_of_pinv hp hg)
    rw [ea₁, ea₂]
    dsimp only
    obtain ⟨n1, n2, n3⟩ := npPart_eq hn₁
    obtain ⟨m1, m2, m3⟩ := npPart_eq hn₂
    have hb₁ : c₁.db.IdsBounded := by
      unfold Chan.IdsBounded; rw [n1, n2, n3]; exact hp.bounded
    have hb₂' : ∀ n ∈ c₂.db.nameplates, n.id < c₂.db.nextNp := by rw [m1, m3]; exact hb₂
    have h2 := hr.modDb (·.insNameplate b name fresh) (·.insNameplate b name fresh)
      (hr.db.insNameplate name fresh hb₁ hb₂')
    have hi : c₁.db.nextNp ∈ (c₁.modDb (·.insNameplate b name fresh)).db.npIdsB b := by
      simp [Chan.npIdsB, Chan.npsB, Chan.insNameplate, List.filter_append]
    have hρ : Chan.extend ρ c₁.db.nextNp c₂.db.nextNp c₁.db.nextNp = c₂.db.nextNp := by simp [Chan.extend]
    rw [← hρ]
    exact ⟨_, claimTail_iso h2 hi fresh side t (by simpa using hm)⟩

theorem releaseNameplate_iso (h : IsoRel b ρ s₁ s₂) (name side : String) (t : Time) :
    ∃ a₁ a₂ r, s₁.releaseNameplate b name side t = (a₁, r) ∧ s₂.releaseNameplate b name side t = (a₂, r) ∧
      IsoRel b ρ a₁ a₂ := by
  rw [releaseNameplate_eq, releaseNameplate_eq, h.db.findNameplate name]
  cases hf : s₁.db.findNameplate b name with
  | none => exact ⟨_, _, _, rfl, rfl, h⟩
  | some np =>
    have hi : np.id ∈ s₁.db.npIdsB b := Chan.findNameplate_mem_npIdsB hf
    simp only [Option.map, Chan.rnNp_id]
    rw [h.db.findNpSide hi side]
    cases s₁.db.findNpSide np.id side with
    | none => exact ⟨_, _, _, rfl, rfl, h⟩
    | some sr =>
      dsimp only [Option.map]
      have h1 : IsoRel b ρ ((s₁.modDb (·.unclaim np.id side)).commit) ((s₂.modDb (·.unclaim (ρ np.id) side)).commit) :=
        (h.modDb _ _ (h.db.unclaim hi side)).commit
      have hi1 : np.id ∈ ((s₁.modDb (·.unclaim np.id side)).commit).db.npIdsB b := by
        rw [commit_db]; exact hi
      have hany : ∀ l : List NpSide, (l.map (Chan.rnSide ρ)).any (·.claimed) = l.any (·.claimed) :=
        fun l => by rw [List.any_map]; rfl
      simp only [h1.db.npSidesOf hi1, hany]
      split
      · exact ⟨_, _, _, rfl, rfl, h1⟩
      · obtain ⟨a₁, a₂, r, e₁, e₂, h3⟩ := (h1.modDb (fun d => (d.delNpSidesOf np.id).delNameplate np.id)
          (fun d => (d.delNpSidesOf (ρ np.id)).delNameplate (ρ np.id)) (h1.db.delById hi1)).uNp
            (((s₁.modDb (·.unclaim np.id side)).commit).db.npSidesOf np.id) t false
        rw [e₁, e₂]
        cases r with
        | false => exact ⟨_, _, _, rfl, rfl, h3⟩
        | true => exact ⟨_, _, _, rfl, rfl, h3.uCommit.commit⟩

end nameplates

section prune
variable {b : String} {ρ : Nat → Nat} {s₁ s₂ : Sys}

theorem touchListened_iso (h : IsoRel b ρ s₁ s₂) (now : Time) :
    IsoRel b ρ (s₁.touchListened b now) (s₂.touchListened b now) := by
  unfold Sys.touchListened
  apply h.modDb
  apply h.db.mapMailboxes
  · intro r; split <;> simp
  · intro r _ _
    rw [h.listeners r.id]

theorem pruneNameplates_iso (now : Time) : ∀ (l : List Nameplate) {s₁ s₂ : Sys}, IsoRel b ρ s₁ s₂ →
    (∀ n ∈ l, n.id ∈ s₁.db.npIdsB b) → l.Pairwise (fun x y => ¬ x.id = y.id) →
    ∃ a₁ a₂ r, s₁.pruneNameplates b now l = (a₁, r) ∧
      s₂.pruneNameplates b now (l.map (Chan.rnNp ρ)) = (a₂, r) ∧ IsoRel b ρ a₁ a₂
  | [], _, _, h, _, _ => ⟨_, _, _, rfl, rfl, h⟩
  | np :: rest, s₁, s₂, h, hl, hd => by
    have hi : np.id ∈ s₁.db.npIdsB b := hl np (by simp)
    obtain ⟨a₁, a₂, r, e₁, e₂, h3⟩ := (h.modDb (fun d => (d.delNpSidesOf np.id).delNameplate np.id)
      (fun d => (d.delNpSidesOf (ρ np.id)).delNameplate (ρ np.id)) (h.db.delById hi)).uNp
        (s₁.db.npSidesOf np.id) now true
    have hdb : a₁.db = (s₁.db.delNpSidesOf np.id).delNameplate np.id := by
      have := (s₁.modDb (fun d => (d.delNpSidesOf np.id).delNameplate np.id)).uNp_db b (s₁.db.npSidesOf np.id) now true
      rw [e₁] at this; exact this
    simp only [List.map_cons, pruneNameplates_cons, Chan.rnNp_id, h.db.npSidesOf hi, e₁, e₂]
    cases r with
    | false => exact ⟨_, _, _, rfl, rfl, h3⟩
    | true =>
      refine pruneNameplates_iso now rest h3 (fun n hn => ?_) (List.pairwise_cons.1 hd).2
      rw [hdb, Chan.mem_npIdsB_delById]
      exact ⟨hl n (by simp [hn]), fun e => (List.rel_of_pairwise_cons hd hn) e.symm⟩

theorem pruneNameplates_mailboxes (app : String) (now : Time) : ∀ (l : List Nameplate) (s : Sys),
    (s.pruneNameplates app now l).1.db.mailboxes = s.db.mailboxes
  | [], _ => rfl
  | np :: rest, s => by
    rw [pruneNameplates_cons]
    have hd := (s.modDb (fun d => (d.delNpSidesOf np.id).delNameplate np.id)).uNp_db app (s.db.npSidesOf np.id) now true
    cases e : (s.modDb (fun d => (d.delNpSidesOf np.id).delNameplate np.id)).uNp app (s.db.npSidesOf np.id) now true with
    | mk a1 b1 =>
      rw [e] at hd
      cases b1 with
      | false => dsimp only; rw [hd]; rfl
      | true => dsimp only; rw [pruneNameplates_mailboxes app now rest a1, hd]; rfl

theorem pruneMailboxes_iso (now : Time) : ∀ (l : List MailboxRow) {s₁ s₂ : Sys}, IsoRel b ρ s₁ s₂ →
    (∀ r ∈ l, s₁.db.HasMb b r.id) → l.Pairwise (fun x y => ¬ x.id = y.id) →
    IsoRel b ρ (s₁.pruneMailboxes b now l) (s₂.pruneMailboxes b now l)
  | [], _, _, h, _, _ => h
  | row :: rest, s₁, s₂, h, hl, hd => by
    rw [pruneMailboxes_cons, pruneMailboxes_cons]
    have hm : s₁.db.HasMb b row.id := hl row (by simp)
    rw [h.db.mbSidesOf hm]
    have h2 := h.modDb (fun d => ((d.delMessagesOf row.id).delMbSidesOf row.id).delMailbox row.id)
      (fun d => ((d.delMessagesOf row.id).delMbSidesOf row.id).delMailbox row.id)
      ((h.db.delMessagesOf row.id).delMbBlock row.id)
    apply pruneMailboxes_iso now rest (h2.uMb row.forNp _ now true)
    · intro r hr
      rw [uMb_db, modDb_db, Chan.hasMb_delMailbox]
      exact ⟨by simpa using hl r (by simp [hr]), fun e => (List.rel_of_pairwise_cons hd hr) e.symm⟩
    · exact (List.pairwise_cons.1 hd).2

theorem prune_iso (h : IsoRel b ρ s₁ s₂) (hp : s₁.db.PInv) (now old : Time) :
    ∃ a₁ a₂ r, s₁.prune b now old = (a₁, r) ∧ s₂.prune b now old = (a₂, r) ∧ IsoRel b ρ a₁ a₂ := by
  rw [prune_eq, prune_eq, pruneRest_eq, pruneRest_eq]
  dsimp only
  have h1 : IsoRel b ρ ((s₁.touchListened b now).commit) ((s₂.touchListened b now).commit) :=
    (touchListened_iso h now).commit
  have hp1 : ((s₁.touchListened b now).commit).db.PInv := by
    rw [commit_db, touchListened_db]
    exact hp.mapMailboxes _ (s₁.touchFn_keys b now)
  generalize (s₁.touchListened b now).commit = sA, (s₂.touchListened b now).commit = sB at h1 hp1 ⊢
  -- the two lists, read off the full run's database
  rw [h1.db.mailboxesOfApp, h1.db.nameplatesOfApp, List.filter_map]
  generalize hMbE : (sA.db.mailboxesOfApp b).filter (fun r => ¬ r.updated > old) = oldMb
  have hMb : ∀ r ∈ oldMb, sA.db.HasMb b r.id := by
    intro r hr
    rw [← hMbE] at hr
    have := List.mem_filter.1 (List.mem_filter.1 hr).1
    exact ⟨r, this.1, rfl, by simpa using this.2⟩
  have hMbd : oldMb.Pairwise (fun x y => ¬ x.id = y.id) := hMbE ▸ (hp1.mbIds.filter _).filter _
  have hcomp : ((fun r : Nameplate => decide (r.mailbox ∈ oldMb.map (·.id))) ∘ Chan.rnNp ρ) =
      fun r => decide (r.mailbox ∈ oldMb.map (·.id)) := rfl
  rw [hcomp]
  generalize hNpE : (sA.db.nameplatesOfApp b).filter (fun r => r.mailbox ∈ oldMb.map (·.id)) = oldNp
  have hNp : ∀ n ∈ oldNp, n.id ∈ sA.db.npIdsB b := by
    intro n hn
    rw [← hNpE] at hn
    exact Chan.mem_nameplatesOfApp_npIdsB (List.mem_filter.1 hn).1
  have hNpd : oldNp.Pairwise (fun x y => ¬ x.id = y.id) := hNpE ▸ (hp1.npIds.filter _).filter _
  obtain ⟨a₁, a₂, r, e₁, e₂, h2⟩ := pruneNameplates_iso now oldNp h1 hNp hNpd
  rw [e₁, e₂]
  cases r with
  | false => exact ⟨_, _, _, rfl, rfl, h2⟩
  | true =>
    dsimp only
    have hMb' : ∀ r ∈ oldMb, a₁.db.HasMb b r.id := by
      intro r hr
      have hq := congrArg (fun p : Sys × Bool => p.1.db.mailboxes) e₁
      simp only [pruneNameplates_mailboxes] at hq
      obtain ⟨m0, g1, g2, g3⟩ := hMb r hr
      exact ⟨m0, by rw [← hq]; exact g1, g2, g3⟩
    have h3 := pruneMailboxes_iso now oldMb h2 hMb' hMbd
    simp only [ne_eq, List.map_eq_nil_iff]
    split
    · exact ⟨_, _, _, rfl, rfl, h3.commit.uCommit⟩
    · exact ⟨_, _, _, rfl, rfl, h3⟩

end prune

end Sys
end Wormhole
