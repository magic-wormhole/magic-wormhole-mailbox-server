/-
  Traces up to the order of the recipients of one broadcast.

  `Mailbox.broadcast_message` walks `self._listeners.values()`: dict order = the order of the
  `add_listener` calls.  `Sys.broadcast` walks the connection table.  Both send the SAME `message`
  frame, with the same `synced` flag, once to every listener; so a broadcast contributes to the
  trace a block `cs.map (fun c => frame c f sy)` in one model and `cs'.map …` in the other with
  `cs ~ cs'` (`List.Perm`).  `TraceEq` is equality of traces modulo such blocks.
-/
import Wormhole.Inv.RegFrame

namespace Wormhole

def Frame.isMessage : Frame → Bool
  | .message _ _ _ _ _ => true
  | _ => false

/-- equal up to the order of the recipients inside each broadcast batch -/
inductive TraceEq : List Event → List Event → Prop
  | nil : TraceEq [] []
  | cons (e : Event) {a b : List Event} : TraceEq a b → TraceEq (e :: a) (e :: b)
  | batch (f : Frame) (sy : Bool) {cs cs' : List Nat} {a b : List Event} : f.isMessage = true → cs.Perm cs' →
      TraceEq a b →
      TraceEq (cs.map (fun c => Event.frame c f sy) ++ a) (cs'.map (fun c => Event.frame c f sy) ++ b)

namespace TraceEq

theorem refl : ∀ (a : List Event), TraceEq a a
  | [] => .nil
  | e :: a => .cons e (refl a)

theorem of_eq {a b : List Event} (h : a = b) : TraceEq a b := h ▸ refl a

theorem symm {a b : List Event} (h : TraceEq a b) : TraceEq b a := by
  induction h with
  | nil => exact .nil
  | cons e _ ih => exact .cons e ih
  | batch f sy hf hp _ ih => exact .batch f sy hf hp.symm ih

theorem append {a b c d : List Event} (h1 : TraceEq a b) (h2 : TraceEq c d) : TraceEq (a ++ c) (b ++ d) := by
  induction h1 with
  | nil => exact h2
  | cons e _ ih => exact .cons e ih
  | batch f sy hf hp _ ih =>
    rw [List.append_assoc, List.append_assoc]
    exact .batch f sy hf hp ih

theorem perm {a b : List Event} (h : TraceEq a b) : a.Perm b := by
  induction h with
  | nil => exact .refl _
  | cons e _ ih => exact ih.cons e
  | batch f sy _ hp _ ih => exact (hp.map _).append ih

theorem length_eq {a b : List Event} (h : TraceEq a b) : a.length = b.length := h.perm.length_eq

/-- everything that is not a `message` frame appears at the same position, in the same order -/
theorem filter_not_message {a b : List Event} (h : TraceEq a b) :
    a.filter (fun e => match e with | .frame _ f _ => !f.isMessage | _ => true) =
      b.filter (fun e => match e with | .frame _ f _ => !f.isMessage | _ => true) := by
  induction h with
  | nil => rfl
  | cons e _ ih => simp only [List.filter_cons, ih]
  | batch f sy hf _ _ ih =>
    rw [List.filter_append, List.filter_append, ih]
    congr 1
    rw [List.filter_eq_nil_iff.2, List.filter_eq_nil_iff.2]
    · intro e he
      obtain ⟨c, _, rfl⟩ := List.mem_map.1 he
      simp [hf]
    · intro e he
      obtain ⟨c, _, rfl⟩ := List.mem_map.1 he
      simp [hf]

/-- what each connection receives, in order, is the same in both traces -/
theorem filter_conn {a b : List Event} (h : TraceEq a b) (c : Nat) :
    a.filter (fun e => match e with | .frame c' _ _ => decide (c' = c) | _ => false) =
      b.filter (fun e => match e with | .frame c' _ _ => decide (c' = c) | _ => false) := by
  induction h with
  | nil => rfl
  | cons e _ ih => simp only [List.filter_cons, ih]
  | batch f sy _ hp _ ih =>
    rw [List.filter_append, List.filter_append, ih]
    congr 1
    rename_i cs cs' _ _ _
    have key : ∀ l : List Nat,
        (l.map (fun c => Event.frame c f sy)).filter (fun e => match e with | .frame c' _ _ => decide (c' = c) | _ => false) =
          List.replicate (l.count c) (Event.frame c f sy) := by
      intro l
      induction l with
      | nil => rfl
      | cons d l ih =>
        simp only [List.map_cons, List.filter_cons, List.count_cons]
        by_cases e : d = c
        · subst e; simp [ih, List.replicate_succ]
        · simp [e, ih]
    rw [key, key, hp.count_eq]

theorem cutAtCommit {a b : List Event} (h : TraceEq a b) : ∀ k, TraceEq (Sys.cutAtCommit k a) (Sys.cutAtCommit k b) := by
  induction h with
  | nil => intro k; cases k <;> exact .nil
  | cons e _ ih =>
    intro k
    cases k with
    | zero => exact .nil
    | succ k =>
      cases e with
      | commit w => exact .cons _ (ih k)
      | frame c f sy => exact .cons _ (ih (k + 1))
      | internal c cls => exact .cons _ (ih (k + 1))
      | fired n o => exact .cons _ (ih (k + 1))
  | batch f sy hf hp _ ih =>
    intro k
    cases k with
    | zero => simp only [Sys.cutAtCommit]; exact .nil
    | succ k =>
      have key : ∀ (l : List Nat) (t : List Event),
          Sys.cutAtCommit (k + 1) (l.map (fun c => Event.frame c f sy) ++ t) =
            l.map (fun c => Event.frame c f sy) ++ Sys.cutAtCommit (k + 1) t := by
        intro l t
        induction l with
        | nil => rfl
        | cons d l ih2 => simp only [List.map_cons, List.cons_append, Sys.cutAtCommit, ih2]
      rw [key, key]
      exact .batch f sy hf hp (ih (k + 1))

end TraceEq

/-- equal states, except that the events of the current step agree only up to `TraceEq` -/
structure OutEq (a b : Sys) : Prop where
  rest : ({ a with out := [] } : Sys) = { b with out := [] }
  out : TraceEq a.out b.out

namespace OutEq

theorem refl (a : Sys) : OutEq a a := ⟨rfl, .refl _⟩
theorem of_eq {a b : Sys} (h : a = b) : OutEq a b := h ▸ refl a

theorem symm {a b : Sys} (h : OutEq a b) : OutEq b a := ⟨h.rest.symm, h.out.symm⟩

section
variable {a b : Sys} (h : OutEq a b)
include h
theorem fields : a.cfg = b.cfg ∧ a.db = b.db ∧ a.disk = b.disk ∧ a.udb = b.udb ∧ a.udisk = b.udisk ∧
    a.conns = b.conns ∧ a.rebooted = b.rebooted ∧ a.snaps = b.snaps := by
  have := h.rest
  simp only [Sys.mk.injEq, true_and] at this
  obtain ⟨h1, h2, h3, h4, h5, h6, h7, h8⟩ := this
  exact ⟨h1, h2, h3, h4, h5, h6, h7, h8⟩
theorem cfg : a.cfg = b.cfg := h.fields.1
theorem db : a.db = b.db := h.fields.2.1
theorem disk : a.disk = b.disk := h.fields.2.2.1
theorem udb : a.udb = b.udb := h.fields.2.2.2.1
theorem udisk : a.udisk = b.udisk := h.fields.2.2.2.2.1
theorem conns : a.conns = b.conns := h.fields.2.2.2.2.2.1
theorem rebooted : a.rebooted = b.rebooted := h.fields.2.2.2.2.2.2.1
theorem snaps : a.snaps = b.snaps := h.fields.2.2.2.2.2.2.2

/-- the next operation does not see the difference: a step starts by clearing `out` -/
theorem step_eq (op : Op) : a.step op = b.step op := by
  have : ({ a with out := [], snaps := [] } : Sys) = { b with out := [], snaps := [] } := by
    obtain ⟨h1, h2, h3, h4, h5, h6, h7, _⟩ := h.fields
    simp only [Sys.mk.injEq]
    exact ⟨h1, h2, h3, h4, h5, h6, h7, trivial, trivial⟩
  have e1 : ∀ s : Sys, s.step op = ({ s with out := [], snaps := [] } : Sys).step op := fun _ => rfl
  rw [e1 a, e1 b, this]
end

theorem crashTo {a b : Sys} (h : OutEq a b) (p : Chan × Usage) : OutEq (a.crashTo p) (b.crashTo p) := by
  obtain ⟨h1, _, _, _, _, _, h7, h8⟩ := h.fields
  refine ⟨?_, h.out⟩
  unfold Sys.crashTo
  simp only [Sys.mk.injEq]
  exact ⟨h1, trivial, trivial, trivial, trivial, trivial, h7, trivial, h8⟩

theorem withOut {a b : Sys} (h : OutEq a b) {o o' : List Event} (ho : TraceEq o o') :
    OutEq { a with out := o } { b with out := o' } := ⟨h.rest, ho⟩

end OutEq
end Wormhole
