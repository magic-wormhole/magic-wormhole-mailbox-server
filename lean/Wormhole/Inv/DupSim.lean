/-
  `UsgRel`, the two-run relation of C14.

  The two runs have the same channel side (`db`, `disk`, `conns`) and the same configuration;
  NOTHING is assumed about the usage databases `udb`, `udisk` (the duplicate of C14 leaves extra
  rows there: a `client_versions` row of its `bind`, a usage `mailboxes` row of a close that
  re-creates and re-deletes a mailbox) or about `rebooted`.  Events are compared after
  `eraseUsage` (Inv/SimDefs.lean), which drops ONLY the effective commits of the usage database:
  every frame (addressee, content — the payload of `nameplates` answers included —, `synced`
  flag), every channel commit, every `internal` and `fired` event is kept, in order.

  `UsgRel` reads the channel side, the configuration and the events erased by `eraseUsage` only, so
  the usage blocks and `dump_stats` preserve it because they are `EStep eraseUsage` (SimCfg.lean).
-/
import Wormhole.Inv.SimCfg

namespace Wormhole
namespace Sys

structure UsgRel (a b : Sys) : Prop where
  chan : ChanEq a b
  cfg : a.cfg = b.cfg
  out : a.out.filterMap eraseUsage = b.out.filterMap eraseUsage

/-- a step that is invisible on the channel side and in the erased trace -/
structure UsgStep (s s' : Sys) : Prop where
  db : s'.db = s.db
  disk : s'.disk = s.disk
  conns : s'.conns = s.conns
  cfg : s'.cfg = s.cfg
  out : s'.out.filterMap eraseUsage = s.out.filterMap eraseUsage

theorem UsgStep.dumpStats (s : Sys) (now : Time) : UsgStep s (s.dumpStats now) :=
  have h := EStep.dumpStats (er := eraseUsage) rfl s now
  ⟨h.db, h.disk, h.conns, h.cfg, h.out⟩

theorem UsgRel.ustep {a b a' b' : Sys} (h : UsgRel a b) (ua : EStep eraseUsage a a') (ub : EStep eraseUsage b b') :
    UsgRel a' b' :=
  ⟨ua.chanEq ub h.chan, by rw [ua.cfg, ub.cfg]; exact h.cfg, ua.out.trans (h.out.trans ub.out.symm)⟩

theorem UsgRel.commit {a b : Sys} (h : UsgRel a b) : UsgRel a.commit b.commit :=
  h.chan.commit_cases h
    ⟨⟨h.chan.1, h.chan.1, h.chan.2.2⟩, h.cfg, by simp [List.filterMap_append, h.out, eraseUsage]⟩

theorem UsgRel.emit {a b : Sys} (h : UsgRel a b) (e : Event) : UsgRel (a.emit e) (b.emit e) :=
  ⟨h.chan, h.cfg, by simp [List.filterMap_append, h.out]⟩

theorem usgRel_simRel : SimRel UsgRel where
  chan h := h.chan
  welcome h := by rw [h.cfg]
  modDb h f := ⟨⟨congrArg f h.chan.1, h.chan.2.1, h.chan.2.2⟩, h.cfg, h.out⟩
  commit h := h.commit
  setConns h _ := ⟨⟨h.chan.1, h.chan.2.1, rfl⟩, h.cfg, h.out⟩
  emit h e := h.emit e
  -- with equal configuration and equal database the answer to `list` is the same frame
  list h ha hb x app := by
    unfold Sys.handleList
    rw [send_of_synced ha, send_of_synced hb, h.cfg, h.chan.1]
    exact h.emit _
  uNp h app sides t p := h.ustep (.uNp _ app sides t p) (.uNp _ app sides t p)
  uMb h app f sides t p := h.ustep (.uMb _ app f sides t p) (.uMb _ app f sides t p)
  uCommit h := h.ustep (.uCommit rfl _) (.uCommit rfl _)
  lcv h app side t i v := h.ustep (.logClientVersion rfl _ app side t i v) (.logClientVersion rfl _ app side t i v)
  restart h _ := ⟨⟨h.chan.2.1, h.chan.2.1, rfl⟩, h.cfg, h.out⟩

theorem UsgRel.dumpStats {a b : Sys} (h : UsgRel a b) (now : Time) : UsgRel (a.dumpStats now) (b.dumpStats now) :=
  h.ustep (.dumpStats rfl a now) (.dumpStats rfl b now)

end Sys

open Sys

/-- the relation between the run with the duplicate and the run without it, BETWEEN operations:
    same channel database as seen by the process (five tables and the AUTOINCREMENT counter), same
    committed channel database, same connection records, same configuration, nothing uncommitted
    in either run, nameplate tables in order.  The usage databases and `rebooted` are free. -/
structure DupSim (s₁ s₂ : Sys) : Prop where
  chan : ChanEq s₁ s₂
  cfg : s₁.cfg = s₂.cfg
  synced₁ : s₁.Synced
  synced₂ : s₂.Synced
  np : s₁.db.NpOk

theorem DupSim_step {s₁ s₂ : Sys} (h : DupSim s₁ s₂) (op : Op) (hop : op.isCrash = false) :
    DupSim (s₁.step op) (s₂.step op) ∧
      (s₁.step op).out.filterMap eraseUsage = (s₂.step op).out.filterMap eraseUsage := by
  rw [step_eq_of_not_crash s₁ hop, step_eq_of_not_crash s₂ hop]
  have w : W UsgRel ({ s₁ with out := [], snaps := [] } : Sys) ({ s₂ with out := [], snaps := [] } : Sys) :=
    ⟨⟨h.chan, h.cfg, rfl⟩, Ok.clear h.synced₁ h.np, Ok.clear h.synced₂ (h.chan.1 ▸ h.np)⟩
  have fin : ∀ {a b : Sys}, W UsgRel a b → DupSim a b ∧ a.out.filterMap eraseUsage = b.out.filterMap eraseUsage :=
    fun w' => ⟨⟨w'.rel.chan, w'.rel.cfg, w'.oka.synced, w'.okb.synced, w'.oka.np⟩, w'.rel.out⟩
  exact w.stepPlain usgRel_simRel op fin fun w1 now _ _ =>
    fin ⟨w1.rel.dumpStats now, w1.oka.dumpStats now, w1.okb.dumpStats now⟩

theorem DupSim_run (ops : List Op) (hops : ∀ op ∈ ops, op.isCrash = false) :
    ∀ {s₁ s₂ : Sys}, DupSim s₁ s₂ →
      DupSim (Sys.run s₁ ops).1 (Sys.run s₂ ops).1 ∧
        (Sys.run s₁ ops).2.filterMap eraseUsage = (Sys.run s₂ ops).2.filterMap eraseUsage :=
  run_sim (S := DupSim) (fun h op hop => DupSim_step h op hop) ops hops

/-! ### what `eraseUsage` keeps -/

theorem eraseUsage_frame (c : Nat) (f : Frame) (b : Bool) : eraseUsage (.frame c f b) = some (.frame c f b) := rfl
theorem eraseUsage_commit_chan : eraseUsage (.commit .chan) = some (.commit .chan) := rfl
theorem eraseUsage_commit_usage : eraseUsage (.commit .usage) = none := rfl
theorem eraseUsage_internal (c : Option Nat) (cls : String) :
    eraseUsage (.internal c cls) = some (.internal c cls) := rfl
theorem eraseUsage_fired (now old : Time) : eraseUsage (.fired now old) = some (.fired now old) := rfl

end Wormhole
