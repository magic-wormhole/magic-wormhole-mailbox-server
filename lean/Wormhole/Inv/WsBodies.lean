/-
  Ws.lean by name: the bodies of `handle_release` and `handle_close` after validation, the
  dispatch of `onMessage` on a bound connection (so that a proof about a handler states the
  `match` it is about once), the two loops of sends (`replay`, `broadcast`); what a look-up
  returns; a `recv` step and a history in two parts as equations.
-/
import Wormhole.Ws

namespace Wormhole
namespace Sys

/-! ### what is closed under `send` is closed under the two loops of sends -/

theorem foldl_send_closed {T : Sys → Prop} (hT : ∀ s c f, T s → T (s.send c f)) {α : Type} (g : α → Nat)
    (fr : α → Frame) (l : List α) : ∀ {s : Sys}, T s → T (l.foldl (fun s a => s.send (g a) (fr a)) s) := by
  induction l with
  | nil => intro s h; exact h
  | cons a l ih => intro s h; exact ih (hT _ _ _ h)

theorem replay_closed {T : Sys → Prop} (hT : ∀ s c f, T s → T (s.send c f)) {s : Sys} (h : T s) (c app mb) :
    T (s.replay c app mb) :=
  foldl_send_closed hT (fun _ => c) (fun m : Message => .message m.side m.phase m.body m.rx m.msgId) _ h

theorem broadcast_closed {T : Sys → Prop} (hT : ∀ s c f, T s → T (s.send c f)) {s : Sys} (h : T s) (app mb f) :
    T (s.broadcast app mb f) :=
  foldl_send_closed hT (fun c => c) (fun _ => f) _ h

/-- a run of `send`s only appends the frames, all with the flag of the start -/
theorem foldl_send_eq {α : Type} (g : α → Nat) (fr : α → Frame) (l : List α) :
    ∀ (s : Sys), l.foldl (fun s a => s.send (g a) (fr a)) s =
      { s with out := s.out ++ l.map (fun a => Event.frame (g a) (fr a) s.synced) } := by
  induction l with
  | nil => intro s; simp
  | cons a l ih =>
    intro s
    rw [List.foldl_cons, ih]
    show ({ s with out := (s.out ++ [_]) ++ _ } : Sys) = _
    rw [List.append_assoc]
    rfl

theorem broadcast_eq (s : Sys) (app mb : String) (f : Frame) :
    s.broadcast app mb f =
      { s with out := s.out ++ (s.listeners app mb).map (fun c => Event.frame c f s.synced) } :=
  foldl_send_eq (fun c => c) (fun _ => f) _ s

/-- `handle_release` for the nameplate `name` -/
def releaseWith (s : Sys) (x : Conn) (app side : String) (t : Time) (name : String) : Sys :=
  match (s.updConn x.id (fun y => { y with didRelease := true })).releaseNameplate app name side t with
  | (s1, true) => s1.send x.id .released
  | (s1, false) => s1.internalErr x.id "IndexError"

/-- `if not self._mailbox: self._mailbox = open_mailbox(...)` of `handle_close`, for the mailbox id `mb`:
    the state, the result of the open and the handle then held -/
def closeOpened (s : Sys) (x : Conn) (app side : String) (t : Time) (mb : String) : Sys × OpenRes × String :=
  match x.mailbox with
  | some h => (s, .ok, h)
  | none =>
    match s.openMailbox app mb side t with
    | (s1, r) => (s1.updConn x.id (fun y => if r = .ok then { y with mailbox := some mb } else y), r, mb)

/-- the rest of `handle_close` -/
def closeFinish (x : Conn) (app side : String) (t : Time) (mood : Option String) : Sys × OpenRes × String → Sys
  | (s1, .crowded, _) => s1.sendError x.id "crowded"
  | (s1, .integrity, _) => s1.internalErr x.id "IntegrityError"
  | (s1, .ok, h) =>
    let s2 := s1.updConn x.id (fun y => { y with listening := false, didClose := true })
    match s2.mailboxClose app h side mood t with
    | (s3, false) => s3.internalErr x.id "IndexError"
    | (s3, true) => (s3.updConn x.id (fun y => { y with mailbox := none })).send x.id .closed

theorem handleRelease_eq (s : Sys) (x : Conn) (app side : String) (t : Time) (nameplate : Option String) :
    s.handleRelease x app side t nameplate =
      if x.didRelease then s.sendError x.id "only one release per connection"
      else match nameplate, x.nameplateId with
        | some n, some held =>
          if n ≠ held then s.sendError x.id "release and claim must use same nameplate"
          else s.releaseWith x app side t n
        | some n, none => s.releaseWith x app side t n
        | none, some held => s.releaseWith x app side t held
        | none, none => s.sendError x.id "release without nameplate must follow claim" := rfl

theorem handleClose_eq (s : Sys) (x : Conn) (app side : String) (t : Time) (mailbox mood : Option String) :
    s.handleClose x app side t mailbox mood =
      if x.didClose then s.sendError x.id "only one close per connection"
      else match mailbox, x.mailboxId with
        | some m, some held =>
          if m ≠ held then s.sendError x.id "open and close must use same mailbox"
          else closeFinish x app side t mood (s.closeOpened x app side t m)
        | some m, none => closeFinish x app side t mood (s.closeOpened x app side t m)
        | none, some held => closeFinish x app side t mood (s.closeOpened x app side t held)
        | none, none => s.sendError x.id "close without mailbox must follow open" := rfl

/-- the dispatch of `onMessage` on a bound connection (`ping` and `bind` are dispatched before) -/
def handleBound (s : Sys) (c : Nat) (x : Conn) (app : String) (t : Time) (id : Val) : Cmd → Sys
  | .list => s.handleList x app
  | .allocate pick draws fresh => s.handleAllocate x app (x.side.getD "") t pick draws fresh
  | .claim n fresh => s.handleClaim x app (x.side.getD "") t n fresh
  | .release n => s.handleRelease x app (x.side.getD "") t n
  | .open_ m => s.handleOpen x app (x.side.getD "") t m
  | .add ph bd => s.handleAdd x app (x.side.getD "") t id ph bd
  | .close m mood => s.handleClose x app (x.side.getD "") t m mood
  | _ => s.sendError c "unknown type"

theorem onMessage_dispatch (s : Sys) (c : Nat) (t : Time) (id : Val) (cmd : Cmd) :
    s.onMessage c t id cmd =
      match s.findConn c with
      | none => s
      | some x =>
        match cmd with
        | .noType => s.sendError c "missing 'type'"
        | .ping v => (s.send c (.ack id)).handlePing c v
        | .bind a sd i v => (s.send c (.ack id)).handleBind x t a sd i v
        | cmd =>
          match x.app with
          | none => (s.send c (.ack id)).sendError c "must bind first"
          | some app => (s.send c (.ack id)).handleBound c x app t id cmd := by
  unfold Sys.onMessage
  cases s.findConn c <;> cases cmd <;> rfl

theorem findConn_id {s : Sys} {c : Nat} {x : Conn} (hx : s.findConn c = some x) : x.id = c := by
  simpa using List.find?_some hx

theorem findConn_mem {s : Sys} {c : Nat} {x : Conn} (hx : s.findConn c = some x) : x ∈ s.conns :=
  List.mem_of_find?_eq_some hx

theorem _root_.Wormhole.mem_namesOfApp {d : Chan} {app n : String} :
    n ∈ d.namesOfApp app ↔ ∃ r ∈ d.nameplates, r.app = app ∧ r.name = n := by
  unfold Chan.namesOfApp
  rw [List.mem_eraseDups, List.mem_map]
  constructor
  · rintro ⟨r, hr, rfl⟩
    rw [List.mem_filter] at hr
    exact ⟨r, hr.1, by simpa using hr.2, rfl⟩
  · rintro ⟨r, hr, ha, rfl⟩
    exact ⟨r, List.mem_filter.2 ⟨hr, by simpa using ha⟩, rfl⟩

theorem _root_.Wormhole.step_recv (s : Sys) (c : Nat) (t : Time) (id : Val) (cmd : Cmd) :
    s.step (.recv c t id cmd) = ({ s with out := [], snaps := [] } : Sys).onMessage c t id cmd := rfl

theorem _root_.Wormhole.step_claim {s : Sys} {c : Nat} {x : Conn} {a : String} (t : Time) (id : Val) (n fresh : String)
    (hx : s.findConn c = some x) (ha : x.app = some a) (hd : x.didClaim = false) :
    s.step (.recv c t id (.claim (some n) fresh)) =
      match (((({ s with out := [], snaps := [] } : Sys).send c (.ack id)).updConn c
          (fun y => { y with didClaim := true, nameplateId := some n })).claimNameplate a n (x.side.getD "") t fresh) with
      | (s1, .ok mb) => s1.send c (.claimed mb)
      | (s1, .crowded) => s1.sendError c "crowded"
      | (s1, .reclaimed) => s1.sendError c "reclaimed"
      | (s1, .integrity) => s1.internalErr c "IntegrityError" := by
  have hid := findConn_id hx
  rw [step_recv]
  unfold Sys.onMessage
  have : ({ s with out := [], snaps := [] } : Sys).findConn c = some x := hx
  rw [this]
  simp only [ha]
  unfold Sys.handleClaim
  simp only [hd, hid]
  rfl

theorem run_cons (s : Sys) (op : Op) (rest : List Op) :
    run s (op :: rest) = ((run (s.step op) rest).1, (s.step op).out ++ (run (s.step op) rest).2) := rfl

theorem run_append (s : Sys) (l₁ l₂ : List Op) :
    run s (l₁ ++ l₂) = ((run (run s l₁).1 l₂).1, (run s l₁).2 ++ (run (run s l₁).1 l₂).2) := by
  induction l₁ generalizing s with
  | nil => simp [run]
  | cons op rest ih => simp [run, ih]

end Sys
end Wormhole
