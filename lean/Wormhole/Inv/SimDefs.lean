/-
  Two runs of `Sys.step` on related states: the definitions.

  The runs are compared by a relation `R : Sys → Sys → Prop` of which only a handful of closure
  properties are needed (`SimRel R`): `R` is preserved when both runs do the SAME channel-side
  primitive (`modDb`, `commit`, a replacement of the connection table, `emit`), and when both
  runs go through the same *usage block* of the code (`uNp`, `uMb`, `uCommit`,
  `logClientVersion`) — the blocks guarded by `if self._usage_db`.  Also here: `R` lifted to the
  results of functions (`ORel`, `SimRes`, `SimOk`, `SimTrue`), the two erasures of events, and
  Core.lean rewritten over the usage blocks.
-/
import Wormhole.Inv.SyncLemmas

namespace Wormhole

/-- same channel side: the channel database as seen by the process, as committed, and the
    connection records -/
def ChanEq (s₁ s₂ : Sys) : Prop := s₁.db = s₂.db ∧ s₁.disk = s₂.disk ∧ s₁.conns = s₂.conns

theorem ChanEq.refl (s : Sys) : ChanEq s s := ⟨rfl, rfl, rfl⟩
theorem ChanEq.symm {a b : Sys} (h : ChanEq a b) : ChanEq b a := ⟨h.1.symm, h.2.1.symm, h.2.2.symm⟩
theorem ChanEq.trans {a b c : Sys} (h : ChanEq a b) (h' : ChanEq b c) : ChanEq a c :=
  ⟨h.1.trans h'.1, h.2.1.trans h'.2.1, h.2.2.trans h'.2.2⟩

/-- `db.commit()` in two runs with the same channel side: effective in both or in neither -/
theorem ChanEq.commit_cases {a b : Sys} (hc : ChanEq a b) {P : Sys → Sys → Prop} (h0 : P a b)
    (h1 : P { a with disk := a.db, out := a.out ++ [.commit .chan], snaps := a.snaps ++ [(a.db, a.udisk)] }
      { b with disk := b.db, out := b.out ++ [.commit .chan], snaps := b.snaps ++ [(b.db, b.udisk)] }) :
    P a.commit b.commit := by
  have e : b.db = b.disk ↔ a.db = a.disk := by rw [hc.1, hc.2.1]
  unfold Sys.commit
  by_cases hq : a.db = a.disk
  · rw [if_pos hq, if_pos (e.2 hq)]; exact h0
  · rw [if_neg hq, if_neg (mt e.1 hq)]; exact h1

/-- What the listing / usage options may change in a trace, erased:
    (a) effective commits of the usage database are dropped;
    (b) the payload of a `nameplates` answer is replaced by `[]`;
    everything else — every other frame with its `synced` flag, channel commits, `internal`
    and `fired` events — is kept. -/
def eraseCfg : Event → Option Event
  | .commit .usage => none
  | .frame c (.nameplates _) b => some (.frame c (.nameplates []) b)
  | e => some e

/-- only the effective commits of the usage database are dropped -/
def eraseUsage : Event → Option Event
  | .commit .usage => none
  | e => some e

theorem filter_isFrame_eraseUsage (l : List Event) :
    (l.filterMap eraseUsage).filter Event.isFrame = l.filter Event.isFrame := by
  rw [List.filter_filterMap, ← List.filterMap_eq_filter]
  congr 1
  funext e
  cases e with
  | commit w => cases w <;> rfl
  | _ => rfl

theorem frames_eq_of_eraseUsage_eq {l₁ l₂ : List Event}
    (h : l₁.filterMap eraseUsage = l₂.filterMap eraseUsage) :
    l₁.filter Event.isFrame = l₂.filter Event.isFrame := by
  rw [← filter_isFrame_eraseUsage l₁, ← filter_isFrame_eraseUsage l₂, h]

namespace Sys

/-! ### the usage blocks of Core.lean -/

/-- `if self._usage_db: _summarize_nameplate_and_store(...)` -/
def uNp (s : Sys) (app : String) (sides : List NpSide) (t : Time) (pruned : Bool) : Sys × Bool :=
  if s.cfg.usage then s.storeNameplateUsage app sides t pruned else (s, true)

/-- `if self._usage_db: _summarize_mailbox_and_store(...)` -/
def uMb (s : Sys) (app : String) (forNp : Bool) (sides : List MbSide) (t : Time) (pruned : Bool) : Sys :=
  if s.cfg.usage then s.storeMailboxUsage app forNp sides t pruned else s

/-- `if self._usage_db: self._usage_db.commit()` -/
def uCommit (s : Sys) : Sys := if s.cfg.usage then s.ucommit else s

/-- the loop of repair F in `Mailbox.close`, guarded -/
def uNps (s : Sys) (app : String) (t : Time) : List Nameplate → Sys × Bool
  | [] => (s, true)
  | np :: rest =>
    match s.uNp app (s.db.npSidesOf np.id) t false with
    | (s1, false) => (s1, false)
    | (s1, true) => uNps s1 app t rest

/-- `expire()` up to, and not including, `dump_stats` -/
def expireCore (s : Sys) (now : Time) (fault : Bool) : Sys :=
  let old := now - Generated.expirationTicks
  let s0 := s.emit (.fired now old)
  if fault then s0.emit (.internal none "OperationalError")
  else match s0.pruneApps now old (s0.allApps) with
    | (s1, true) => s1
    | (s1, false) => s1.emit (.internal none "IndexError")

theorem expire_eq (s : Sys) (now : Time) (fault : Bool) :
    s.expire now fault = (s.expireCore now fault).dumpStats now := rfl

theorem allApps_congr {s s' : Sys} (h : s.db = s'.db) : s.allApps = s'.allApps := by
  unfold allApps
  rw [h]

end Sys

structure SimRel (R : Sys → Sys → Prop) : Prop where
  chan : ∀ {a b}, R a b → ChanEq a b
  welcome : ∀ {a b}, R a b → a.cfg.welcome = b.cfg.welcome
  modDb : ∀ {a b}, R a b → ∀ f, R (a.modDb f) (b.modDb f)
  commit : ∀ {a b}, R a b → R a.commit b.commit
  setConns : ∀ {a b : Sys}, R a b → ∀ l, R { a with conns := l } { b with conns := l }
  emit : ∀ {a b}, R a b → ∀ e, R (a.emit e) (b.emit e)
  /-- the one place `cfg.allowList` is read; both runs are at a point with nothing uncommitted -/
  list : ∀ {a b}, R a b → a.Synced → b.Synced → ∀ x app, R (a.handleList x app) (b.handleList x app)
  uNp : ∀ {a b}, R a b → ∀ app sides t p, R (a.uNp app sides t p).1 (b.uNp app sides t p).1
  uMb : ∀ {a b}, R a b → ∀ app f sides t p, R (a.uMb app f sides t p) (b.uMb app f sides t p)
  uCommit : ∀ {a b}, R a b → R a.uCommit b.uCommit
  lcv : ∀ {a b}, R a b → ∀ app side t i v,
    R (a.logClientVersion app side t i v) (b.logClientVersion app side t i v)
  restart : ∀ {a b}, R a b → ∀ t, R (a.restart t) (b.restart t)

/-! ### what two runs of one function return

`ORel`, `SimRes` and `SimTrue` come with an eliminator that replaces both results at once, in a
goal that matches on them, by related variables; `SimOk` with the sequencing lemma `SimOk.bind`. -/

variable {R : Sys → Sys → Prop}

def ORel (R : Sys → Sys → Prop) : Option Sys → Option Sys → Prop
  | none, none => True
  | some a, some b => R a b
  | _, _ => False

@[elab_as_elim]
theorem ORel.elim {motive : Option Sys → Option Sys → Prop} {x y : Option Sys}
    (h : ORel R x y) (none : motive none none) (some : ∀ a b, R a b → motive (some a) (some b)) :
    motive x y := by
  cases x <;> cases y
  · exact none
  · exact False.elim h
  · exact False.elim h
  · exact some _ _ h

def SimRes (R : Sys → Sys → Prop) {α : Type} (p q : Sys × α) : Prop := R p.1 q.1 ∧ p.2 = q.2

@[elab_as_elim]
theorem SimRes.elim {α : Type} {motive : Sys × α → Sys × α → Prop} {p q : Sys × α}
    (h : SimRes R p q) (mk : ∀ a b r, R a b → motive (a, r) (b, r)) : motive p q := by
  obtain ⟨a, r⟩ := p
  obtain ⟨b, r'⟩ := q
  obtain ⟨h1, rfl⟩ := h
  exact mk a b r h1

/-- For the functions whose `Bool` says "no exception escaped" (which can depend on the usage
    option: the `IndexError` of `_summarize_nameplate_usage`): related states in the runs in
    which both return `true` (that they do is a one-run fact; with it, `SimTrue`). -/
def SimOk (R : Sys → Sys → Prop) (p q : Sys × Bool) : Prop := p.2 = true → q.2 = true → R p.1 q.1

theorem SimOk.of_rel {a b : Sys} {x y : Bool} (h : R a b) : SimOk R (a, x) (b, y) := fun _ _ => h

/-- The shape in which Core.lean sequences two steps that may raise.  (Applies as it stands to the
    equations of this file, `mailboxClose_eq` … `pruneRest_eq`: their `match` is the one below,
    since Lean shares a matcher within a module.) -/
theorem SimOk.bind {p q : Sys × Bool} {k k' : Sys → Sys × Bool} :
    SimOk R p q → (∀ {a b}, R a b → SimOk R (k a) (k' b)) →
      SimOk R (match p with | (s, false) => (s, false) | (s, true) => k s)
        (match q with | (s, false) => (s, false) | (s, true) => k' s) := by
  intro h hk
  obtain ⟨a, _ | _⟩ := p
  · exact fun h => nomatch h
  · obtain ⟨b, _ | _⟩ := q
    · exact fun _ h => nomatch h
    · exact hk (h rfl rfl)

theorem snd_bind_true {p : Sys × Bool} {k : Sys → Sys × Bool} (hp : p.2 = true) (hk : ∀ s, (k s).2 = true) :
    (match p with | (s, false) => (s, false) | (s, true) => k s).2 = true := by
  obtain ⟨s, _ | _⟩ := p
  · exact nomatch hp
  · exact hk s

def SimTrue (R : Sys → Sys → Prop) (p q : Sys × Bool) : Prop := R p.1 q.1 ∧ p.2 = true ∧ q.2 = true

@[elab_as_elim]
theorem SimTrue.elim {motive : Sys × Bool → Sys × Bool → Prop} {p q : Sys × Bool}
    (h : SimTrue R p q) (mk : ∀ a b, R a b → motive (a, true) (b, true)) : motive p q := by
  obtain ⟨a, r⟩ := p
  obtain ⟨b, r'⟩ := q
  obtain ⟨h1, rfl, rfl⟩ := h
  exact mk a b h1

namespace Sys

section blocks
variable (s : Sys)

theorem send_of_synced {s : Sys} (hs : s.Synced) (c : Nat) (f : Frame) : s.send c f = s.emit (.frame c f true) := by
  unfold send
  rw [(synced_iff s).2 hs]

theorem uNp_spec (app sides t p) :
    UOnly s (s.uNp app sides t p).1 ∧ (sides ≠ [] → (s.uNp app sides t p).2 = true) := by
  unfold uNp
  split
  · exact storeNameplateUsage_spec rfl
  · exact ⟨UOnly.refl s, fun _ => rfl⟩

@[simp] theorem uNp_db (app sides t p) : (s.uNp app sides t p).1.db = s.db := (s.uNp_spec app sides t p).1.db
@[simp] theorem uNp_cfg (app sides t p) : (s.uNp app sides t p).1.cfg = s.cfg := (s.uNp_spec app sides t p).1.cfg
@[simp] theorem uMb_db (app f sides t p) : (s.uMb app f sides t p).db = s.db := by
  unfold uMb; split <;> rfl
@[simp] theorem uMb_cfg (app f sides t p) : (s.uMb app f sides t p).cfg = s.cfg := by
  unfold uMb; split <;> rfl
@[simp] theorem uCommit_db : s.uCommit.db = s.db := by unfold uCommit; split <;> simp
@[simp] theorem uCommit_cfg : s.uCommit.cfg = s.cfg := by unfold uCommit; split <;> simp

end blocks

/-! ### Core.lean rewritten over the blocks -/

theorem closeStore_eq_uNps (app : String) (t : Time) (l : List Nameplate) :
    ∀ s : Sys, (if s.cfg.usage then s.storeNameplatesOfMailbox app t l else (s, true)) = s.uNps app t l := by
  induction l with
  | nil => intro s; simp [storeNameplatesOfMailbox, uNps]
  | cons np rest ih =>
    intro s
    unfold storeNameplatesOfMailbox uNps
    by_cases hu : s.cfg.usage = true
    · simp only [hu, ↓reduceIte, uNp]
      cases e : s.storeNameplateUsage app (s.db.npSidesOf np.id) t false with
      | mk s1 b =>
        cases b with
        | false => rfl
        | true =>
          have hc : s1.cfg.usage = true := by rw [(storeNameplateUsage_spec e).1.cfg]; exact hu
          have := ih s1
          simp only [hc, ↓reduceIte] at this
          exact this
    · have := ih s
      simp only [hu, uNp] at this ⊢
      exact this

theorem uNps_true {app : String} {t : Time} {l : List Nameplate} {s : Sys}
    (h : ∀ n ∈ l, s.db.npSidesOf n.id ≠ []) : (s.uNps app t l).2 = true :=
  (closeStore_spec (closeStore_eq_uNps app t l s)).2.1 h

theorem mailboxClose_eq (s : Sys) (app mb side : String) (mood : Option String) (t : Time) :
    s.mailboxClose app mb side mood t =
      match s.db.findMailbox app mb with
      | none => (s, true)
      | some row =>
        match s.db.findMbSide mb side with
        | none => (s, true)
        | some _ =>
          let s1 := (s.modDb (·.closeSide mb side mood)).commit
          let sideRows := s1.db.mbSidesOf mb
          if sideRows.any (·.opened) then (s1, true)
          else
            match s1.uNps app t (s1.db.nameplatesOfMailbox app mb) with
            | (s2, false) => (s2, false)
            | (s2, true) =>
              let s3 := s2.modDb (fun d =>
                ((((d.delNpSidesOfMailbox app mb).delNameplatesOfMailbox app mb).delMessagesOf mb).delMbSidesOf
                  mb).delMailbox mb)
              ((((s3.uMb app row.forNp sideRows t false).uCommit).commit).stopListeners app mb, true) := by
  unfold mailboxClose
  cases s.db.findMailbox app mb with
  | none => rfl
  | some row =>
    dsimp only
    cases s.db.findMbSide mb side with
    | none => rfl
    | some r =>
      dsimp only
      split
      · rfl
      · rw [closeStore_eq_uNps]
        cases e : ((s.modDb (·.closeSide mb side mood)).commit).uNps app t
            (((s.modDb (·.closeSide mb side mood)).commit).db.nameplatesOfMailbox app mb) with
        | mk s2 ok =>
          cases ok with
          | false => rfl
          | true =>
            dsimp only
            simp only [Bool.not_true, Bool.false_eq_true, ↓reduceIte, uMb, uCommit, modDb_cfg]
            by_cases hu : s2.cfg.usage = true <;> simp [hu, storeMailboxUsage]

theorem releaseNameplate_eq (s : Sys) (app name side : String) (t : Time) :
    s.releaseNameplate app name side t =
      match s.db.findNameplate app name with
      | none => (s, true)
      | some np =>
        match s.db.findNpSide np.id side with
        | none => (s, true)
        | some _ =>
          let s1 := (s.modDb (·.unclaim np.id side)).commit
          let sideRows := s1.db.npSidesOf np.id
          if sideRows.any (·.claimed) then (s1, true)
          else
            let s2 := s1.modDb (fun d => (d.delNpSidesOf np.id).delNameplate np.id)
            match s2.uNp app sideRows t false with
            | (s3, false) => (s3, false)
            | (s3, true) => ((s3.uCommit).commit, true) := by
  unfold releaseNameplate
  cases s.db.findNameplate app name with
  | none => rfl
  | some np =>
    dsimp only
    cases s.db.findNpSide np.id side with
    | none => rfl
    | some r =>
      dsimp only
      split
      · rfl
      · unfold uNp
        split
        · rename_i hu
          split
          · rename_i s3 e
            simp only [e]
          · rename_i s3 e
            have hc : s3.cfg.usage = true := by rw [(storeNameplateUsage_spec e).1.cfg]; exact hu
            simp only [e, uCommit, hc, ↓reduceIte]
        · rename_i hu
          simp only [uCommit, hu]
          rfl

theorem pruneNameplates_cons (s : Sys) (app : String) (now : Time) (np : Nameplate) (rest : List Nameplate) :
    s.pruneNameplates app now (np :: rest) =
      match (s.modDb (fun d => (d.delNpSidesOf np.id).delNameplate np.id)).uNp app (s.db.npSidesOf np.id) now true with
      | (s2, false) => (s2, false)
      | (s2, true) => s2.pruneNameplates app now rest := by
  rw [pruneNameplates]
  unfold uNp
  split
  · rfl
  · rfl

theorem pruneMailboxes_cons (s : Sys) (app : String) (now : Time) (row : MailboxRow) (rest : List MailboxRow) :
    s.pruneMailboxes app now (row :: rest) =
      ((s.modDb (fun d => ((d.delMessagesOf row.id).delMbSidesOf row.id).delMailbox row.id)).uMb app row.forNp
        (s.db.mbSidesOf row.id) now true).pruneMailboxes app now rest := rfl

theorem pruneApps_cons (s : Sys) (now old : Time) (app : String) (rest : List String) :
    s.pruneApps now old (app :: rest) =
      match s.prune app now old with
      | (s1, false) => (s1, false)
      | (s1, true) => s1.pruneApps now old rest := rfl

theorem pruneRest_eq (s1 : Sys) (app : String) (now : Time) (oldMb : List MailboxRow) (oldNp : List Nameplate) :
    pruneRest s1 app now oldMb oldNp =
      match s1.pruneNameplates app now oldNp with
      | (s2, false) => (s2, false)
      | (s2, true) =>
        let s3 := s2.pruneMailboxes app now oldMb
        if oldNp ≠ [] ∨ oldMb ≠ [] then ((s3.commit).uCommit, true) else (s3, true) := rfl

end Sys
end Wormhole
