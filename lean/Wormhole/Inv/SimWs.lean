/-
  Two runs of server_websocket.py.

  `W R a b` = the two runs are related by `R` and both are at a point of a step where every
  frame so far was sent with nothing uncommitted, nothing is uncommitted now, and the nameplate
  tables are in order (`Sys.Ok`, the invariant of C09).  `Ok` is what makes the `synced` flag
  of every frame `true` in BOTH runs (so frames can be compared with their flags), and what
  rules out the `IndexError` branches whose reachability would depend on the usage option.

  Result: every handler, `onMessage`, `connect`, `dropConn` and the sweep up to `dump_stats`
  preserve `W R`, for every `R` with `SimRel R`.
-/
import Wormhole.Inv.SimCore

namespace Wormhole
namespace Sys

structure W (R : Sys → Sys → Prop) (a b : Sys) : Prop where
  rel : R a b
  oka : a.Ok
  okb : b.Ok

variable {R : Sys → Sys → Prop}

section
variable (hR : SimRel R) {a b : Sys}
include hR

theorem W.send (w : W R a b) (c : Nat) (f : Frame) : W R (a.send c f) (b.send c f) := by
  refine ⟨?_, w.oka.send c f, w.okb.send c f⟩
  rw [send_of_synced w.oka.synced, send_of_synced w.okb.synced]
  exact hR.emit w.rel _

theorem W.sendError (w : W R a b) (c : Nat) (t : String) : W R (a.sendError c t) (b.sendError c t) :=
  w.send hR c _

theorem W.internalErr (w : W R a b) (c : Nat) (cls : String) : W R (a.internalErr c cls) (b.internalErr c cls) :=
  ⟨hR.emit w.rel _, w.oka.internalErr c cls, w.okb.internalErr c cls⟩

theorem W.updConn (w : W R a b) (c : Nat) (f : Conn → Conn) : W R (a.updConn c f) (b.updConn c f) :=
  ⟨updConn_sim hR w.rel c f, w.oka.updConn c f, w.okb.updConn c f⟩

/-! ### the pair-returning functions of Core.lean, at the level of `W` -/

theorem W.claimNameplate_sim (w : W R a b) (app name side : String) (t : Time) (fresh : String) :
    SimRes (W R) (a.claimNameplate app name side t fresh) (b.claimNameplate app name side t fresh) :=
  have h := Sys.claimNameplate_sim hR w.rel app name side t fresh
  ⟨⟨h.1, w.oka.claimNameplate rfl, w.okb.claimNameplate rfl⟩, h.2⟩

theorem W.claimNameplate (w : W R a b) {app name side : String} {t : Time} {fresh : String} {a1 b1 : Sys}
    {ra rb : ClaimRes} (ea : a.claimNameplate app name side t fresh = (a1, ra))
    (eb : b.claimNameplate app name side t fresh = (b1, rb)) : W R a1 b1 ∧ ra = rb := by
  have h := w.claimNameplate_sim hR app name side t fresh
  rw [ea, eb] at h
  exact h

theorem W.releaseNameplate_sim (w : W R a b) (app name side : String) (t : Time) :
    SimTrue (W R) (a.releaseNameplate app name side t) (b.releaseNameplate app name side t) :=
  have ta := a.releaseNameplate_true app name side t
  have tb := b.releaseNameplate_true app name side t
  ⟨⟨Sys.releaseNameplate_sim hR w.rel app name side t ta tb, w.oka.releaseNameplate rfl, w.okb.releaseNameplate rfl⟩,
    ta, tb⟩

theorem W.releaseNameplate (w : W R a b) {app name side : String} {t : Time} {a1 b1 : Sys} {ba bb : Bool}
    (ea : a.releaseNameplate app name side t = (a1, ba)) (eb : b.releaseNameplate app name side t = (b1, bb)) :
    W R a1 b1 ∧ ba = true ∧ bb = true := by
  have h := w.releaseNameplate_sim hR app name side t
  rw [ea, eb] at h
  exact h

theorem W.openMailbox_sim (w : W R a b) (app mb side : String) (t : Time) :
    SimRes (W R) (a.openMailbox app mb side t) (b.openMailbox app mb side t) :=
  have h := Sys.openMailbox_sim hR w.rel app mb side t
  ⟨⟨h.1, w.oka.openMailbox rfl, w.okb.openMailbox rfl⟩, h.2⟩

theorem W.openMailbox (w : W R a b) {app mb side : String} {t : Time} {a1 b1 : Sys} {ra rb : OpenRes}
    (ea : a.openMailbox app mb side t = (a1, ra)) (eb : b.openMailbox app mb side t = (b1, rb)) :
    W R a1 b1 ∧ ra = rb := by
  have h := w.openMailbox_sim hR app mb side t
  rw [ea, eb] at h
  exact h

theorem W.mailboxClose_sim (w : W R a b) (app mb side : String) (mood : Option String) (t : Time) :
    SimTrue (W R) (a.mailboxClose app mb side mood t) (b.mailboxClose app mb side mood t) :=
  have ta := a.mailboxClose_true app mb side mood t w.oka.np.hasSide
  have tb := b.mailboxClose_true app mb side mood t w.okb.np.hasSide
  ⟨⟨Sys.mailboxClose_sim hR w.rel app mb side mood t ta tb, w.oka.mailboxClose rfl, w.okb.mailboxClose rfl⟩, ta, tb⟩

theorem W.mailboxClose (w : W R a b) {app mb side : String} {mood : Option String} {t : Time} {a1 b1 : Sys}
    {ba bb : Bool} (ea : a.mailboxClose app mb side mood t = (a1, ba))
    (eb : b.mailboxClose app mb side mood t = (b1, bb)) : W R a1 b1 ∧ ba = true ∧ bb = true := by
  have h := w.mailboxClose_sim hR app mb side mood t
  rw [ea, eb] at h
  exact h

theorem W.addMessage (w : W R a b) (app mb side : String) (ph bd : Val) (t : Time) (id : Val) :
    W R (a.addMessage app mb side ph bd t id) (b.addMessage app mb side ph bd t id) :=
  ⟨addMessage_sim hR w.rel _ _ _ _ _ _ _, w.oka.addMessage _ _ _ _ _ _ _, w.okb.addMessage _ _ _ _ _ _ _⟩

theorem W.logClientVersion (w : W R a b) (app side : String) (t : Time) (i v : Option String) :
    W R (a.logClientVersion app side t i v) (b.logClientVersion app side t i v) :=
  ⟨hR.lcv w.rel _ _ _ _ _, w.oka.logClientVersion _ _ _ _ _, w.okb.logClientVersion _ _ _ _ _⟩

theorem W.foldl_send {α : Type} (g : α → Nat) (fr : α → Frame) (l : List α) :
    ∀ {a b : Sys}, W R a b →
      W R (l.foldl (fun s x => s.send (g x) (fr x)) a) (l.foldl (fun s x => s.send (g x) (fr x)) b) := by
  induction l with
  | nil => intro a b w; exact w
  | cons x l ih => intro a b w; exact ih (w.send hR _ _)

theorem W.handlePing (w : W R a b) (c : Nat) (v : Option Val) : W R (a.handlePing c v) (b.handlePing c v) := by
  unfold Sys.handlePing
  cases v with
  | none => exact w.sendError hR _ _
  | some v => exact w.send hR _ _

theorem W.handleBind (w : W R a b) (x : Conn) (t : Time) (app side impl version : Option String) :
    W R (a.handleBind x t app side impl version) (b.handleBind x t app side impl version) := by
  unfold Sys.handleBind
  split
  · exact w.sendError hR _ _
  · cases app with
    | none => exact w.sendError hR _ _
    | some ap =>
      cases side with
      | none => exact w.sendError hR _ _
      | some sd => exact (w.updConn hR _ _).logClientVersion hR _ _ _ _ _

theorem W.handleList (w : W R a b) (x : Conn) (app : String) : W R (a.handleList x app) (b.handleList x app) :=
  ⟨hR.list w.rel w.oka.synced w.okb.synced x app, w.oka.handleList x app, w.okb.handleList x app⟩

theorem W.handleAllocate (w : W R a b) (x : Conn) (app side : String) (t : Time) (pick : Nat) (draws : List Nat)
    (fresh : String) :
    W R (a.handleAllocate x app side t pick draws fresh) (b.handleAllocate x app side t pick draws fresh) := by
  unfold Sys.handleAllocate
  split
  · exact w.sendError hR _ _
  · rw [← hR.db w.rel]
    cases findAvailable (a.db.namesOfApp app) pick draws with
    | none => exact w.internalErr hR _ _
    | some name =>
      dsimp only
      refine (w.claimNameplate_sim hR app name side t fresh).elim fun a1 b1 r w1 => ?_
      cases r with
      | ok m => exact (w1.updConn hR _ _).send hR _ _
      | crowded => exact w1.internalErr hR _ _
      | reclaimed => exact w1.internalErr hR _ _
      | integrity => exact w1.internalErr hR _ _

theorem W.handleClaim (w : W R a b) (x : Conn) (app side : String) (t : Time) (n : Option String)
    (fresh : String) : W R (a.handleClaim x app side t n fresh) (b.handleClaim x app side t n fresh) := by
  unfold Sys.handleClaim
  cases n with
  | none => exact w.sendError hR _ _
  | some name =>
    dsimp only
    split
    · exact w.sendError hR _ _
    · refine ((w.updConn hR x.id _).claimNameplate_sim hR app name side t fresh).elim fun a1 b1 r w1 => ?_
      cases r with
      | ok m => exact w1.send hR _ _
      | crowded => exact w1.sendError hR _ _
      | reclaimed => exact w1.sendError hR _ _
      | integrity => exact w1.internalErr hR _ _

theorem W.releaseWith (w : W R a b) (x : Conn) (app side : String) (t : Time) (name : String) :
    W R (a.releaseWith x app side t name) (b.releaseWith x app side t name) := by
  unfold Sys.releaseWith
  exact ((w.updConn hR x.id _).releaseNameplate_sim hR app name side t).elim fun a1 b1 w1 => w1.send hR _ _

theorem W.handleRelease (w : W R a b) (x : Conn) (app side : String) (t : Time) (n : Option String) :
    W R (a.handleRelease x app side t n) (b.handleRelease x app side t n) := by
  rw [handleRelease_eq, handleRelease_eq]
  split
  · exact w.sendError hR _ _
  · split
    · split
      · exact w.sendError hR _ _
      · exact w.releaseWith hR _ _ _ _ _
    · exact w.releaseWith hR _ _ _ _ _
    · exact w.releaseWith hR _ _ _ _ _
    · exact w.sendError hR _ _

theorem W.replay (w : W R a b) (c : Nat) (app mb : String) : W R (a.replay c app mb) (b.replay c app mb) := by
  unfold Sys.replay
  rw [← hR.db w.rel]
  exact W.foldl_send hR (fun _ => c) (fun (m : Message) => .message m.side m.phase m.body m.rx m.msgId) _ w

theorem W.broadcast (w : W R a b) (app mb : String) (f : Frame) :
    W R (a.broadcast app mb f) (b.broadcast app mb f) := by
  unfold Sys.broadcast Sys.listeners
  rw [← hR.conns w.rel]
  exact W.foldl_send hR (fun c => c) (fun _ => f) _ w

theorem W.handleOpen (w : W R a b) (x : Conn) (app side : String) (t : Time) (m : Option String) :
    W R (a.handleOpen x app side t m) (b.handleOpen x app side t m) := by
  unfold Sys.handleOpen
  split
  · exact w.sendError hR _ _
  · cases m with
    | none => exact w.sendError hR _ _
    | some mb =>
      dsimp only
      refine ((w.updConn hR x.id _).openMailbox_sim hR app mb side t).elim fun a1 b1 r w1 => ?_
      cases r with
      | crowded => exact w1.sendError hR _ _
      | integrity => exact w1.internalErr hR _ _
      | ok => exact (w1.updConn hR _ _).replay hR _ _ _

theorem W.handleAdd (w : W R a b) (x : Conn) (app side : String) (t : Time) (id : Val) (ph bd : Option Val) :
    W R (a.handleAdd x app side t id ph bd) (b.handleAdd x app side t id ph bd) := by
  unfold Sys.handleAdd
  cases x.mailbox with
  | none => exact w.sendError hR _ _
  | some mb =>
    cases ph with
    | none => exact w.sendError hR _ _
    | some p =>
      cases bd with
      | none => exact w.sendError hR _ _
      | some d => exact (w.addMessage hR _ _ _ _ _ _ _).broadcast hR _ _ _

theorem W.closeOpened_sim (w : W R a b) (x : Conn) (app side : String) (t : Time) (mb : String) :
    SimRes (W R) (a.closeOpened x app side t mb) (b.closeOpened x app side t mb) := by
  unfold Sys.closeOpened
  cases x.mailbox with
  | some h => exact ⟨w, rfl⟩
  | none =>
    dsimp only
    exact (w.openMailbox_sim hR app mb side t).elim fun a1 b1 r w1 => ⟨w1.updConn hR _ _, rfl⟩

theorem W.closeFinish {p q : Sys × OpenRes × String} (h : SimRes (W R) p q) (x : Conn) (app side : String)
    (t : Time) (mood : Option String) :
    W R (Sys.closeFinish x app side t mood p) (Sys.closeFinish x app side t mood q) := by
  refine h.elim fun a1 b1 ⟨r, hd⟩ w => ?_
  unfold Sys.closeFinish
  cases r with
  | crowded => exact w.sendError hR _ _
  | integrity => exact w.internalErr hR _ _
  | ok =>
    dsimp only
    exact ((w.updConn hR x.id _).mailboxClose_sim hR app hd side mood t).elim fun a3 b3 w3 =>
      (w3.updConn hR _ _).send hR _ _

theorem W.handleClose (w : W R a b) (x : Conn) (app side : String) (t : Time) (m mood : Option String) :
    W R (a.handleClose x app side t m mood) (b.handleClose x app side t m mood) := by
  rw [handleClose_eq, handleClose_eq]
  split
  · exact w.sendError hR _ _
  · split
    · split
      · exact w.sendError hR _ _
      · exact W.closeFinish hR (w.closeOpened_sim hR _ _ _ _ _) _ _ _ _ _
    · exact W.closeFinish hR (w.closeOpened_sim hR _ _ _ _ _) _ _ _ _ _
    · exact W.closeFinish hR (w.closeOpened_sim hR _ _ _ _ _) _ _ _ _ _
    · exact w.sendError hR _ _

theorem W.handleBound (w : W R a b) (c : Nat) (x : Conn) (app : String) (t : Time) (id : Val) (cmd : Cmd) :
    W R (a.handleBound c x app t id cmd) (b.handleBound c x app t id cmd) := by
  cases cmd with
  | list => exact w.handleList hR _ _
  | allocate pick draws fresh => exact w.handleAllocate hR _ _ _ _ _ _ _
  | claim n fresh => exact w.handleClaim hR _ _ _ _ _ _
  | release n => exact w.handleRelease hR _ _ _ _ _
  | open_ m => exact w.handleOpen hR _ _ _ _ _
  | add ph bd => exact w.handleAdd hR _ _ _ _ _ _ _
  | close m mood => exact w.handleClose hR _ _ _ _ _ _
  | _ => exact w.sendError hR _ _

theorem W.onMessage (w : W R a b) (c : Nat) (t : Time) (id : Val) (cmd : Cmd) :
    W R (a.onMessage c t id cmd) (b.onMessage c t id cmd) := by
  rw [onMessage_dispatch, onMessage_dispatch]
  unfold Sys.findConn
  rw [← hR.conns w.rel]
  cases a.conns.find? (fun x => x.id = c) with
  | none => exact w
  | some x =>
    have wa := w.send hR c (.ack id)
    cases cmd with
    | noType => exact w.sendError hR _ _
    | ping v => exact wa.handlePing hR _ _
    | bind ap sd i v => exact wa.handleBind hR _ _ _ _ _ _
    | _ =>
      dsimp only
      cases x.app with
      | none => exact wa.sendError hR _ _
      | some app => exact wa.handleBound hR _ _ _ _ _ _

theorem W.setConns (w : W R a b) (l : List Conn) : W R { a with conns := l } { b with conns := l } :=
  ⟨hR.setConns w.rel l, ⟨w.oka.frames, w.oka.synced, w.oka.np⟩, ⟨w.okb.frames, w.okb.synced, w.okb.np⟩⟩

theorem W.connect (w : W R a b) (c : Nat) : W R (a.connect c) (b.connect c) := by
  unfold Sys.connect
  rw [← hR.conns w.rel, ← hR.welcome w.rel]
  exact (w.setConns hR _).send hR _ _

theorem W.dropConn (w : W R a b) (c : Nat) : W R (a.dropConn c) (b.dropConn c) := by
  unfold Sys.dropConn
  rw [← hR.conns w.rel]
  exact w.setConns hR _

theorem W.restart (w : W R a b) (t : Time) : W R (a.restart t) (b.restart t) :=
  ⟨hR.restart w.rel t, w.oka.restart t, w.okb.restart t⟩

end

theorem Ok.expireCore {s : Sys} (h : s.Ok) (now : Time) (fault : Bool) : (s.expireCore now fault).Ok := by
  unfold Sys.expireCore
  dsimp only
  have h0 := h.emit (.fired now (now - Generated.expirationTicks)) rfl
  split
  · exact h0.emit _ rfl
  · split
    · rename_i e
      exact h0.pruneApps e
    · rename_i e
      exact (h0.pruneApps e).emit _ rfl

theorem Ok.dumpStats {s : Sys} (h : s.Ok) (now : Time) : (s.dumpStats now).Ok :=
  ⟨h.frames.of_frames (by simp), ⟨by simpa using h.synced.1, dumpStats_usync _ _ h.synced.2⟩,
    by simpa using h.np⟩

theorem W.expireCore (hR : SimRel R) {a b : Sys} (w : W R a b) (now : Time) (fault : Bool) :
    W R (a.expireCore now fault) (b.expireCore now fault) :=
  ⟨expireCore_sim hR w.rel w.oka.np now fault, w.oka.expireCore now fault, w.okb.expireCore now fault⟩

/-- **Every operation other than a crash**: `W R` is preserved up to, and not including, the
    `dump_stats` that ends a sweep.  In continuation form: whatever follows from `W R`, and
    follows after `dump_stats` from `W R` before it, holds after the operation. -/
theorem W.stepPlain (hR : SimRel R) {a b : Sys} (w : W R a b) (op : Op) {Q : Sys → Sys → Prop}
    (hq : ∀ {a b}, W R a b → Q a b)
    (hd : ∀ {a b}, W R a b → ∀ now fault, op = .sweep now fault → Q (a.dumpStats now) (b.dumpStats now)) :
    Q (a.stepPlain op) (b.stepPlain op) := by
  cases op with
  | connect c => exact hq (w.connect hR c)
  | recv c t id cmd => exact hq (w.onMessage hR c t id cmd)
  | drop c => exact hq (w.dropConn hR c)
  | sweep now fault => exact hd (w.expireCore hR now fault) now fault rfl
  | restart t => exact hq (w.restart hR t)
  | crashIn k op => exact hq w

theorem run_sim {S : Sys → Sys → Prop} {er : Event → Option Event}
    (hstep : ∀ {s₁ s₂ : Sys}, S s₁ s₂ → ∀ op, op.isCrash = false →
      S (s₁.step op) (s₂.step op) ∧ (s₁.step op).out.filterMap er = (s₂.step op).out.filterMap er)
    (ops : List Op) (hops : ∀ op ∈ ops, op.isCrash = false) :
    ∀ {s₁ s₂ : Sys}, S s₁ s₂ →
      S (run s₁ ops).1 (run s₂ ops).1 ∧ (run s₁ ops).2.filterMap er = (run s₂ ops).2.filterMap er := by
  induction ops with
  | nil => intro s₁ s₂ h; exact ⟨h, rfl⟩
  | cons op rest ih =>
    intro s₁ s₂ h
    obtain ⟨h1, o1⟩ := hstep h op (hops op (by simp))
    obtain ⟨h2, o2⟩ := ih (fun o ho => hops o (by simp [ho])) h1
    simp only [run]
    exact ⟨h2, by rw [List.filterMap_append, List.filterMap_append, o1, o2]⟩

end Sys
end Wormhole
