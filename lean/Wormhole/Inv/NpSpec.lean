/-
  COMMIT POINTS: a step leaves behind, besides its final state, the states it committed on the
  way (`Sys.snaps`, the places a crash can cut it).  `DbAll P s`: the committed state and every
  snapshot of the current step satisfy `P`; `SnapNew P s s1`: every snapshot taken since `s`
  does.  For the functions of `Core.lean`: at which database values they commit.

  EXACT FINAL STATES of `Sys.claimNameplate` / `Sys.releaseNameplate`, case by case, as an
  explicit expression of the initial database.
-/
import Wormhole.Inv.SyncLemmas
import Wormhole.Inv.ChanLemmas
import Wormhole.Inv.Acts

namespace Wormhole
namespace Sys.Np

def DbAll (P : Chan → Prop) (s : Sys) : Prop := P s.disk ∧ ∀ p ∈ s.snaps, P p.1

structure NoCommit (s s1 : Sys) : Prop where
  disk : s1.disk = s.disk
  snaps : s1.snaps = s.snaps

theorem NoCommit.refl (s : Sys) : NoCommit s s := ⟨rfl, rfl⟩
theorem NoCommit.trans {a b c : Sys} (h1 : NoCommit a b) (h2 : NoCommit b c) : NoCommit a c :=
  ⟨h2.disk.trans h1.disk, h2.snaps.trans h1.snaps⟩

theorem NoCommit.dbAll {P} {s s1 : Sys} (h : NoCommit s s1) (hA : DbAll P s) : DbAll P s1 := by
  unfold DbAll; rw [h.disk, h.snaps]; exact hA

theorem NoCommit.modDb (s : Sys) (f) : NoCommit s (s.modDb f) := ⟨rfl, rfl⟩
theorem NoCommit.modUdb (s : Sys) (f) : NoCommit s (s.modUdb f) := ⟨rfl, rfl⟩
theorem NoCommit.updConn (s : Sys) (c f) : NoCommit s (s.updConn c f) := ⟨rfl, rfl⟩
theorem NoCommit.emit (s : Sys) (e) : NoCommit s (s.emit e) := ⟨rfl, rfl⟩
theorem NoCommit.send (s : Sys) (c f) : NoCommit s (s.send c f) := ⟨rfl, rfl⟩
theorem NoCommit.sendError (s : Sys) (c t) : NoCommit s (s.sendError c t) := ⟨rfl, rfl⟩
theorem NoCommit.internalErr (s : Sys) (c t) : NoCommit s (s.internalErr c t) := ⟨rfl, rfl⟩
theorem NoCommit.stopListeners (s : Sys) (a m) : NoCommit s (s.stopListeners a m) := ⟨rfl, rfl⟩
theorem NoCommit.touchListened (s : Sys) (a now) : NoCommit s (s.touchListened a now) := ⟨rfl, rfl⟩

def SnapNew (P : Chan → Prop) (s s1 : Sys) : Prop := ∀ p ∈ s1.snaps, p ∈ s.snaps ∨ P p.1

theorem SnapNew.refl {P} (s : Sys) : SnapNew P s s := fun _ h => Or.inl h

theorem SnapNew.noCommit {P} {s s1 s2 : Sys} (h : SnapNew P s s1) (hn : NoCommit s1 s2) : SnapNew P s s2 := by
  unfold SnapNew; rw [hn.snaps]; exact h

theorem SnapNew.commit {P} {s s1 : Sys} (h : SnapNew P s s1) (hp : P s1.db) : SnapNew P s s1.commit := by
  unfold Sys.commit
  split
  · exact h
  · intro p hp'
    simp only [List.mem_append, List.mem_singleton] at hp'
    rcases hp' with h' | rfl
    · exact h p h'
    · exact Or.inr hp

theorem SnapNew.dbAll {P} {s s1 : Sys} (h : SnapNew P s s1) (hA : DbAll P s) (hd : P s1.disk) : DbAll P s1 :=
  ⟨hd, fun p hp => (h p hp).elim (hA.2 p) id⟩

theorem DbAll.commit {P} {s : Sys} (h : DbAll P s) (hp : P s.db) : DbAll P s.commit :=
  ((SnapNew.refl s).commit hp).dbAll h (by rw [commit_disk]; exact hp)

theorem DbAll.ucommit {P} {s : Sys} (h : DbAll P s) : DbAll P s.ucommit := by
  unfold Sys.ucommit
  split
  · exact h
  · refine ⟨h.1, ?_⟩
    intro p hp'
    simp only [List.mem_append, List.mem_singleton] at hp'
    rcases hp' with h' | rfl
    · exact h.2 p h'
    · exact h.1

theorem storeNameplateUsage_noCommit {s s1 : Sys} {app sides t p b}
    (h : s.storeNameplateUsage app sides t p = (s1, b)) : NoCommit s s1 ∧ s1.db = s.db := by
  unfold storeNameplateUsage at h
  split at h <;>
  · cases h
    exact ⟨⟨rfl, rfl⟩, rfl⟩

theorem NoCommit.of_runs {K : Kind → Prop} (hK : ¬ K .sync) {s s1 : Sys} (r : Runs K s s1) : NoCommit s s1 :=
  r.lift NoCommit.refl (fun _ _ _ => NoCommit.trans) fun k hk a b h => by
    cases h with
    | commit | ucommit => exact absurd hk hK
    | storeNp => exact (storeNameplateUsage_noCommit rfl).1
    | _ => exact ⟨rfl, rfl⟩

theorem addMailbox_noCommit {s s1 : Sys} {app mb forNp t} (h : s.addMailbox app mb forNp t = some s1) :
    NoCommit s s1 :=
  NoCommit.of_runs nofun ((Runs.refl s).addMailbox (K := (· = .grow t)) rfl h)

theorem mailboxOpen_snapNew {P} {s : Sys} (s1 : Sys) (mb side : String) (t : Time) (hA : SnapNew P s s1)
    (hp : P (s1.mailboxOpen mb side t).db) : SnapNew P s (s1.mailboxOpen mb side t) := by
  unfold mailboxOpen at hp ⊢
  split at hp <;> simp only [commit_db] at hp <;> exact SnapNew.commit (hA.noCommit ⟨rfl, rfl⟩) hp

theorem openMailbox_snapNew {P} {s s1 s2 : Sys} {app mb side t r} (h : s1.openMailbox app mb side t = (s2, r))
    (hA : SnapNew P s s1) (hp : P s2.db) : SnapNew P s s2 := by
  unfold openMailbox at h
  split at h
  · cases h; exact hA
  · rename_i s0 e
    have h0 : SnapNew P s s0 := hA.noCommit (addMailbox_noCommit e)
    dsimp only at h
    split at h <;>
    · cases h
      simp only [commit_db] at hp
      exact SnapNew.commit (mailboxOpen_snapNew _ _ _ _ h0 hp) (by simpa using hp)

theorem openMailbox_dbAll {P} {s s1 : Sys} {app mb side t r} (h : s.openMailbox app mb side t = (s1, r))
    (hA : DbAll P s) (hp : P s1.db) : DbAll P s1 := by
  refine (openMailbox_snapNew h (.refl s) hp).dbAll hA ?_
  obtain ⟨_, hi, hn⟩ := openMailbox_spec h
  by_cases e : r = .integrity
  · rw [hi e]; exact hA.1
  · rw [hn e]; exact hp

theorem addMessage_dbAll {P} (s : Sys) (app mb side ph bd t id) (hA : DbAll P s)
    (hp : P (s.addMessage app mb side ph bd t id).db) : DbAll P (s.addMessage app mb side ph bd t id) := by
  unfold addMessage at hp ⊢
  simp only [commit_db] at hp
  exact DbAll.commit hA hp

theorem claimCont_fst (s : Sys) (app : String) (npid : Nat) (mb side : String) (t : Time) :
    (claimCont s app npid mb side t).1 = (s.commit.openMailbox app mb side t).1 := by
  unfold claimCont
  dsimp only
  split
  · rename_i e; rw [e]
  · rename_i e; rw [e]
  · rename_i e; rw [e]; split <;> rfl

theorem claimCont_snapNew {P} {s s1 s2 : Sys} {app npid mb side t r}
    (h : claimCont s1 app npid mb side t = (s2, r)) (hA : SnapNew P s s1) (h1 : P s1.db) (h2 : P s2.db) :
    SnapNew P s s2 := by
  have e : s2 = (s1.commit.openMailbox app mb side t).1 := by rw [← claimCont_fst, h]
  subst e
  exact openMailbox_snapNew rfl (hA.commit h1) h2

theorem claimCont_dbAll {P} {s s1 : Sys} {app npid mb side t r}
    (h : claimCont s app npid mb side t = (s1, r)) (hA : DbAll P s) (h1 : P s.db) (h2 : P s1.db) :
    DbAll P s1 :=
  (claimCont_snapNew h (.refl s) h1 h2).dbAll hA (by rw [(claimCont_spec h).2.1]; exact h2)

/-- `release_nameplate` commits after the UPDATE (`h1`) and at the final database (`h2`) -/
theorem releaseNameplate_dbAll {P} {s s1 : Sys} {app name side t b}
    (h : s.releaseNameplate app name side t = (s1, b)) (hA : DbAll P s)
    (h1 : ∀ np, s.db.findNameplate app name = some np → P (s.db.unclaim np.id side))
    (h2 : P s1.db) : DbAll P s1 := by
  have hc : ∀ {np}, s.db.findNameplate app name = some np → DbAll P ((s.modDb (·.unclaim np.id side)).commit) :=
    fun hnp => DbAll.commit (s := s.modDb (·.unclaim _ side)) hA (h1 _ hnp)
  revert h h2
  refine releaseNameplate_cases s app name side t ?_ ?_ ?_ ?_
  · rintro _ ⟨⟩ _
    exact hA
  · rintro _ _ _ hnp _ rfl _ ⟨⟩ _
    exact hc hnp
  · rintro _ _ _ _ s3 hnp _ rfl _ rfl _ e ⟨⟩ h2
    exact DbAll.commit ((storeNameplateUsage_noCommit e).1.dbAll (hc hnp)).ucommit (by simpa using h2)
  · rintro _ _ _ _ hnp _ rfl _ rfl _ ⟨⟩ h2
    exact DbAll.commit (s := (s.modDb _).commit.modDb _) (hc hnp) (by simpa using h2)

/-- `Mailbox.close` commits after the UPDATE (`h1`) and at the final database (`h2`) -/
theorem mailboxClose_dbAll {P} {s s1 : Sys} {app mb side mood t b}
    (h : s.mailboxClose app mb side mood t = (s1, b)) (hA : DbAll P s)
    (h1 : P (s.db.closeSide mb side mood)) (h2 : P s1.db) : DbAll P s1 := by
  have hc : DbAll P ((s.modDb (·.closeSide mb side mood)).commit) :=
    DbAll.commit (s := s.modDb (·.closeSide mb side mood)) hA h1
  revert h h2
  refine mailboxClose_cases s app mb side mood t ?_ ?_ ?_ ?_
  · rintro _ ⟨⟩ _
    exact hA
  · rintro _ _ _ rfl _ ⟨⟩ _
    exact hc
  · rintro _ _ s₂ _ rfl _ hE ⟨⟩ _
    obtain ⟨u, -, -⟩ := closeStore_udbOnly hE
    exact NoCommit.dbAll ⟨u.disk, u.snaps⟩ hc
  · rintro _ _ s₂ _ _ rfl _ hE rfl ⟨⟩ h2
    obtain ⟨u, -, -⟩ := closeStore_udbOnly hE
    have h2' : DbAll P s₂ := NoCommit.dbAll ⟨u.disk, u.snaps⟩ hc
    rw [stopListeners_db, commit_db] at h2
    refine (NoCommit.stopListeners _ _ _).dbAll (DbAll.commit ?_ h2)
    split
    · exact DbAll.ucommit h2'
    · exact h2'

end Sys.Np

namespace Chan

/-- the database after `Mailbox.open(side, when)` on mailbox `mb` -/
def npOpen (d : Chan) (mb side : String) (t : Time) : Chan :=
  (match d.findMbSide mb side with
   | none => d.insMbSide ⟨mb, true, side, t, none⟩
   | some _ => d).touch mb t

/-- the database after the part of `claim_nameplate` that follows the look-up of the nameplate
    row (`npid`, `mb`), when the caller's side row is absent or claimed and the mailbox exists -/
def npClaim (d : Chan) (npid : Nat) (mb side : String) (t : Time) : Chan :=
  (match d.findNpSide npid side with
   | none => d.insNpSide ⟨npid, true, side, t⟩
   | some _ => d).npOpen mb side t

/-- the two crowding checks, in the order of the code (`open_mailbox` first) -/
def npClaimRes (d : Chan) (npid : Nat) (mb : String) : Sys.ClaimRes :=
  if (d.mbSidesOf mb).length > 2 then .crowded
  else if (d.npSidesOf npid).length > 2 then .crowded else .ok mb

theorem npClaimRes_ne_integrity (d : Chan) (npid : Nat) (mb : String) : d.npClaimRes npid mb ≠ .integrity := by
  unfold npClaimRes
  split
  · simp
  · split <;> simp

@[simp] theorem npOpen_nameplates (d : Chan) (mb side t) : (d.npOpen mb side t).nameplates = d.nameplates := by
  unfold npOpen; split <;> rfl
@[simp] theorem npOpen_npSides (d : Chan) (mb side t) : (d.npOpen mb side t).npSides = d.npSides := by
  unfold npOpen; split <;> rfl
@[simp] theorem npOpen_nextNp (d : Chan) (mb side t) : (d.npOpen mb side t).nextNp = d.nextNp := by
  unfold npOpen; split <;> rfl
@[simp] theorem npOpen_messages (d : Chan) (mb side t) : (d.npOpen mb side t).messages = d.messages := by
  unfold npOpen; split <;> rfl
theorem npOpen_mailboxes (d : Chan) (mb side t) : (d.npOpen mb side t).mailboxes =
    d.mailboxes.map (fun r => if r.id = mb then { r with updated := t } else r) := by
  unfold npOpen; split <;> rfl
theorem npOpen_mbSides (d : Chan) (mb side t) : (d.npOpen mb side t).mbSides =
    d.mbSides ++ (match d.findMbSide mb side with | none => [⟨mb, true, side, t, none⟩] | some _ => []) := by
  unfold npOpen; split <;> simp [touch, insMbSide]
@[simp] theorem npOpen_npPart (d : Chan) (mb side t) : (d.npOpen mb side t).npPart = d.npPart := by
  simp [npPart]

@[simp] theorem npClaim_nameplates (d : Chan) (npid mb side t) :
    (d.npClaim npid mb side t).nameplates = d.nameplates := by
  unfold npClaim; split <;> simp [insNpSide]
@[simp] theorem npClaim_nextNp (d : Chan) (npid mb side t) : (d.npClaim npid mb side t).nextNp = d.nextNp := by
  unfold npClaim; split <;> simp [insNpSide]
@[simp] theorem npClaim_messages (d : Chan) (npid mb side t) :
    (d.npClaim npid mb side t).messages = d.messages := by
  unfold npClaim; split <;> simp [insNpSide]
theorem npClaim_npSides (d : Chan) (npid mb side t) : (d.npClaim npid mb side t).npSides =
    d.npSides ++ (match d.findNpSide npid side with | none => [⟨npid, true, side, t⟩] | some _ => []) := by
  unfold npClaim; split <;> simp [insNpSide]
theorem npClaim_mailboxes (d : Chan) (npid mb side t) : (d.npClaim npid mb side t).mailboxes =
    d.mailboxes.map (fun r => if r.id = mb then { r with updated := t } else r) := by
  unfold npClaim; split <;> simp [insNpSide, npOpen_mailboxes]
theorem npClaim_mbSides (d : Chan) (npid mb side t) : (d.npClaim npid mb side t).mbSides =
    d.mbSides ++ (match d.findMbSide mb side with | none => [⟨mb, true, side, t, none⟩] | some _ => []) := by
  unfold npClaim; split <;> simp [insNpSide, npOpen_mbSides, findMbSide]

end Chan

namespace Sys.Np

theorem mailboxOpen_db (s : Sys) (mb side : String) (t : Time) :
    (s.mailboxOpen mb side t).db = s.db.npOpen mb side t := by
  unfold mailboxOpen Chan.npOpen
  split <;> simp_all

theorem mailboxOpen_conns (s : Sys) (mb side : String) (t : Time) :
    (s.mailboxOpen mb side t).conns = s.conns := by
  unfold mailboxOpen
  split <;> simp [modDb]

theorem addMailbox_present {s s1 : Sys} {app mb forNp t} (h : s.addMailbox app mb forNp t = some s1) :
    ∃ row, s1.db.findMailbox app mb = some row := by
  unfold addMailbox at h
  split at h
  · rename_i row e; cases h; exact ⟨row, e⟩
  · split at h
    · cases h
    · cases h
      exact Chan.findMailbox_isSome_of_hasMb ⟨_, List.mem_append_right _ (List.mem_singleton_self _), rfl, rfl⟩

theorem openMailbox_present {s s1 : Sys} {app mb side t r} {row : MailboxRow}
    (hm : s.db.findMailbox app mb = some row) (h : s.openMailbox app mb side t = (s1, r)) :
    s1.db = s.db.npOpen mb side t ∧ s1.conns = s.conns ∧
    r = (if ((s.db.npOpen mb side t).mbSidesOf mb).length > 2 then .crowded else .ok) := by
  unfold openMailbox addMailbox at h
  simp only [hm] at h
  split at h <;>
  · cases h
    simp_all [mailboxOpen_db, mailboxOpen_conns]

theorem claimCont_present {s s1 : Sys} {app npid mb side t r} {row : MailboxRow}
    (hm : s.db.findMailbox app mb = some row) (h : claimCont s app npid mb side t = (s1, r)) :
    s1.db = s.db.npOpen mb side t ∧ s1.conns = s.conns ∧ r = s1.db.npClaimRes npid mb := by
  unfold claimCont at h
  dsimp only at h
  split at h
  all_goals
    rename_i s3 e
    obtain ⟨e1, e2, e3⟩ := openMailbox_present (s := s.commit) (by simpa using hm) e
    rw [commit_db] at e1 e3
    rw [commit_conns] at e2
    rw [← e1] at e3
  · split at e3 <;> cases e3
  · cases h
    refine ⟨e1, e2, ?_⟩
    split at e3
    · rename_i hc; rw [Chan.npClaimRes, if_pos hc]
    · cases e3
  · have hle : ¬ (s3.db.mbSidesOf mb).length > 2 := fun hh => by rw [if_pos hh] at e3; cases e3
    split at h
    · rename_i hnp
      cases h
      exact ⟨e1, e2, by rw [Chan.npClaimRes, if_neg hle, if_pos hnp]⟩
    · rename_i hnp
      cases h
      exact ⟨e1, e2, by rw [Chan.npClaimRes, if_neg hle, if_neg hnp]⟩

theorem findMailbox_of_findNameplate {d : Chan} (hp : d.PInv) {app name : String} {row : Nameplate}
    (hrow : d.findNameplate app name = some row) :
    row ∈ d.nameplates ∧ row.app = app ∧ row.name = name ∧ ∃ m, d.findMailbox app row.mailbox = some m := by
  obtain ⟨hmem, ha, hn⟩ := Chan.findNameplate_some hrow
  obtain ⟨m, hm, h1, h2⟩ := hp.npMb row hmem
  exact ⟨hmem, ha, hn, Chan.findMailbox_isSome_of_hasMb ⟨m, hm, h1, h2.trans ha⟩⟩

/-! ### `claim_nameplate` up to its first commit -/

/-- the nameplate exists: `ReclaimedError` before any write, or the side row is inserted if absent
    and `claimCont` takes over -/
theorem claimNameplate_of_some {s s1 : Sys} {app name side t fresh r} {row : Nameplate}
    (h : s.claimNameplate app name side t fresh = (s1, r))
    (hrow : s.db.findNameplate app name = some row) :
    (∃ r0, s.db.findNpSide row.id side = some r0 ∧ r0.claimed = false ∧ s1 = s ∧ r = .reclaimed) ∨
    ((∀ r0, s.db.findNpSide row.id side = some r0 → r0.claimed = true) ∧
      claimCont (s.modDb fun d => match d.findNpSide row.id side with
          | none => d.insNpSide ⟨row.id, true, side, t⟩
          | some _ => d) app row.id row.mailbox side t = (s1, r)) := by
  unfold claimNameplate at h
  simp only [hrow] at h
  rw [claimTail_eq] at h
  cases hf : s.db.findNpSide row.id side with
  | none =>
    rw [hf] at h
    refine Or.inr ⟨by simp, ?_⟩
    simp only [modDb, hf]
    exact h
  | some r0 =>
    rw [hf] at h
    dsimp only at h
    split at h
    · rename_i hc
      refine Or.inr ⟨fun _ e => by cases e; exact hc, ?_⟩
      simp only [modDb, hf]
      exact h
    · rename_i hc
      cases h
      exact Or.inl ⟨r0, rfl, by simpa using hc, rfl, rfl⟩

/-- the nameplate does not exist: the `IntegrityError` of `_add_mailbox` before any write, or
    the nameplate row and the caller's side row are inserted (the new id is the counter; no side
    row carries it, so `ReclaimedError` cannot happen) and `claimCont` takes over -/
theorem claimNameplate_of_none {s s1 : Sys} {app name side t fresh r}
    (h : s.claimNameplate app name side t fresh = (s1, r)) (hb : s.db.IdsBounded)
    (hnone : s.db.findNameplate app name = none) :
    (s.addMailbox app fresh true t = none ∧ s1 = s ∧ r = .integrity) ∨
    ∃ s0, s.addMailbox app fresh true t = some s0 ∧ s0.db.npPart = s.db.npPart ∧
      claimCont ((s0.modDb (·.insNameplate app name fresh)).modDb (·.insNpSide ⟨s.db.nextNp, true, side, t⟩))
        app s.db.nextNp fresh side t = (s1, r) := by
  unfold claimNameplate at h
  simp only [hnone] at h
  split at h
  · rename_i e
    cases h
    exact Or.inl ⟨e, rfl, rfl⟩
  · rename_i s0 e
    have hnp := (addMailbox_spec e).1.np
    have n2 : s0.db.npSides = s.db.npSides := congrArg (·.2.1) hnp
    have n3 : s0.db.nextNp = s.db.nextNp := congrArg (·.2.2) hnp
    have hf : (s0.modDb (·.insNameplate app name fresh)).db.findNpSide s.db.nextNp side = none := by
      have := hb.findNpSide_fresh side
      rw [Chan.findNpSide, ← n2] at this
      exact this
    rw [claimTail_eq, n3, hf] at h
    exact Or.inr ⟨s0, e, hnp, h⟩

/-- **`claim_nameplate`, nameplate present** (case (b)).  Either the caller's side row says
    `claimed = 0`: `ReclaimedError` before any write, the state is returned as it was; or the
    final database is `npClaim` (the caller's nameplate-side row is inserted if absent, its
    mailbox-side row likewise, the mailbox is touched; the nameplate row itself, and every other
    row, is as before) and the answer is `npClaimRes` of that database: `crowded` if the mailbox or
    the nameplate now has more than two side rows — the rows just written stay — else `ok` with
    the row's mailbox id.  `IntegrityError` cannot happen. -/
theorem claimNameplate_present {s s1 : Sys} {app name side t fresh r} {row : Nameplate} (hp : s.db.PInv)
    (hrow : s.db.findNameplate app name = some row)
    (h : s.claimNameplate app name side t fresh = (s1, r)) :
    (∃ r0, s.db.findNpSide row.id side = some r0 ∧ r0.claimed = false ∧ s1 = s ∧ r = .reclaimed) ∨
    ((∀ r0, s.db.findNpSide row.id side = some r0 → r0.claimed = true) ∧
      s1.db = s.db.npClaim row.id row.mailbox side t ∧ s1.conns = s.conns ∧
      r = s1.db.npClaimRes row.id row.mailbox) := by
  obtain ⟨_, _, _, m, hm⟩ := findMailbox_of_findNameplate hp hrow
  refine (claimNameplate_of_some h hrow).imp id fun ⟨hc, h⟩ => ?_
  obtain ⟨e1, e2, e3⟩ := claimCont_present (row := m) (by rw [modDb_db]; split <;> exact hm) h
  exact ⟨hc, e1, e2, e3⟩

end Sys.Np

/-- the database after `claim_nameplate` created the nameplate: exactly one new row in each of
    `mailboxes`, `nameplates`, `nameplate_sides`, `mailbox_sides`; the counter advanced -/
def Chan.npClaimNew (d : Chan) (app name side fresh : String) (t : Time) : Chan :=
  { d with
    mailboxes := d.mailboxes ++ [⟨app, fresh, t, true⟩]
    nameplates := d.nameplates ++ [⟨d.nextNp, app, name, fresh⟩]
    npSides := d.npSides ++ [⟨d.nextNp, true, side, t⟩]
    mbSides := d.mbSides ++ [⟨fresh, true, side, t, none⟩]
    nextNp := d.nextNp + 1 }

namespace Sys.Np

/-- **`claim_nameplate`, nameplate absent, `fresh` not a mailbox id** (case (a)) -/
theorem claimNameplate_new {s s1 : Sys} {app name side t fresh r} (hp : s.db.PInv)
    (hnone : s.db.findNameplate app name = none) (hfresh : ∀ m ∈ s.db.mailboxes, m.id ≠ fresh)
    (h : s.claimNameplate app name side t fresh = (s1, r)) :
    s1.db = s.db.npClaimNew app name side fresh t ∧ s1.conns = s.conns ∧ r = .ok fresh := by
  have h1 : s.db.findMailbox app fresh = none := by
    simp only [Chan.findMailbox, List.find?_eq_none, decide_eq_true_eq, not_and]
    intro m hm _; exact hfresh m hm
  have h2 : s.db.findMailboxById fresh = none := by
    simp only [Chan.findMailboxById, List.find?_eq_none, decide_eq_true_eq]
    exact hfresh
  -- no side row of the mailbox `fresh`, none of the nameplate `nextNp`
  have h3 : ∀ r ∈ s.db.mbSides, ¬ r.mailbox = fresh := fun r hr e =>
    let ⟨m, hm, e'⟩ := hp.msFk r hr
    hfresh m hm (e'.trans e)
  have h4 : ∀ r ∈ s.db.npSides, ¬ r.npid = s.db.nextNp := fun r hr e =>
    Nat.lt_irrefl _ (e ▸ hp.bounded.2 r hr)
  rcases claimNameplate_of_none h hp.bounded hnone with ⟨e, _⟩ | ⟨s0, e, _, h⟩
  · simp [addMailbox, h1, h2] at e
  · have e0 : s0 = s.modDb (·.insMailbox ⟨app, fresh, t, true⟩) := by simpa [addMailbox, h1, h2] using e.symm
    subst e0
    obtain ⟨m, hm⟩ := addMailbox_present e
    obtain ⟨e1, e2, e3⟩ := claimCont_present (row := m) (by exact hm) h
    have hdb : s1.db = s.db.npClaimNew app name side fresh t := by
      have hside : (((s.db.insMailbox ⟨app, fresh, t, true⟩).insNameplate app name fresh).insNpSide
          ⟨s.db.nextNp, true, side, t⟩).findMbSide fresh side = none := by
        simp only [Chan.findMbSide, List.find?_eq_none, decide_eq_true_eq, not_and]
        exact fun r hr e _ => h3 r hr e
      have htouch : s.db.mailboxes.map (fun r => if r.id = fresh then { r with updated := t } else r) =
          s.db.mailboxes := by
        conv => rhs; rw [← List.map_id s.db.mailboxes]
        exact List.map_congr_left fun m hm' => by simp [hfresh m hm']
      rw [e1]
      simp only [modDb_db]
      unfold Chan.npOpen
      rw [hside]
      simp [Chan.npClaimNew, Chan.touch, Chan.insMbSide, Chan.insNpSide, Chan.insNameplate, Chan.insMailbox, htouch]
    refine ⟨hdb, e2, ?_⟩
    rw [e3, hdb]
    simp [Chan.npClaimRes, Chan.mbSidesOf, Chan.npSidesOf, Chan.npClaimNew, List.filter_append,
      List.filter_eq_nil_iff.2 (show ∀ r ∈ s.db.mbSides, ¬ decide (r.mailbox = fresh) = true by simpa using h3),
      List.filter_eq_nil_iff.2 (show ∀ r ∈ s.db.npSides, ¬ decide (r.npid = s.db.nextNp) = true by simpa using h4)]

/-- **`claim_nameplate`, `IntegrityError`** (case (c)): only when the nameplate is absent and
    `fresh` is already the id of a mailbox of ANOTHER app (the INSERT violates the primary key;
    impossible when `fresh` is new); the state is returned as it was. -/
theorem claimNameplate_integrity {s s1 : Sys} {app name side t fresh} (hp : s.db.PInv)
    (h : s.claimNameplate app name side t fresh = (s1, .integrity)) :
    s1 = s ∧ s.db.findNameplate app name = none ∧ ∃ m ∈ s.db.mailboxes, m.id = fresh ∧ m.app ≠ app := by
  cases hrow : s.db.findNameplate app name with
  | some row =>
    rcases claimNameplate_present hp hrow h with ⟨_, _, _, _, e⟩ | ⟨_, _, _, e⟩
    · cases e
    · exact absurd e.symm (Chan.npClaimRes_ne_integrity _ _ _)
  | none =>
    rcases claimNameplate_of_none h hp.bounded hrow with ⟨e, rfl, _⟩ | ⟨s0, e, _, h⟩
    · -- `_add_mailbox` refuses: the id exists, under another app
      refine ⟨rfl, rfl, ?_⟩
      unfold addMailbox at e
      split at e
      · cases e
      · rename_i h1
        split at e
        · rename_i m2 h2
          obtain ⟨hm, e2⟩ := Chan.findMailboxById_some h2
          exact ⟨m2, hm, e2, fun ea => Chan.findMailbox_none h1 ⟨m2, hm, e2, ea⟩⟩
        · cases e
    · -- the mailbox is there: `claimCont` answers with `npClaimRes`
      obtain ⟨m, hm⟩ := addMailbox_present e
      exact absurd (claimCont_present (row := m) (by exact hm) h).2.2.symm (Chan.npClaimRes_ne_integrity _ _ _)

theorem claimCont_ok {s s1 : Sys} {app npid mb side t m}
    (h : claimCont s app npid mb side t = (s1, .ok m)) : m = mb := by
  unfold claimCont at h
  dsimp only at h
  split at h
  · cases h
  · cases h
  · split at h
    · cases h
    · cases h; rfl

theorem claimTail_ok {s s1 : Sys} {app npid mb side t m}
    (h : s.claimTail app npid mb side t = (s1, .ok m)) : m = mb := by
  rw [claimTail_eq] at h
  split at h
  · exact claimCont_ok h
  · split at h
    · exact claimCont_ok h
    · cases h

theorem claimNameplate_ok {s s1 : Sys} {a n σ t fresh m}
    (h : s.claimNameplate a n σ t fresh = (s1, .ok m)) :
    (∃ row, s.db.findNameplate a n = some row ∧ m = row.mailbox) ∨
    (s.db.findNameplate a n = none ∧ m = fresh) := by
  unfold claimNameplate at h
  split at h
  · rename_i hnone
    split at h
    · cases h
    · exact Or.inr ⟨hnone, claimTail_ok h⟩
  · rename_i row hrow
    exact Or.inl ⟨row, hrow, claimTail_ok h⟩

/-- when `claim_nameplate` finds no nameplate and does not fail with `IntegrityError`, EVERY state
    it commits already contains the new nameplate row -/
theorem claimNameplate_snaps_new {s s1 : Sys} {a n σ t fresh r}
    (h : s.claimNameplate a n σ t fresh = (s1, r)) (hb : s.db.IdsBounded)
    (hnone : s.db.findNameplate a n = none) (hr : r ≠ .integrity) :
    SnapNew (fun d => (⟨s.db.nextNp, a, n, fresh⟩ : Nameplate) ∈ d.nameplates) s s1 ∧
    (⟨s.db.nextNp, a, n, fresh⟩ : Nameplate) ∈ s1.db.nameplates := by
  rcases claimNameplate_of_none h hb hnone with ⟨_, _, e⟩ | ⟨s0, e, hnp, h⟩
  · exact absurd e hr
  · have hmid : (⟨s.db.nextNp, a, n, fresh⟩ : Nameplate) ∈
        ((s0.modDb (·.insNameplate a n fresh)).modDb (·.insNpSide ⟨s.db.nextNp, true, σ, t⟩)).db.nameplates := by
      simp [Chan.insNpSide, Chan.insNameplate, show s0.db.nextNp = s.db.nextNp from congrArg (·.2.2) hnp]
    have hfin : (⟨s.db.nextNp, a, n, fresh⟩ : Nameplate) ∈ s1.db.nameplates := by
      rw [show s1.db.nameplates = _ from congrArg (·.1) (claimCont_spec h).1.np]
      exact hmid
    refine ⟨claimCont_snapNew h ?_ hmid hfin, hfin⟩
    exact (SnapNew.refl s).noCommit ((addMailbox_noCommit e).trans ⟨rfl, rfl⟩)

theorem storeNameplateUsage_true {s s1 : Sys} {app sides t p}
    (h : s.storeNameplateUsage app sides t p = (s1, true)) :
    ∃ u, s1 = s.modUdb (fun d => { d with nameplates := d.nameplates ++ [u] }) := by
  unfold storeNameplateUsage at h
  split at h
  · cases h
  · cases h; exact ⟨_, rfl⟩

/-- **`release_nameplate`, exact.**  It never fails.  No nameplate `(app, name)`, or no row of
    `side` on it: the state is returned as it was.  Otherwise the side's row gets
    `claimed := false` (`unclaim`); if a claimed row remains that is all; else the nameplate row
    and all its side rows are deleted and, with a usage database, exactly one usage row is
    appended.  Nothing else in the channel database changes in any case. -/
theorem releaseNameplate_exact {s s1 : Sys} {app name side t b}
    (h : s.releaseNameplate app name side t = (s1, b)) :
    b = true ∧ s1.conns = s.conns ∧
    ((s.db.findNameplate app name = none ∧ s1 = s) ∨
     (∃ np, s.db.findNameplate app name = some np ∧ s.db.findNpSide np.id side = none ∧ s1 = s) ∨
     (∃ np r0, s.db.findNameplate app name = some np ∧ s.db.findNpSide np.id side = some r0 ∧
        ((((s.db.unclaim np.id side).npSidesOf np.id).any (·.claimed) = true ∧
            s1.db = s.db.unclaim np.id side ∧ s1.udb = s.udb) ∨
         (((s.db.unclaim np.id side).npSidesOf np.id).any (·.claimed) = false ∧
            s1.db = ((s.db.unclaim np.id side).delNpSidesOf np.id).delNameplate np.id ∧
            (s.cfg.usage = false → s1.udb = s.udb) ∧
            (s.cfg.usage = true → ∃ u, s1.udb = { s.udb with nameplates := s.udb.nameplates ++ [u] }))))) := by
  revert h
  refine releaseNameplate_cases s app name side t ?_ ?_ ?_ ?_
  · rintro hno ⟨⟩
    refine ⟨rfl, rfl, ?_⟩
    cases hnp : s.db.findNameplate app name with
    | none => exact Or.inl ⟨rfl, rfl⟩
    | some np => exact Or.inr (Or.inl ⟨np, rfl, hno np hnp, rfl⟩)
  · rintro np r0 _ hnp hr0 rfl hany ⟨⟩
    exact ⟨rfl, by simp [modDb], Or.inr (Or.inr ⟨np, r0, hnp, hr0, Or.inl ⟨by simpa using hany, by simp, by simp⟩⟩)⟩
  · rintro np r0 _ _ s3 hnp hr0 rfl hany rfl hu e ⟨⟩
    obtain ⟨u, rfl⟩ := storeNameplateUsage_true e
    simp only [modDb_cfg, commit_cfg] at hu
    refine ⟨rfl, by simp [modDb, modUdb],
      Or.inr (Or.inr ⟨np, r0, hnp, hr0, Or.inr ⟨by simpa using hany, by simp, ?_, ?_⟩⟩)⟩
    · intro hf; simp [hf] at hu
    · exact fun _ => ⟨u, by simp⟩
  · rintro np r0 _ _ hnp hr0 rfl hany rfl hu ⟨⟩
    simp only [modDb_cfg, commit_cfg] at hu
    refine ⟨rfl, by simp [modDb],
      Or.inr (Or.inr ⟨np, r0, hnp, hr0, Or.inr ⟨by simpa using hany, by simp, by simp, ?_⟩⟩)⟩
    intro ht; simp [ht] at hu

end Sys.Np
end Wormhole
