/-
  Two-run simulation for K-close-touch (C14): the relation.

  Run B (without the re-sent close) and run A (with it) differ in ONE cell: the column `updated` of the
  mailbox row `m` (app `ap`) is `u` in B and `t` in A.  `updated` is written by open / add / claim / the
  touch loop of the sweep and READ only by the sweep's `old_mailboxes` query.  The relation:

    `RowRel u t m ap rb ra`   the rows are equal, or `rb` is the row of `(ap, m)` stamped `u` and `ra` is the
                              same row stamped `t`;
    `Chan.TchRel`             four tables and the counter equal, `mailboxes` related row by row;
    `Sys.TchRel`              `db` and `disk` related, connection records and configuration equal, the events
                              of the step equal once commits are dropped and the `synced` flags of frames
                              are normalised (`vis`) — the usage database is not compared (the duplicate's
                              `bind` adds a `client_versions` row), nor `rebooted`, nor `snaps`.
  An operation that re-stamps the row in both runs makes the rows equal again (`RowRel` then holds by its
  first disjunct); the relation never needs to know whether that has happened.
-/
import Wormhole.Inv.IsoDefs
import Wormhole.Inv.SimDefs

namespace Wormhole

/-- what is compared in a trace: frames (addressee and content; the `synced` flag is normalised — it is
    `true` in both runs by C09), `internal` and `fired` events; commits are dropped -/
def visE : Event → Option Event
  | .frame c f _ => some (.frame c f true)
  | .commit _ => none
  | e => some e

def vis (l : List Event) : List Event := l.filterMap visE

@[simp] theorem vis_nil : vis [] = [] := rfl
theorem vis_append (l l' : List Event) : vis (l ++ l') = vis l ++ vis l' := by simp [vis, List.filterMap_append]
@[simp] theorem vis_commit (l : List Event) (w : DbId) : vis (l ++ [.commit w]) = vis l := by
  simp [vis, List.filterMap_append, visE]

section
variable {u t : Time} {m ap : String}

def RowRel (u t : Time) (m ap : String) (rb ra : MailboxRow) : Prop :=
  ra = rb ∨ (rb.id = m ∧ rb.app = ap ∧ rb.updated = u ∧ ra = { rb with updated := t })

theorem RowRel.refl (r : MailboxRow) : RowRel u t m ap r r := Or.inl rfl
theorem RowRel.id {rb ra : MailboxRow} (h : RowRel u t m ap rb ra) : ra.id = rb.id := by
  rcases h with rfl | ⟨_, _, _, rfl⟩ <;> rfl
theorem RowRel.app {rb ra : MailboxRow} (h : RowRel u t m ap rb ra) : ra.app = rb.app := by
  rcases h with rfl | ⟨_, _, _, rfl⟩ <;> rfl
theorem RowRel.forNp {rb ra : MailboxRow} (h : RowRel u t m ap rb ra) : ra.forNp = rb.forNp := by
  rcases h with rfl | ⟨_, _, _, rfl⟩ <;> rfl
theorem RowRel.set {rb ra : MailboxRow} (h : RowRel u t m ap rb ra) (v : Time) :
    ({ ra with updated := v } : MailboxRow) = { rb with updated := v } := by
  rcases h with rfl | ⟨_, _, _, rfl⟩ <;> rfl

namespace Chan

structure TchRel (u t : Time) (m ap : String) (db da : Chan) : Prop where
  nps : da.nameplates = db.nameplates
  sides : da.npSides = db.npSides
  mbs : All2 (RowRel u t m ap) db.mailboxes da.mailboxes
  mbSides : da.mbSides = db.mbSides
  msgs : da.messages = db.messages
  next : da.nextNp = db.nextNp

theorem TchRel.refl (d : Chan) : TchRel u t m ap d d :=
  ⟨rfl, rfl, All2.refl_of _ (fun r _ => RowRel.refl r), rfl, rfl, rfl⟩

theorem TchRel.eq_of_mailboxes {db da : Chan} (h : TchRel u t m ap db da) (hm : da.mailboxes = db.mailboxes) :
    da = db := by
  cases da; cases db
  obtain ⟨h1, h2, _, h4, h5, h6⟩ := h
  simp only at h1 h2 hm h4 h5 h6
  simp [h1, h2, hm, h4, h5, h6]

theorem TchRel.eq_of_no_row {db da : Chan} (h : TchRel u t m ap db da)
    (hno : ¬ ∃ r ∈ db.mailboxes, r.id = m ∧ r.app = ap ∧ r.updated = u) : da = db := by
  apply h.eq_of_mailboxes
  have := h.mbs.map_eq (fun r => r) (fun r => r) (fun rb hb ra _ hr => by
    rcases hr with rfl | ⟨e1, e2, e3, _⟩
    · rfl
    · exact absurd ⟨rb, hb, e1, e2, e3⟩ hno)
  simpa using this.symm

theorem TchRel.of_touch {d : Chan} (hids : d.mailboxes.Pairwise (fun p q => ¬ p.id = q.id)) {r₀ : MailboxRow}
    (hr₀ : r₀ ∈ d.mailboxes) (t : Time) : TchRel r₀.updated t r₀.id r₀.app d (d.touch r₀.id t) := by
  refine ⟨rfl, rfl, ?_, rfl, rfl, rfl⟩
  have := (All2.refl_of d.mailboxes (fun r _ => (rfl : r = r))).map (R' := RowRel r₀.updated t r₀.id r₀.app)
    (fun r => r) (fun r => if r.id = r₀.id then { r with updated := t } else r) (by
      intro p hp q _ e
      subst e
      by_cases hpm : p.id = r₀.id
      · obtain rfl : p = r₀ := eq_of_pairwise_ne (f := MailboxRow.id) hids hp hr₀ hpm
        rw [if_pos hpm]
        exact Or.inr ⟨rfl, rfl, rfl, rfl⟩
      · rw [if_neg hpm]
        exact Or.inl rfl)
  simpa [Chan.touch] using this

variable {db da : Chan} (h : TchRel u t m ap db da)
include h

/-! ### SELECTs that do not look at `mailboxes` -/

theorem TchRel.findNameplate (app name : String) : da.findNameplate app name = db.findNameplate app name := by
  simp only [Chan.findNameplate, h.nps]
theorem TchRel.nameplatesOfMailbox (app mb : String) : da.nameplatesOfMailbox app mb = db.nameplatesOfMailbox app mb := by
  simp only [Chan.nameplatesOfMailbox, h.nps]
theorem TchRel.nameplatesOfApp (app : String) : da.nameplatesOfApp app = db.nameplatesOfApp app := by
  simp only [Chan.nameplatesOfApp, h.nps]
theorem TchRel.findNpSide (npid : Nat) (side : String) : da.findNpSide npid side = db.findNpSide npid side := by
  simp only [Chan.findNpSide, h.sides]
theorem TchRel.npSidesOf (npid : Nat) : da.npSidesOf npid = db.npSidesOf npid := by
  simp only [Chan.npSidesOf, h.sides]
theorem TchRel.findMbSide (mb side : String) : da.findMbSide mb side = db.findMbSide mb side := by
  simp only [Chan.findMbSide, h.mbSides]
theorem TchRel.mbSidesOf (mb : String) : da.mbSidesOf mb = db.mbSidesOf mb := by
  simp only [Chan.mbSidesOf, h.mbSides]
theorem TchRel.messagesOf (app mb : String) : da.messagesOf app mb = db.messagesOf app mb := by
  simp only [Chan.messagesOf, h.msgs]
theorem TchRel.namesOfApp (app : String) : da.namesOfApp app = db.namesOfApp app := by
  simp only [Chan.namesOfApp, h.nps]

/-! ### SELECTs on `mailboxes` -/

theorem TchRel.findMailbox (app mb : String) :
    (db.findMailbox app mb = none ∧ da.findMailbox app mb = none) ∨
      ∃ rb ra, db.findMailbox app mb = some rb ∧ da.findMailbox app mb = some ra ∧ RowRel u t m ap rb ra := by
  unfold Chan.findMailbox
  apply h.mbs.find?
  intro rb _ ra _ hr
  rw [hr.id, hr.app]

theorem TchRel.findMailboxById (mb : String) :
    (db.findMailboxById mb = none ∧ da.findMailboxById mb = none) ∨
      ∃ rb ra, db.findMailboxById mb = some rb ∧ da.findMailboxById mb = some ra ∧ RowRel u t m ap rb ra := by
  unfold Chan.findMailboxById
  apply h.mbs.find?
  intro rb _ ra _ hr
  rw [hr.id]

theorem TchRel.mailboxesOfApp (app : String) :
    All2 (RowRel u t m ap) (db.mailboxesOfApp app) (da.mailboxesOfApp app) := by
  unfold Chan.mailboxesOfApp
  apply h.mbs.filter
  intro rb _ ra _ hr
  rw [hr.app]

theorem TchRel.mbApps : da.mailboxes.map (·.app) = db.mailboxes.map (·.app) :=
  (h.mbs.map_eq _ _ (fun _ _ _ _ hr => hr.app.symm)).symm

/-! ### the statements -/

theorem TchRel.insMbSide (r : MbSide) : TchRel u t m ap (db.insMbSide r) (da.insMbSide r) :=
  ⟨h.nps, h.sides, h.mbs, by simp [Chan.insMbSide, h.mbSides], h.msgs, h.next⟩
theorem TchRel.insNpSide (r : NpSide) : TchRel u t m ap (db.insNpSide r) (da.insNpSide r) :=
  ⟨h.nps, by simp [Chan.insNpSide, h.sides], h.mbs, h.mbSides, h.msgs, h.next⟩
theorem TchRel.insMessage (r : Message) : TchRel u t m ap (db.insMessage r) (da.insMessage r) :=
  ⟨h.nps, h.sides, h.mbs, h.mbSides, by simp [Chan.insMessage, h.msgs], h.next⟩
theorem TchRel.insNameplate (app name mb : String) :
    TchRel u t m ap (db.insNameplate app name mb) (da.insNameplate app name mb) :=
  ⟨by simp [Chan.insNameplate, h.nps, h.next], h.sides, h.mbs, h.mbSides, h.msgs, by simp [Chan.insNameplate, h.next]⟩
theorem TchRel.insMailbox (r : MailboxRow) : TchRel u t m ap (db.insMailbox r) (da.insMailbox r) :=
  ⟨h.nps, h.sides, h.mbs.append (.cons (RowRel.refl r) .nil), h.mbSides, h.msgs, h.next⟩
theorem TchRel.touch (mb : String) (t' : Time) : TchRel u t m ap (db.touch mb t') (da.touch mb t') := by
  refine ⟨h.nps, h.sides, ?_, h.mbSides, h.msgs, h.next⟩
  apply h.mbs.map
  intro rb _ ra _ hr
  by_cases e : rb.id = mb
  · rw [if_pos e, if_pos (hr.id.trans e)]
    exact Or.inl (hr.set t')
  · rw [if_neg e, if_neg (by rw [hr.id]; exact e)]
    exact hr
theorem TchRel.unclaim (npid : Nat) (side : String) : TchRel u t m ap (db.unclaim npid side) (da.unclaim npid side) :=
  ⟨h.nps, by simp [Chan.unclaim, h.sides], h.mbs, h.mbSides, h.msgs, h.next⟩
theorem TchRel.closeSide (mb side : String) (mood : Option String) :
    TchRel u t m ap (db.closeSide mb side mood) (da.closeSide mb side mood) :=
  ⟨h.nps, h.sides, h.mbs, by simp [Chan.closeSide, h.mbSides], h.msgs, h.next⟩
theorem TchRel.delNpSidesOf (npid : Nat) : TchRel u t m ap (db.delNpSidesOf npid) (da.delNpSidesOf npid) :=
  ⟨h.nps, by simp [Chan.delNpSidesOf, h.sides], h.mbs, h.mbSides, h.msgs, h.next⟩
theorem TchRel.delNameplate (npid : Nat) : TchRel u t m ap (db.delNameplate npid) (da.delNameplate npid) :=
  ⟨by simp [Chan.delNameplate, h.nps], h.sides, h.mbs, h.mbSides, h.msgs, h.next⟩
theorem TchRel.delNpSidesOfMailbox (app mb : String) :
    TchRel u t m ap (db.delNpSidesOfMailbox app mb) (da.delNpSidesOfMailbox app mb) :=
  ⟨h.nps, by simp [Chan.delNpSidesOfMailbox, h.nameplatesOfMailbox, h.sides], h.mbs, h.mbSides, h.msgs, h.next⟩
theorem TchRel.delNameplatesOfMailbox (app mb : String) :
    TchRel u t m ap (db.delNameplatesOfMailbox app mb) (da.delNameplatesOfMailbox app mb) :=
  ⟨by simp [Chan.delNameplatesOfMailbox, h.nps], h.sides, h.mbs, h.mbSides, h.msgs, h.next⟩
theorem TchRel.delMessagesOf (mb : String) : TchRel u t m ap (db.delMessagesOf mb) (da.delMessagesOf mb) :=
  ⟨h.nps, h.sides, h.mbs, h.mbSides, by simp [Chan.delMessagesOf, h.msgs], h.next⟩
theorem TchRel.delMbSidesOf (mb : String) : TchRel u t m ap (db.delMbSidesOf mb) (da.delMbSidesOf mb) :=
  ⟨h.nps, h.sides, h.mbs, by simp [Chan.delMbSidesOf, h.mbSides], h.msgs, h.next⟩
theorem TchRel.delMailbox (mb : String) : TchRel u t m ap (db.delMailbox mb) (da.delMailbox mb) := by
  refine ⟨h.nps, h.sides, ?_, h.mbSides, h.msgs, h.next⟩
  apply h.mbs.filter
  intro rb _ ra _ hr
  rw [hr.id]

end Chan
end

namespace Sys

/-- the relation between the run without the duplicate (`b`, stamp `u`) and the run with it (`a`, stamp `t`) -/
structure TchRel (u t : Time) (m ap : String) (b a : Sys) : Prop where
  db : Chan.TchRel u t m ap b.db a.db
  disk : Chan.TchRel u t m ap b.disk a.disk
  conns : a.conns = b.conns
  cfg : a.cfg = b.cfg
  out : vis a.out = vis b.out

variable {u t : Time} {m ap : String} {b a : Sys}

theorem TchRel.modDb (h : TchRel u t m ap b a) {f : Chan → Chan}
    (hf : Chan.TchRel u t m ap (f b.db) (f a.db)) : TchRel u t m ap (b.modDb f) (a.modDb f) :=
  ⟨hf, h.disk, h.conns, h.cfg, h.out⟩

theorem TchRel.modUdb (h : TchRel u t m ap b a) (f g : Usage → Usage) : TchRel u t m ap (b.modUdb f) (a.modUdb g) :=
  ⟨h.db, h.disk, h.conns, h.cfg, h.out⟩

theorem TchRel.emit (h : TchRel u t m ap b a) (e : Event) : TchRel u t m ap (b.emit e) (a.emit e) :=
  ⟨h.db, h.disk, h.conns, h.cfg, by simp only [emit_out, vis_append, h.out]⟩

theorem TchRel.send (h : TchRel u t m ap b a) (c : Nat) (f : Frame) : TchRel u t m ap (b.send c f) (a.send c f) :=
  ⟨h.db, h.disk, h.conns, h.cfg, by
    show vis (a.out ++ [_]) = vis (b.out ++ [_])
    simp only [vis_append, h.out]
    rfl⟩

theorem TchRel.sendError (h : TchRel u t m ap b a) (c : Nat) (txt : String) :
    TchRel u t m ap (b.sendError c txt) (a.sendError c txt) := h.send c _

theorem TchRel.internalErr (h : TchRel u t m ap b a) (c : Nat) (cls : String) :
    TchRel u t m ap (b.internalErr c cls) (a.internalErr c cls) := h.emit _

theorem TchRel.setConns (h : TchRel u t m ap b a) (l : List Conn) :
    TchRel u t m ap { b with conns := l } { a with conns := l } :=
  ⟨h.db, h.disk, rfl, h.cfg, h.out⟩

theorem TchRel.updConn (h : TchRel u t m ap b a) (c : Nat) (f : Conn → Conn) :
    TchRel u t m ap (b.updConn c f) (a.updConn c f) := by
  unfold Sys.updConn
  rw [h.conns]
  exact h.setConns _

theorem TchRel.stopListeners (h : TchRel u t m ap b a) (app mb : String) :
    TchRel u t m ap (b.stopListeners app mb) (a.stopListeners app mb) := by
  unfold Sys.stopListeners
  rw [h.conns]
  exact h.setConns _

theorem TchRel.commit (h : TchRel u t m ap b a) : TchRel u t m ap b.commit a.commit := by
  refine ⟨by simpa using h.db, by simpa using h.db, by simpa using h.conns, by simpa using h.cfg, ?_⟩
  unfold Sys.commit
  split <;> split <;> simp [h.out]

theorem TchRel.ucommit (h : TchRel u t m ap b a) : TchRel u t m ap b.ucommit a.ucommit := by
  refine ⟨by simpa using h.db, by simpa using h.disk, by simpa using h.conns, by simpa using h.cfg, ?_⟩
  unfold Sys.ucommit
  split <;> split <;> simp [h.out]

theorem TchRel.listeners (h : TchRel u t m ap b a) (app mb : String) : a.listeners app mb = b.listeners app mb := by
  simp only [Sys.listeners, h.conns]

theorem TchRel.findConn (h : TchRel u t m ap b a) (c : Nat) : a.findConn c = b.findConn c := by
  simp only [Sys.findConn, h.conns]

/-- the lemma of a function returning `Sys × β` says "related states, equal results"; its callers match on
    the two pairs, and consume it in this form -/
theorem TchRel.pair {β : Type} {pb pa : Sys × β} (h : TchRel u t m ap pb.1 pa.1 ∧ pa.2 = pb.2) :
    ∃ b1 a1 r, pb = (b1, r) ∧ pa = (a1, r) ∧ TchRel u t m ap b1 a1 :=
  ⟨pb.1, pa.1, pb.2, rfl, Prod.ext rfl h.2, h.1⟩

end Sys
end Wormhole
