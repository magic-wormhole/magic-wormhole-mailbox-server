/-
  Properties of the USAGE database that every function of the model preserves.

  `UClosed c0 T`: the property `T` of system states fixes the configuration to `c0`, does not look
  at the channel database, the connection records or the events, and survives the four statements
  that write the usage database (`_summarize_nameplate_and_store`, `_summarize_mailbox_and_store`,
  the INSERT of `log_client_version`, `dump_stats`' rewrite of `current`), which the code executes
  only when `c0.usage = true`.  Such a `T` survives every statement of Inv/Acts.lean but `restart`.
  Two ways to get one: `uclosed_of_disk_snaps` (`T` reads only the committed channel database and
  the snapshots) and `UAll.uclosed` (a property `P` of usage databases kept by the four writes,
  `UWrites`, holds of the live one, the committed one and every snapshot's); `UAll.step` lifts the
  latter to `step`, crashes included.
-/
import Wormhole.Inv.UsageDefs
import Wormhole.Inv.Acts
import Wormhole.Inv.StepInv
import Wormhole.Reach

namespace Wormhole
namespace Sys

structure UClosed (c0 : Cfg) (T : Sys → Prop) : Prop where
  cfg : ∀ s, T s → s.cfg = c0
  emit : ∀ s e, T s → T (s.emit e)
  commit : ∀ s, T s → T s.commit
  ucommit : ∀ s, T s → T s.ucommit
  modDb : ∀ s f, T s → T (s.modDb f)
  conns : ∀ s cs, T s → T { s with conns := cs }
  storeNp : c0.usage = true → ∀ s app sides t p, T s → T (s.storeNameplateUsage app sides t p).1
  storeMb : c0.usage = true → ∀ s app f sides t p, T s → T (s.storeMailboxUsage app f sides t p)
  client : c0.usage = true → ∀ s a sd t i v, T s →
    T (s.modUdb (fun d => { d with clients := d.clients ++ [⟨a, sd, s.blurTime t, i, v⟩] }))
  current : c0.usage = true → ∀ s rows, T s → T (s.modUdb (fun d => { d with current := rows }))

section
variable {c0 : Cfg} {T : Sys → Prop} (hT : UClosed c0 T)
include hT

theorem UClosed.usage {s : Sys} (h : T s) (hu : s.cfg.usage = true) : c0.usage = true := by
  rw [← hT.cfg s h]; exact hu

/-- `T` survives every statement of the code, `restart` apart (it reloads the committed usage
    database) -/
theorem UClosed.stmt {k : Kind} (hk : k ≠ .boot) {a b : Sys} (h : Stmt k a b) : T a → T b := by
  intro ha
  cases h with
  | frame | msg | internal | fired => exact hT.emit _ _ ha
  | commit => exact hT.commit _ ha
  | ucommit => exact hT.ucommit _ ha
  | storeNp _ _ _ _ _ hu => exact hT.storeNp (hT.usage ha hu) _ _ _ _ _ ha
  | storeMb _ _ _ _ _ _ hu => exact hT.storeMb (hT.usage ha hu) _ _ _ _ _ _ ha
  | client _ _ _ _ _ _ hu => exact hT.client (hT.usage ha hu) _ _ _ _ _ _ ha
  | current _ _ hu => exact hT.current (hT.usage ha hu) _ _ ha
  | grow | insMessage | unclaim | releaseDel | closeSide | closeDeletes | delNp | delMb | touchListened =>
    exact hT.modDb _ _ ha
  | stop | flag | bind | conn | conns => exact hT.conns _ _ ha
  | restart => exact absurd rfl hk

theorem UClosed.runs {s s' : Sys} (r : Runs (· ≠ .boot) s s') (h : T s) : T s' :=
  r.preserves (fun _ hk _ _ => hT.stmt hk) h

theorem UClosed.updConn {s : Sys} (h : T s) (c f) : T (s.updConn c f) := hT.conns _ _ h
theorem UClosed.stopListeners {s : Sys} (h : T s) (a m) : T (s.stopListeners a m) := hT.conns _ _ h

theorem UClosed.replay {s : Sys} (h : T s) (c app mb) : T (s.replay c app mb) :=
  hT.runs ((Runs.refl s).replay (by decide) c app mb) h

theorem UClosed.broadcast {s : Sys} (h : T s) (app mb f) : T (s.broadcast app mb f) :=
  hT.runs ((Runs.refl s).broadcast (by decide) app mb f) h

theorem UClosed.storeNameplatesOfMailbox (hu : c0.usage = true) {app t} (l : List Nameplate) :
    ∀ {s : Sys}, T s → T (s.storeNameplatesOfMailbox app t l).1 :=
  fun {s} h => hT.runs (Runs.storeNameplatesOfMailbox (by decide) l (.refl s) (by rw [hT.cfg s h]; exact hu)) h

theorem UClosed.openMailbox {s : Sys} (h : T s) (app mb side t) : T (s.openMailbox app mb side t).1 :=
  hT.runs ((Runs.refl s).openMailbox (by decide) app mb side t nofun) h

theorem UClosed.addMessage {s : Sys} (h : T s) (app mb side ph bd t id) :
    T (s.addMessage app mb side ph bd t id) :=
  hT.runs ((Runs.refl s).addMessage (by decide) app mb side ph bd t id nofun nofun) h

theorem UClosed.mailboxClose {s : Sys} (h : T s) (app mb side mood t) :
    T (s.mailboxClose app mb side mood t).1 :=
  hT.runs ((Runs.refl s).mailboxClose (by decide) (by decide) app mb side mood t nofun nofun) h

theorem UClosed.claimNameplate {s : Sys} (h : T s) (app name side t fresh) :
    T (s.claimNameplate app name side t fresh).1 :=
  hT.runs ((Runs.refl s).claimNameplate (by decide) app name side t fresh nofun) h

theorem UClosed.releaseNameplate {s : Sys} (h : T s) (app name side t) :
    T (s.releaseNameplate app name side t).1 :=
  hT.runs ((Runs.refl s).releaseNameplate (by decide) (by decide) (by decide) app name side t) h

theorem UClosed.pruneApps {now old} (l : List String) :
    ∀ {s : Sys}, T s → T (s.pruneApps now old l).1 :=
  fun {s} h => hT.runs (Runs.pruneApps (by decide) (by decide) (by decide) (fun _ => nofun) nofun l (.refl s)) h

theorem UClosed.dumpStats {s : Sys} (h : T s) (now) : T (s.dumpStats now) :=
  hT.runs ((Runs.refl s).dumpStats (by decide) (by decide) now) h

theorem UClosed.expire {s : Sys} (h : T s) (now fault) : T (s.expire now fault) :=
  hT.runs ((Runs.refl s).expire (by decide) (by decide) (by decide) (fun _ => nofun) (by decide) now fault nofun) h

theorem UClosed.onMessage {s : Sys} (h : T s) (c t id cmd) : T (s.onMessage c t id cmd) :=
  hT.runs (onMessage_runs_all (fun _ _ hk => hk) s c t id cmd) h

theorem UClosed.stepPlain (hrestart : ∀ s t, T s → T (s.restart t)) {s : Sys} (h : T s) (op : Op) :
    T (s.stepPlain op) := by
  refine (stepPlain_runs (K := Kind.any) (fun _ => trivial) s op).preserves ?_ h
  intro k _ a b hab
  by_cases hk : k = .boot
  · subst hk; cases hab; exact hrestart a _
  · exact hT.stmt hk hab

end

/-! ### properties of the committed channel database and the snapshots -/

theorem uclosed_of_disk_snaps (c0 : Cfg) {Q : Sys → Prop}
    (hQ : ∀ {s s' : Sys}, Q s → s'.disk = s.disk → s'.snaps = s.snaps → Q s')
    (hcommit : ∀ s, Q s → Q s.commit) (hucommit : ∀ s, Q s → Q s.ucommit) :
    UClosed c0 (fun s => s.cfg = c0 ∧ Q s) where
  cfg := fun _ h => h.1
  emit := fun _ _ h => ⟨h.1, hQ h.2 rfl rfl⟩
  commit := fun s h => ⟨by rw [commit_cfg]; exact h.1, hcommit s h.2⟩
  ucommit := fun s h => ⟨by rw [ucommit_cfg]; exact h.1, hucommit s h.2⟩
  modDb := fun _ _ h => ⟨h.1, hQ h.2 rfl rfl⟩
  conns := fun _ _ h => ⟨h.1, hQ h.2 rfl rfl⟩
  storeNp := fun _ s app sides t p h => by
    unfold storeNameplateUsage; split <;> exact ⟨h.1, hQ h.2 rfl rfl⟩
  storeMb := fun _ _ _ _ _ _ _ h => ⟨h.1, hQ h.2 rfl rfl⟩
  client := fun _ _ _ _ _ _ _ h => ⟨h.1, hQ h.2 rfl rfl⟩
  current := fun _ _ _ h => ⟨h.1, hQ h.2 rfl rfl⟩

theorem stepPlain_cfg (s : Sys) (op : Op) : (s.stepPlain op).cfg = s.cfg :=
  ((uclosed_of_disk_snaps s.cfg (Q := fun _ => True) (fun _ _ _ => trivial) (fun _ _ => trivial)
    (fun _ _ => trivial)).stepPlain (fun _ _ h => h) ⟨rfl, trivial⟩ op).1

theorem step_cfg (s : Sys) (op : Op) : (s.step op).cfg = s.cfg := by
  rcases op.isCrash_cases with hc | ⟨k, op', rfl⟩
  · rw [step_eq_of_not_crash s hc]
    exact stepPlain_cfg ({ s with out := [], snaps := [] } : Sys) op
  · have h1 := stepPlain_cfg ({ s with out := [], snaps := [] } : Sys) op'
    unfold Sys.step
    dsimp only
    split
    · rfl
    · exact h1
    · exact h1

theorem run_cfg (s : Sys) (ops : List Op) : (s.run ops).1.cfg = s.cfg := by
  induction ops generalizing s with
  | nil => rfl
  | cons op rest ih =>
    simp only [Sys.run]
    rw [ih, step_cfg]

/-! ### properties of all copies of the usage database -/

/-- `P` survives the four writes to the usage database, with times blurred by `blur` -/
structure UWrites (blur : Time → Time) (P : Usage → Prop) : Prop where
  np : ∀ u app added t p, added ≠ [] → P u →
    P { u with nameplates := u.nameplates ++ [npRecord blur app added t p] }
  mb : ∀ u app f sides t p, P u → P { u with mailboxes := u.mailboxes ++ [mbRecord blur app f sides t p] }
  client : ∀ u a sd t i v, P u → P { u with clients := u.clients ++ [⟨a, sd, blur t, i, v⟩] }
  current : ∀ u rows, P u → P { u with current := rows }

/-- the live usage database, the committed one and every snapshot's satisfy `P` -/
structure UAll (c0 : Cfg) (P : Usage → Prop) (s : Sys) : Prop where
  cfg : s.cfg = c0
  udb : P s.udb
  udisk : P s.udisk
  snaps : ∀ p ∈ s.snaps, P p.2

theorem UAll.uclosed {c0 : Cfg} {P : Usage → Prop} (hw : c0.usage = true → UWrites c0.blurTime P) :
    UClosed c0 (UAll c0 P) where
  cfg := fun _ h => h.cfg
  emit := fun _ _ h => ⟨h.cfg, h.udb, h.udisk, h.snaps⟩
  commit := fun s h => by
    refine ⟨by rw [commit_cfg]; exact h.cfg, by rw [commit_udb]; exact h.udb,
      by rw [commit_udisk]; exact h.udisk, fun p hp => ?_⟩
    rcases (commit_snaps_mem p).1 hp with hp | ⟨_, rfl⟩
    · exact h.snaps p hp
    · exact h.udisk
  ucommit := fun s h => by
    refine ⟨by rw [ucommit_cfg]; exact h.cfg, by rw [ucommit_udb]; exact h.udb,
      by rw [ucommit_udisk]; exact h.udb, fun p hp => ?_⟩
    rcases (ucommit_snaps_mem p).1 hp with hp | ⟨_, rfl⟩
    · exact h.snaps p hp
    · exact h.udb
  modDb := fun _ _ h => ⟨h.cfg, h.udb, h.udisk, h.snaps⟩
  conns := fun _ _ h => ⟨h.cfg, h.udb, h.udisk, h.snaps⟩
  storeNp := fun hu s app sides t p h => by
    by_cases hs : sides = []
    · have : s.storeNameplateUsage app sides t p = (s, false) := by
        rw [C15.C15_storeNameplateUsage, if_pos hs]
      rw [this]; exact h
    · rw [storeNameplateUsage_eq s app t p hs, blurTime_eq_cfg, h.cfg]
      exact ⟨h.cfg, (hw hu).np _ _ _ _ _ (by simpa using hs) h.udb, h.udisk, h.snaps⟩
  storeMb := fun hu s app f sides t p h => by
    rw [storeMailboxUsage_eq, blurTime_eq_cfg, h.cfg]
    exact ⟨h.cfg, (hw hu).mb _ _ _ _ _ _ h.udb, h.udisk, h.snaps⟩
  client := fun hu s a sd t i v h => by
    rw [blurTime_eq_cfg, h.cfg]
    exact ⟨h.cfg, (hw hu).client _ _ _ _ _ _ h.udb, h.udisk, h.snaps⟩
  current := fun hu s rows h => ⟨h.cfg, (hw hu).current _ _ h.udb, h.udisk, h.snaps⟩

/-- one step, crashes included: a crash leaves the usage database of one of the snapshots -/
theorem UAll.step {P : Usage → Prop} {s : Sys} (hw : s.cfg.usage = true → UWrites s.cfg.blurTime P)
    (h1 : P s.udb) (h2 : P s.udisk) (op : Op) : P (s.step op).udb ∧ P (s.step op).udisk := by
  have hplain : ∀ op', UAll s.cfg P (({ s with out := [], snaps := [] } : Sys).stepPlain op') := fun op' =>
    (UAll.uclosed hw).stepPlain (fun z t h => ⟨h.cfg, h.udisk, h.udisk, h.snaps⟩)
      (s := { s with out := [], snaps := [] }) ⟨rfl, h1, h2, fun _ hp => by cases hp⟩ op'
  rcases op.isCrash_cases with hc | ⟨k, op', rfl⟩
  · rw [step_eq_of_not_crash s hc]
    exact ⟨(hplain op).udb, (hplain op).udisk⟩
  · unfold Sys.step
    dsimp only
    split
    · exact ⟨h2, h2⟩
    · rename_i p _ hp
      have := (hplain op').snaps p (List.mem_of_getElem? hp)
      exact ⟨this, this⟩
    · exact ⟨(hplain op').udisk, (hplain op').udisk⟩

end Sys

theorem GSys.run_cfg (g : GSys) (ops : List Op) : (g.run ops).sys.cfg = g.sys.cfg := by
  rw [GSys.run_sys]; exact Sys.run_cfg _ _

end Wormhole
