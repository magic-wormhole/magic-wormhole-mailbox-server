/-
  The ledger of the deletion phase of an operation: "usage rows written so far ~ rows retired so
  far".

  `Led B U0 blur t pruned d u`: `d` (channel database) and `u` (usage database) are reached from
  the base `B` / `U0` by deleting nameplates and mailboxes one at a time, each deletion together with
  its usage row; in `d` every surviving nameplate / mailbox still has the side rows it has in `B`
  (nameplates: the same `added` times -- `claimed` may have been reset by `release`).
  The ledger is maintained by
    `Led.delNp`   (`DELETE nameplate_sides, nameplates WHERE id` + `_summarize_nameplate_and_store`)
    `Led.delMb`   (`DELETE messages, mailbox_sides, mailboxes WHERE id` + `_summarize_mailbox_and_store`)
    `Led.touchSome`, `Led.unclaim`  (the UPDATEs of the sweep and of `release`).
-/
import Wormhole.Inv.UsageDefs
import Wormhole.Inv.MbSpec

namespace Wormhole

/-- the record of nameplate row `n` of base `B` -/
def Chan.npRec (B : Chan) (blur : Time → Time) (t : Time) (pruned : Bool) (n : Nameplate) : UNameplate :=
  npRecord blur n.app ((B.npSidesOf n.id).map (·.added)) t pruned

/-- the record of mailbox row `m` of base `B` -/
def Chan.mbRec (B : Chan) (blur : Time → Time) (t : Time) (pruned : Bool) (m : MailboxRow) : UMailbox :=
  mbRecord blur m.app m.forNp (B.mbSidesOf m.id) t pruned

structure Led (B : Chan) (U0 : Usage) (blur : Time → Time) (t : Time) (pruned : Bool) (d : Chan) (u : Usage) :
    Prop where
  npSub : ∀ n ∈ d.nameplates, n ∈ B.nameplates
  npSides : ∀ n ∈ d.nameplates, (d.npSidesOf n.id).map (·.added) = (B.npSidesOf n.id).map (·.added)
  mbSub : ∀ m ∈ d.mailboxes, ∃ m0 ∈ B.mailboxes, m0.id = m.id ∧ m0.app = m.app ∧ m0.forNp = m.forNp
  mbSides : ∀ m ∈ d.mailboxes, d.mbSidesOf m.id = B.mbSidesOf m.id
  npIds : d.nameplates.Pairwise (fun a b => ¬ a.id = b.id)
  mbIds : d.mailboxes.Pairwise (fun a b => ¬ a.id = b.id)
  recNp : ∃ recs, u.nameplates = U0.nameplates ++ recs ∧
    recs.Perm ((B.retiredNp d).map (B.npRec blur t pruned))
  recMb : ∃ recs, u.mailboxes = U0.mailboxes ++ recs ∧
    recs.Perm ((B.retiredMb d).map (B.mbRec blur t pruned))
  clients : u.clients = U0.clients

namespace Led
variable {B : Chan} {U0 : Usage} {blur : Time → Time} {t : Time} {pruned : Bool} {d : Chan} {u : Usage}

theorem start (hB : B.PInv) : Led B U0 blur t pruned B U0 := by
  refine ⟨fun _ h => h, fun _ _ => rfl, fun m hm => ⟨m, hm, rfl, rfl, rfl⟩, fun _ _ => rfl, hB.npIds, hB.mbIds,
    ⟨[], by simp, ?_⟩, ⟨[], by simp, ?_⟩, rfl⟩
  · rw [Chan.retiredNp_self]; exact List.Perm.refl _
  · rw [Chan.retiredMb_self]; exact List.Perm.refl _

theorem current (h : Led B U0 blur t pruned d u) (rows : List UCurrent) :
    Led B U0 blur t pruned d { u with current := rows } :=
  ⟨h.npSub, h.npSides, h.mbSub, h.mbSides, h.npIds, h.mbIds, h.recNp, h.recMb, h.clients⟩

theorem delNp (hB : B.PInv) (h : Led B U0 blur t pruned d u) {np : Nameplate} (hnp : np ∈ d.nameplates) :
    Led B U0 blur t pruned ((d.delNpSidesOf np.id).delNameplate np.id)
      { u with nameplates := u.nameplates ++
          [npRecord blur np.app ((d.npSidesOf np.id).map (·.added)) t pruned] } := by
  have hside : ∀ n ∈ d.nameplates, n.id ≠ np.id →
      ((d.delNpSidesOf np.id).delNameplate np.id).npSidesOf n.id = d.npSidesOf n.id := by
    intro n _ hne
    simp only [Chan.npSidesOf, Chan.delNameplate, Chan.delNpSidesOf, List.filter_filter]
    apply List.filter_congr
    intro r _
    by_cases e : r.npid = n.id <;> simp [e, hne]
  obtain ⟨recs, e1, e2⟩ := h.recNp
  refine ⟨fun n hn => h.npSub n (List.mem_filter.1 hn).1, ?_, h.mbSub, h.mbSides, h.npIds.filter _, h.mbIds,
    ⟨recs ++ [npRecord blur np.app ((d.npSidesOf np.id).map (·.added)) t pruned], by simp [e1], ?_⟩, h.recMb,
    h.clients⟩
  · intro n hn
    obtain ⟨hn0, hne⟩ := List.mem_filter.1 hn
    rw [hside n hn0 (by simpa using hne)]
    exact h.npSides n hn0
  · have hrec : npRecord blur np.app ((d.npSidesOf np.id).map (·.added)) t pruned = B.npRec blur t pruned np := by
      unfold Chan.npRec; rw [h.npSides np hnp]
    have hperm := filter_absent_perm_snoc (·.id) hB.npIds (h.npSub np hnp) (l := d.nameplates)
      (List.mem_map.2 ⟨np, hnp, rfl⟩)
    rw [hrec, ← List.map_singleton (f := B.npRec blur t pruned)]
    exact (e2.append_right _).trans (by rw [← List.map_append]; exact (hperm.map _).symm)

theorem delMb (hB : B.PInv) (h : Led B U0 blur t pruned d u) {m : MailboxRow} (hm : m ∈ d.mailboxes) :
    Led B U0 blur t pruned (((d.delMessagesOf m.id).delMbSidesOf m.id).delMailbox m.id)
      { u with mailboxes := u.mailboxes ++ [mbRecord blur m.app m.forNp (d.mbSidesOf m.id) t pruned] } := by
  obtain ⟨m0, hm0, e0, ea, ef⟩ := h.mbSub m hm
  have hside : ∀ m' ∈ d.mailboxes, m'.id ≠ m.id →
      (((d.delMessagesOf m.id).delMbSidesOf m.id).delMailbox m.id).mbSidesOf m'.id = d.mbSidesOf m'.id := by
    intro m' _ hne
    simp only [Chan.mbSidesOf, Chan.delMailbox, Chan.delMbSidesOf, Chan.delMessagesOf, List.filter_filter]
    apply List.filter_congr
    intro r _
    by_cases e : r.mailbox = m'.id <;> simp [e, hne]
  obtain ⟨recs, e1, e2⟩ := h.recMb
  refine ⟨h.npSub, h.npSides, fun m' hm' => h.mbSub m' (List.mem_filter.1 hm').1, ?_, h.npIds, h.mbIds.filter _,
    h.recNp, ⟨recs ++ [mbRecord blur m.app m.forNp (d.mbSidesOf m.id) t pruned], by simp [e1], ?_⟩, h.clients⟩
  · intro m' hm'
    obtain ⟨hm'0, hne⟩ := List.mem_filter.1 hm'
    rw [hside m' hm'0 (by simpa using hne)]
    exact h.mbSides m' hm'0
  · have hrec : mbRecord blur m.app m.forNp (d.mbSidesOf m.id) t pruned = B.mbRec blur t pruned m0 := by
      unfold Chan.mbRec; rw [h.mbSides m hm, ea, ef, e0]
    have hperm := filter_absent_perm_snoc (·.id) hB.mbIds hm0 (l := d.mailboxes)
      (List.mem_map.2 ⟨m, hm, e0.symm⟩)
    rw [e0] at hperm
    rw [hrec, ← List.map_singleton (f := B.mbRec blur t pruned)]
    exact (e2.append_right _).trans (by rw [← List.map_append]; exact (hperm.map _).symm)

/-- `UPDATE mailboxes SET updated=…` on some rows -/
theorem touchSome (h : Led B U0 blur t pruned d u) (p : MailboxRow → Prop) [DecidablePred p] (t' : Time) :
    Led B U0 blur t pruned
      { d with mailboxes := d.mailboxes.map (fun r => if p r then { r with updated := t' } else r) } u := by
  have hf : ∀ r : MailboxRow, (if p r then { r with updated := t' } else r).id = r.id ∧
      (if p r then { r with updated := t' } else r).app = r.app ∧
      (if p r then { r with updated := t' } else r).forNp = r.forNp := fun r => by
    split <;> exact ⟨rfl, rfl, rfl⟩
  have hid : (d.mailboxes.map (fun r => if p r then { r with updated := t' } else r)).map (·.id) =
      d.mailboxes.map (·.id) := by
    rw [List.map_map]; exact List.map_congr_left fun r _ => (hf r).1
  refine ⟨h.npSub, h.npSides, ?_, ?_, h.npIds, ?_, h.recNp, ?_, h.clients⟩
  · intro m hm
    obtain ⟨r, hr, rfl⟩ := List.mem_map.1 hm
    obtain ⟨m0, hm0, e0, ea, ef⟩ := h.mbSub r hr
    exact ⟨m0, hm0, e0.trans (hf r).1.symm, ea.trans (hf r).2.1.symm, ef.trans (hf r).2.2.symm⟩
  · intro m hm
    obtain ⟨r, hr, rfl⟩ := List.mem_map.1 hm
    rw [(hf r).1]
    exact h.mbSides r hr
  · rw [List.pairwise_map]
    exact h.mbIds.imp fun {a b} hab => by rw [(hf a).1, (hf b).1]; exact hab
  · obtain ⟨recs, e1, e2⟩ := h.recMb
    exact ⟨recs, e1, by rw [Chan.retiredMb_congr hid]; exact e2⟩

/-- `UPDATE nameplate_sides SET claimed=0` on one row -/
theorem unclaim (h : Led B U0 blur t pruned d u) (npid : Nat) (side : String) :
    Led B U0 blur t pruned (d.unclaim npid side) u := by
  refine ⟨h.npSub, ?_, h.mbSub, h.mbSides, h.npIds, h.mbIds, h.recNp, h.recMb, h.clients⟩
  intro n hn
  rw [← h.npSides n hn]
  simp only [Chan.npSidesOf, Chan.unclaim]
  exact Chan.map_filter_map_of_inv _ _ _ (fun x => by split <;> rfl) (fun x => by split <;> rfl) _

end Led
end Wormhole
