/-
  A connection invariant that is not part of `GInv`:

      a held handle is the handle of the mailbox the connection remembers
      `∀ x ∈ conns, ∀ h, x.mailbox = some h → x.mailboxId = some h`

  (`handle_open` sets `_mailbox_id` before it gets the handle; `handle_close` may transiently hold a
  handle for an id it does not remember -- `close m` on a connection that never opened -- but drops it
  before the step ends: the `IndexError` path that would keep it cannot be taken, because every nameplate
  has a side row (`mailboxClose_true`).)

  `GSys.Reach.handleId`: it holds in every state reachable by a well-formed history, crashes included.

  Proof device: for the connection `c` a command arrives on, split the invariant into
  `HExcept c` (every OTHER record is fine) -- preserved by every primitive, whatever it does to `c`'s record --
  and `Own c P` (every record with id `c` satisfies `P`), tracked through the handler.
-/
import Wormhole.Inv.Main
import Wormhole.Inv.MsgConns
import Wormhole.Inv.SimCore
import Wormhole.Props.C17

namespace Wormhole

/-- the handle, if any, is the handle of the remembered mailbox id -/
def Conn.HandleOk (x : Conn) : Prop := ∀ h, x.mailbox = some h → x.mailboxId = some h

namespace Sys

def HandleId (s : Sys) : Prop := ∀ x ∈ s.conns, ∀ h, x.mailbox = some h → x.mailboxId = some h

/-- every record of another connection is fine -/
def HExcept (c : Nat) (s : Sys) : Prop := ∀ y ∈ s.conns, y.id ≠ c → y.HandleOk

/-- every record of connection `c` satisfies `P` -/
def Own (c : Nat) (P : Conn → Prop) (s : Sys) : Prop := ∀ y ∈ s.conns, y.id = c → P y

theorem HandleId.split {s : Sys} (h : s.HandleId) (c : Nat) : s.HExcept c ∧ s.Own c Conn.HandleOk :=
  ⟨fun y hy _ => h y hy, fun y hy _ => h y hy⟩

theorem HandleId.join {s : Sys} {c : Nat} {P : Conn → Prop} (h1 : s.HExcept c) (h2 : s.Own c P)
    (hP : ∀ y, P y → y.HandleOk) : s.HandleId := by
  intro y hy
  by_cases e : y.id = c
  · exact hP y (h2 y hy e)
  · exact h1 y hy e

theorem HandleId.of_conns {s s' : Sys} (h : s.HandleId) (e : s'.conns = s.conns) : s'.HandleId := by
  unfold HandleId; rw [e]; exact h

theorem HExcept.of_conns {c : Nat} {s s' : Sys} (h : s.HExcept c) (e : s'.conns = s.conns) : s'.HExcept c := by
  unfold HExcept; rw [e]; exact h

theorem Own.of_conns {c : Nat} {P : Conn → Prop} {s s' : Sys} (h : s.Own c P) (e : s'.conns = s.conns) :
    s'.Own c P := by
  unfold Own; rw [e]; exact h

theorem Own.mono {c : Nat} {P Q : Conn → Prop} {s : Sys} (h : s.Own c P) (hPQ : ∀ y, P y → Q y) : s.Own c Q :=
  fun y hy e => hPQ y (h y hy e)

theorem mem_updConn {s : Sys} {c : Nat} {f : Conn → Conn} {y' : Conn} (h : y' ∈ (s.updConn c f).conns) :
    ∃ y ∈ s.conns, y' = if y.id = c then f y else y := by
  simp only [updConn, List.mem_map] at h
  obtain ⟨y, hy, e⟩ := h
  exact ⟨y, hy, e.symm⟩

theorem HExcept.updConn {c : Nat} {s : Sys} (h : s.HExcept c) {f : Conn → Conn} (hf : ∀ y, (f y).id = y.id) :
    (s.updConn c f).HExcept c := by
  intro y' hy' hne
  obtain ⟨y, hy, rfl⟩ := mem_updConn hy'
  by_cases e : y.id = c
  · rw [if_pos e] at hne
    exact absurd ((hf y).trans e) hne
  · rw [if_neg e]; exact h y hy e

theorem Own.updConn {c : Nat} {P Q : Conn → Prop} {s : Sys} (h : s.Own c P) {f : Conn → Conn}
    (hf : ∀ y, P y → Q (f y)) : (s.updConn c f).Own c Q := by
  intro y' hy' he
  obtain ⟨y, hy, rfl⟩ := mem_updConn hy'
  by_cases e : y.id = c
  · rw [if_pos e]; exact hf y (h y hy e)
  · rw [if_neg e] at he; exact absurd he e

theorem HandleId.updConn {s : Sys} (h : s.HandleId) {c : Nat} {f : Conn → Conn}
    (hf : ∀ y : Conn, y.HandleOk → (f y).HandleOk) : (s.updConn c f).HandleId := by
  intro y' hy'
  obtain ⟨y, hy, rfl⟩ := mem_updConn hy'
  split
  · exact hf y (h y hy)
  · exact h y hy

theorem stopC_handleOk {a m : String} {y : Conn} (h : y.HandleOk) : (stopC a m y).HandleOk := by
  unfold stopC
  split
  · intro _ e; cases e
  · exact h

theorem HExcept.stopListeners {c : Nat} {s : Sys} (h : s.HExcept c) (a m : String) :
    (s.stopListeners a m).HExcept c := by
  intro y' hy' hne
  rw [stopListeners_conns'] at hy'
  obtain ⟨y, hy, rfl⟩ := List.mem_map.1 hy'
  rw [stopC_id] at hne
  exact stopC_handleOk (h y hy hne)

theorem Own.stopListeners {c : Nat} {P : Conn → Prop} {s : Sys} (h : s.Own c P) (a m : String)
    (hP : ∀ y, P y → P (stopC a m y)) : (s.stopListeners a m).Own c P := by
  intro y' hy' he
  rw [stopListeners_conns'] at hy'
  obtain ⟨y, hy, rfl⟩ := List.mem_map.1 hy'
  rw [stopC_id] at he
  exact hP y (h y hy he)

theorem HExcept.mailboxClose {c : Nat} {s : Sys} (h : s.HExcept c) (app mb side mood t) :
    (s.mailboxClose app mb side mood t).1.HExcept c := by
  rcases mailboxClose_conns s app mb side mood t with ⟨e, _⟩ | ⟨e, _⟩
  · exact h.of_conns e
  · exact (h.stopListeners app mb).of_conns e

theorem Own.mailboxClose {c : Nat} {P : Conn → Prop} {s : Sys} (h : s.Own c P) (app mb side mood t)
    (hP : ∀ y, P y → P (stopC app mb y)) : (s.mailboxClose app mb side mood t).1.Own c P := by
  rcases mailboxClose_conns s app mb side mood t with ⟨e, _⟩ | ⟨e, _⟩
  · exact h.of_conns e
  · exact (h.stopListeners app mb hP).of_conns e

theorem own_eq_of_find {s : Sys} (hids : s.conns.Pairwise (fun a b => ¬ a.id = b.id)) {c : Nat} {x : Conn}
    (hx : s.findConn c = some x) : s.Own c (fun y => y = x) := by
  intro y hy e
  exact Chan.eq_of_pairwise_ne hids hy (findConn_mem hx) (e.trans (findConn_id hx).symm)

/-- all kinds but the updates of handle / subscription, `onOpen` / `onClose` and the restart -/
def Kind.keepsHandle : Kind → Bool
  | .conn | .link | .boot => false
  | _ => true

theorem HandleId.stmt {s s' : Sys} (h : s.HandleId) {k : Kind} (hs : Stmt k s s') (hk : k.keepsHandle = true) :
    s'.HandleId := by
  by_cases hc : k.keepsConns = true
  · exact h.of_conns (hs.conns_eq hc)
  · cases hs with
    | flag _ c f hf hm =>
      exact h.updConn (fun y hy hh e => by rw [hm]; exact hy hh (by rw [← (hf y).2.2.2.1]; exact e))
    | bind => exact h.updConn (fun y hy => hy)
    | stop _ a m =>
      intro y' hy'
      rw [stopListeners_conns'] at hy'
      obtain ⟨y, hy, rfl⟩ := List.mem_map.1 hy'
      exact stopC_handleOk (h y hy)
    | closeDeletes => exact h.of_conns rfl
    | conn | conns | restart => cases hk
    | _ => exact absurd rfl hc

theorem handleOpen_handleId {s : Sys} {x : Conn} (h : s.HandleId) (hown : s.Own x.id (fun y => y = x))
    {app side t mailbox} : (s.handleOpen x app side t mailbox).HandleId := by
  unfold handleOpen
  split
  · exact h.of_conns rfl
  · rename_i hxm
    have hxm : x.mailbox = none := by simpa using hxm
    split
    · exact h.of_conns rfl
    · rename_i mb
      obtain ⟨hE, _⟩ := h.split x.id
      have hE0 : (s.updConn x.id (fun y => { y with mailboxId := some mb })).HExcept x.id :=
        hE.updConn (fun _ => rfl)
      have hO0 : (s.updConn x.id (fun y => { y with mailboxId := some mb })).Own x.id
          (fun y => y.mailbox = none ∧ y.mailboxId = some mb) :=
        hown.updConn (fun y hy => by subst hy; exact ⟨hxm, rfl⟩)
      have hc := openMailbox_conns (s.updConn x.id (fun y => { y with mailboxId := some mb })) app mb side t
      simp only []
      split <;> rename_i heq <;> rw [heq] at hc
      · exact HandleId.join (hE0.of_conns hc) (hO0.of_conns hc) (fun y hy _ e => by rw [hy.1] at e; cases e)
      · exact HandleId.join (hE0.of_conns hc) (hO0.of_conns hc) (fun y hy _ e => by rw [hy.1] at e; cases e)
      · rename_i s1
        have hE1 : (s1.updConn x.id (fun y => { y with mailbox := some mb, listening := true })).HExcept x.id :=
          (hE0.of_conns hc).updConn (fun _ => rfl)
        have hO1 : (s1.updConn x.id (fun y => { y with mailbox := some mb, listening := true })).Own x.id
            (fun y => y.mailbox = some mb ∧ y.mailboxId = some mb) :=
          (hO0.of_conns hc).updConn (fun y hy => ⟨rfl, hy.2⟩)
        refine HandleId.join (hE1.of_conns (replay_conns _ _ _)) (hO1.of_conns (replay_conns _ _ _)) ?_
        intro y hy _ e
        rw [hy.1] at e
        cases e
        exact hy.2

theorem openMailbox_npHasSide {s : Sys} (hN : s.db.NpHasSide) (app mb side : String) (t : Time) :
    (s.openMailbox app mb side t).1.db.NpHasSide := by
  cases e : s.openMailbox app mb side t with
  | mk s1 r =>
    have hd := (openMailbox_spec e).1.np
    simp only [Chan.npPart, Prod.mk.injEq] at hd
    show s1.db.NpHasSide
    unfold Chan.NpHasSide
    rw [hd.1, hd.2.1]
    exact hN

/-- `handle_close` from the point where the handle is held: every nameplate has a side row, so
    `Mailbox.close` raises nothing and the handle is dropped -/
theorem closeFinish_handleId {s : Sys} {x : Conn} (hE : s.HExcept x.id) (hN : s.db.NpHasSide) (app h side mood t) :
    (closeFinish x app side t mood (s, .ok, h)).HandleId := by
  have hE2 : (s.updConn x.id (fun y => { y with listening := false, didClose := true })).HExcept x.id :=
    hE.updConn (fun _ => rfl)
  have htrue := mailboxClose_true (s.updConn x.id (fun y => { y with listening := false, didClose := true }))
    app h side mood t hN
  have hE3 := hE2.mailboxClose app h side mood t
  dsimp only [closeFinish]
  split <;> rename_i heq <;> rw [heq] at htrue hE3
  · cases htrue
  · rename_i s3
    have hE4 : (s3.updConn x.id (fun y => { y with mailbox := none })).HExcept x.id := hE3.updConn (fun _ => rfl)
    have hO4 : (s3.updConn x.id (fun y => { y with mailbox := none })).Own x.id (fun y => y.mailbox = none) :=
      (show s3.Own x.id (fun _ => True) from fun _ _ _ => trivial).updConn (fun _ _ => rfl)
    exact HandleId.join (hE4.of_conns rfl) (hO4.of_conns rfl) (fun y hy _ e => by rw [hy] at e; cases e)

theorem handleClose_handleId {s : Sys} {x : Conn} (h : s.HandleId)
    (hN : s.db.NpHasSide) {app side t m mood} : (s.handleClose x app side t m mood).HandleId := by
  obtain ⟨hE, hO⟩ := h.split x.id
  rcases handleClose_cases s x app side t m mood with ⟨⟨_, _, e⟩, _⟩ | ⟨mb, _, e⟩ <;> rw [e]
  · exact h.of_conns rfl
  · unfold closeOpened
    cases hx : x.mailbox with
    | some hd => exact closeFinish_handleId hE hN app hd side mood t
    | none =>
      -- the implicit open: the others are fine; own record fine unless it answered ok
      have hc := openMailbox_conns s app mb side t
      have hn := openMailbox_npHasSide hN app mb side t
      cases hom : s.openMailbox app mb side t with
      | mk s1 r =>
        rw [hom] at hc hn
        have hE1 : (s1.updConn x.id (fun y => if r = .ok then { y with mailbox := some mb } else y)).HExcept x.id :=
          (hE.of_conns hc).updConn (fun y => by split <;> rfl)
        have hO1 : r ≠ .ok →
            (s1.updConn x.id (fun y => if r = .ok then { y with mailbox := some mb } else y)).Own x.id Conn.HandleOk :=
          fun hr => (hO.of_conns hc).updConn (fun y hy => by rw [if_neg hr]; exact hy)
        cases r with
        | ok => exact closeFinish_handleId hE1 hn app mb side mood t
        | crowded => exact HandleId.join (hE1.of_conns rfl) ((hO1 (by simp)).of_conns rfl) (fun _ hy => hy)
        | integrity => exact HandleId.join (hE1.of_conns rfl) ((hO1 (by simp)).of_conns rfl) (fun _ hy => hy)

theorem onMessage_handleId {s : Sys} (h : s.HandleId) (hids : s.conns.Pairwise (fun a b => ¬ a.id = b.id))
    (hN : s.db.NpHasSide) (c : Nat) (t : Time) (id : Val) (cmd : Cmd) : (s.onMessage c t id cmd).HandleId := by
  by_cases hoc : (∃ m, cmd = .open_ m) ∨ ∃ m mood, cmd = .close m mood
  · unfold onMessage
    cases hx : s.findConn c with
    | none => exact h
    | some x =>
      have h1 : (s.send c (.ack id)).HandleId := h.of_conns rfl
      have hown : (s.send c (.ack id)).Own x.id (fun y => y = x) := by
        rw [findConn_id hx]; exact (own_eq_of_find hids hx).of_conns rfl
      rcases hoc with ⟨m, rfl⟩ | ⟨m, mood, rfl⟩ <;> cases happ : x.app <;> simp only [happ]
      · exact h1.of_conns rfl
      · exact handleOpen_handleId h1 hown
      · exact h1.of_conns rfl
      · exact handleClose_handleId h1 hN
  · exact (onMessage_runs (K := fun k => k.keepsHandle = true) rfl rfl rfl s c t id rfl (fun _ => rfl)
      (fun _ _ _ _ _ _ _ _ _ => rfl) (fun _ => rfl) (fun h => absurd h hoc) (fun _ => rfl) (fun _ => rfl)
      (fun _ _ _ _ _ _ _ _ _ => ⟨rfl, rfl⟩)).preserves (fun _ hk _ _ hs h => h.stmt hs hk) h

theorem stepPlain_handleId {s : Sys} (h : s.HandleId) (hids : s.conns.Pairwise (fun a b => ¬ a.id = b.id))
    (hN : s.db.NpHasSide) (op : Op) : (s.stepPlain op).HandleId := by
  cases op with
  | connect c =>
    intro y hy
    have hy' : y ∈ s.conns ++ [({ id := c } : Conn)] := hy
    rcases List.mem_append.1 hy' with hy | hy
    · exact h y hy
    · rw [List.mem_singleton] at hy
      subst hy
      intro _ e; cases e
  | recv c t id cmd => exact onMessage_handleId h hids hN c t id cmd
  | drop c =>
    intro y hy
    exact h y (List.mem_filter.1 hy).1
  | sweep now fault => exact h.of_conns (expire_conns s now fault)
  | restart t =>
    intro y hy
    have : y ∈ ([] : List Conn) := hy
    cases this
  | crashIn k op => exact h

end Sys

namespace GSys

theorem handleId_step {g : GSys} (hI : g.GInv) (h : g.sys.HandleId) (op : Op) : (g.step op).sys.HandleId := by
  show (g.sys.step op).HandleId
  rcases op.isCrash_cases with hc | ⟨k, op', rfl⟩
  · rw [Sys.step_eq_of_not_crash g.sys hc]
    exact Sys.stepPlain_handleId (s := { g.sys with out := [], snaps := [] }) h hI.conn.ids hI.cinv.npHasSide op
  · obtain ⟨_, _, _, _, _, _, e⟩ := step_crash_spec g.sys k op'
    intro y hy
    rw [e] at hy
    cases hy

/-- **in every reachable state a held handle is the handle of the remembered mailbox id** -/
theorem Reach.handleId {g : GSys} (hr : g.Reach) :
    ∀ x ∈ g.sys.conns, ∀ h, x.mailbox = some h → x.mailboxId = some h := by
  induction hr with
  | init cfg rb =>
    intro x hx
    have : x ∈ ([] : List Conn) := hx
    cases this
  | step op hr' _ ih => exact handleId_step hr'.ginv ih op

end GSys
end Wormhole
