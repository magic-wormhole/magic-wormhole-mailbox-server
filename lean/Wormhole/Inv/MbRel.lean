/-
  The relations between the channel database before a step and the database after it (or at any
  commit point inside it) that Props/C08.lean and Props/C05.lean use:

  `Chan.Mono d d'`   (statements that add rows / set fields): mailbox rows are kept, the list of sides
                     of every mailbox only grows at the end
  `Chan.Del d d'`    (deleting statements): no mailbox row appears, and a mailbox whose row is still
                     there has exactly its old list of sides
  `Chan.MD d d'`     = `Mono` followed by `Del`: what EVERY operation does (`step_MD`), because
                     creation (`open_mailbox`) always precedes deletion (`Mailbox.close`, sweep)
                     inside one operation
  `Chan.NpGrow d d'`  the same for nameplates, keyed by the never re-used AUTOINCREMENT id
  `Chan.OpenAt d app mb σ` : the row (app, mb) exists and side σ has it open
  and `step_track`: a property of the channel database tracked through a whole operation, every crash
  point included (the step-level form of `Track`, Inv/MbTrack.lean).
-/
import Wormhole.Inv.MbTrack

namespace Wormhole

def Op.core : Op → Op
  | .crashIn _ op => op
  | op => op

def Op.isSweep : Op → Bool
  | .sweep _ _ => true
  | _ => false

theorem Op.core_eq_self {op : Op} (h : op.isCrash = false) : op.core = op := by
  cases op <;> first | rfl | cases h

namespace Chan

theorem first2_eq (d : Chan) (mb : String) : d.first2 mb = (d.sidesOf mb).take 2 := by
  simp [first2, sidesOf, List.map_take]

theorem length_first2_le (d : Chan) (mb : String) : (d.first2 mb).length ≤ 2 := by
  rw [first2_eq, List.length_take]
  exact Nat.min_le_left _ _

theorem prefix_take {α : Type} {l1 l2 : List α} (h : l1 <+: l2) (n : Nat) : l1.take n <+: l2.take n := by
  obtain ⟨t, rfl⟩ := h
  rw [List.take_append]
  exact List.prefix_append _ _

structure Mono (d d' : Chan) : Prop where
  rows : ∀ app mb, d.HasBox app mb → d'.HasBox app mb
  sides : ∀ mb, d.sidesOf mb <+: d'.sidesOf mb

structure Del (d d' : Chan) : Prop where
  rows : ∀ mb, d'.HasId mb → d.HasId mb
  sides : ∀ mb, d'.HasId mb → d'.sidesOf mb = d.sidesOf mb

def MD (d d' : Chan) : Prop := ∃ d1, Mono d d1 ∧ Del d1 d'

theorem Mono.refl (d : Chan) : Mono d d := ⟨fun _ _ h => h, fun _ => List.prefix_refl _⟩
theorem Mono.trans {a b c : Chan} (h1 : Mono a b) (h2 : Mono b c) : Mono a c :=
  ⟨fun app mb h => h2.rows app mb (h1.rows app mb h), fun mb => (h1.sides mb).trans (h2.sides mb)⟩

theorem Del.refl (d : Chan) : Del d d := ⟨fun _ h => h, fun _ _ => rfl⟩
theorem Del.trans {a b c : Chan} (h1 : Del a b) (h2 : Del b c) : Del a c :=
  ⟨fun mb h => h1.rows mb (h2.rows mb h),
   fun mb h => (h2.sides mb h).trans (h1.sides mb (h2.rows mb h))⟩

theorem Mono.md {d d' : Chan} (h : Mono d d') : MD d d' := ⟨d', h, Del.refl _⟩
theorem MD.refl (d : Chan) : MD d d := (Mono.refl d).md
theorem MD.del {d d' d'' : Chan} (h : MD d d') (h2 : Del d' d'') : MD d d'' := by
  obtain ⟨d1, m, dl⟩ := h; exact ⟨d1, m, dl.trans h2⟩

/-- THE consequence: side rows of a mailbox disappear only together with the mailbox row; while
    the row is there, the list of sides only grows at the end -/
theorem MD.sides {d d' : Chan} (h : MD d d') {mb : String} (hid : d'.HasId mb) :
    d.sidesOf mb <+: d'.sidesOf mb := by
  obtain ⟨d1, m, dl⟩ := h
  rw [dl.sides mb hid]
  exact m.sides mb

theorem hasId_of_mailboxes_map {d d' : Chan} (f : MailboxRow → MailboxRow)
    (hf : ∀ r, (f r).id = r.id) (h : d'.mailboxes = d.mailboxes.map f)
    {mb : String} : d'.HasId mb ↔ d.HasId mb := by
  unfold HasId
  rw [h]
  constructor
  · rintro ⟨m, hm, hi⟩
    obtain ⟨m0, hm0, rfl⟩ := List.mem_map.1 hm
    exact ⟨m0, hm0, (hf m0) ▸ hi⟩
  · rintro ⟨m, hm, hi⟩
    exact ⟨f m, List.mem_map.2 ⟨m, hm, rfl⟩, (hf m).trans hi⟩

theorem Mono.of_eq {d d' : Chan} (h1 : d'.mailboxes = d.mailboxes) (h2 : d'.mbSides = d.mbSides) :
    Mono d d' := by
  refine ⟨fun app mb h => ?_, fun mb => ?_⟩
  · unfold HasBox; rw [h1]; exact h
  · unfold sidesOf mbSidesOf; rw [h2]; exact List.prefix_refl _

theorem Del.of_eq {d d' : Chan} (h1 : d'.mailboxes = d.mailboxes) (h2 : d'.mbSides = d.mbSides) :
    Del d d' := by
  refine ⟨fun mb h => ?_, fun mb _ => ?_⟩
  · unfold HasId at h ⊢; rw [← h1]; exact h
  · unfold sidesOf mbSidesOf; rw [h2]

theorem Mono.closeSide (d : Chan) (mb side : String) (mood : Option String) :
    Mono d (d.closeSide mb side mood) :=
  ⟨fun _ _ h => h, fun mb' => by rw [closeSide_sidesOf]; exact List.prefix_refl _⟩

theorem Mono.grow {d0 : Chan} {f : Chan → Chan} (hf : GrowPrim d0 f) (d : Chan) : Mono d (f d) := by
  cases hf with
  | insMailbox r _ =>
    refine ⟨fun app mb h => ?_, fun mb => List.prefix_refl _⟩
    obtain ⟨m, hm, hk⟩ := h
    exact ⟨m, by simp [Chan.insMailbox, hm], hk⟩
  | insMbSide r =>
    refine ⟨fun _ _ h => h, fun mb => ?_⟩
    simp only [sidesOf, mbSidesOf, Chan.insMbSide, List.filter_append, List.map_append]
    exact List.prefix_append _ _
  | touch mb t =>
    refine ⟨fun app mb' h => ?_, fun mb' => List.prefix_refl _⟩
    exact (hasBox_of_mailboxes_map (d := d) (d' := d.touch mb t)
      (fun r => if r.id = mb then { r with updated := t } else r)
      (fun r => by split <;> exact ⟨rfl, rfl⟩) rfl).2 h
  | _ => exact Mono.of_eq rfl rfl

theorem Del.of_filter {d d' : Chan} {mb : String}
    (h1 : d'.mailboxes = d.mailboxes.filter (fun r => ¬ r.id = mb))
    (h2 : d'.mbSides = d.mbSides.filter (fun r => ¬ r.mailbox = mb)) : Del d d' := by
  refine ⟨fun mb' h => ?_, fun mb' h => ?_⟩
  · obtain ⟨m, hm, hi⟩ := h
    rw [h1] at hm
    exact ⟨m, (List.mem_filter.1 hm).1, hi⟩
  · obtain ⟨m, hm, hi⟩ := h
    rw [h1] at hm
    have hne : mb' ≠ mb := by
      have := (List.mem_filter.1 hm).2
      simp only [decide_not, Bool.not_eq_eq_eq_not, Bool.not_true, decide_eq_false_iff_not] at this
      rw [← hi]; exact this
    simp only [sidesOf, mbSidesOf, h2, List.filter_filter]
    congr 1
    apply List.filter_congr
    intro r _
    by_cases hr : r.mailbox = mb' <;> simp [hr, hne]

section closeDeletes
variable (d : Chan) (app mb : String)

theorem closeDeletes_mailboxes :
    (d.closeDeletes app mb).mailboxes = d.mailboxes.filter (fun r => ¬ r.id = mb) := rfl
theorem closeDeletes_mbSides :
    (d.closeDeletes app mb).mbSides = d.mbSides.filter (fun r => ¬ r.mailbox = mb) := rfl
theorem closeDeletes_nameplates :
    (d.closeDeletes app mb).nameplates = d.nameplates.filter (fun r => ¬ (r.app = app ∧ r.mailbox = mb)) := rfl
theorem closeDeletes_npSides :
    (d.closeDeletes app mb).npSides =
      d.npSides.filter (fun r => ¬ r.npid ∈ (d.nameplatesOfMailbox app mb).map (·.id)) := rfl

end closeDeletes

theorem Del.closeDeletes (d : Chan) (app mb : String) : Del d (d.closeDeletes app mb) :=
  Del.of_filter (closeDeletes_mailboxes d app mb) (closeDeletes_mbSides d app mb)

theorem Del.prim {f : Chan → Chan} (hf : DelPrim f) (d : Chan) : Del d (f d) := by
  cases hf with
  | delNp id => exact Del.of_eq rfl rfl
  | delMb id => exact Del.of_filter (mb := id) rfl rfl
  | touchSome p inst t =>
    refine ⟨fun mb h => ?_, fun mb _ => rfl⟩
    exact (hasId_of_mailboxes_map (d := d)
      (f := fun r => if p r then { r with updated := t } else r)
      (fun r => by split <;> rfl) rfl).1 h

def npSideNames (d : Chan) (npid : Nat) : List String := (d.npSidesOf npid).map (·.side)

/-- nameplate rows are never modified and their ids never re-used: a nameplate row of `d'` with an
    id below the old counter is a row of `d`, and its list of sides has only grown at the end -/
structure NpGrow (d d' : Chan) : Prop where
  next : d.nextNp ≤ d'.nextNp
  rows : ∀ n' ∈ d'.nameplates, n'.id < d.nextNp → n' ∈ d.nameplates
  sides : ∀ n' ∈ d'.nameplates, n'.id < d.nextNp → d.npSideNames n'.id <+: d'.npSideNames n'.id

theorem NpGrow.refl (d : Chan) : NpGrow d d :=
  ⟨Nat.le_refl _, fun _ h _ => h, fun _ _ _ => List.prefix_refl _⟩

theorem NpGrow.trans {a b c : Chan} (h1 : NpGrow a b) (h2 : NpGrow b c) : NpGrow a c := by
  refine ⟨Nat.le_trans h1.next h2.next, ?_, ?_⟩
  · intro n hn hlt
    exact h1.rows n (h2.rows n hn (Nat.lt_of_lt_of_le hlt h1.next)) hlt
  · intro n hn hlt
    have hb := h2.rows n hn (Nat.lt_of_lt_of_le hlt h1.next)
    exact (h1.sides n hb hlt).trans (h2.sides n hn (Nat.lt_of_lt_of_le hlt h1.next))

theorem NpGrow.of_eq {d d' : Chan} (h1 : d'.nameplates = d.nameplates) (h2 : d'.npSides = d.npSides)
    (h3 : d'.nextNp = d.nextNp) : NpGrow d d' := by
  refine ⟨by rw [h3]; exact Nat.le_refl _, fun n hn _ => by rw [← h1]; exact hn, fun n _ _ => ?_⟩
  unfold npSideNames npSidesOf; rw [h2]; exact List.prefix_refl _

theorem NpGrow.closeSide (d : Chan) (mb side : String) (mood : Option String) :
    NpGrow d (d.closeSide mb side mood) := NpGrow.of_eq rfl rfl rfl

theorem NpGrow.delNp (d : Chan) (id : Nat) : NpGrow d ((d.delNpSidesOf id).delNameplate id) := by
  refine ⟨Nat.le_refl _, fun n hn _ => ?_, fun n hn _ => ?_⟩
  · simp only [delNameplate, delNpSidesOf, List.mem_filter] at hn
    exact hn.1
  · simp only [delNameplate, delNpSidesOf, List.mem_filter, decide_not, Bool.not_eq_eq_eq_not, Bool.not_true,
      decide_eq_false_iff_not] at hn
    have : ((d.delNpSidesOf id).delNameplate id).npSidesOf n.id = d.npSidesOf n.id := by
      simp only [npSidesOf, delNameplate, delNpSidesOf, List.filter_filter]
      apply List.filter_congr
      intro r _
      by_cases hr : r.npid = n.id <;> simp [hr, hn.2]
    unfold npSideNames; rw [this]; exact List.prefix_refl _

theorem NpGrow.grow {d0 : Chan} {f : Chan → Chan} (hf : GrowPrim d0 f) (d : Chan) : NpGrow d (f d) := by
  cases hf with
  | insNameplate a n m =>
    refine ⟨Nat.le_succ _, fun n' hn hlt => ?_, fun n' _ _ => List.prefix_refl _⟩
    simp only [Chan.insNameplate, List.mem_append, List.mem_singleton] at hn
    rcases hn with hn | rfl
    · exact hn
    · simp at hlt
  | insNpSide r =>
    refine ⟨Nat.le_refl _, fun _ hn _ => hn, fun n' _ _ => ?_⟩
    simp only [npSideNames, npSidesOf, Chan.insNpSide, List.filter_append, List.map_append]
    exact List.prefix_append _ _
  | unclaim n sd =>
    refine ⟨Nat.le_refl _, fun _ hn _ => hn, fun n' _ _ => ?_⟩
    have : (d.unclaim n sd).npSideNames n'.id = d.npSideNames n'.id := by
      simp only [npSideNames, npSidesOf, Chan.unclaim]
      apply map_filter_map_of_inv
      · intro x; split <;> rfl
      · intro x; split <;> rfl
    rw [this]; exact List.prefix_refl _
  | delNp id => exact NpGrow.delNp d id
  | _ => exact NpGrow.of_eq rfl rfl rfl

theorem NpGrow.prim {f : Chan → Chan} (hf : DelPrim f) (d : Chan) : NpGrow d (f d) := by
  cases hf with
  | delNp id => exact NpGrow.delNp d id
  | _ => exact NpGrow.of_eq rfl rfl rfl

/-- the DELETEs of `Mailbox.close`, relative to a database `d0` with unique nameplate ids: the side
    rows that go are those of the nameplates that go (this is what repair A established) -/
theorem NpGrow.closeDeletes {d0 d : Chan} (hu : d0.nameplates.Pairwise (fun a b => ¬ a.id = b.id))
    (h : NpGrow d0 d) (app mb : String) : NpGrow d0 (d.closeDeletes app mb) := by
  refine ⟨h.next, fun n hn hlt => ?_, fun n hn hlt => ?_⟩
  all_goals
    rw [closeDeletes_nameplates, List.mem_filter, decide_eq_true_eq] at hn
  · exact h.rows n hn.1 hlt
  · have hn0 := h.rows n hn.1 hlt
    have : (d.closeDeletes app mb).npSidesOf n.id = d.npSidesOf n.id := by
      simp only [npSidesOf, closeDeletes_npSides, List.filter_filter]
      apply List.filter_congr
      intro r _
      by_cases hr : r.npid = n.id
      · simp only [hr, decide_true, Bool.true_and]
        apply decide_eq_true
        simp only [nameplatesOfMailbox, List.mem_map, List.mem_filter, decide_eq_true_eq,
          not_exists, not_and]
        rintro n2 ⟨hn2, hk⟩ hid
        have hn20 := h.rows n2 hn2 (by omega)
        have : n2 = n := eq_of_pairwise_ne (f := Nameplate.id) hu hn20 hn0 hid
        subst this
        exact hn.2 hk
      · simp [hr]
    unfold npSideNames
    rw [this]
    exact h.sides n hn.1 hlt

def OpenAt (d : Chan) (app mb side : String) : Prop :=
  d.HasBox app mb ∧ ∃ r ∈ d.mbSides, r.mailbox = mb ∧ r.side = side ∧ r.opened = true

theorem OpenAt.of_eq {d d' : Chan} {app mb side : String} (h1 : d'.mailboxes = d.mailboxes)
    (h2 : d'.mbSides = d.mbSides) (h : d.OpenAt app mb side) : d'.OpenAt app mb side := by
  unfold OpenAt HasBox at *
  rw [h1, h2]; exact h

theorem OpenAt.grow {d0 : Chan} {f : Chan → Chan} (hf : GrowPrim d0 f) {d : Chan} {app mb side : String}
    (h : d.OpenAt app mb side) : (f d).OpenAt app mb side := by
  refine ⟨(Mono.grow hf d).rows _ _ h.1, ?_⟩
  obtain ⟨r, hr, hk⟩ := h.2
  cases hf with
  | insMbSide r' => exact ⟨r, by simp [Chan.insMbSide, hr], hk⟩
  | _ => exact ⟨r, hr, hk⟩

theorem OpenAt.closeSide {d : Chan} {app mb side : String} (h : d.OpenAt app mb side)
    {mb' side' : String} (mood : Option String) (hne : ¬ (mb' = mb ∧ side' = side)) :
    (d.closeSide mb' side' mood).OpenAt app mb side := by
  refine ⟨h.1, ?_⟩
  obtain ⟨r, hr, h1, h2, h3⟩ := h.2
  exact ⟨r, mem_closeSide_mbSides.2 (Or.inl ⟨hr, fun hk => hne ⟨hk.1.symm.trans h1, hk.2.symm.trans h2⟩⟩),
    h1, h2, h3⟩

theorem OpenAt.closeDeletes {d : Chan} {app mb side : String} (h : d.OpenAt app mb side)
    (app' mb' : String) (hno : (d.mbSidesOf mb').any (·.opened) = false) :
    (d.closeDeletes app' mb').OpenAt app mb side := by
  obtain ⟨⟨m, hm, ha, hi⟩, r, hr, h1, h2, h3⟩ := h
  have hne : mb ≠ mb' := by
    rintro rfl
    have : (d.mbSidesOf mb).any (·.opened) = true := by
      simp only [List.any_eq_true, mbSidesOf, List.mem_filter, decide_eq_true_eq]
      exact ⟨r, ⟨hr, h1⟩, h3⟩
    rw [hno] at this; cases this
  refine ⟨⟨m, ?_, ha, hi⟩, r, ?_, h1, h2, h3⟩
  · rw [closeDeletes_mailboxes, List.mem_filter, decide_eq_true_eq]
    exact ⟨hm, by rw [hi]; exact hne⟩
  · rw [closeDeletes_mbSides, List.mem_filter, decide_eq_true_eq]
    exact ⟨hr, by rw [h1]; exact hne⟩

end Chan

namespace Sys

/-- The one generic theorem about `step` (crashes included: whatever state the operation leaves).  A
    property `R` of the channel database that the growing statements preserve, that weakens to `R'` when
    deletion starts, where `R'` survives the sweep's statements (needed only if the operation is a sweep)
    and `R`/`R'` survive the UPDATE / the DELETEs of `Mailbox.close` on the mailbox a `close` acts on (needed
    only for a `close`), holds of the database after the step if it held of `db` and `disk` before: it is
    tracked through the live database, the committed copy and every crash point (`Track`). -/
theorem step_track {R R' : Chan → Prop} (hg : ∀ d f, GrowPrim d f → R d → R (f d))
    (hsub : ∀ d, R d → R' d) {s : Sys} {op : Op}
    (hsw : op.core.isSweep = true → ∀ f, DelPrim f → ∀ d, R' d → R' (f d))
    (hcs : ∀ c t id x m mood app tgt, op.core = .recv c t id (.close m mood) → s.findConn c = some x →
      x.app = some app → x.closeTarget m = some tgt →
      ∀ d, R d → d.HasBox app tgt → R (d.closeSide tgt (x.side.getD "") mood))
    (hdel : ∀ c t id x m mood app tgt, op.core = .recv c t id (.close m mood) → s.findConn c = some x →
      x.app = some app → x.closeTarget m = some tgt →
      ∀ d, R' d → (d.mbSidesOf tgt).any (·.opened) = false → R' (d.closeDeletes app tgt))
    (h1 : R s.db) (h2 : R s.disk) : R' (s.step op).db := by
  have h : Track R ({ s with out := [], snaps := [] } : Sys) := Track.start h1 h2
  have hC : ClosedC (Track R) := Track.closedC hg
  have plain : Track R' (({ s with out := [], snaps := [] } : Sys).stepPlain op.core) := by
    cases hop : op.core with
    | connect c =>
      apply Track.mono hsub
      exact hC.toClosedBase.send (s := { s with out := [], snaps := [], conns := s.conns ++ [({ id := c } : Conn)] })
        (h.anyConns _) _ _
    | recv c t id cmd =>
      apply onMessage_track hC (Track.closedBase R') (fun _ cs h => h.anyConns cs) (fun _ h => h.mono hsub) c t id cmd
        (fun _ => Track.msgClosed R)
      · intro x m mood app tgt hx hcmd happ htg s1 h1 hh
        exact h1.modDb _ (hcs c t id x m mood app tgt (by rw [hop, hcmd]) hx happ htg _ h1.db hh)
      · intro x m mood app tgt hx hcmd happ htg s1 h1 hno
        exact h1.modDb _ (hdel c t id x m mood app tgt (by rw [hop, hcmd]) hx happ htg _ h1.db hno)
      · exact h
    | drop c => exact (h.mono hsub).anyConns _
    | sweep now fault => exact (Track.closedDel (hsw (by rw [hop]; rfl))).expire (h.mono hsub) now fault
    | restart t =>
      have := h.mono hsub
      exact ⟨this.disk, this.disk, this.snaps⟩
    | crashIn k op => exact h.mono hsub
  rcases op.isCrash_cases with hnc | ⟨k, op', rfl⟩
  · rw [step_eq_of_not_crash s hnc]
    rw [Op.core_eq_self hnc] at plain
    exact plain.db
  · exact Track.crash (hsub _ h2) plain k

/-- **every operation (sweeps and crashes included)** relates the channel database before and
    after by `MD`: rows are added before any mailbox is deleted -/
theorem step_MD (s : Sys) (hs : s.db = s.disk) (op : Op) : Chan.MD s.db (s.step op).db := by
  apply step_track (R := Chan.Mono s.db) (R' := Chan.MD s.db)
  · intro d f hf h; exact h.trans (Chan.Mono.grow hf d)
  · intro d h; exact h.md
  · intro _ f hf d h; exact h.del (Chan.Del.prim hf d)
  · intro c t id x m mood app tgt _ _ _ _ d h _; exact h.trans (Chan.Mono.closeSide d _ _ _)
  · intro c t id x m mood app tgt _ _ _ _ d h _; exact h.del (Chan.Del.closeDeletes d _ _)
  · exact Chan.Mono.refl _
  · rw [← hs]; exact Chan.Mono.refl _

/-- **every operation** relates the nameplate tables before and after by `NpGrow` (needs unique
    nameplate ids before) -/
theorem step_NpGrow (s : Sys) (hs : s.db = s.disk)
    (hu : s.db.nameplates.Pairwise (fun a b => ¬ a.id = b.id)) (op : Op) :
    Chan.NpGrow s.db (s.step op).db := by
  apply step_track (R := Chan.NpGrow s.db) (R' := Chan.NpGrow s.db)
  · intro d f hf h; exact h.trans (Chan.NpGrow.grow hf d)
  · intro d h; exact h
  · intro _ f hf d h; exact h.trans (Chan.NpGrow.prim hf d)
  · intro c t id x m mood app tgt _ _ _ _ d h _; exact h.trans (Chan.NpGrow.closeSide d _ _ _)
  · intro c t id x m mood app tgt _ _ _ _ d h _; exact Chan.NpGrow.closeDeletes hu h _ _
  · exact Chan.NpGrow.refl _
  · rw [← hs]; exact Chan.NpGrow.refl _

end Sys
end Wormhole
