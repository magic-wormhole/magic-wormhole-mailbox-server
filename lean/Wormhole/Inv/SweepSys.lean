/-
  The expiry sweep on the system state, in terms of the pure database functions of Inv/SweepDb.lean, for
  every state whose database satisfies `CInv`: one `prune` is `Chan.pruneApp` with the listener oracle
  `s.listened` (`prune_db`); a non-faulted firing is `Chan.sweepP` of all apps at once (`expire_db`,
  `step_sweep_spec`), a faulted one the sweep of no app (`step_sweep_db`); no firing touches connection
  records, boot time or configuration (`Fixed`); `SwInv` (`CInv` + `ConnInv` + `Synced`) is kept by every
  firing.
-/
import Wormhole.Inv.SweepDb
import Wormhole.Inv.WsLemmas
import Wormhole.Inv.MbTrack
import Wormhole.Reach

namespace Wormhole
open Generated

theorem sweep_expirationTicks_pos : 0 < expirationTicks := by decide
theorem sweep_periodTicks_pos : 0 < periodTicks := by decide
theorem sweep_period_lt_expiration : periodTicks < expirationTicks := by decide

-- (`omega` does not look through `Time`: the arithmetic of the cutoff is stated about `Int`)
theorem not_old_of_recent {now u : Int} (h : now - u < expirationTicks) : ¬ u ≤ now - expirationTicks := by
  omega

theorem recent_of_lt {now u : Int} (h : now < u + expirationTicks) : now - u < expirationTicks := by
  omega

namespace Sys

/-- somebody is subscribed to mailbox `mb` of `app` (the `Mailbox` object has a listener) -/
def listened (s : Sys) (app mb : String) : Bool := decide (s.listeners app mb ≠ [])

theorem listened_iff {s : Sys} {app mb : String} :
    s.listened app mb = true ↔
      ∃ x ∈ s.conns, x.listening = true ∧ x.app = some app ∧ x.mailbox = some mb := by
  simp [listened, listeners, List.filter_eq_nil_iff]

theorem listened_congr {s s1 : Sys} (h : s1.conns = s.conns) : s1.listened = s.listened := by
  funext a m; simp [listened, listeners, h]

/-- the components a sweep never touches -/
structure Fixed (s s1 : Sys) : Prop where
  conns : s1.conns = s.conns
  rebooted : s1.rebooted = s.rebooted
  cfg : s1.cfg = s.cfg

theorem Fixed.refl (s : Sys) : Fixed s s := ⟨rfl, rfl, rfl⟩
theorem Fixed.trans {a b c : Sys} (h1 : Fixed a b) (h2 : Fixed b c) : Fixed a c :=
  ⟨h2.conns.trans h1.conns, h2.rebooted.trans h1.rebooted, h2.cfg.trans h1.cfg⟩

theorem Fixed.commit (s : Sys) : Fixed s s.commit := by
  unfold Sys.commit; split <;> exact ⟨rfl, rfl, rfl⟩
theorem Fixed.ucommit (s : Sys) : Fixed s s.ucommit := by
  unfold Sys.ucommit; split <;> exact ⟨rfl, rfl, rfl⟩
theorem Fixed.modDb (s : Sys) (f) : Fixed s (s.modDb f) := ⟨rfl, rfl, rfl⟩
theorem Fixed.modUdb (s : Sys) (f) : Fixed s (s.modUdb f) := ⟨rfl, rfl, rfl⟩
theorem Fixed.emit (s : Sys) (e) : Fixed s (s.emit e) := ⟨rfl, rfl, rfl⟩

theorem storeNameplateUsage_fixed (s : Sys) (app sides t p) :
    Fixed s (s.storeNameplateUsage app sides t p).1 ∧ (s.storeNameplateUsage app sides t p).1.db = s.db := by
  unfold storeNameplateUsage
  split
  · exact ⟨Fixed.refl _, rfl⟩
  · exact ⟨⟨rfl, rfl, rfl⟩, rfl⟩

theorem fixed_closedDel (s : Sys) : ClosedDel (fun s' => Fixed s s') where
  emit := fun _ e _ h => h.trans (Fixed.emit _ e)
  modUdb := fun _ f h => h.trans (Fixed.modUdb _ f)
  commit := fun _ h => h.trans (Fixed.commit _)
  ucommit := fun _ h => h.trans (Fixed.ucommit _)
  del := fun _ f _ h => h.trans (Fixed.modDb _ f)

theorem sw_pruneNameplates_db {app now} (l : List Nameplate) :
    ∀ {s s1 : Sys}, s.pruneNameplates app now l = (s1, true) → s1.db = s.db.dropNps (l.map (·.id)) := by
  induction l with
  | nil => intro s s1 h; cases h; exact (Chan.dropNps_nil _).symm
  | cons np rest ih =>
    intro s s1 h
    unfold pruneNameplates at h
    dsimp only at h
    rw [List.map_cons, ← Chan.dropNps_cons]
    split at h
    · split at h
      · cases h
      · rename_i s2 e
        have d2 := (storeNameplateUsage_fixed (s.modDb fun d => (d.delNpSidesOf np.id).delNameplate np.id)
          app (s.db.npSidesOf np.id) now true).2
        rw [e] at d2
        rw [ih h, d2]; rfl
    · exact ih h

theorem sw_pruneMailboxes_db {app now} (l : List MailboxRow) :
    ∀ (s : Sys), (s.pruneMailboxes app now l).db = s.db.dropMbs (l.map (·.id)) ∧
      Fixed s (s.pruneMailboxes app now l) := by
  intro s
  refine ⟨?_, (fixed_closedDel s).pruneMailboxes l (Fixed.refl s)⟩
  induction l generalizing s with
  | nil => exact (Chan.dropMbs_nil _).symm
  | cons row rest ih =>
    unfold pruneMailboxes
    dsimp only
    rw [List.map_cons, ← Chan.dropMbs_cons]
    split <;> exact ih _

theorem sw_touchListened_db (s : Sys) (app : String) (now : Time) :
    (s.touchListened app now).db = s.db.stampApp s.listened app now := by
  simp only [touchListened, modDb_db, Chan.stampApp, listened, decide_eq_true_eq]

theorem prune_db {s s1 : Sys} {app now old} (h : s.prune app now old = (s1, true)) :
    s1.db = s.db.pruneApp s.listened app now old ∧ Fixed s s1 := by
  refine ⟨?_, by have := (fixed_closedDel s).prune (Fixed.refl s) app now old; rwa [h] at this⟩
  rw [prune_eq] at h
  dsimp only at h
  unfold pruneRest at h
  split at h
  · cases h
  · rename_i s2 e
    have hdb : (s2.pruneMailboxes app now
        ((((s.touchListened app now).commit).db.mailboxesOfApp app).filter (fun r => ¬ r.updated > old))).db =
        s.db.pruneApp s.listened app now old := by
      rw [(sw_pruneMailboxes_db _ s2).1, sw_pruneNameplates_db _ e, commit_db, sw_touchListened_db]
      rfl
    dsimp only at h
    split at h <;> simp only [Prod.mk.injEq, and_true] at h <;> subst h
    · split
      · rw [ucommit_db, commit_db]; exact hdb
      · rw [commit_db]; exact hdb
    · exact hdb

theorem pruneApps_db {now old} (l : List String) :
    ∀ {s s1 : Sys}, s.pruneApps now old l = (s1, true) →
      s1.db = s.db.pruneFold s.listened now old l ∧ Fixed s s1 := by
  induction l with
  | nil => intro s s1 h; cases h; exact ⟨rfl, Fixed.refl _⟩
  | cons app rest ih =>
    intro s s1 h
    unfold pruneApps at h
    split at h
    · cases h
    · rename_i s2 e
      obtain ⟨hd, hf⟩ := prune_db e
      obtain ⟨hd2, hf2⟩ := ih h
      refine ⟨?_, hf.trans hf2⟩
      rw [hd2, hd, listened_congr hf.conns]
      rfl

/-- `get_all_apps` covers every app that has a row in one of the three tables it looks at -/
theorem mem_allApps {s : Sys} {a : String} :
    a ∈ s.allApps ↔ (∃ n ∈ s.db.nameplates, n.app = a) ∨ (∃ m ∈ s.db.mailboxes, m.app = a) ∨
      (∃ r ∈ s.db.messages, r.app = a) := by
  simp only [allApps, List.mem_mergeSort, List.mem_eraseDups, List.mem_append, List.mem_map, or_assoc]

theorem expire_fixed (s : Sys) (now : Time) (fault : Bool) : Fixed s (s.expire now fault) :=
  (fixed_closedDel s).expire (Fixed.refl s) now fault

/-- `dump_stats` writes exactly one `current` row -/
theorem dumpStats_current (s : Sys) (now : Time) (hu : s.cfg.usage = true) :
    (s.dumpStats now).udb.current = [⟨s.rebooted, now, s.cfg.blur, (s.conns.filter (·.listening)).length⟩] := by
  simp [dumpStats, hu]

/-- a non-faulted firing of `expire()` from a state whose database satisfies the commit-point
    invariant: no exception, and the database is swept in ALL apps at once -/
theorem expire_db {s : Sys} (h : s.db.CInv) (now : Time) :
    (s.expire now false).db = s.db.sweepP (fun _ => true) s.listened now (now - expirationTicks) ∧
    Fixed s (s.expire now false) ∧
    ∃ s1, (s.emit (.fired now (now - expirationTicks))).pruneApps now (now - expirationTicks) s.allApps
      = (s1, true) ∧ s.expire now false = s1.dumpStats now := by
  have hlt : now - expirationTicks < now := Int.sub_lt_self now sweep_expirationTicks_pos
  generalize hp : (s.emit (.fired now (now - expirationTicks))).pruneApps now (now - expirationTicks) s.allApps = p
  obtain ⟨s1, b⟩ := p
  obtain ⟨_, hk⟩ := pruneApps_spec _ hp
  obtain ⟨_, hb, _⟩ := hk (by simpa using h.npOk)
  subst hb
  have he : s.expire now false = s1.dumpStats now := by
    unfold expire
    simp only [Bool.false_eq_true, if_false]
    rw [show (s.emit (.fired now (now - expirationTicks))).allApps = s.allApps from rfl, hp]
  refine ⟨?_, expire_fixed s now false, s1, rfl, he⟩
  rw [he, dumpStats_db, (pruneApps_db _ hp).1, show (s.emit _).listened = s.listened from listened_congr rfl,
    emit_db, Chan.pruneFold_eq_sweepP _ hlt _ h.toPInv]
  -- `get_all_apps` lists the app of every mailbox row
  apply Chan.sweepP_congr
  intro m hm
  simpa using mem_allApps.2 (Or.inr (Or.inl ⟨m, hm, rfl⟩))

/-- a faulted firing: nothing but the log entry and `dump_stats` -/
theorem expire_fault (s : Sys) (now : Time) :
    s.expire now true =
      ((s.emit (.fired now (now - expirationTicks))).emit (.internal none "OperationalError")).dumpStats now := by
  simp [expire]

/-- what the sweep needs and keeps: commit-point invariant of the database, consistent
    connection records, nothing uncommitted (three of the fields of `GSys.GInv`, see Inv/SweepGInv.lean) -/
structure SwInv (s : Sys) : Prop where
  cinv : s.db.CInv
  conn : s.ConnInv
  synced : s.Synced

theorem step_sweep (s : Sys) (now : Time) (fault : Bool) :
    s.step (.sweep now fault) = ({ s with out := [], snaps := [] } : Sys).expire now fault := rfl

theorem step_sweep_fixed (s : Sys) (now : Time) (fault : Bool) : Fixed s (s.step (.sweep now fault)) :=
  have h := expire_fixed { s with out := [], snaps := [] } now fault
  ⟨h.conns, h.rebooted, h.cfg⟩

theorem step_sweep_spec {s : Sys} (h : s.db.CInv) (now : Time) :
    (s.step (.sweep now false)).db = s.db.sweepP (fun _ => true) s.listened now (now - expirationTicks) ∧
    Fixed s (s.step (.sweep now false)) :=
  ⟨(expire_db (s := { s with out := [], snaps := [] }) h now).1, step_sweep_fixed s now false⟩

theorem step_sweep_fault (s : Sys) (now : Time) :
    (s.step (.sweep now true)).db = s.db ∧ Fixed s (s.step (.sweep now true)) :=
  ⟨by rw [step_sweep, expire_fault]; simp, step_sweep_fixed s now true⟩

/-- both kinds of firing at once: a faulted firing is the sweep of no app -/
theorem step_sweep_db {s : Sys} (h : s.db.CInv) (now : Time) (fault : Bool) :
    (s.step (.sweep now fault)).db =
      s.db.sweepP (fun _ => !fault) s.listened now (now - expirationTicks) ∧
    Fixed s (s.step (.sweep now fault)) := by
  refine ⟨?_, step_sweep_fixed s now fault⟩
  cases fault with
  | true => exact (step_sweep_fault s now).1.trans (Chan.sweepP_none ..).symm
  | false => exact (step_sweep_spec h now).1

/-- connection records stay consistent when the database is swept with their own listener oracle -/
theorem ConnInv.sweep {s s1 : Sys} (h : s.ConnInv) (hp : s.db.PInv) (hf : Fixed s s1) {A : String → Bool}
    {now old : Time}
    (hd : s1.db = s.db.sweepP A s.listened now old) : s1.ConnInv := by
  obtain ⟨i, hh, hl, hb⟩ := h
  constructor
  · rw [hf.conns]; exact i
  · intro x hx mb hmb
    rw [hf.conns] at hx
    obtain ⟨h1, a, ha, m, hm, e1, e2⟩ := hh x hx mb hmb
    refine ⟨h1, a, ha, Chan.stamp A s.listened now m, ?_, by simpa using e1, by simpa using e2⟩
    rw [hd, Chan.mem_sweepP_mailboxes]
    refine ⟨m, hm, ?_, rfl⟩
    intro hdead
    obtain ⟨m', hm', hd', e'⟩ := Chan.mem_deadIds.1 hdead
    have hL : s.listened m'.app m'.id = false := (Chan.dead_iff.1 hd').2.1
    -- `m'` has the id of `m`; the listener `x` is subscribed under app `a`
    have : m' = m := Chan.eq_of_pairwise_ne (f := MailboxRow.id) hp.mbIds hm' hm e'
    subst this
    have : s.listened m'.app m'.id = true :=
      listened_iff.2 ⟨x, hx, h1, by rw [ha, e2], by rw [hmb, e1]⟩
    rw [hL] at this
    cases this
  · intro x hx; rw [hf.conns] at hx; exact hl x hx
  · intro x hx; rw [hf.conns] at hx; exact hb x hx

theorem SwInv.step_sweep {s : Sys} (h : s.SwInv) (now : Time) (fault : Bool) :
    (s.step (.sweep now fault)).SwInv := by
  obtain ⟨hd, hf⟩ := step_sweep_db h.cinv now fault
  exact ⟨by rw [hd]; exact h.cinv.sweepP _ _ _ _, h.conn.sweep h.cinv.toPInv hf hd,
    (Ok.step h.synced h.cinv.npOk (op := .sweep now fault) rfl).synced⟩

theorem step_sweep_fault_out (s : Sys) (now : Time) :
    (s.step (.sweep now true)).out =
      [.fired now (now - expirationTicks), .internal none "OperationalError"] ++
        (if s.cfg.usage = true ∧
            ({ s.udb with current := [⟨s.rebooted, now, s.cfg.blur, (s.conns.filter (·.listening)).length⟩] } : Usage)
              ≠ s.udisk
         then [.commit .usage] else []) := by
  rw [step_sweep, expire_fault]
  unfold dumpStats ucommit
  by_cases hu : s.cfg.usage = true
  · by_cases hd : ({ s.udb with current :=
        [⟨s.rebooted, now, s.cfg.blur, (s.conns.filter (·.listening)).length⟩] } : Usage) = s.udisk <;>
      simp [emit, modUdb, hu, hd]
  · simp [hu, emit]

theorem step_sweep_out {s : Sys} (h : s.db.CInv) (now : Time) :
    ∃ l, (s.step (.sweep now false)).out = .fired now (now - expirationTicks) :: l ∧ ∀ e ∈ l, IsCommit e := by
  rw [step_sweep]
  obtain ⟨_, _, s1, hp, he⟩ := expire_db (s := { s with out := [], snaps := [] }) h now
  rw [he]
  have h1 := CExt.pruneApps (now := now) (old := now - expirationTicks)
    ({ s with out := [], snaps := [] } : Sys).allApps
    (OutExt.refl (P := IsCommit) (s := ({ s with out := [], snaps := [] } : Sys).emit (.fired now (now - expirationTicks))))
  rw [hp] at h1
  obtain ⟨l, hl, hc⟩ := CExt.dumpStats h1 (now := now)
  exact ⟨l, by simpa using hl, hc⟩

end Sys

end Wormhole
