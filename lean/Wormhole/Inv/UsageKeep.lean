/-
  The growth phase of an operation: the statements that only add rows or set fields
  (`_add_mailbox`, `Mailbox.open`, `_add_message`, `claim_nameplate`, the handlers built from
  them) write no usage `nameplates` / `mailboxes` row and delete no nameplate / mailbox row.

  `Keep B U0 cl s`: the two usage tables are those of `U0`, `client_versions` is `U0.clients ++ cl`,
  and every nameplate row id / mailbox id of `B` is still in the channel database of `s`.
-/
import Wormhole.Inv.UsageDefs
import Wormhole.Inv.Acts
import Wormhole.Props.C17

namespace Wormhole

theorem Sys.GrowStmt.ids {t : Time} {d0 : Chan} {f : Chan → Chan} (hf : Sys.GrowStmt t d0 f) (d : Chan) :
    (∀ i ∈ d.nameplates.map (·.id), i ∈ (f d).nameplates.map (·.id)) ∧
    (∀ i ∈ d.mailboxes.map (·.id), i ∈ (f d).mailboxes.map (·.id)) := by
  cases hf with
  | insMailbox =>
    refine ⟨fun i h => h, fun i h => ?_⟩
    simp only [Chan.insMailbox, List.map_append, List.mem_append]
    exact Or.inl h
  | touch mb =>
    refine ⟨fun i h => h, fun i h => ?_⟩
    have : (d.touch mb t).mailboxes.map (·.id) = d.mailboxes.map (·.id) := by
      simp only [Chan.touch, List.map_map]
      exact List.map_congr_left fun r _ => by simp only [Function.comp]; split <;> rfl
    rw [this]; exact h
  | insNameplate =>
    refine ⟨fun i h => ?_, fun i h => h⟩
    simp only [Chan.insNameplate, List.map_append, List.mem_append]
    exact Or.inl h
  | insMbSide | insNpSide => exact ⟨fun i h => h, fun i h => h⟩

namespace Sys

structure Keep (B : Chan) (U0 : Usage) (cl : List UClient) (s : Sys) : Prop where
  unp : s.udb.nameplates = U0.nameplates
  umb : s.udb.mailboxes = U0.mailboxes
  ucl : s.udb.clients = U0.clients ++ cl
  np : ∀ n ∈ B.nameplates, n.id ∈ s.db.nameplates.map (·.id)
  mb : ∀ m ∈ B.mailboxes, m.id ∈ s.db.mailboxes.map (·.id)

variable {B : Chan} {U0 : Usage} {cl : List UClient}

theorem Keep.start (s : Sys) : Keep s.db s.udb [] s :=
  ⟨rfl, rfl, by simp, fun n hn => List.mem_map.2 ⟨n, hn, rfl⟩, fun n hn => List.mem_map.2 ⟨n, hn, rfl⟩⟩

theorem Keep.of_eq {s s' : Sys} (h : Keep B U0 cl s) (hd : s'.db = s.db) (hu : s'.udb = s.udb) :
    Keep B U0 cl s' := by
  obtain ⟨a, b, c, d, e⟩ := h
  exact ⟨by rw [hu]; exact a, by rw [hu]; exact b, by rw [hu]; exact c, by rw [hd]; exact d, by rw [hd]; exact e⟩

theorem Keep.emit {s : Sys} (h : Keep B U0 cl s) (e) : Keep B U0 cl (s.emit e) := h.of_eq rfl rfl
theorem Keep.commit {s : Sys} (h : Keep B U0 cl s) : Keep B U0 cl s.commit := h.of_eq (by simp) (by simp)
theorem Keep.ucommit {s : Sys} (h : Keep B U0 cl s) : Keep B U0 cl s.ucommit := h.of_eq (by simp) (by simp)

/-- the growth phase: everything but usage writes, `release_nameplate`, `Mailbox.close` and the sweep -/
abbrev keepKinds : Kind → Prop :=
  fun k => k = .ev ∨ k = .msg ∨ k = .sync ∨ k.isGrow = true ∨ k = .flag ∨ k = .conn

theorem Keep.stmt {k : Kind} (hk : keepKinds k) {a b : Sys} (hs : Stmt k a b) (h : Keep B U0 cl a) :
    Keep B U0 cl b := by
  cases hs with
  | frame | msg | internal | fired | flag | conn => exact h.of_eq rfl rfl
  | insMessage => exact ⟨h.unp, h.umb, h.ucl, h.np, h.mb⟩
  | commit => exact h.commit
  | ucommit => exact h.ucommit
  | grow _ _ f hf =>
    exact ⟨h.unp, h.umb, h.ucl, fun n hn => (hf.ids a.db).1 _ (h.np n hn), fun m hm => (hf.ids a.db).2 _ (h.mb m hm)⟩
  | _ => simp [keepKinds, Kind.isGrow] at hk

theorem Keep.runs {s s' : Sys} (r : Runs keepKinds s s') (h : Keep B U0 cl s) : Keep B U0 cl s' :=
  r.preserves (fun _ hk _ _ hs => Keep.stmt hk hs) h

theorem Keep.replay {s : Sys} (h : Keep B U0 cl s) (c app mb) : Keep B U0 cl (s.replay c app mb) :=
  h.runs ((Runs.refl s).replay (by decide) c app mb)

theorem Keep.broadcast {s : Sys} (h : Keep B U0 cl s) (app mb f) : Keep B U0 cl (s.broadcast app mb f) :=
  h.runs ((Runs.refl s).broadcast (by decide) app mb f)

theorem Keep.openMailbox {s : Sys} (h : Keep B U0 cl s) (app mb side t) :
    Keep B U0 cl (s.openMailbox app mb side t).1 :=
  h.runs ((Runs.refl s).openMailbox (by decide) app mb side t (by simp [keepKinds, Kind.isGrow]))

theorem Keep.addMessage {s : Sys} (h : Keep B U0 cl s) (app mb side ph bd t id) :
    Keep B U0 cl (s.addMessage app mb side ph bd t id) :=
  h.runs ((Runs.refl s).addMessage (by decide) app mb side ph bd t id (by simp [keepKinds, Kind.isGrow]) (by simp [keepKinds, Kind.isGrow]))

theorem Keep.claimNameplate {s : Sys} (h : Keep B U0 cl s) (app name side t fresh) :
    Keep B U0 cl (s.claimNameplate app name side t fresh).1 :=
  h.runs ((Runs.refl s).claimNameplate (by decide) app name side t fresh (by simp [keepKinds, Kind.isGrow]))

/-- the `client_versions` row an accepted `bind` writes -/
def bindRows (s : Sys) (x : Conn) (t : Time) (a sd i v : Option String) : List UClient :=
  match a, sd with
  | some a, some sd =>
    if s.cfg.usage ∧ ¬ (x.app.isSome ∨ (x.side.isSome ∧ x.side ≠ some "")) then [⟨a, sd, s.blurTime t, i, v⟩]
    else []
  | _, _ => []

theorem Keep.logClientVersion {s : Sys} (h : Keep B U0 [] s) (a sd t i v) :
    Keep B U0 (if s.cfg.usage then [⟨a, sd, s.blurTime t, i, v⟩] else []) (s.logClientVersion a sd t i v) := by
  unfold Sys.logClientVersion
  split
  · have h1 : Keep B U0 [⟨a, sd, s.blurTime t, i, v⟩]
        (s.modUdb fun d => { d with clients := d.clients ++ [⟨a, sd, s.blurTime t, i, v⟩] }) :=
      ⟨h.unp, h.umb, by simp only [modUdb_udb, h.ucl, List.append_nil], h.np, h.mb⟩
    exact h1.ucommit
  · exact h

theorem Keep.handleBind {s : Sys} (h : Keep B U0 [] s) (x t a sd i v) :
    Keep B U0 (bindRows s x t a sd i v) (s.handleBind x t a sd i v) := by
  unfold Sys.handleBind
  split
  · rename_i hb
    have : bindRows s x t a sd i v = [] := by unfold bindRows; split <;> simp [hb]
    rw [this]; exact h.of_eq rfl rfl
  · rename_i hb
    split
    · exact h.of_eq rfl rfl
    · split
      · exact h.of_eq rfl rfl
      · rename_i a' _ sd'
        have := (h.of_eq (s' := s.updConn x.id (fun y => { y with app := some a', side := some sd' })) rfl
          rfl).logClientVersion a' sd' t i v
        simpa only [bindRows, hb, not_false_eq_true, and_true, updConn_cfg, blurTime_updConn] using this

/-- the `client_versions` rows a command received on connection `c` writes -/
def cmdClients (s : Sys) (c : Nat) (t : Time) : Cmd → List UClient
  | .bind a sd i v =>
    match s.findConn c with
    | some x => bindRows s x t a sd i v
    | none => []
  | _ => []

theorem Keep.onMessage {s : Sys} (h : Keep B U0 [] s) (c : Nat) (t : Time) (id : Val) {cmd : Cmd}
    (hrel : ∀ n, cmd ≠ .release n) (hclose : ∀ m mood, cmd ≠ .close m mood) :
    Keep B U0 (s.cmdClients c t cmd) (s.onMessage c t id cmd) := by
  by_cases hb : ∃ a sd i v, cmd = .bind a sd i v
  · obtain ⟨a, sd, i, v, rfl⟩ := hb
    unfold Sys.onMessage cmdClients
    cases hx : s.findConn c with
    | none => exact h
    | some x =>
      exact Keep.handleBind (h.of_eq (s' := s.send c (.ack id)) rfl rfl) x t a sd i v
  · have hcl : s.cmdClients c t cmd = [] := by
      cases cmd <;> first | rfl | exact absurd ⟨_, _, _, _, rfl⟩ hb
    rw [hcl]
    refine h.runs (onMessage_runs (by decide) (by decide) (by decide) s c t id (by simp [keepKinds, Kind.isGrow])
      (fun _ => by decide) (fun _ _ _ _ _ _ _ _ _ => by simp [keepKinds, Kind.isGrow]) (fun hb' => absurd hb' hb) (fun _ => by decide) ?_ ?_ ?_)
    · rintro (hb' | ⟨n, rfl⟩ | ⟨m, mood, rfl⟩)
      · exact absurd hb' hb
      · exact absurd rfl (hrel n)
      · exact absurd rfl (hclose m mood)
    · rintro ⟨n, rfl⟩; exact absurd rfl (hrel n)
    · rintro _ m mood _ _ _ rfl; exact absurd rfl (hclose m mood)

end Sys
end Wormhole
