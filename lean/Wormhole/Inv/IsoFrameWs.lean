/-
  C06 (application isolation), frame lemmas for the websocket layer (Ws.lean).

  `onMessage_frameB`: a command on a connection that is bound to an app other than `b` once the
  command has been processed (already bound to `a ≠ b`, or this is the `bind` to `a ≠ b`) leaves
  b's rows, b's usage rows and b's connections alone (`FrameB b`), and every frame it emits is
  addressed to a connection bound to another app (`FrameTo (otherIds b …)`): the acting
  connection itself or, for `add`, the listeners of `(a, m)`.

  The handlers are walked with the bundle `HF b a c ids s s'` = `FrameB b s s'` if
  `a ≠ b`, every record with id `c` is bound to `a` in `s'` (`BoundTo`), and the events appended
  since `s` are commits, `internal`s or frames to `ids`.  A Core function keeps `BoundTo` because
  it leaves the connection table alone (`*_conns`, Inv/MsgDb.lean) or runs `stopListeners`.
-/
import Wormhole.Inv.IsoFrameCore
import Wormhole.Inv.MsgDb
import Wormhole.Inv.WFDec

namespace Wormhole

theorem find?_id_map (g : Conn → Conn) (hg : ∀ y, (g y).id = y.id) (c : Nat) (l : List Conn) :
    (l.map g).find? (fun y => y.id = c) = (l.find? (fun y => y.id = c)).map g := by
  induction l with
  | nil => rfl
  | cons y l ih =>
    simp only [List.map_cons, List.find?_cons, hg]
    split
    · rfl
    · exact ih

namespace Sys

theorem appOf_eq_some {s : Sys} {c : Nat} {a : String} :
    s.appOf c = some a ↔ ∃ y, s.findConn c = some y ∧ y.app = some a := by
  unfold appOf
  cases s.findConn c with
  | none => simp
  | some y => simp

theorem appOf_of_conns_eq {s s' : Sys} (h : s'.conns = s.conns) (c : Nat) : s'.appOf c = s.appOf c := by
  unfold appOf findConn; rw [h]

theorem appOf_mem {s : Sys} {c : Nat} {a : String} (h : s.appOf c = some a) :
    ∃ y ∈ s.conns, y.id = c ∧ y.app = some a := by
  obtain ⟨y, hy, ha⟩ := appOf_eq_some.1 h
  exact ⟨y, findConn_mem hy, findConn_id hy, ha⟩

theorem mem_otherIds {b : String} {l : List Conn} {y : Conn} (hy : y ∈ l) (ho : y.other b) : y.id ∈ otherIds b l := by
  simp only [otherIds, List.mem_map, List.mem_filter, decide_eq_true_eq]
  exact ⟨y, ⟨hy, ho⟩, rfl⟩

theorem mem_otherIds_of_appOf {b : String} {s : Sys} {c : Nat} {a : String} (h : s.appOf c = some a) (hab : a ≠ b) :
    c ∈ otherIds b s.conns := by
  obtain ⟨y, hy, rfl, ha⟩ := appOf_mem h
  exact mem_otherIds hy ⟨a, ha, hab⟩

theorem FrameB.mem_otherIds {b a : String} {s s' : Sys} (h : FrameB b s s') (hab : a ≠ b) {y : Conn}
    (hy : y ∈ s.conns) (ha : y.app = some a) : y.id ∈ otherIds b s'.conns := by
  obtain ⟨y', hy', e, hcase⟩ := All2.mem_left h.conns hy
  rw [← e]
  apply Sys.mem_otherIds hy'
  rcases hcase with rfl | ⟨ho, _⟩
  · exact ⟨a, ha, hab⟩
  · exact ho

/-- every record with id `c` is bound to app `a` -/
def BoundTo (c : Nat) (a : String) (s : Sys) : Prop := ∀ y ∈ s.conns, y.id = c → y.app = some a

theorem BoundTo.of_conns_eq {c : Nat} {a : String} {s s' : Sys} (h : BoundTo c a s) (e : s'.conns = s.conns) :
    BoundTo c a s' := by
  unfold BoundTo; rw [e]; exact h

/-- the stop callbacks rewrite `mailbox` and `listening` only -/
theorem BoundTo.stopListeners {c : Nat} {a : String} {s : Sys} (h : BoundTo c a s) (a' m : String) :
    BoundTo c a (s.stopListeners a' m) := by
  intro y' hy' hid
  obtain ⟨y, hy, rfl⟩ := List.mem_map.1 hy'
  by_cases hc : y.listening ∧ y.app = some a' ∧ y.mailbox = some m
  · rw [if_pos hc] at hid ⊢; exact h y hy hid
  · rw [if_neg hc] at hid ⊢; exact h y hy hid

structure HF (b a : String) (c : Nat) (ids : List Nat) (s s' : Sys) : Prop where
  fr : a ≠ b → FrameB b s s'
  bd : BoundTo c a s'
  out : OutExt (FrameTo ids) s s'

section hf
variable {b a : String} {c : Nat} {ids : List Nat} {s s1 s2 : Sys}

theorem HF.refl (h : BoundTo c a s) : HF b a c ids s s := ⟨fun _ => FrameB.refl _ _, h, OutExt.refl⟩

theorem HF.emit (h : HF b a c ids s s1) {e : Event} (he : FrameTo ids e) : HF b a c ids s (s1.emit e) :=
  ⟨fun hab => (h.fr hab).emit e, h.bd, h.out.emit he⟩

theorem HF.send (h : HF b a c ids s s1) {c' : Nat} (hc : c' ∈ ids) (f : Frame) : HF b a c ids s (s1.send c' f) :=
  h.emit (e := .frame c' f s1.synced) hc

theorem HF.sendError (h : HF b a c ids s s1) {c' : Nat} (hc : c' ∈ ids) (txt : String) :
    HF b a c ids s (s1.sendError c' txt) := h.send hc _

theorem HF.internalErr (h : HF b a c ids s s1) (c' : Nat) (cls : String) : HF b a c ids s (s1.internalErr c' cls) :=
  h.emit (e := .internal (some c') cls) trivial

theorem HF.updConn (h : HF b a c ids s s1) (f : Conn → Conn)
    (hf : ∀ y, (f y).id = y.id ∧ (f y).app = y.app) : HF b a c ids s (s1.updConn c f) := by
  refine ⟨fun hab => (h.fr hab).trans (frameB_updConn c f (fun y hy hid => ?_)), ?_, OutExt.updConn h.out⟩
  · have := h.bd y hy hid
    exact ⟨Conn.ne_of_app this hab, ⟨a, by rw [(hf y).2]; exact this, hab⟩, (hf y).1⟩
  · intro y' hy' hid
    obtain ⟨y, hy, rfl⟩ := List.mem_map.1 hy'
    split at hid
    · rename_i hc
      rw [if_pos hc, (hf y).2]; exact h.bd y hy hc
    · rename_i hc
      exact absurd hid hc

theorem HF.core (h : HF b a c ids s s1) (hf : a ≠ b → FrameB b s1 s2) (hb : BoundTo c a s1 → BoundTo c a s2)
    (hc : CExt s1 s2) : HF b a c ids s s2 :=
  ⟨fun hab => (h.fr hab).trans (hf hab), hb h.bd, h.out.trans hc.frameTo⟩

theorem HF.claimNameplate (h : HF b a c ids s s1) (hp : s1.db.PInv) {name side fresh : String} {t : Time}
    {r : ClaimRes} (e : s1.claimNameplate a name side t fresh = (s2, r)) : HF b a c ids s s2 := by
  have h1 := s1.claimNameplate_conns a name side t fresh
  have h2 := CExt.claimNameplate (OutExt.refl (s := s1)) (app := a) (name := name) (side := side) (t := t)
    (fresh := fresh)
  rw [e] at h1 h2
  exact h.core (fun hab => claimNameplate_frameB_of_pinv hp hab e) (·.of_conns_eq h1) h2

theorem HF.releaseNameplate (h : HF b a c ids s s1) (hp : s1.db.PInv) {name side : String} {t : Time} {r : Bool}
    (e : s1.releaseNameplate a name side t = (s2, r)) : HF b a c ids s s2 := by
  have h1 := s1.releaseNameplate_conns a name side t
  have h2 := CExt.releaseNameplate (OutExt.refl (s := s1)) (app := a) (name := name) (side := side) (t := t)
  rw [e] at h1 h2
  exact h.core (fun hab => releaseNameplate_frameB_of_pinv hp hab e) (·.of_conns_eq h1) h2

theorem HF.openMailbox (h : HF b a c ids s s1) (hp : s1.db.PInv) {m side : String} {t : Time} {r : OpenRes}
    (e : s1.openMailbox a m side t = (s2, r)) : HF b a c ids s s2 := by
  have h1 := s1.openMailbox_conns a m side t
  have h2 := CExt.openMailbox (OutExt.refl (s := s1)) (app := a) (mb := m) (side := side) (t := t)
  rw [e] at h1 h2
  exact h.core (fun hab => openMailbox_frameB' hp.mbIds hab e) (·.of_conns_eq h1) h2

theorem HF.mailboxClose (h : HF b a c ids s s1) (hp : s1.db.PInv) {m side : String} {mood : Option String}
    {t : Time} {r : Bool} (e : s1.mailboxClose a m side mood t = (s2, r)) : HF b a c ids s s2 := by
  have h1 := s1.mailboxClose_conns a m side mood t
  have h2 := CExt.mailboxClose (OutExt.refl (s := s1)) (app := a) (mb := m) (side := side) (mood := mood) (t := t)
  rw [e] at h1 h2
  refine h.core (fun hab => mailboxClose_frameB_of_pinv hp hab e) (fun hb => ?_) h2
  rcases h1 with ⟨h1, _⟩ | ⟨h1, _⟩
  · exact hb.of_conns_eq h1
  · exact (hb.stopListeners a m).of_conns_eq h1

theorem HF.foldl_send {α : Type} (g : α → Nat) (fr : α → Frame) (l : List α) :
    ∀ {s1 : Sys}, HF b a c ids s s1 → (∀ x ∈ l, g x ∈ ids) →
      HF b a c ids s (l.foldl (fun s x => s.send (g x) (fr x)) s1) := by
  induction l with
  | nil => intro s1 h _; exact h
  | cons x l ih =>
    intro s1 h hp
    simp only [List.foldl_cons]
    exact ih (h.send (hp x (by simp)) _) (fun x' hx' => hp x' (by simp [hx']))

end hf

section handlers
variable {U : String → Prop} {t : Time} {S : Prop} {b a : String} {ids : List Nat} {s s0 : Sys} {x : Conn}

theorem handlePing_hf (h0 : HF b a x.id ids s s0) (hc : x.id ∈ ids) (v : Option Val) :
    HF b a x.id ids s (s0.handlePing x.id v) := by
  unfold Sys.handlePing
  split
  · exact h0.sendError hc _
  · exact h0.send hc _

theorem handleAllocate_hf (h0 : HF b a x.id ids s s0) (hp : s0.db.PInv) (hc : x.id ∈ ids)
    (side : String) (t' : Time) (pick : Nat) (draws : List Nat) (fresh : String) :
    HF b a x.id ids s (s0.handleAllocate x a side t' pick draws fresh) := by
  unfold Sys.handleAllocate
  split
  · exact h0.sendError hc _
  · split
    · exact h0.internalErr _ _
    · split
      · rename_i e
        exact ((h0.claimNameplate hp e).updConn (fun y => { y with didAllocate := true }) (fun y => ⟨rfl, rfl⟩)).send hc _
      · rename_i e; exact (h0.claimNameplate hp e).internalErr _ _
      · rename_i e; exact (h0.claimNameplate hp e).internalErr _ _
      · rename_i e; exact (h0.claimNameplate hp e).internalErr _ _

theorem handleClaim_hf (h0 : HF b a x.id ids s s0) (hp : s0.db.PInv) (hc : x.id ∈ ids)
    (side : String) (t' : Time) (n : Option String) (fresh : String) :
    HF b a x.id ids s (s0.handleClaim x a side t' n fresh) := by
  unfold Sys.handleClaim
  split
  · exact h0.sendError hc _
  · rename_i name
    split
    · exact h0.sendError hc _
    · dsimp only
      have h1 := h0.updConn (fun y => { y with didClaim := true, nameplateId := some name }) (fun y => ⟨rfl, rfl⟩)
      split
      · rename_i e; exact (h1.claimNameplate hp e).send hc _
      · rename_i e; exact (h1.claimNameplate hp e).sendError hc _
      · rename_i e; exact (h1.claimNameplate hp e).sendError hc _
      · rename_i e; exact (h1.claimNameplate hp e).internalErr _ _

theorem handleRelease_hf (h0 : HF b a x.id ids s s0) (hp : s0.db.PInv) (hc : x.id ∈ ids)
    (side : String) (t' : Time) (n : Option String) :
    HF b a x.id ids s (s0.handleRelease x a side t' n) := by
  rcases handleRelease_cases s0 x a side t' n with ⟨_, _, e⟩ | ⟨name, e⟩ <;> rw [e]
  · exact h0.sendError hc _
  · have h1 := h0.updConn (fun y => { y with didRelease := true }) (fun y => ⟨rfl, rfl⟩)
    unfold releaseWith
    split
    · rename_i e; exact (h1.releaseNameplate hp e).send hc _
    · rename_i e; exact (h1.releaseNameplate hp e).internalErr _ _

theorem handleOpen_hf (h0 : HF b a x.id ids s s0) (hp : s0.db.PInv) (hc : x.id ∈ ids)
    (side : String) (t' : Time) (mailbox : Option String) :
    HF b a x.id ids s (s0.handleOpen x a side t' mailbox) := by
  unfold Sys.handleOpen
  split
  · exact h0.sendError hc _
  · split
    · exact h0.sendError hc _
    · rename_i mb
      dsimp only
      have h1 := h0.updConn (fun y => { y with mailboxId := some mb }) (fun y => ⟨rfl, rfl⟩)
      split
      · rename_i e; exact (h1.openMailbox hp e).sendError hc _
      · rename_i e; exact (h1.openMailbox hp e).internalErr _ _
      · rename_i e
        have h2 := (h1.openMailbox hp e).updConn (fun y => { y with mailbox := some mb, listening := true })
          (fun y => ⟨rfl, rfl⟩)
        unfold Sys.replay
        exact HF.foldl_send (fun _ => x.id) (fun (m : Message) => .message m.side m.phase m.body m.rx m.msgId) _ h2
          (fun _ _ => hc)

theorem handleAdd_hf (h0 : HF b a x.id ids s s0) (hF : s0.Full U t S) (hx : x ∈ s0.conns) (hxa : x.app = some a)
    (hc : x.id ∈ ids) (hl : ∀ y ∈ s0.conns, y.app = some a → y.id ∈ ids)
    (side : String) (t' : Time) (id : Val) (ph bd : Option Val) :
    HF b a x.id ids s (s0.handleAdd x a side t' id ph bd) := by
  unfold Sys.handleAdd
  split
  · exact h0.sendError hc _
  · rename_i mb hmb
    split
    · exact h0.sendError hc _
    · split
      · exact h0.sendError hc _
      · rename_i ph' _ bd'
        -- the connection holds a handle, so the mailbox row `(a, mb)` exists
        obtain ⟨ok, _⟩ := hF.conn x hx
        obtain ⟨a0, ha0, hb0⟩ := hF.good.lh x hx (ok.hl (by simp [hmb])) mb hmb
        rw [hxa] at ha0
        cases ha0
        have h1 : HF b a x.id ids s (s0.addMessage a mb side ph' bd' t' id) :=
          h0.core (fun hab => addMessage_frameB hF.good hb0 hab side ph' bd' t' id)
            (·.of_conns_eq (addMessage_conns' ..)) (CExt.addMessage OutExt.refl)
        unfold Sys.broadcast
        refine HF.foldl_send (fun c => c) (fun _ => .message side ph' bd' t' id) _ h1 ?_
        intro c' hc'
        simp only [Sys.listeners, addMessage_conns', List.mem_map, List.mem_filter, decide_eq_true_eq] at hc'
        obtain ⟨y, ⟨hy, _, hya, _⟩, rfl⟩ := hc'
        exact hl y hy hya

theorem HF.closeFinish {s1 : Sys} (h1 : HF b a x.id ids s s1) (hp1 : s1.db.PInv) (hc : x.id ∈ ids) (side : String)
    (mood : Option String) (t' : Time) (r : OpenRes) (hd : String) :
    HF b a x.id ids s (Sys.closeFinish x a side t' mood (s1, r, hd)) := by
  unfold Sys.closeFinish
  cases r
  · dsimp only
    have h2 := h1.updConn (fun y => { y with listening := false, didClose := true }) (fun y => ⟨rfl, rfl⟩)
    split
    · rename_i e; exact (h2.mailboxClose hp1 e).internalErr _ _
    · rename_i e
      exact ((h2.mailboxClose hp1 e).updConn (fun y => { y with mailbox := none }) (fun y => ⟨rfl, rfl⟩)).send hc _
  · exact h1.sendError hc _
  · exact h1.internalErr _ _

theorem handleClose_hf (h0 : HF b a x.id ids s s0) (hF : s0.Full U t S) (hx : x ∈ s0.conns)
    (hc : x.id ∈ ids) (side : String) (mailbox : Option String) (mood : Option String)
    (hu : ∀ mb, mailbox = some mb → U mb) :
    HF b a x.id ids s (s0.handleClose x a side t mailbox mood) := by
  have hp := hF.good.db.cinv.toPInv
  rcases handleClose_cases s0 x a side t mailbox mood with ⟨⟨_, _, e⟩, _⟩ | ⟨mb, hmb, e⟩ <;> rw [e]
  · exact h0.sendError hc _
  · have humb : U mb := by
      cases mailbox with
      | some m => exact hu mb hmb
      | none => exact (hF.conn x hx).2 mb hmb
    unfold closeOpened
    split
    · exact h0.closeFinish hp hc _ _ _ _ _
    · split
      rename_i s1 r e
      exact ((h0.openMailbox hp e).updConn (fun y => if r = OpenRes.ok then { y with mailbox := some mb } else y)
        (fun y => by split <;> exact ⟨rfl, rfl⟩)).closeFinish (openMailbox_good hF.good humb e).1.db.cinv.toPInv hc _ _ _ _ _

end handlers

section onMessage
variable {U : String → Prop} {t : Time} {S : Prop} {s : Sys}

theorem onMessage_hf (h : s.Full U t S) {b a : String} {c : Nat} {ids : List Nat} {x : Conn}
    (hfx : s.findConn c = some x) (hxa : x.app = some a) (id : Val) (cmd : Cmd)
    (hu : ∀ m ∈ cmd.mailboxIds, U m) (hc : c ∈ ids) (hl : ∀ y ∈ s.conns, y.app = some a → y.id ∈ ids) :
    HF b a c ids s (s.onMessage c t id cmd) := by
  have hx : x ∈ s.conns := findConn_mem hfx
  obtain rfl := findConn_id hfx
  -- ids are unique, so `x` is the only record with its id
  have hr : HF b a x.id ids s s :=
    HF.refl (fun y hy e => by rw [Chan.eq_of_pairwise_ne (f := Conn.id) h.ids hy hx e]; exact hxa)
  have h0 : HF b a x.id ids s (s.send x.id (.ack id)) := hr.send hc _
  have hF := h.send x.id (.ack id)
  have hp : (s.send x.id (.ack id)).db.PInv := hF.good.db.cinv.toPInv
  unfold Sys.onMessage
  rw [hfx]
  cases cmd with
  | noType => exact hr.sendError hc _
  | ping v => exact handlePing_hf h0 hc v
  | bind a' sd i v =>
    dsimp only
    unfold Sys.handleBind
    rw [if_pos (Or.inl (by simp [hxa]))]
    exact h0.sendError hc _
  | unknown => simp only [hxa]; exact h0.sendError hc _
  | list => simp only [hxa]; exact h0.send hc _
  | allocate pick draws fresh => simp only [hxa]; exact handleAllocate_hf h0 hp hc _ _ _ _ _
  | claim n fresh => simp only [hxa]; exact handleClaim_hf h0 hp hc _ _ _ _
  | release n => simp only [hxa]; exact handleRelease_hf h0 hp hc _ _ _
  | open_ m => simp only [hxa]; exact handleOpen_hf h0 hp hc _ _ _
  | add ph bd => simp only [hxa]; exact handleAdd_hf h0 hF hx hxa hc hl _ _ _ _ _
  | close m mood =>
    simp only [hxa]
    exact handleClose_hf h0 hF hx hc _ m mood (fun mb e => hu mb (by simp [Cmd.mailboxIds, e]))

theorem onMessage_boundTo (h : s.Full U t S) {a : String} {c : Nat} {x : Conn}
    (hfx : s.findConn c = some x) (hxa : x.app = some a) (id : Val) (cmd : Cmd)
    (hu : ∀ m ∈ cmd.mailboxIds, U m) : BoundTo c a (s.onMessage c t id cmd) :=
  (onMessage_hf (b := a) (ids := s.conns.map (·.id)) h hfx hxa id cmd hu
    (by rw [← findConn_id hfx]; exact List.mem_map_of_mem (findConn_mem hfx))
    (fun y hy _ => List.mem_map_of_mem hy)).bd

theorem BoundTo.eq_of_appOf {c : Nat} {a a' : String} (hb : BoundTo c a s) (h : s.appOf c = some a') : a' = a := by
  obtain ⟨y, hy, hid, ha⟩ := appOf_mem h
  exact Option.some.inj (ha.symm.trans (hb y hy hid))

theorem BoundTo.appOf_eq {s' : Sys} {b a : String} {c : Nat} {x : Conn} (hb : BoundTo c a s')
    (hf : ConnsFrame b s.conns s'.conns) (hfx : s.findConn c = some x) : s'.appOf c = some a := by
  rcases All2.find? (fun y => decide (y.id = c)) (fun y => decide (y.id = c)) hf (fun y _ y' _ r => by rw [r.1])
    with ⟨h1, _⟩ | ⟨y, y', _, h2, _⟩
  · rw [show s.findConn c = none from h1] at hfx; cases hfx
  · have h2' : s'.findConn c = some y' := h2
    exact appOf_eq_some.2 ⟨y', h2', hb y' (findConn_mem h2') (findConn_id h2')⟩

/-- on an unbound connection every command but an accepted `bind` is refused: the connection table
    is as before -/
theorem onMessage_unbound_conns {c : Nat} {x : Conn} (hfx : s.findConn c = some x) (hxa : x.app = none)
    (id : Val) (cmd : Cmd)
    (hn : ∀ aa sd' i v, cmd = .bind (some aa) (some sd') i v → x.side.isSome ∧ x.side ≠ some "") :
    (s.onMessage c t id cmd).conns = s.conns := by
  unfold Sys.onMessage
  rw [hfx]
  cases cmd with
  | bind a sd i v =>
    dsimp only
    unfold Sys.handleBind
    split
    · rfl
    · rename_i hg
      split
      · rfl
      · split
        · rfl
        · exact absurd (hn _ _ _ _ rfl) (fun hh => hg (Or.inr hh))
  | ping v =>
    dsimp only
    unfold Sys.handlePing
    split <;> rfl
  | noType => rfl
  | _ =>
    dsimp only
    rw [hxa]
    rfl

/-- the accepted `bind` of an unbound connection: no app id yet, no non-empty side yet, both
    keys present -/
theorem onMessage_bind_eq {c : Nat} {x : Conn} (hfx : s.findConn c = some x) (hxa : x.app = none)
    (hside : ¬ (x.side.isSome ∧ x.side ≠ some "")) (id : Val) (aa sd' : String) (i v : Option String) :
    s.onMessage c t id (.bind (some aa) (some sd') i v) =
      ((s.send c (.ack id)).updConn x.id (fun y => { y with app := some aa, side := some sd' })).logClientVersion
        aa sd' t i v := by
  unfold Sys.onMessage
  rw [hfx]
  dsimp only
  unfold Sys.handleBind
  rw [if_neg]
  rintro (h | h)
  · simp [hxa] at h
  · exact hside h

theorem appOf_updConn {c : Nat} {x : Conn} (hfx : s.findConn c = some x) (f : Conn → Conn)
    (hf : ∀ y, (f y).id = y.id) : (s.updConn c f).appOf c = (f x).app := by
  unfold appOf findConn updConn
  rw [find?_id_map _ (fun y => by split <;> simp [hf]) c, show s.conns.find? (fun y => decide (y.id = c)) = some x from hfx]
  simp [findConn_id hfx]

theorem onMessage_bind_spec (h : s.Full U t S) {c : Nat} {x : Conn} (hfx : s.findConn c = some x)
    (hxa : x.app = none) (hside : ¬ (x.side.isSome ∧ x.side ≠ some "")) (id : Val) (aa sd' : String)
    (i v : Option String) {s' : Sys} (e : s.onMessage c t id (.bind (some aa) (some sd') i v) = s') :
    s'.appOf c = some aa ∧
      ∀ b, aa ≠ b → FrameB b s s' ∧ OutExt (FrameTo (otherIds b s'.conns)) s s' := by
  rw [onMessage_bind_eq hfx hxa hside] at e
  subst e
  have hx : x ∈ s.conns := findConn_mem hfx
  obtain rfl := findConn_id hfx
  have happ := (appOf_of_conns_eq (logClientVersion_conns _ aa sd' t i v) x.id).trans
    (appOf_updConn (s := s.send x.id (.ack id)) hfx (fun y => { y with app := some aa, side := some sd' }) (fun _ => rfl))
  refine ⟨happ, fun b hab => ⟨?_, ?_⟩⟩
  · refine (((FrameB.refl b s).send x.id (.ack id)).trans (frameB_updConn x.id _ ?_)).trans
      (logClientVersion_frameB' hab sd' t i v)
    intro y hy hyid
    obtain rfl : y = x := Chan.eq_of_pairwise_ne (f := Conn.id) h.ids hy hx hyid
    exact ⟨by rw [hxa]; simp, ⟨aa, rfl, hab⟩, rfl⟩
  · exact (OutExt.refl.send (fun _ => mem_otherIds_of_appOf happ hab)).trans
      (CExt.logClientVersion (OutExt.updConn (OutExt.refl (s := s.send x.id (.ack id))))).frameTo

theorem otherOp_recv_cases {b : String} {c : Nat} {t' : Time} {id : Val} {cmd : Cmd}
    (ho : s.otherOp b (.recv c t' id cmd) = true) :
    ∃ x, s.findConn c = some x ∧
      ((∃ a, x.app = some a ∧ a ≠ b) ∨
       (x.app = none ∧ ¬ (x.side.isSome ∧ x.side ≠ some "") ∧
          ∃ aa sd' i v, cmd = .bind (some aa) (some sd') i v ∧ aa ≠ b)) := by
  cases hfx : s.findConn c with
  | none => simp [otherOp, hfx] at ho
  | some x =>
    refine ⟨x, rfl, ?_⟩
    cases hxa : x.app with
    | some a =>
      simp only [otherOp, hfx, hxa, decide_eq_true_eq] at ho
      exact Or.inl ⟨a, rfl, ho⟩
    | none =>
      simp only [otherOp, hfx, hxa] at ho
      split at ho
      · rename_i aa sd' i v
        simp only [Bool.and_eq_true, decide_eq_true_eq, Bool.not_eq_eq_eq_not, Bool.not_true,
          decide_eq_false_iff_not] at ho
        exact Or.inr ⟨rfl, ho.2, aa, sd', i, v, rfl, ho.1⟩
      · cases ho

/-- **(pre-state form)** a command of another app (`otherOp`, decided before the command runs):
    its connection is bound to an app other than `b` afterwards, nothing of `b` is touched, and
    all frames go to connections bound to other apps -/
theorem onMessage_frameB_pre (h : s.Full U t S) (b : String) (c : Nat) (id : Val) (cmd : Cmd)
    (hu : ∀ m ∈ cmd.mailboxIds, U m) (ho : s.otherOp b (.recv c t id cmd) = true) :
    (∃ a, (s.onMessage c t id cmd).appOf c = some a ∧ a ≠ b) ∧
    FrameB b s (s.onMessage c t id cmd) ∧
      OutExt (FrameTo (otherIds b (s.onMessage c t id cmd).conns)) s (s.onMessage c t id cmd) := by
  obtain ⟨x, hfx, hcase⟩ := otherOp_recv_cases ho
  have hx : x ∈ s.conns := findConn_mem hfx
  have hid : x.id = c := findConn_id hfx
  rcases hcase with ⟨a, hxa, hab⟩ | ⟨hxa, hside, aa, sd', i, v, rfl, hab⟩
  · have hfr := (onMessage_hf (b := b) (ids := s.conns.map (·.id)) h hfx hxa id cmd hu
      (by rw [← hid]; exact List.mem_map_of_mem hx) (fun y hy _ => List.mem_map_of_mem hy)).fr hab
    have happ := (onMessage_boundTo h hfx hxa id cmd hu).appOf_eq hfr.conns hfx
    exact ⟨⟨a, happ, hab⟩, hfr, (onMessage_hf (b := b) h hfx hxa id cmd hu (mem_otherIds_of_appOf happ hab)
      (fun y hy hya => hfr.mem_otherIds hab hy hya)).out⟩
  · obtain ⟨happ, hrest⟩ := onMessage_bind_spec h hfx hxa hside id aa sd' i v rfl
    exact ⟨⟨aa, happ, hab⟩, hrest b hab⟩

/-- `otherOp` (pre-state) implies the post-state condition -/
theorem otherOp_post (h : s.Full U t S) {b : String} {c : Nat} {id : Val} {cmd : Cmd}
    (hu : ∀ m ∈ cmd.mailboxIds, U m) (ho : s.otherOp b (.recv c t id cmd) = true) :
    ∃ a, (s.onMessage c t id cmd).appOf c = some a ∧ a ≠ b :=
  (onMessage_frameB_pre h b c id cmd hu ho).1

/-- conversely: if the acting connection is bound to an app other than `b` AFTER the command, the
    command is an `otherOp` (a connection's app never changes once set; only an accepted `bind`
    sets it) -/
theorem otherOp_of_post (h : s.Full U t S) {b : String} {c : Nat} {id : Val} {cmd : Cmd}
    (hu : ∀ m ∈ cmd.mailboxIds, U m)
    (ho : ∀ a, (s.onMessage c t id cmd).appOf c = some a → a ≠ b)
    (hs : (s.onMessage c t id cmd).appOf c ≠ none) : s.otherOp b (.recv c t id cmd) = true := by
  obtain ⟨a1, ha1⟩ := Option.ne_none_iff_exists'.1 hs
  have hab1 : a1 ≠ b := ho a1 ha1
  cases hfx : s.findConn c with
  | none =>
    exfalso
    have e : s.onMessage c t id cmd = s := by unfold Sys.onMessage; rw [hfx]
    rw [e, appOf, hfx] at ha1
    cases ha1
  | some x =>
    cases hxa : x.app with
    | some a =>
      obtain rfl := (onMessage_boundTo h hfx hxa id cmd hu).eq_of_appOf ha1
      simp only [otherOp, hfx, hxa, decide_eq_true_eq]
      exact hab1
    | none =>
      by_cases hacc : ∃ aa sd' i v, cmd = .bind (some aa) (some sd') i v ∧ ¬ (x.side.isSome ∧ x.side ≠ some "")
      · obtain ⟨aa, sd', i, v, rfl, hside⟩ := hacc
        have happ := (onMessage_bind_spec h hfx hxa hside id aa sd' i v rfl).1
        rw [ha1] at happ
        cases happ
        simp only [otherOp, hfx, hxa, Bool.and_eq_true, decide_eq_true_eq, Bool.not_eq_eq_eq_not, Bool.not_true,
          decide_eq_false_iff_not]
        exact ⟨hab1, hside⟩
      · exfalso
        have hc := onMessage_unbound_conns (t := t) hfx hxa id cmd
          (fun aa sd' i v e => Classical.not_not.1 (fun hh => hacc ⟨aa, sd', i, v, e, hh⟩))
        rw [appOf_of_conns_eq hc, appOf, hfx] at ha1
        simp [hxa] at ha1

/-- **the frame theorem of the websocket layer** (post-state form): a command whose connection is
    bound to an app other than `b` once the command has been processed does not touch anything of
    app `b`, and all its frames go to connections bound to other apps -/
theorem onMessage_frameB (h : s.Full U t S) (b : String) (c : Nat) (id : Val) (cmd : Cmd)
    (hu : ∀ m ∈ cmd.mailboxIds, U m)
    (ho : ∀ a, (s.onMessage c t id cmd).appOf c = some a → a ≠ b)
    (hs : (s.onMessage c t id cmd).appOf c ≠ none) :
    FrameB b s (s.onMessage c t id cmd) ∧
      OutExt (FrameTo (otherIds b (s.onMessage c t id cmd).conns)) s (s.onMessage c t id cmd) :=
  (onMessage_frameB_pre h b c id cmd hu (otherOp_of_post h hu ho hs)).2

end onMessage

section recv

theorem otherOp_cleared (b : String) (g : GSys) (op : Op) : g.cleared.otherOp b op = g.sys.otherOp b op := by
  cases op <;> rfl

/-- **C06, one step**: a `recv` of another app (`otherOp`), from any state satisfying the global
    invariant: b's rows, b's usage rows, b's connections are untouched; every frame of the step
    goes to a connection bound to another app; the acting connection is bound to an app other
    than `b` afterwards -/
theorem recv_frameB {g : GSys} (hI : g.GInv) (b : String) {c : Nat} {t : Time} {id : Val} {cmd : Cmd}
    (hw : g.WFOp (.recv c t id cmd)) (ho : g.sys.otherOp b (.recv c t id cmd) = true) :
    FrameB b g.sys (g.sys.step (.recv c t id cmd)) ∧
      OutExt (FrameTo (otherIds b (g.sys.step (.recv c t id cmd)).conns)) g.cleared
        (g.sys.step (.recv c t id cmd)) ∧
      ∃ a, (g.sys.step (.recv c t id cmd)).appOf c = some a ∧ a ≠ b := by
  have hF : g.cleared.Full (g.opU (.recv c t id cmd)) t False :=
    hI.full (S := False) False.elim (.recv c t id cmd) hw.mono
  rw [step_recv]
  obtain ⟨k1, k2, k3⟩ := onMessage_frameB_pre hF b c id cmd (fun m hm => List.mem_append_right _ hm)
    (by rw [otherOp_cleared]; exact ho)
  exact ⟨(FrameB.of_eq rfl rfl rfl rfl : FrameB b g.sys g.cleared).trans k2, k3, k1⟩

end recv

/-- `db`, `udb`, `cfg` are unchanged and so is the sub-table of the connections bound to `b` -/
structure FrameConnB (b : String) (s s' : Sys) : Prop where
  db : s'.db = s.db
  udb : s'.udb = s.udb
  cfg : s'.cfg = s.cfg
  conns : s'.conns.filter (fun x => x.app = some b) = s.conns.filter (fun x => x.app = some b)

theorem FrameConnB.sameB {b : String} {s s' : Sys} (h : FrameConnB b s s') :
    Chan.SameB b s.db s'.db ∧ Usage.SameB b s.udb s'.udb := by
  rw [h.db, h.udb]; exact ⟨Chan.SameB.refl _ _, Usage.SameB.refl _ _⟩

/-- `onOpen`: the new record is unbound; the only frame is the welcome to the new connection -/
theorem connect_frameB (b : String) (s : Sys) (c : Nat) : FrameConnB b s (s.connect c) := by
  refine ⟨rfl, rfl, rfl, ?_⟩
  simp [Sys.connect, Sys.send, Sys.emit, List.filter_append]

/-- `onClose` of a connection that is not bound to `b` -/
theorem dropConn_frameB {b : String} {s : Sys} {c : Nat} (h : ∀ x ∈ s.conns, x.id = c → x.app ≠ some b) :
    FrameConnB b s (s.dropConn c) := by
  exact ⟨rfl, rfl, rfl, filter_filter_keep _ _ _ (fun x hx hp e => h x hx e hp)⟩

/-- `onClose` of a connection whose app, if it has one, is not `b` -/
theorem dropConn_frameB_of_appOf {U : String → Prop} {t : Time} {S : Prop} {b : String} {s : Sys} {c : Nat}
    (h : s.Full U t S) (hc : s.appOf c ≠ some b) : FrameConnB b s (s.dropConn c) := by
  apply dropConn_frameB
  intro x hx hid hxa
  apply hc
  have hfx : s.findConn c = some x := by
    unfold findConn
    cases hf : s.conns.find? (fun y => decide (y.id = c)) with
    | none =>
      have := List.find?_eq_none.1 hf x hx
      simp [hid] at this
    | some y =>
      have hy := List.mem_of_find?_eq_some hf
      have hyid : y.id = c := by simpa using List.find?_some hf
      rw [Chan.eq_of_pairwise_ne (f := Conn.id) h.ids hy hx (hyid.trans hid.symm)]
  exact appOf_eq_some.2 ⟨x, hfx, hxa⟩

end Sys

/-! ### non-vacuity: a REACHABLE two-app state with identical nameplate names, side strings and
    message contents; an other-app `close` deletes everything of app "a" and nothing of app "b".
    The state satisfies the hypotheses of `recv_frameB`, and its conclusion is also checked by
    evaluation. -/

namespace IsoFrameExample

instance instDecidableFrameTo (ids : List Nat) : (e : Event) → Decidable (FrameTo ids e)
  | .frame c _ _ => inferInstanceAs (Decidable (c ∈ ids))
  | .commit _ => isTrue trivial
  | .internal _ _ => isTrue trivial
  | .fired _ _ => isTrue trivial

def hist : List Op :=
  [.connect 1, .connect 2,
   .recv 1 1 .null (.bind (some "a") (some "s1") none none),
   .recv 2 1 .null (.bind (some "b") (some "s1") none none),
   .recv 1 2 .null (.claim (some "4") "m1"),
   .recv 2 2 .null (.claim (some "4") "m2"),
   .recv 1 3 .null (.open_ (some "m1")),
   .recv 2 3 .null (.open_ (some "m2")),
   .recv 1 4 .null (.add (some (.str "pake")) (some (.str "x"))),
   .recv 2 4 .null (.add (some (.str "pake")) (some (.str "x")))]

def g0 : GSys := (GSys.init { usage := true } 0).run hist

def closeA : Op := .recv 1 10 .null (.close (some "m1") (some "happy"))

/-- the hypotheses of `recv_frameB` hold: the state is reachable (hence `GInv`), the operation is
    well-formed and is an operation of another app -/
theorem g0_ginv : g0.GInv := (GSys.reach_of_wfB _ _ hist (by decide +kernel)).ginv
theorem closeA_wf : g0.WFOp closeA := GSys.wfOpB_sound (by decide +kernel)
theorem closeA_other : g0.sys.otherOp "b" closeA = true := by decide +kernel

/-- both apps have a nameplate "4", a mailbox with side "s1", the same message -/
example : g0.sys.db =
    { nameplates := [⟨1, "a", "4", "m1"⟩, ⟨2, "b", "4", "m2"⟩]
      npSides := [⟨1, true, "s1", 2⟩, ⟨2, true, "s1", 2⟩]
      mailboxes := [⟨"a", "m1", 4, true⟩, ⟨"b", "m2", 4, true⟩]
      mbSides := [⟨"m1", true, "s1", 2, none⟩, ⟨"m2", true, "s1", 2, none⟩]
      messages := [⟨"a", "m1", "s1", .str "pake", .str "x", 4, .null⟩,
                   ⟨"b", "m2", "s1", .str "pake", .str "x", 4, .null⟩]
      nextNp := 3 } := by decide +kernel

/-- app "a"'s mailbox, side row, message, nameplate and claim are gone … -/
example : (g0.sys.step closeA).db =
    { nameplates := [⟨2, "b", "4", "m2"⟩], npSides := [⟨2, true, "s1", 2⟩], mailboxes := [⟨"b", "m2", 4, true⟩],
      mbSides := [⟨"m2", true, "s1", 2, none⟩],
      messages := [⟨"b", "m2", "s1", .str "pake", .str "x", 4, .null⟩], nextNp := 3 } := by decide +kernel

/-- … and b's rows are the same, by evaluation … -/
example : Chan.SameB "b" g0.sys.db (g0.sys.step closeA).db :=
  ⟨by decide +kernel, by decide +kernel, by decide +kernel, by decide +kernel, by decide +kernel⟩

/-- … and by the theorem -/
example : Chan.SameB "b" g0.sys.db (g0.sys.step closeA).db :=
  (Sys.recv_frameB g0_ginv "b" closeA_wf closeA_other).1.db

/-- usage rows were written for app "a" only -/
example : Usage.SameB "b" g0.sys.udb (g0.sys.step closeA).udb ∧
    ((g0.sys.step closeA).udb.mailboxes.map (·.app), (g0.sys.step closeA).udb.nameplates.map (·.app)) =
      (["a"], ["a"]) :=
  ⟨⟨by decide +kernel, by decide +kernel, by decide +kernel⟩, by decide +kernel⟩

/-- the frames of the step (`ack`, `closed`) go to connection 1, the only one bound to another app -/
example : otherIds "b" (g0.sys.step closeA).conns = [1] ∧
    ∀ e ∈ (g0.sys.step closeA).out, FrameTo (otherIds "b" (g0.sys.step closeA).conns) e := by decide +kernel

end IsoFrameExample

end Wormhole
