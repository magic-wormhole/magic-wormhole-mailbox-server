/-
  C06 (application isolation): the rows of one app, lists related element by element, what an
  operation of another app may do to the connection table, which operations are another app's.

  `b` is the app under observation.  "b's rows" of the channel database:
    * `npsB`      nameplates with `app = b`;
    * `npSidesB`  nameplate side rows whose `npid` is the id of one of those;
    * `mbsB`      mailboxes with `app = b`;
    * `mbSidesB`  mailbox side rows whose `mailbox` is the id of one of those;
    * `msgsB`     messages with `app = b`;
  of the usage database: the `nameplates`, `mailboxes`, `client_versions` rows with `app = b`
  (the single `current` row is global: it has no app column).
-/
import Wormhole.Inv.Main

namespace Wormhole

namespace Chan

def npsB (d : Chan) (b : String) : List Nameplate := d.nameplates.filter (fun n => n.app = b)
def npIdsB (d : Chan) (b : String) : List Nat := (d.npsB b).map (·.id)
def npSidesB (d : Chan) (b : String) : List NpSide := d.npSides.filter (fun r => r.npid ∈ d.npIdsB b)
def mbsB (d : Chan) (b : String) : List MailboxRow := d.mailboxes.filter (fun m => m.app = b)
def mbIdsB (d : Chan) (b : String) : List String := (d.mbsB b).map (·.id)
def mbSidesB (d : Chan) (b : String) : List MbSide := d.mbSides.filter (fun r => r.mailbox ∈ d.mbIdsB b)
def msgsB (d : Chan) (b : String) : List Message := d.messages.filter (fun m => m.app = b)

/-- `d'` has exactly the same rows of app `b` as `d` (same rows, same order, surrogate ids
    included) -/
structure SameB (b : String) (d d' : Chan) : Prop where
  nps : d'.npsB b = d.npsB b
  npSides : d'.npSidesB b = d.npSidesB b
  mbs : d'.mbsB b = d.mbsB b
  mbSides : d'.mbSidesB b = d.mbSidesB b
  msgs : d'.msgsB b = d.msgsB b

theorem SameB.refl (b : String) (d : Chan) : SameB b d d := ⟨rfl, rfl, rfl, rfl, rfl⟩
theorem SameB.symm {b : String} {d d' : Chan} (h : SameB b d d') : SameB b d' d :=
  ⟨h.nps.symm, h.npSides.symm, h.mbs.symm, h.mbSides.symm, h.msgs.symm⟩
theorem SameB.trans {b : String} {d d' d'' : Chan} (h : SameB b d d') (h' : SameB b d' d'') : SameB b d d'' :=
  ⟨h'.nps.trans h.nps, h'.npSides.trans h.npSides, h'.mbs.trans h.mbs, h'.mbSides.trans h.mbSides,
    h'.msgs.trans h.msgs⟩

theorem SameB.of_eq {b : String} {d d' : Chan} (e1 : d'.nameplates = d.nameplates) (e2 : d'.npSides = d.npSides)
    (e3 : d'.mailboxes = d.mailboxes) (e4 : d'.mbSides = d.mbSides) (e5 : d'.messages = d.messages) :
    SameB b d d' := by
  refine ⟨?_, ?_, ?_, ?_, ?_⟩ <;>
    simp only [npsB, npSidesB, npIdsB, mbsB, mbSidesB, mbIdsB, msgsB, e1, e2, e3, e4, e5] <;> rfl

end Chan

namespace Usage

def npsB (u : Usage) (b : String) : List UNameplate := u.nameplates.filter (fun r => r.app = b)
def mbsB (u : Usage) (b : String) : List UMailbox := u.mailboxes.filter (fun r => r.app = b)
def clientsB (u : Usage) (b : String) : List UClient := u.clients.filter (fun r => r.app = b)

/-- the same usage rows of app `b` -/
structure SameB (b : String) (u u' : Usage) : Prop where
  nps : u'.npsB b = u.npsB b
  mbs : u'.mbsB b = u.mbsB b
  clients : u'.clientsB b = u.clientsB b

theorem SameB.refl (b : String) (u : Usage) : SameB b u u := ⟨rfl, rfl, rfl⟩
theorem SameB.symm {b : String} {u u' : Usage} (h : SameB b u u') : SameB b u' u :=
  ⟨h.nps.symm, h.mbs.symm, h.clients.symm⟩
theorem SameB.trans {b : String} {u u' u'' : Usage} (h : SameB b u u') (h' : SameB b u' u'') : SameB b u u'' :=
  ⟨h'.nps.trans h.nps, h'.mbs.trans h.mbs, h'.clients.trans h.clients⟩

end Usage

/-! ### lists related element by element -/

inductive All2 {α β : Type} (R : α → β → Prop) : List α → List β → Prop
  | nil : All2 R [] []
  | cons {a : α} {b : β} {l : List α} {l' : List β} : R a b → All2 R l l' → All2 R (a :: l) (b :: l')

namespace All2
variable {α β γ : Type} {R : α → β → Prop}

theorem refl_of {R : α → α → Prop} : ∀ (l : List α), (∀ x ∈ l, R x x) → All2 R l l
  | [], _ => .nil
  | a :: l, h => .cons (h a (by simp)) (refl_of l (fun x hx => h x (by simp [hx])))

theorem mono {R' : α → β → Prop} {l : List α} {l' : List β} (h : All2 R l l')
    (hm : ∀ a ∈ l, ∀ b ∈ l', R a b → R' a b) : All2 R' l l' := by
  induction h with
  | nil => exact .nil
  | cons r _ ih =>
    exact .cons (hm _ (by simp) _ (by simp) r)
      (ih (fun a ha b hb => hm a (by simp [ha]) b (by simp [hb])))

theorem length_eq {l : List α} {l' : List β} (h : All2 R l l') : l.length = l'.length := by
  induction h with
  | nil => rfl
  | cons _ _ ih => simp [ih]

theorem append {l₁ l₂ : List α} {l₁' l₂' : List β} (h₁ : All2 R l₁ l₁') (h₂ : All2 R l₂ l₂') :
    All2 R (l₁ ++ l₂) (l₁' ++ l₂') := by
  induction h₁ with
  | nil => simpa using h₂
  | cons r _ ih => exact .cons r ih

theorem comp {S : β → γ → Prop} {T : α → γ → Prop} {l : List α} {l' : List β} {l'' : List γ}
    (h : All2 R l l') (h' : All2 S l' l'') (hc : ∀ a b c, R a b → S b c → T a c) : All2 T l l'' := by
  induction h generalizing l'' with
  | nil => cases h'; exact .nil
  | cons r _ ih =>
    cases h' with
    | cons s hs => exact .cons (hc _ _ _ r s) (ih hs)

theorem flip {l : List α} {l' : List β} (h : All2 R l l') : All2 (fun b a => R a b) l' l := by
  induction h with
  | nil => exact .nil
  | cons r _ ih => exact .cons r ih

theorem map {α' β' : Type} {R' : α' → β' → Prop} (f : α → α') (g : β → β') {l : List α} {l' : List β}
    (h : All2 R l l') (hm : ∀ a ∈ l, ∀ b ∈ l', R a b → R' (f a) (g b)) : All2 R' (l.map f) (l'.map g) := by
  induction h with
  | nil => exact .nil
  | cons r _ ih =>
    exact .cons (hm _ (by simp) _ (by simp) r) (ih (fun a ha b hb => hm a (by simp [ha]) b (by simp [hb])))

theorem filter (p : α → Bool) (q : β → Bool) {l : List α} {l' : List β} (h : All2 R l l')
    (hpq : ∀ a ∈ l, ∀ b ∈ l', R a b → p a = q b) : All2 R (l.filter p) (l'.filter q) := by
  induction h with
  | nil => exact .nil
  | @cons a b l l' r _ ih =>
    have e := hpq a (by simp) b (by simp) r
    have ih' := ih (fun a ha b hb => hpq a (by simp [ha]) b (by simp [hb]))
    simp only [List.filter_cons, e]
    split
    · exact .cons r ih'
    · exact ih'

theorem filter_eq {R : α → α → Prop} (p : α → Bool) {l l' : List α} (h : All2 R l l')
    (hp : ∀ a ∈ l, ∀ b ∈ l', R a b → p a = p b ∧ (p a = true → b = a)) : l'.filter p = l.filter p := by
  induction h with
  | nil => rfl
  | @cons a b l l' r _ ih =>
    obtain ⟨e, hab⟩ := hp a (by simp) b (by simp) r
    have ih' := ih (fun a ha b hb => hp a (by simp [ha]) b (by simp [hb]))
    simp only [List.filter_cons, ← e]
    split
    · rename_i hpa
      rw [hab hpa, ih']
    · exact ih'

theorem find? (p : α → Bool) (q : β → Bool) {l : List α} {l' : List β} (h : All2 R l l')
    (hpq : ∀ a ∈ l, ∀ b ∈ l', R a b → p a = q b) :
    (l.find? p = none ∧ l'.find? q = none) ∨
      ∃ a b, l.find? p = some a ∧ l'.find? q = some b ∧ R a b := by
  induction h with
  | nil => exact Or.inl ⟨rfl, rfl⟩
  | @cons a b l l' r _ ih =>
    have e := hpq a (by simp) b (by simp) r
    have ih' := ih (fun a ha b hb => hpq a (by simp [ha]) b (by simp [hb]))
    simp only [List.find?_cons, e]
    cases hq : q b with
    | true => exact Or.inr ⟨a, b, rfl, rfl, r⟩
    | false => exact ih'

theorem map_eq {δ : Type} (f : α → δ) (g : β → δ) {l : List α} {l' : List β} (h : All2 R l l')
    (hfg : ∀ a ∈ l, ∀ b ∈ l', R a b → f a = g b) : l.map f = l'.map g := by
  induction h with
  | nil => rfl
  | cons r _ ih =>
    simp only [List.map_cons]
    rw [hfg _ (by simp) _ (by simp) r, ih (fun a ha b hb => hfg a (by simp [ha]) b (by simp [hb]))]

theorem mem_left {l : List α} {l' : List β} (h : All2 R l l') {a : α} (ha : a ∈ l) : ∃ b ∈ l', R a b := by
  induction h with
  | nil => cases ha
  | cons r _ ih =>
    rcases List.mem_cons.1 ha with rfl | ha
    · exact ⟨_, by simp, r⟩
    · obtain ⟨b, hb, rb⟩ := ih ha
      exact ⟨b, by simp [hb], rb⟩

end All2

/-- the connection is bound to an app other than `b` -/
def Conn.other (b : String) (x : Conn) : Prop := ∃ a, x.app = some a ∧ a ≠ b

instance (b : String) (x : Conn) : Decidable (x.other b) := by
  unfold Conn.other
  cases x.app with
  | none => exact isFalse (by simp)
  | some a =>
    by_cases h : a = b
    · exact isFalse (by simp [h])
    · exact isTrue ⟨a, rfl, h⟩

theorem Conn.other_iff (b : String) (x : Conn) : x.other b ↔ x.app ≠ none ∧ x.app ≠ some b := by
  unfold Conn.other
  cases x.app with
  | none => simp
  | some a => simp

/-- What an operation of another app may do to the connection table: no record is added or
    removed, ids stay, and a record changes only if it is bound to another app afterwards and was
    not bound to `b` before. -/
def ConnsFrame (b : String) (l l' : List Conn) : Prop :=
  All2 (fun x x' => x'.id = x.id ∧ (x' = x ∨ (x'.other b ∧ x.app ≠ some b))) l l'

theorem ConnsFrame.refl (b : String) (l : List Conn) : ConnsFrame b l l :=
  All2.refl_of l (fun _ _ => ⟨rfl, Or.inl rfl⟩)

/-- the ids of the connections bound to another app -/
def otherIds (b : String) (l : List Conn) : List Nat := (l.filter (fun x => x.other b)).map (·.id)

/-- an event that is not a frame, or a frame addressed to one of `ids` -/
def FrameTo (ids : List Nat) : Event → Prop
  | .frame c _ _ => c ∈ ids
  | _ => True

theorem Sys.CExt.frameTo {ids : List Nat} {s s' : Sys} (h : Sys.CExt s s') : Sys.OutExt (FrameTo ids) s s' :=
  h.mono (fun _ ⟨_, he⟩ => he ▸ trivial)

namespace Sys

/-- the app connection `c` is bound to -/
def appOf (s : Sys) (c : Nat) : Option String := (s.findConn c).bind (·.app)

/-- `op` is a command of another app: a message on a connection that is bound to an app other
    than `b`, or the `bind` that binds an unbound connection to an app other than `b` (the
    condition under which `handle_bind` accepts is spelled out: no app id yet, no non-empty
    side yet, both keys present). Decided on the state BEFORE the operation. -/
def otherOp (b : String) (s : Sys) : Op → Bool
  | .recv c _ _ cmd =>
    match s.findConn c with
    | none => false
    | some x =>
      match x.app with
      | some a => decide (a ≠ b)
      | none =>
        match cmd with
        | .bind (some a) (some _) _ _ => decide (a ≠ b) && !(decide (x.side.isSome ∧ x.side ≠ some ""))
        | _ => false
  | _ => false

end Sys

end Wormhole
