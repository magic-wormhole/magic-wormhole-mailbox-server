/-
  `mailboxes.updated` is only ever written with the time of the current operation:
  after ANY step (crashes included) that runs at time `T`, every mailbox row is a row of the
  database before the step, unchanged, or carries `updated = T`  (`Sys.step_stampStep`).
  With `WFOp.mono` (times never go back) and `GInv.clockMb` (no stamp is later than the clock)
  this makes `updated` monotone — the link between "last activity" and the column the sweep
  looks at (Props/C12.lean, `C12_updated_lower_bound`).

  `P := Chan.StampStep T d0` in the `AllDb` calculus of Inv/MsgDb.lean (live database, committed one, all
  crash points), carried through the statements of the code (Inv/Acts.lean).
-/
import Wormhole.Inv.MsgWs
import Wormhole.Reach

namespace Wormhole

namespace Chan

/-- every mailbox row of `d'` is a row of `d` (unchanged) or is stamped `T` -/
def StampStep (T : Time) (d d' : Chan) : Prop :=
  ∀ r' ∈ d'.mailboxes, r' ∈ d.mailboxes ∨ r'.updated = T

theorem StampStep.refl (T : Time) (d : Chan) : StampStep T d d := fun _ h => .inl h

theorem StampStep.trans {T : Time} {a b c : Chan} (h1 : StampStep T a b) (h2 : StampStep T b c) :
    StampStep T a c := by
  intro r hr
  rcases h2 r hr with h | h
  · exact h1 r h
  · exact .inr h

/-- the two UPDATEs of `updated`: `Mailbox._touch` (`p r := r.id = mb`) and the touch loop of `prune` -/
theorem StampStep.restamp (d : Chan) (p : MailboxRow → Prop) [DecidablePred p] (T : Time) :
    StampStep T d { d with mailboxes := d.mailboxes.map (fun r => if p r then { r with updated := T } else r) } := by
  intro r hr
  simp only [List.mem_map] at hr
  obtain ⟨r0, h0, rfl⟩ := hr
  by_cases e : p r0
  · right; simp [e]
  · left; simpa [e] using h0

theorem StampStep.touch (d : Chan) (mb : String) (T : Time) : StampStep T d (d.touch mb T) :=
  StampStep.restamp d (fun r => r.id = mb) T

theorem StampStep.insMailbox (d : Chan) (app mb : String) (T : Time) (f : Bool) :
    StampStep T d (d.insMailbox ⟨app, mb, T, f⟩) := by
  intro r hr
  simp only [Chan.insMailbox, List.mem_append, List.mem_singleton] at hr
  exact hr.imp id (fun e => by rw [e])

end Chan

namespace Sys

/-- throughout the current step — in the live database, the committed one and at every crash point —
    the mailbox rows are rows of `d0` or are stamped `T` -/
abbrev OnlyStamps (W : Prop) (T : Time) (d0 : Chan) (s : Sys) : Prop := AllDb W (Chan.StampStep T d0) s

section stamp
variable {W : Prop} {T : Time} {d0 : Chan} {s : Sys}

theorem OnlyStamps.stamp (a : OnlyStamps W T d0 s) {f : Chan → Chan}
    (h : Chan.StampStep T s.db (f s.db)) : OnlyStamps W T d0 (s.modDb f) :=
  a.modDb (a.db.trans h)

theorem OnlyStamps.subset (a : OnlyStamps W T d0 s) {f : Chan → Chan}
    (h : ∀ r ∈ (f s.db).mailboxes, r ∈ s.db.mailboxes) : OnlyStamps W T d0 (s.modDb f) :=
  a.stamp fun r hr => .inl (h r hr)

/-- the kinds of statements that write no `updated`, or write it with `T` -/
def _root_.Wormhole.Sys.Kind.stampsOnly (T : Time) : Kind → Prop
  | .grow t | .stamp t => t = T
  | .boot => False
  | _ => True

theorem OnlyStamps.stmt (a : OnlyStamps W T d0 s) {k : Kind} (hk : k.stampsOnly T) {s' : Sys}
    (h : Stmt k s s') : OnlyStamps W T d0 s' := by
  cases h with
  | commit => exact a.commit
  | ucommit => exact a.ucommit
  | storeNp => exact a.storeNameplateUsage
  | restart => cases hk
  | grow _ _ _ hf =>
    cases hk
    cases hf with
    | touch => exact a.stamp (Chan.StampStep.touch _ _ _)
    | insMailbox => exact a.stamp (Chan.StampStep.insMailbox _ _ _ _ _)
    | _ => exact a.subset fun _ h => h
  | insMessage | unclaim | releaseDel | closeSide | delNp => exact a.subset fun _ h => h
  | closeDeletes | delMb => exact a.subset fun _ hr => (List.mem_filter.1 hr).1
  | touchListened _ app =>
    cases hk
    exact a.stamp (Chan.StampStep.restamp s.db (fun r => r.app = app ∧ s.listeners app r.id ≠ []) _)
  | _ => exact ⟨a.db, a.rest⟩

theorem OnlyStamps.runs (a : OnlyStamps W T d0 s) {s' : Sys} (r : Runs (Kind.stampsOnly T) s s') :
    OnlyStamps W T d0 s' :=
  r.preserves (fun _ hk _ _ h a => a.stmt hk h) a

end stamp

/-- every plain operation that runs at time `T` (operations that carry no time write no stamp) -/
theorem stepPlain_stamp {T : Time} {s : Sys} (hs : s.Synced) (op : Op)
    (hT : ∀ t, op.time? = some t → t = T) :
    OnlyStamps True T s.db (({ s with out := [], snaps := [] } : Sys).stepPlain op) := by
  have a0 : OnlyStamps True T s.db ({ s with out := [], snaps := [] } : Sys) :=
    AllDb.start hs (Chan.StampStep.refl _ _)
  cases op with
  | connect c => exact ⟨a0.db, a0.rest⟩
  | drop c => exact ⟨a0.db, a0.rest⟩
  | restart t => exact ⟨(a0.rest trivial).1, fun w => ⟨(a0.rest w).1, by simp [Sys.stepPlain, Sys.restart]⟩⟩
  | crashIn k op' => exact a0
  | sweep now fault =>
    cases hT now rfl
    exact a0.runs ((Runs.refl _).expire trivial trivial trivial (fun _ => trivial) trivial _ fault rfl)
  | recv c t id cmd =>
    cases hT t rfl
    exact a0.runs (onMessage_runs trivial trivial trivial _ c _ id rfl (fun _ => trivial)
      (fun _ _ _ _ _ _ _ _ _ => trivial) (fun _ => trivial) (fun _ => trivial) (fun _ => trivial)
      (fun _ => trivial) (fun _ _ _ _ _ _ _ _ _ => ⟨trivial, trivial⟩))

/-- **every step, crashes included**: from a state with nothing uncommitted, an operation that runs
    at time `T` leaves only mailbox rows that were there before (unchanged) or that are stamped `T` -/
theorem step_stampStep {T : Time} {s : Sys} (hs : s.Synced) (op : Op)
    (hT : ∀ t, op.time? = some t → t = T) : Chan.StampStep T s.db (s.step op).db := by
  have a := stepPlain_stamp (T := T) hs op.plain (by cases op <;> exact hT)
  exact a.step_db (by rw [← hs.1]; exact Chan.StampStep.refl _ _)

end Sys
end Wormhole
