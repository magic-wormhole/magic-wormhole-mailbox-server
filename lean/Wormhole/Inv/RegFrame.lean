/-
  Frame lemmas: the functions of Core.lean / Ws.lean that the registry model runs on
  `RSys.core` neither read nor write the connection table, so they commute with replacing it
  (`Sys.setConns`).  This is what lets `RSys.abs` (which installs the abstracted connection
  table) be pushed through them.
-/
import Wormhole.Reg

namespace Wormhole
namespace Sys

/-- replace the connection table -/
def setConns (s : Sys) (cs : List Conn) : Sys := { s with conns := cs }

section
variable (s : Sys) (cs : List Conn)

@[simp] theorem setConns_cfg : (s.setConns cs).cfg = s.cfg := rfl
@[simp] theorem setConns_db : (s.setConns cs).db = s.db := rfl
@[simp] theorem setConns_disk : (s.setConns cs).disk = s.disk := rfl
@[simp] theorem setConns_udb : (s.setConns cs).udb = s.udb := rfl
@[simp] theorem setConns_udisk : (s.setConns cs).udisk = s.udisk := rfl
@[simp] theorem setConns_conns : (s.setConns cs).conns = cs := rfl
@[simp] theorem setConns_rebooted : (s.setConns cs).rebooted = s.rebooted := rfl
@[simp] theorem setConns_out : (s.setConns cs).out = s.out := rfl
@[simp] theorem setConns_snaps : (s.setConns cs).snaps = s.snaps := rfl
@[simp] theorem setConns_setConns (cs' : List Conn) : (s.setConns cs).setConns cs' = s.setConns cs' := rfl
@[simp] theorem setConns_synced : (s.setConns cs).synced = s.synced := rfl
@[simp] theorem setConns_blurTime : (s.setConns cs).blurTime = s.blurTime := rfl
@[simp] theorem setConns_allApps : (s.setConns cs).allApps = s.allApps := rfl

@[simp] theorem emit_setConns (e : Event) : (s.setConns cs).emit e = (s.emit e).setConns cs := rfl
@[simp] theorem send_setConns (c : Nat) (f : Frame) : (s.setConns cs).send c f = (s.send c f).setConns cs := rfl
@[simp] theorem sendError_setConns (c : Nat) (t : String) :
    (s.setConns cs).sendError c t = (s.sendError c t).setConns cs := rfl
@[simp] theorem internalErr_setConns (c : Nat) (t : String) :
    (s.setConns cs).internalErr c t = (s.internalErr c t).setConns cs := rfl
@[simp] theorem modDb_setConns (f : Chan → Chan) : (s.setConns cs).modDb f = (s.modDb f).setConns cs := rfl
@[simp] theorem modUdb_setConns (f : Usage → Usage) : (s.setConns cs).modUdb f = (s.modUdb f).setConns cs := rfl

@[simp] theorem commit_setConns : (s.setConns cs).commit = s.commit.setConns cs := by
  unfold commit setConns
  split <;> rfl

@[simp] theorem ucommit_setConns : (s.setConns cs).ucommit = s.ucommit.setConns cs := by
  unfold ucommit setConns
  split <;> rfl

@[simp] theorem handlePing_setConns (c : Nat) (v : Option Val) :
    (s.setConns cs).handlePing c v = (s.handlePing c v).setConns cs := by
  unfold handlePing; split <;> rfl

@[simp] theorem storeNameplateUsage_setConns (app : String) (sides : List NpSide) (t : Time) (p : Bool) :
    (s.setConns cs).storeNameplateUsage app sides t p =
      ((s.storeNameplateUsage app sides t p).1.setConns cs, (s.storeNameplateUsage app sides t p).2) := by
  unfold storeNameplateUsage
  simp only [setConns_blurTime]
  split <;> rfl

@[simp] theorem storeMailboxUsage_setConns (app : String) (fn : Bool) (sides : List MbSide) (t : Time) (p : Bool) :
    (s.setConns cs).storeMailboxUsage app fn sides t p = (s.storeMailboxUsage app fn sides t p).setConns cs := rfl

@[simp] theorem mailboxOpen_setConns (mb side : String) (t : Time) :
    (s.setConns cs).mailboxOpen mb side t = (s.mailboxOpen mb side t).setConns cs := by
  unfold mailboxOpen
  simp only [setConns_db]
  split <;> simp

@[simp] theorem addMailbox_setConns (app mb : String) (fn : Bool) (t : Time) :
    (s.setConns cs).addMailbox app mb fn t = (s.addMailbox app mb fn t).map (·.setConns cs) := by
  unfold addMailbox
  simp only [setConns_db]
  split
  · rfl
  · split <;> rfl

@[simp] theorem openMailbox_setConns (app mb side : String) (t : Time) :
    (s.setConns cs).openMailbox app mb side t =
      ((s.openMailbox app mb side t).1.setConns cs, (s.openMailbox app mb side t).2) := by
  unfold openMailbox
  simp only [addMailbox_setConns]
  cases s.addMailbox app mb false t with
  | none => rfl
  | some s1 =>
    simp only [Option.map_some, mailboxOpen_setConns, commit_setConns, setConns_db]
    split <;> rfl

@[simp] theorem addMessage_setConns (app mb side : String) (ph bd : Val) (t : Time) (id : Val) :
    (s.setConns cs).addMessage app mb side ph bd t id = (s.addMessage app mb side ph bd t id).setConns cs := by
  unfold addMessage
  simp

@[simp] theorem logClientVersion_setConns (app side : String) (t : Time) (i v : Option String) :
    (s.setConns cs).logClientVersion app side t i v = (s.logClientVersion app side t i v).setConns cs := by
  by_cases h : s.cfg.usage <;> simp [logClientVersion, h]

end

theorem storeNameplatesOfMailbox_setConns (app : String) (t : Time) (l : List Nameplate) :
    ∀ (s : Sys) (cs : List Conn), (s.setConns cs).storeNameplatesOfMailbox app t l =
      ((s.storeNameplatesOfMailbox app t l).1.setConns cs, (s.storeNameplatesOfMailbox app t l).2) := by
  induction l with
  | nil => intro s cs; rfl
  | cons np rest ih =>
    intro s cs
    unfold storeNameplatesOfMailbox
    simp only [storeNameplateUsage_setConns, setConns_db]
    cases h : s.storeNameplateUsage app (s.db.npSidesOf np.id) t false with
    | mk s1 b =>
      cases b with
      | false => rfl
      | true => exact ih s1 cs

attribute [simp] storeNameplatesOfMailbox_setConns

@[simp] theorem replay_setConns (s : Sys) (cs : List Conn) (c : Nat) (app mb : String) :
    (s.setConns cs).replay c app mb = (s.replay c app mb).setConns cs := by
  unfold replay
  simp only [setConns_db]
  generalize ((s.db.messagesOf app mb).mergeSort fun a b => decide (a.rx ≤ b.rx)) = l
  induction l generalizing s with
  | nil => rfl
  | cons m rest ih => simp only [List.foldl_cons, send_setConns]; exact ih _

@[simp] theorem releaseNameplate_setConns (s : Sys) (cs : List Conn) (app name side : String) (t : Time) :
    (s.setConns cs).releaseNameplate app name side t =
      ((s.releaseNameplate app name side t).1.setConns cs, (s.releaseNameplate app name side t).2) := by
  unfold releaseNameplate
  simp only [setConns_db]
  split
  · rfl
  · split
    · rfl
    · simp only [modDb_setConns, commit_setConns, setConns_db, setConns_cfg]
      split
      · rfl
      · split
        · simp only [storeNameplateUsage_setConns]
          generalize ((((s.modDb _).commit.modDb _).storeNameplateUsage _ _ _ _)) = q
          obtain ⟨s3, b⟩ := q
          cases b <;> simp
        · rfl

theorem pruneNameplates_setConns (app : String) (now : Time) (l : List Nameplate) :
    ∀ (s : Sys) (cs : List Conn), (s.setConns cs).pruneNameplates app now l =
      ((s.pruneNameplates app now l).1.setConns cs, (s.pruneNameplates app now l).2) := by
  induction l with
  | nil => intro s cs; rfl
  | cons np rest ih =>
    intro s cs
    unfold pruneNameplates
    simp only [modDb_setConns, setConns_cfg, setConns_db, storeNameplateUsage_setConns]
    split
    · cases h : (s.modDb fun d => (d.delNpSidesOf np.id).delNameplate np.id).storeNameplateUsage app
          (s.db.npSidesOf np.id) now true with
      | mk s1 b =>
        cases b with
        | false => rfl
        | true => exact ih s1 cs
    · exact ih _ cs

theorem pruneMailboxes_setConns (app : String) (now : Time) (l : List MailboxRow) :
    ∀ (s : Sys) (cs : List Conn), (s.setConns cs).pruneMailboxes app now l =
      (s.pruneMailboxes app now l).setConns cs := by
  induction l with
  | nil => intro s cs; rfl
  | cons row rest ih =>
    intro s cs
    rw [pruneMailboxes, pruneMailboxes]
    simp only [modDb_setConns, setConns_cfg, setConns_db]
    by_cases h : (s.modDb fun d => ((d.delMessagesOf row.id).delMbSidesOf row.id).delMailbox row.id).cfg.usage = true
    · simp only [h, if_true, storeMailboxUsage_setConns]; exact ih _ cs
    · simp only [h]; exact ih _ cs

attribute [simp] pruneNameplates_setConns pruneMailboxes_setConns

@[simp] theorem pruneLoops_setConns (s : Sys) (cs : List Conn) (app : String) (now : Time)
    (oldMb : List MailboxRow) (oldNp : List Nameplate) :
    (s.setConns cs).pruneLoops app now oldMb oldNp =
      ((s.pruneLoops app now oldMb oldNp).1.setConns cs, (s.pruneLoops app now oldMb oldNp).2) := by
  unfold pruneLoops
  rw [pruneNameplates_setConns]
  rcases h : s.pruneNameplates app now oldNp with ⟨s2, b⟩
  cases b
  · rfl
  · dsimp only
    simp only [pruneMailboxes_setConns, commit_setConns, setConns_cfg, ucommit_setConns]
    split
    · split <;> rfl
    · rfl

@[simp] theorem pruneTail_setConns (s : Sys) (cs : List Conn) (app : String) (now old : Time) :
    (s.setConns cs).pruneTail app now old =
      ((s.pruneTail app now old).1.setConns cs, (s.pruneTail app now old).2) := by
  unfold pruneTail
  exact pruneLoops_setConns _ _ _ _ _ _

/-- `AppNamespace.prune` = touch loop, commit, `pruneTail` -/
theorem prune_eq_tail (s : Sys) (app : String) (now old : Time) :
    s.prune app now old = ((s.touchListened app now).commit).pruneTail app now old := rfl

end Sys
end Wormhole
