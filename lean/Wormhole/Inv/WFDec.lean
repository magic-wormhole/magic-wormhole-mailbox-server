/-
  An executable check of well-formedness (`GSys.WFOp`, `GSys.WF` of Reach.lean), sound by
  `wfOpB_sound` / `wfB_sound`: lets concrete histories be shown well-formed (hence their states
  reachable) by `decide`.  Used by the non-vacuity examples of the property files.
-/
import Wormhole.Reach

namespace Wormhole
namespace GSys

/-- no live connection has the id a `connect` brings -/
def connFreshB (g : GSys) : Op → Bool
  | .connect c => g.sys.conns.all (fun x => x.id != c)
  | _ => true

def wfOpB (g : GSys) (op : Op) : Bool :=
  g.connFreshB op &&
  (match op.time? with | some t => decide (g.clock ≤ t) | none => true) &&
  (match op.fresh? with | some f => !(g.used.contains f) | none => true) &&
  (match op with | .crashIn _ op' => !op'.isCrash && g.connFreshB op' | _ => true)

theorem connFreshB_sound {g : GSys} {op : Op} (h : g.connFreshB op = true) :
    ∀ c, op = .connect c → ∀ x ∈ g.sys.conns, x.id ≠ c := by
  intro c e x hx
  subst e
  simp only [connFreshB, List.all_eq_true, bne_iff_ne, ne_eq] at h
  exact h x hx

theorem wfOpB_sound {g : GSys} {op : Op} (h : g.wfOpB op = true) : g.WFOp op := by
  simp only [wfOpB, Bool.and_eq_true] at h
  obtain ⟨⟨⟨h1, h2⟩, h3⟩, h4⟩ := h
  refine ⟨connFreshB_sound h1, ?_, ?_, ?_⟩
  · intro t e
    rw [e] at h2
    simpa using h2
  · intro f e
    rw [e] at h3
    simpa using h3
  · intro k op' e
    subst e
    simp only [Bool.and_eq_true, Bool.not_eq_eq_eq_not, Bool.not_true] at h4
    exact ⟨h4.1, connFreshB_sound h4.2⟩

def wfB (g : GSys) : List Op → Bool
  | [] => true
  | op :: rest => g.wfOpB op && wfB (g.step op) rest

theorem wfB_sound : ∀ {ops : List Op} {g : GSys}, g.wfB ops = true → g.WF ops := by
  intro ops
  induction ops with
  | nil => intro g _; trivial
  | cons op rest ih =>
    intro g h
    simp only [wfB, Bool.and_eq_true] at h
    exact ⟨wfOpB_sound h.1, ih h.2⟩

theorem reach_of_wfB (cfg : Cfg) (rb : Time) (ops : List Op) (h : (GSys.init cfg rb).wfB ops = true) :
    ((GSys.init cfg rb).run ops).Reach :=
  reach_run (.init cfg rb) ops (wfB_sound h)

end GSys
end Wormhole
