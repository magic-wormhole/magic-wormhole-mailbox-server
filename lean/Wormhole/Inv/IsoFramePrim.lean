/-
  C06 (application isolation), frame lemmas for the statements of Store.lean.

  `b` is the observed app.  Every primitive leaves b's rows alone (`Chan.SameB b d (prim d)`)
  under the weakest natural side condition:
    * statements keyed by a mailbox id `m` alone: "no mailbox of b has id m" (`m ∉ d.mbIdsB b`);
      callers get it from `d.HasMb a m` with `a ≠ b` and the global uniqueness of mailbox ids
      (`not_mem_mbIdsB_of_hasMb`), or from `findMailboxById m = none`;
      for `DELETE FROM messages WHERE mailbox_id=m`: "no message of b is filed under m", which
      follows from the former by `PInv.msgFk` (`msgsB_ne_of_not_mem`);
    * statements keyed by a nameplate id: `npid ∉ d.npIdsB b`; callers: the id of a nameplate of
      another app (`not_mem_npIdsB_of_mem`, uniqueness of nameplate ids) or the next
      AUTOINCREMENT value (`nextNp_not_mem_npIdsB`);
    * statements carrying an app column: that app is not b.
  All side conditions are phrased over b's rows, so they transfer along `SameB`
  (`SameB.npIdsB_eq`, `SameB.mbIdsB_eq`, `SameB.msgs`).
-/
import Wormhole.Inv.IsoDefs

namespace Wormhole

theorem find?_congr_mem {α : Type} {p q : α → Bool} :
    ∀ {l : List α}, (∀ x ∈ l, p x = q x) → l.find? p = l.find? q
  | [], _ => rfl
  | a :: l, h => by
    simp only [List.find?_cons, h a (by simp)]
    rw [find?_congr_mem (fun x hx => h x (by simp [hx]))]

theorem and_eq_of {p p' q : Bool} (hq : p = true → q = true) (hp : q = true → p' = p) : (p' && q) = p := by
  cases q <;> cases p <;> simp_all

section
variable {α : Type} (p p' q : α → Prop) [DecidablePred p] [DecidablePred p'] [DecidablePred q] (l : List α)

/-- a WHERE clause `p'` evaluated on the rows a filter `q` selects: if `p` implies `q`, and `p'`
    agrees with `p` on the selected rows, the result is what `p` selects from the whole table -/
theorem filter_filter_of (hq : ∀ x ∈ l, p x → q x) (hp : ∀ x ∈ l, q x → (p' x ↔ p x)) :
    (l.filter (fun x => q x)).filter (fun x => p' x) = l.filter (fun x => p x) := by
  rw [List.filter_filter]
  exact List.filter_congr (fun x hx => and_eq_of (fun h => decide_eq_true (hq x hx (of_decide_eq_true h)))
    (fun h => decide_eq_decide.2 (hp x hx (of_decide_eq_true h))))

theorem find?_filter_of (hq : ∀ x ∈ l, p x → q x) (hp : ∀ x ∈ l, q x → (p' x ↔ p x)) :
    (l.filter (fun x => q x)).find? (fun x => p' x) = l.find? (fun x => p x) := by
  rw [List.find?_filter]
  apply find?_congr_mem
  intro x hx
  rw [← and_eq_of (fun h => decide_eq_true (hq x hx (of_decide_eq_true h)))
    (fun h => decide_eq_decide.2 (hp x hx (of_decide_eq_true h)))]
  cases decide (p' x) <;> cases decide (q x) <;> rfl

/-- a DELETE that keeps every row the filter selects -/
theorem filter_filter_keep (h : ∀ x ∈ l, p x → q x) :
    (l.filter (fun x => q x)).filter (fun x => p x) = l.filter (fun x => p x) :=
  filter_filter_of p p q l h (fun _ _ _ => Iff.rfl)

/-- an UPDATE that fixes every row the filter selects, and never moves a row across the filter -/
theorem filter_map_fix (f : α → α) (h1 : ∀ x ∈ l, (p (f x) ↔ p x)) (h2 : ∀ x ∈ l, p x → f x = x) :
    (l.map f).filter (fun x => p x) = l.filter (fun x => p x) := by
  rw [List.filter_map, List.filter_congr (p := (fun x => decide (p x)) ∘ f) (q := fun x => p x)
    (fun x hx => decide_eq_decide.2 (h1 x hx))]
  exact (List.map_congr_left (fun x hx =>
    h2 x (List.mem_filter.1 hx).1 (of_decide_eq_true (List.mem_filter.1 hx).2))).trans (List.map_id' _)

/-- an INSERT of a row the filter does not select -/
theorem filter_append_singleton_neg (r : α) (h : ¬ p r) : (l ++ [r]).filter (fun x => p x) = l.filter (fun x => p x) := by
  simp [List.filter_append, h]

end

namespace Chan

section
variable {b : String} {d : Chan}

theorem mem_npIdsB {k : Nat} : k ∈ d.npIdsB b ↔ ∃ n ∈ d.nameplates, n.app = b ∧ n.id = k := by
  simp [npIdsB, npsB, and_assoc]

theorem mem_mbIdsB {m : String} : m ∈ d.mbIdsB b ↔ d.HasMb b m := by
  simp only [mbIdsB, mbsB, HasMb, List.mem_map, List.mem_filter, decide_eq_true_eq]
  constructor
  · rintro ⟨r, ⟨h1, h2⟩, h3⟩; exact ⟨r, h1, h3, h2⟩
  · rintro ⟨r, h1, h3, h2⟩; exact ⟨r, ⟨h1, h2⟩, h3⟩

theorem mem_msgsB {r : Message} : r ∈ d.msgsB b ↔ r ∈ d.messages ∧ r.app = b := by
  simp only [msgsB, List.mem_filter, decide_eq_true_eq]

theorem SameB.npIdsB_eq {d' : Chan} (h : SameB b d d') : d'.npIdsB b = d.npIdsB b := by
  simp only [npIdsB, h.nps]

theorem SameB.mbIdsB_eq {d' : Chan} (h : SameB b d d') : d'.mbIdsB b = d.mbIdsB b := by
  simp only [mbIdsB, h.mbs]

/-- componentwise criterion, the side tables filtered with the OLD id lists -/
theorem SameB.of_parts {d' : Chan}
    (h1 : d'.nameplates.filter (fun n => n.app = b) = d.nameplates.filter (fun n => n.app = b))
    (h2 : d'.npSides.filter (fun r => r.npid ∈ d.npIdsB b) = d.npSides.filter (fun r => r.npid ∈ d.npIdsB b))
    (h3 : d'.mailboxes.filter (fun m => m.app = b) = d.mailboxes.filter (fun m => m.app = b))
    (h4 : d'.mbSides.filter (fun r => r.mailbox ∈ d.mbIdsB b) =
      d.mbSides.filter (fun r => r.mailbox ∈ d.mbIdsB b))
    (h5 : d'.messages.filter (fun m => m.app = b) = d.messages.filter (fun m => m.app = b)) :
    SameB b d d' := by
  have e1 : d'.npIdsB b = d.npIdsB b := by simp only [npIdsB, npsB, h1]
  have e3 : d'.mbIdsB b = d.mbIdsB b := by simp only [mbIdsB, mbsB, h3]
  refine ⟨h1, ?_, h3, ?_, h5⟩
  · simp only [npSidesB, e1]; exact h2
  · simp only [mbSidesB, e3]; exact h4

/-- mailbox ids are globally unique: a mailbox of another app is not a mailbox of `b` -/
theorem not_mem_mbIdsB_of_hasMb' (hu : d.mailboxes.Pairwise (fun x y => ¬ x.id = y.id)) {a m : String}
    (hmb : d.HasMb a m) (hab : a ≠ b) : m ∉ d.mbIdsB b := by
  intro hm
  obtain ⟨r, hr, e1, e2⟩ := mem_mbIdsB.1 hm
  obtain ⟨r', hr', e1', e2'⟩ := hmb
  have : r = r' := eq_of_pairwise_ne (f := MailboxRow.id) hu hr hr' (by rw [e1, e1'])
  subst this
  exact hab (e2'.symm.trans e2)

theorem not_mem_mbIdsB_of_hasMb (h : d.PInv) {a m : String} (hmb : d.HasMb a m) (hab : a ≠ b) :
    m ∉ d.mbIdsB b :=
  not_mem_mbIdsB_of_hasMb' h.mbIds hmb hab

theorem not_mem_mbIdsB_of_findById_none {m : String} (h : d.findMailboxById m = none) : m ∉ d.mbIdsB b := by
  intro hm
  obtain ⟨r, hr, e, _⟩ := mem_mbIdsB.1 hm
  exact findMailboxById_none h r hr e

/-- a message's mailbox exists under the message's app (`PInv.msgFk`): no message of `b` is filed
    under an id that no mailbox of `b` has -/
theorem msgsB_ne_of_not_mem (h : d.PInv) {m : String} (hm : m ∉ d.mbIdsB b) :
    ∀ r ∈ d.msgsB b, ¬ r.mailbox = m := by
  intro r hr e
  obtain ⟨h1, h2⟩ := mem_msgsB.1 hr
  obtain ⟨row, hrow, e1, e2⟩ := h.msgFk r h1
  exact hm (mem_mbIdsB.2 ⟨row, hrow, e1.trans e, e2.trans h2⟩)

/-- nameplate ids are unique: the id of a nameplate of another app is not an id of `b` -/
theorem not_mem_npIdsB_of_mem' (hu : d.nameplates.Pairwise (fun x y => ¬ x.id = y.id)) {n : Nameplate}
    (hn : n ∈ d.nameplates) (ha : n.app ≠ b) : n.id ∉ d.npIdsB b := by
  intro hm
  obtain ⟨n', hn', e1, e2⟩ := mem_npIdsB.1 hm
  have : n' = n := eq_of_pairwise_ne (f := Nameplate.id) hu hn' hn e2
  subst this
  exact ha e1

theorem not_mem_npIdsB_of_mem (h : d.PInv) {n : Nameplate} (hn : n ∈ d.nameplates) (ha : n.app ≠ b) :
    n.id ∉ d.npIdsB b :=
  not_mem_npIdsB_of_mem' h.npIds hn ha

/-- AUTOINCREMENT: the next id is not in use -/
theorem nextNp_not_mem_npIdsB (h : d.IdsBounded) : d.nextNp ∉ d.npIdsB b := by
  intro hm
  obtain ⟨n, hn, _, e2⟩ := mem_npIdsB.1 hm
  have := h.1 n hn
  omega

theorem insMailbox_sameB (r : MailboxRow) (hr : r.app ≠ b) : SameB b d (d.insMailbox r) :=
  SameB.of_parts rfl rfl (filter_append_singleton_neg _ _ _ hr) rfl rfl

theorem insNameplate_sameB (a name mb : String) (hab : a ≠ b) : SameB b d (d.insNameplate a name mb) :=
  SameB.of_parts (filter_append_singleton_neg _ _ _ hab) rfl rfl rfl rfl

theorem insNpSide_sameB (r : NpSide) (hr : r.npid ∉ d.npIdsB b) : SameB b d (d.insNpSide r) :=
  SameB.of_parts rfl (filter_append_singleton_neg _ _ _ hr) rfl rfl rfl

theorem insMbSide_sameB (r : MbSide) (hr : r.mailbox ∉ d.mbIdsB b) : SameB b d (d.insMbSide r) :=
  SameB.of_parts rfl rfl rfl (filter_append_singleton_neg _ _ _ hr) rfl

theorem insMessage_sameB (r : Message) (hr : r.app ≠ b) : SameB b d (d.insMessage r) :=
  SameB.of_parts rfl rfl rfl rfl (filter_append_singleton_neg _ _ _ hr)

theorem mapMailboxes_sameB (f : MailboxRow → MailboxRow) (hk : ∀ r ∈ d.mailboxes, (f r).app = r.app)
    (hf : ∀ r ∈ d.mailboxes, r.app = b → f r = r) :
    SameB b d { d with mailboxes := d.mailboxes.map f } :=
  SameB.of_parts rfl rfl
    (filter_map_fix _ _ f (fun x hx => by rw [hk x hx]) hf)
    rfl rfl

theorem touch_sameB {m : String} (t : Time) (hm : m ∉ d.mbIdsB b) : SameB b d (d.touch m t) := by
  apply mapMailboxes_sameB
  · intro r _; split <;> rfl
  · intro r hr e
    rw [if_neg]
    intro e'
    exact hm (mem_mbIdsB.2 ⟨r, hr, e', e⟩)

theorem unclaim_sameB {npid : Nat} (side : String) (hn : npid ∉ d.npIdsB b) : SameB b d (d.unclaim npid side) := by
  refine SameB.of_parts rfl ?_ rfl rfl rfl
  apply filter_map_fix
  · intro r _
    split <;> exact Iff.rfl
  · intro r _ hp
    rw [if_neg]
    rintro ⟨e, _⟩
    exact hn (e ▸ hp)

theorem closeSide_sameB {m : String} (side : String) (mood : Option String) (hm : m ∉ d.mbIdsB b) :
    SameB b d (d.closeSide m side mood) := by
  refine SameB.of_parts rfl rfl rfl ?_ rfl
  apply filter_map_fix
  · intro r _
    split <;> exact Iff.rfl
  · intro r _ hp
    rw [if_neg]
    rintro ⟨e, _⟩
    exact hm (e ▸ hp)

theorem delNpSidesOf_sameB {npid : Nat} (hn : npid ∉ d.npIdsB b) : SameB b d (d.delNpSidesOf npid) :=
  SameB.of_parts rfl (filter_filter_keep _ _ _ (fun _ _ hp e => hn (e ▸ hp))) rfl rfl rfl

theorem delNameplate_sameB {npid : Nat} (hn : npid ∉ d.npIdsB b) : SameB b d (d.delNameplate npid) :=
  SameB.of_parts (filter_filter_keep _ _ _ (fun n hmem hp e => hn (mem_npIdsB.2 ⟨n, hmem, hp, e⟩))) rfl rfl rfl rfl

/-- nameplate ids are unique, so the ids of `a`'s nameplates are not ids of `b` -/
theorem delNpSidesOfMailbox_sameB' (hu : d.nameplates.Pairwise (fun x y => ¬ x.id = y.id)) (a m : String)
    (hab : a ≠ b) : SameB b d (d.delNpSidesOfMailbox a m) := by
  refine SameB.of_parts rfl (filter_filter_keep _ _ _ (fun r _ hp hin => ?_)) rfl rfl rfl
  simp only [nameplatesOfMailbox, List.mem_map, List.mem_filter, decide_eq_true_eq] at hin
  obtain ⟨n, ⟨hn, ha, _⟩, e⟩ := hin
  exact not_mem_npIdsB_of_mem' (b := b) hu hn (by rw [ha]; exact hab) (e ▸ hp)

theorem delNpSidesOfMailbox_sameB (h : d.PInv) (a m : String) (hab : a ≠ b) :
    SameB b d (d.delNpSidesOfMailbox a m) :=
  delNpSidesOfMailbox_sameB' h.npIds a m hab

theorem delNameplatesOfMailbox_sameB (a m : String) (hab : a ≠ b) : SameB b d (d.delNameplatesOfMailbox a m) :=
  SameB.of_parts (filter_filter_keep _ _ _ (fun _ _ hp e => hab (e.1.symm.trans hp))) rfl rfl rfl rfl

/-- `DELETE FROM messages WHERE mailbox_id=?` (no app column in the WHERE clause) -/
theorem delMessagesOf_sameB' {m : String} (hm : ∀ r ∈ d.msgsB b, ¬ r.mailbox = m) : SameB b d (d.delMessagesOf m) :=
  SameB.of_parts rfl rfl rfl rfl (filter_filter_keep _ _ _ (fun r hmem hp => hm r (mem_msgsB.2 ⟨hmem, hp⟩)))

theorem delMessagesOf_sameB (h : d.PInv) {m : String} (hm : m ∉ d.mbIdsB b) : SameB b d (d.delMessagesOf m) :=
  delMessagesOf_sameB' (msgsB_ne_of_not_mem h hm)

theorem delMbSidesOf_sameB {m : String} (hm : m ∉ d.mbIdsB b) : SameB b d (d.delMbSidesOf m) :=
  SameB.of_parts rfl rfl rfl (filter_filter_keep _ _ _ (fun _ _ hp e => hm (e ▸ hp))) rfl

theorem delMailbox_sameB {m : String} (hm : m ∉ d.mbIdsB b) : SameB b d (d.delMailbox m) :=
  SameB.of_parts rfl rfl (filter_filter_keep _ _ _ (fun r hmem hp e => hm (mem_mbIdsB.2 ⟨r, hmem, e, hp⟩))) rfl rfl

/-! ### convenience forms: a mailbox row `(a, m)` exists, `a ≠ b` -/

section hasMb
variable {a m : String} (h : d.PInv) (hmb : d.HasMb a m) (hab : a ≠ b)
include h hmb hab

theorem touch_sameB_of_hasMb (t : Time) : SameB b d (d.touch m t) :=
  touch_sameB t (not_mem_mbIdsB_of_hasMb h hmb hab)
theorem closeSide_sameB_of_hasMb (side : String) (mood : Option String) : SameB b d (d.closeSide m side mood) :=
  closeSide_sameB side mood (not_mem_mbIdsB_of_hasMb h hmb hab)
theorem insMbSide_sameB_of_hasMb (r : MbSide) (e : r.mailbox = m) : SameB b d (d.insMbSide r) :=
  insMbSide_sameB r (by rw [e]; exact not_mem_mbIdsB_of_hasMb h hmb hab)
theorem delMessagesOf_sameB_of_hasMb : SameB b d (d.delMessagesOf m) :=
  delMessagesOf_sameB h (not_mem_mbIdsB_of_hasMb h hmb hab)
theorem delMbSidesOf_sameB_of_hasMb : SameB b d (d.delMbSidesOf m) :=
  delMbSidesOf_sameB (not_mem_mbIdsB_of_hasMb h hmb hab)
theorem delMailbox_sameB_of_hasMb : SameB b d (d.delMailbox m) :=
  delMailbox_sameB (not_mem_mbIdsB_of_hasMb h hmb hab)

end hasMb

/-- `Mailbox.open`: the side row (unless present) and the time stamp -/
theorem openSide_sameB {m : String} (side : String) (t : Time) (hm : m ∉ d.mbIdsB b) :
    SameB b d (d.openSide m side t) := by
  unfold Chan.openSide
  split
  · have h1 : SameB b d (d.insMbSide ⟨m, true, side, t, none⟩) := insMbSide_sameB _ hm
    exact h1.trans (touch_sameB t (by rw [h1.mbIdsB_eq]; exact hm))
  · exact touch_sameB t hm

/-- `DELETE FROM nameplate_sides WHERE nameplates_id=?; DELETE FROM nameplates WHERE id=?` -/
theorem delById_sameB {npid : Nat} (hn : npid ∉ d.npIdsB b) : SameB b d ((d.delNpSidesOf npid).delNameplate npid) :=
  (delNpSidesOf_sameB hn).trans (delNameplate_sameB hn)

/-- the three DELETEs of one iteration of the mailbox loop of `prune` -/
theorem pruneBlock_sameB {m : String} (hm : m ∉ d.mbIdsB b) (hmsg : ∀ r ∈ d.msgsB b, ¬ r.mailbox = m) :
    SameB b d (((d.delMessagesOf m).delMbSidesOf m).delMailbox m) :=
  ((delMessagesOf_sameB' hmsg).trans (delMbSidesOf_sameB hm)).trans (delMailbox_sameB hm)

/-- the five DELETEs of `Mailbox.close` for app `a` -/
theorem closeBlock_sameB (h : d.PInv) {a m : String} (hmb : d.HasMb a m) (hab : a ≠ b) :
    SameB b d (((((d.delNpSidesOfMailbox a m).delNameplatesOfMailbox a m).delMessagesOf m).delMbSidesOf
      m).delMailbox m) :=
  have hm := not_mem_mbIdsB_of_hasMb h hmb hab
  ((delNpSidesOfMailbox_sameB h a m hab).trans (delNameplatesOfMailbox_sameB a m hab)).trans
    (pruneBlock_sameB hm (msgsB_ne_of_not_mem h hm))

end

end Chan

namespace Usage

section
variable {b : String} {u : Usage}

theorem addNp_sameB (r : UNameplate) (hr : r.app ≠ b) : SameB b u { u with nameplates := u.nameplates ++ [r] } :=
  ⟨filter_append_singleton_neg _ _ _ (by simpa using hr), rfl, rfl⟩

theorem addMb_sameB (r : UMailbox) (hr : r.app ≠ b) : SameB b u { u with mailboxes := u.mailboxes ++ [r] } :=
  ⟨rfl, filter_append_singleton_neg _ _ _ (by simpa using hr), rfl⟩

theorem addClient_sameB (r : UClient) (hr : r.app ≠ b) : SameB b u { u with clients := u.clients ++ [r] } :=
  ⟨rfl, rfl, filter_append_singleton_neg _ _ _ (by simpa using hr)⟩

/-- the `current` row has no app column -/
theorem setCurrent_sameB (l : List UCurrent) : SameB b u { u with current := l } := ⟨rfl, rfl, rfl⟩

end

end Usage

end Wormhole
