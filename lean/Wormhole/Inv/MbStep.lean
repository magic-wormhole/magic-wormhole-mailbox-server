/-
  `handle_close` and `handle_open` as exact state transformers (from a state satisfying the
  invariants): `close_step`, `open_step`; what `openDb` does to the invariant and to the deletion of a
  `close` that opened implicitly.
-/
import Wormhole.Inv.MbRel
import Wormhole.Inv.MsgOpen
import Wormhole.Props.C17

namespace Wormhole

namespace Chan

theorem PInv.openDb {d : Chan} (hP : d.PInv) {app mb : String} (side : String) (t : Time)
    (hc : ¬ d.Clash app mb) : (d.openDb app mb side t).PInv := by
  have hid : ∀ mb', d.HasId mb' → (d.openDb app mb side t).HasId mb' := by
    rintro mb' ⟨m, hm, hi⟩
    exact ((openDb_hasBox_iff d app mb side t m.app mb').2 (Or.inl ⟨m, hm, rfl, hi⟩)).hasId
  refine ⟨hP.npIds, hP.npKey, hP.bounded, ?_, ?_, hP.nsFk, hP.nsKey, ?_, ?_, ?_⟩
  · -- mailbox ids
    unfold Chan.openDb
    cases hm : d.findMailbox app mb with
    | some row =>
      dsimp only
      rw [List.pairwise_map]
      refine hP.mbIds.imp ?_
      intro a b hab
      split <;> split <;> exact hab
    | none =>
      dsimp only
      rw [List.pairwise_append]
      refine ⟨hP.mbIds, by simp, ?_⟩
      intro a ha b hb
      simp only [List.mem_singleton] at hb
      subst hb
      exact fun hid' => hc (clash_iff.2 ⟨⟨a, ha, hid'⟩, findMailbox_eq_none.1 hm⟩)
  · intro n hn
    obtain ⟨m, hm, h1, h2⟩ := hP.npMb n hn
    obtain ⟨m', hm', ha, hi⟩ := (openDb_hasBox_iff d app mb side t n.app n.mailbox).2 (Or.inl ⟨m, hm, h2, h1⟩)
    exact ⟨m', hm', hi, ha⟩
  · intro r hr
    rcases (mem_openDb_mbSides d app mb side t).1 hr with hr | ⟨_, rfl⟩
    · obtain ⟨m, hm, hi⟩ := hP.msFk r hr
      exact hid _ ⟨m, hm, hi⟩
    · exact (openDb_hasBox d app mb side t).hasId
  · rw [openDb_mbSides, List.pairwise_append]
    refine ⟨hP.msKey, by split <;> simp, ?_⟩
    intro a ha b hb
    split at hb
    · rename_i hs
      obtain rfl := List.mem_singleton.1 hb
      exact findMbSide_eq_none.1 hs a ha
    · cases hb
  · intro r hr
    obtain ⟨m, hm, h1, h2⟩ := hP.msgFk r hr
    obtain ⟨m', hm', ha, hi⟩ := (openDb_hasBox_iff d app mb side t r.app r.mailbox).2 (Or.inl ⟨m, hm, h2, h1⟩)
    exact ⟨m', hm', hi, ha⟩

theorem openDb_findMbSide_ne_none (d : Chan) (app mb side : String) (t : Time) :
    (d.openDb app mb side t).findMbSide mb side ≠ none := by
  intro h
  have := findMbSide_eq_none.1 h
  cases hs : d.findMbSide mb side with
  | some r0 =>
    obtain ⟨hr, hk⟩ := findMbSide_some hs
    exact this r0 ((mem_openDb_mbSides d app mb side t).2 (Or.inl hr)) hk
  | none => exact this _ ((mem_openDb_mbSides d app mb side t).2 (Or.inr ⟨hs, rfl⟩)) ⟨rfl, rfl⟩

/-- deleting (app, mb) right after the implicit open of a `close` = deleting it from the
    database before that open: whatever the open added or touched belongs to (app, mb) -/
theorem dropMailbox_openDb (d : Chan) (app mb side : String) (t : Time) :
    (d.openDb app mb side t).dropMailbox app mb = d.dropMailbox app mb := by
  have h1 : (d.openDb app mb side t).mailboxes.filter (fun m => ¬ (m.app = app ∧ m.id = mb)) =
      d.mailboxes.filter (fun m => ¬ (m.app = app ∧ m.id = mb)) := by
    unfold openDb
    cases hm : d.findMailbox app mb with
    | some row =>
      dsimp only
      apply filter_map_of_fix
      · intro x; split <;> rfl
      · intro x hx
        have : ¬ (x.app = app ∧ x.id = mb) := by
          simp only [decide_eq_true_eq] at hx; exact hx
        rw [if_neg this]
    | none => simp
  have h2 : (d.openDb app mb side t).mbSides.filter (fun r => ¬ r.mailbox = mb) =
      d.mbSides.filter (fun r => ¬ r.mailbox = mb) := by
    rw [openDb_mbSides, List.filter_append]
    split <;> simp
  unfold dropMailbox
  rw [h1, h2]
  rfl

theorem otherOpen_openDb (d : Chan) (app mb side : String) (t : Time) :
    (d.openDb app mb side t).OtherOpen mb side ↔ d.OtherOpen mb side := by
  unfold OtherOpen
  constructor
  · rintro ⟨r, hr, h1, h2, h3⟩
    rcases (mem_openDb_mbSides d app mb side t).1 hr with hr | ⟨_, rfl⟩
    · exact ⟨r, hr, h1, h2, h3⟩
    · exact absurd rfl h2
  · rintro ⟨r, hr, hk⟩
    exact ⟨r, (mem_openDb_mbSides d app mb side t).2 (Or.inl hr), hk⟩

theorem dropMailbox_eq_self {d : Chan} (hP : d.PInv) {app mb : String} (h : ¬ d.HasId mb) :
    d.dropMailbox app mb = d := by
  have keep : ∀ {α : Type} (l : List α) (p : α → Prop) [DecidablePred p], (∀ r ∈ l, ¬ p r) →
      l.filter (fun r => ¬ p r) = l := fun l p _ hp =>
    List.filter_eq_self.2 (fun r hr => by simpa using hp r hr)
  have hnp : ∀ n ∈ d.nameplates, n.mailbox ≠ mb := fun n hn hk => by
    obtain ⟨m, hm, hi, _⟩ := hP.npMb n hn
    exact h ⟨m, hm, hi.trans hk⟩
  unfold dropMailbox
  rw [keep d.mailboxes _ (fun m hm hk => h ⟨m, hm, hk.2⟩),
    keep d.mbSides _ (fun r hr hk => by obtain ⟨m, hm, hi⟩ := hP.msFk r hr; exact h ⟨m, hm, hi.trans hk⟩),
    keep d.messages _ (fun r hr hk => by
      obtain ⟨m, hm, hi, _⟩ := hP.msgFk r hr; exact h ⟨m, hm, hi.trans hk.2⟩),
    keep d.nameplates _ (fun n hn hk => hnp n hn hk.2),
    keep d.npSides _ (fun r _ ⟨n, hn, _, hk⟩ => hnp n hn hk.2)]

end Chan

namespace Sys

/-- every connection that holds a mailbox handle has a side row in that mailbox
    (an invariant of reachable states, proved in Props/C05.lean relative to `GInv`) -/
def HandleRow (s : Sys) : Prop :=
  ∀ x ∈ s.conns, ∀ mb, x.mailbox = some mb → ∃ r ∈ s.db.mbSides, r.mailbox = mb ∧ r.side = x.side.getD ""

def closerUpd (y : Conn) : Conn := { y with mailbox := none, listening := false, didClose := true }

/-- the connection records after a `close` by connection `c` that deleted nothing -/
def closeConns (cs : List Conn) (c : Nat) : List Conn :=
  cs.map (fun y => if y.id = c then closerUpd y else y)

/-- ... and after one that deleted (app, mb): the remaining subscribers lose their handle -/
def closeConnsDel (cs : List Conn) (c : Nat) (app mb : String) : List Conn :=
  cs.map (fun y => if y.id = c then closerUpd y
    else if y.listening ∧ y.app = some app ∧ y.mailbox = some mb
      then { y with mailbox := none, listening := false } else y)

/-- the body of `handle_close` after validation, for the mailbox name `mb` (Inv/WsBodies.lean) -/
def closeGo (s : Sys) (x : Conn) (app side : String) (t : Time) (mb : String) (mood : Option String) : Sys :=
  closeFinish x app side t mood (s.closeOpened x app side t mb)

theorem closeGo_eq (s : Sys) (x : Conn) (app side : String) (t : Time) (mb : String) (mood : Option String) :
    s.closeGo x app side t mb mood = closeFinish x app side t mood (s.closeOpened x app side t mb) := rfl

theorem handleClose_eq_closeGo {s : Sys} {x : Conn} {app side : String} {t : Time} {m mood} {mb : String}
    (hd : x.didClose = false) (hn : x.closeName m = some mb)
    (hsame : ∀ a held, m = some a → x.mailboxId = some held → a = held) :
    s.handleClose x app side t m mood = s.closeGo x app side t mb mood := by
  unfold handleClose
  simp only [hd, Bool.false_eq_true, if_false]
  split
  · rename_i a held hh
    rw [if_neg (by simpa using hsame a held rfl hh)]
    simp only [Conn.closeName] at hn
    cases hn; rfl
  · simp only [Conn.closeName] at hn
    cases hn; rfl
  · rename_i held hh
    simp only [Conn.closeName, hh] at hn
    cases hn; rfl
  · rename_i hh
    simp [Conn.closeName, hh] at hn

theorem close_accepted {x : Conn} {m mood} (hr : rejectText x (.close m mood) = none) :
    (∃ app, x.app = some app) ∧ x.didClose = false ∧ (∃ mb, x.closeName m = some mb) ∧
    (∀ a held, m = some a → x.mailboxId = some held → a = held) := by
  obtain ⟨happ, h⟩ := needBind_eq_none hr
  have h1 : x.didClose = false := by cases hd : x.didClose <;> simp_all
  refine ⟨happ, h1, ?_, ?_⟩
  · cases m with
    | some a => exact ⟨a, rfl⟩
    | none =>
      cases hh : x.mailboxId with
      | some held => exact ⟨held, by simp [Conn.closeName, hh]⟩
      | none => simp [h1, hh] at h
  · intro a held hm hh
    subst hm
    simpa [h1, hh] using h

theorem onMessage_close_eq {s : Sys} {c : Nat} {x : Conn} {t : Time} {id : Val} {m mood} {app mb : String}
    (hx : s.findConn c = some x) (hr : rejectText x (.close m mood) = none) (happ : x.app = some app)
    (hn : x.closeName m = some mb) :
    s.onMessage c t id (.close m mood) =
      (s.send c (.ack id)).closeGo x app (x.side.getD "") t mb mood := by
  obtain ⟨_, hd, _, hsame⟩ := close_accepted hr
  unfold onMessage
  simp only [hx, happ]
  exact handleClose_eq_closeGo hd hn hsame

theorem find?_map_id {f : Conn → Conn} (hf : ∀ y, (f y).id = y.id) (c : Nat) (cs : List Conn) :
    (cs.map f).find? (fun y => y.id = c) = (cs.find? (fun y => y.id = c)).map f := by
  induction cs with
  | nil => rfl
  | cons y rest ih =>
    simp only [List.map_cons, List.find?_cons, hf]
    split
    · rfl
    · exact ih

theorem step_close_eq {s : Sys} {c : Nat} {x : Conn} {t : Time} {id : Val} {m mood} {app mb : String}
    (hx : s.findConn c = some x) (hr : rejectText x (.close m mood) = none) (happ : x.app = some app)
    (hn : x.closeName m = some mb) :
    s.step (.recv c t id (.close m mood)) =
      ((({ s with out := [], snaps := [] } : Sys).send c (.ack id))).closeGo x app (x.side.getD "") t mb mood := by
  rw [step_recv]
  exact onMessage_close_eq (s := { s with out := [], snaps := [] }) hx hr happ hn

theorem send_out {s : Sys} (hS : s.Synced) (c : Nat) (f : Frame) :
    (s.send c f).out = s.out ++ [.frame c f true] := by
  rw [← (synced_iff s).2 hS]
  rfl

/-- the state a handler starts from in a synced state -/
theorem acked {s : Sys} (hS : s.Synced) (c : Nat) (id : Val) :
    ∃ sA, ({ s with out := [], snaps := [] } : Sys).send c (.ack id) = sA ∧
      sA.out = [.frame c (.ack id) true] ∧ Unchanged s sA := by
  refine ⟨_, rfl, ?_, ⟨⟨rfl, rfl, rfl, rfl, rfl, rfl, rfl⟩, rfl⟩⟩
  rw [← (synced_iff s).2 hS]
  rfl

/-- the channel database a `close` works on after its implicit `open_mailbox` (none if the
    connection holds a handle) -/
def closePre (s : Sys) (x : Conn) (app tgt : String) (t : Time) : Chan :=
  if x.mailbox = none then s.db.openDb app tgt (x.side.getD "") t else s.db

section closePre
variable (s : Sys) {x : Conn} (app tgt : String) (t : Time)

theorem closePre_of_none (h : x.mailbox = none) :
    closePre s x app tgt t = s.db.openDb app tgt (x.side.getD "") t := by simp [closePre, h]

theorem closePre_of_some {hd : String} (h : x.mailbox = some hd) : closePre s x app tgt t = s.db := by
  simp [closePre, h]

/-- whatever the implicit open added belongs to (app, tgt), and the side row it may have added
    is the closer's own -/
theorem otherOpen_closePre :
    (closePre s x app tgt t).OtherOpen tgt (x.side.getD "") ↔ s.db.OtherOpen tgt (x.side.getD "") := by
  unfold closePre
  split
  · exact Chan.otherOpen_openDb _ _ _ _ _
  · exact Iff.rfl

theorem dropMailbox_closePre : (closePre s x app tgt t).dropMailbox app tgt = s.db.dropMailbox app tgt := by
  unfold closePre
  split
  · exact Chan.dropMailbox_openDb _ _ _ _ _
  · rfl

theorem closePre_rows (h : x.mailbox = none) :
    (closePre s x app tgt t).HasBox app tgt ∧ (closePre s x app tgt t).findMbSide tgt (x.side.getD "") ≠ none := by
  rw [closePre_of_none s app tgt t h]
  exact ⟨Chan.openDb_hasBox _ _ _ _ _, Chan.openDb_findMbSide_ne_none _ _ _ _ _⟩

end closePre

theorem CloseUsage.transport {s s2 s' : Sys} {app mb : String} (h : CloseUsage s2 s' app mb)
    (h1 : s2.udb = s.udb) (h2 : s2.cfg = s.cfg) (h3 : s2.db.nameplates = s.db.nameplates) :
    CloseUsage s s' app mb := by
  obtain ⟨a, b, c, d, e⟩ := h
  have h4 : s2.db.nameplatesOfMailbox app mb = s.db.nameplatesOfMailbox app mb := by
    unfold Chan.nameplatesOfMailbox; rw [h3]
  rw [h1, h2] at *
  rw [h4] at e
  exact ⟨a, b, c, d, e⟩

/-- `g`: the handle the implicit open has just stored, which `closerUpd` overwrites -/
theorem closeConns_eq (cs : List Conn) (c : Nat) {g : Conn → Conn} (hg : ∀ y, closerUpd (g y) = closerUpd y) :
    (((cs.map (fun y => if y.id = c then g y else y)).map
      (fun y => if y.id = c then { y with listening := false, didClose := true } else y)).map
      (fun y => if y.id = c then { y with mailbox := none } else y)) = closeConns cs c := by
  simp only [closeConns, List.map_map]
  apply List.map_congr_left
  intro y _
  have hid : (g y).id = y.id := show (closerUpd (g y)).id = (closerUpd y).id from congrArg Conn.id (hg y)
  by_cases hy : y.id = c
  · rw [← hg y]
    simp [hy, hid, closerUpd]
  · simp [hy]

/-- the stop callbacks skip the closer, who has stopped listening -/
theorem closeConnsDel_eq (cs : List Conn) (c : Nat) (app tgt : String) {g : Conn → Conn}
    (hg : ∀ y, closerUpd (g y) = closerUpd y) :
    ((stoppedConns ((cs.map (fun y => if y.id = c then g y else y)).map
      (fun y => if y.id = c then { y with listening := false, didClose := true } else y))
      app tgt).map (fun y => if y.id = c then { y with mailbox := none } else y)) =
      closeConnsDel cs c app tgt := by
  simp only [closeConnsDel, stoppedConns, List.map_map]
  apply List.map_congr_left
  intro y _
  have hid : (g y).id = y.id := show (closerUpd (g y)).id = (closerUpd y).id from congrArg Conn.id (hg y)
  by_cases hy : y.id = c
  · rw [← hg y]
    simp [hy, hid, closerUpd]
  · simp only [Function.comp, hy, if_false]
    split <;> simp

/-- the `.ok` continuation of `handle_close` from any state `s1` with the invariants that differs from `s`
    in the channel database, the output and the update `g` of the closer's record; conclusions about `s` -/
theorem close_tail {s s1 : Sys} (hP : s1.db.PInv) (hN : s1.db.NpHasSide) (hS : s1.Synced)
    (x : Conn) {g : Conn → Conn} (hg : ∀ y, closerUpd (g y) = closerUpd y)
    (hconns : s1.conns = s.conns.map (fun y => if y.id = x.id then g y else y))
    (hudb : s1.udb = s.udb) (hcfg : s1.cfg = s.cfg) (hreb : s1.rebooted = s.rebooted)
    (hnp : s1.db.nameplates = s.db.nameplates)
    (app tgt side : String) (mood : Option String) (t : Time) :
    ∃ s', closeFinish x app side t mood (s1, .ok, tgt) = s' ∧
      (∃ commits, (∀ e ∈ commits, IsCommit e) ∧ s'.out = s1.out ++ commits ++ [.frame x.id .closed true]) ∧
      s'.db = s1.db.closeDb app tgt side mood ∧
      s'.Synced ∧ s'.cfg = s.cfg ∧ s'.rebooted = s.rebooted ∧
      (¬ (s1.db.HasBox app tgt ∧ s1.db.findMbSide tgt side ≠ none ∧ ¬ s1.db.OtherOpen tgt side) →
        s'.conns = closeConns s.conns x.id ∧ s'.udb = s.udb) ∧
      (s1.db.HasBox app tgt → s1.db.findMbSide tgt side ≠ none → ¬ s1.db.OtherOpen tgt side →
        s'.conns = closeConnsDel s.conns x.id app tgt ∧ CloseUsage s s' app tgt) := by
  simp only [closeFinish]
  generalize x.id = c at hconns ⊢
  cases e : (s1.updConn c (fun y => { y with listening := false, didClose := true })).mailboxClose
      app tgt side mood t with
  | mk s3 b =>
    obtain ⟨rfl, hcfg3, hreb3, hdb3, hsurv, hdel⟩ := mailboxClose_exact (s := s1.updConn c _) hP hN e
    have hs3 : s3.Synced := (mailboxClose_spec e).2.2 hS hN
    obtain ⟨commits, ho, hc⟩ : CExt (s1.updConn c (fun y => { y with listening := false, didClose := true })) s3 := by
      have := CExt.mailboxClose (OutExt.refl (s := s1.updConn c (fun y => { y with listening := false, didClose := true })))
        (app := app) (mb := tgt) (side := side) (mood := mood) (t := t)
      rwa [e] at this
    refine ⟨_, rfl, ⟨commits, hc, ?_⟩, hdb3, hs3, hcfg3.trans hcfg, hreb3.trans hreb, fun hno => ?_,
      fun h1 h2 h3 => ?_⟩
    · show s3.out ++ [.frame c .closed s3.synced] = _
      rw [(synced_iff s3).2 hs3, ho]
      rfl
    · obtain ⟨k1, k2⟩ := hsurv hno
      refine ⟨?_, k2.trans hudb⟩
      show s3.conns.map _ = _
      rw [k1]
      show (s1.conns.map _).map _ = _
      rw [hconns]
      exact closeConns_eq s.conns c hg
    · obtain ⟨k1, k2⟩ := hdel h1 h2 h3
      have k3 := k2.transport hudb hcfg hnp
      refine ⟨?_, k3.current, k3.clients, k3.off, k3.mailboxes, k3.nameplates⟩
      show s3.conns.map _ = _
      rw [k1]
      show (stoppedConns (s1.conns.map _) app tgt).map _ = _
      rw [hconns]
      exact closeConnsDel_eq s.conns c app tgt hg

/-- **`close`, the whole step** (validation passed; from a state with the invariants).
    (a) the name is a mailbox of another app: IntegrityError escapes (K-global-mailbox-id), nothing
        changes;
    (b) the implicit `open_mailbox` finds more than two side rows: `error "crowded"`, the database is
        `openDb` (committed), no connection record changes;
    (c) otherwise: exactly `ack, commits, closed`; the database is `closeDb` of the database after
        the implicit open; the closing connection ends without handle, `didClose = true`; if the
        mailbox was deleted the remaining subscribers lose their handles, else no other
        connection record changes. -/
theorem close_step {s : Sys} (hP : s.db.PInv) (hN : s.db.NpHasSide) (hS : s.Synced)
    {c : Nat} {x : Conn} (hx : s.findConn c = some x) {m mood : Option String}
    (hr : rejectText x (.close m mood) = none) {app : String} (happ : x.app = some app)
    {tgt : String} (htg : x.closeTarget m = some tgt) (t : Time) (id : Val) :
    (x.mailbox = none → s.db.Clash app tgt →
      (s.step (.recv c t id (.close m mood))).out =
        [.frame c (.ack id) true, .internal (some c) "IntegrityError"] ∧
      Unchanged s (s.step (.recv c t id (.close m mood)))) ∧
    (x.mailbox = none → ¬ s.db.Clash app tgt → ((closePre s x app tgt t).mbSidesOf tgt).length > 2 →
      (∃ commits, (∀ e ∈ commits, IsCommit e) ∧ (s.step (.recv c t id (.close m mood))).out =
        .frame c (.ack id) true :: (commits ++ [.frame c (.error "crowded") true])) ∧
      (s.step (.recv c t id (.close m mood))).db = closePre s x app tgt t ∧
      (s.step (.recv c t id (.close m mood))).Synced ∧
      SameRest s (s.step (.recv c t id (.close m mood)))) ∧
    (¬ (x.mailbox = none ∧ (s.db.Clash app tgt ∨ ((closePre s x app tgt t).mbSidesOf tgt).length > 2)) →
      (∃ commits, (∀ e ∈ commits, IsCommit e) ∧ (s.step (.recv c t id (.close m mood))).out =
        .frame c (.ack id) true :: (commits ++ [.frame c .closed true])) ∧
      (s.step (.recv c t id (.close m mood))).db =
        (closePre s x app tgt t).closeDb app tgt (x.side.getD "") mood ∧
      (s.step (.recv c t id (.close m mood))).Synced ∧
      (s.step (.recv c t id (.close m mood))).cfg = s.cfg ∧
      (s.step (.recv c t id (.close m mood))).rebooted = s.rebooted ∧
      (¬ ((closePre s x app tgt t).HasBox app tgt ∧ (closePre s x app tgt t).findMbSide tgt (x.side.getD "") ≠ none ∧
          ¬ (closePre s x app tgt t).OtherOpen tgt (x.side.getD "")) →
        (s.step (.recv c t id (.close m mood))).conns = closeConns s.conns c ∧
        (s.step (.recv c t id (.close m mood))).udb = s.udb) ∧
      ((closePre s x app tgt t).HasBox app tgt → (closePre s x app tgt t).findMbSide tgt (x.side.getD "") ≠ none →
          ¬ (closePre s x app tgt t).OtherOpen tgt (x.side.getD "") →
        (s.step (.recv c t id (.close m mood))).conns = closeConnsDel s.conns c app tgt ∧
        CloseUsage s (s.step (.recv c t id (.close m mood))) app tgt)) := by
  obtain ⟨_, _, ⟨mb, hn⟩, _⟩ := close_accepted hr
  rw [step_close_eq hx hr happ hn]
  obtain rfl : x.id = c := findConn_id hx
  obtain ⟨sA, hA, hAout, hU⟩ := acked hS x.id id
  rw [hA]
  have hSA : sA.Synced := by
    show sA.db = sA.disk ∧ sA.udb = sA.udisk
    rw [hU.db, hU.disk, hU.udb, hU.udisk]; exact hS
  cases hh : x.mailbox with
  | some h =>
    obtain rfl : h = tgt := by simpa [Conn.closeTarget, hh] using htg
    rw [closePre_of_some s app h t hh]
    refine ⟨nofun, nofun, fun _ => ?_⟩
    simp only [closeGo_eq, closeOpened, hh]
    obtain ⟨s', hs', ⟨commits, hc, hout⟩, hrest⟩ :=
      close_tail (s := s) (s1 := sA) (by rw [hU.db]; exact hP) (by rw [hU.db]; exact hN) hSA x
        (g := fun y => y) (fun _ => rfl)
        (by rw [hU.conns]; exact (Chan.map_eq_self _ _ (fun y _ => by simp)).symm) hU.udb hU.cfg hU.rebooted
        (by rw [hU.db]) app h (x.side.getD "") mood t
    rw [hs']
    rw [hU.db] at hrest
    exact ⟨⟨commits, hc, by rw [hout, hAout]; rfl⟩, hrest⟩
  | none =>
    obtain rfl : mb = tgt := by
      simp only [Conn.closeTarget, hh] at htg
      exact Option.some.inj (hn.symm.trans htg)
    rw [closePre_of_none s app mb t hh]
    obtain ⟨s1, r, commits1, e, hc1, hout1, hclash, hgo⟩ :=
      openMailbox_synced (s := sA) (by rw [hU.db]; exact hP) hSA app mb (x.side.getD "") t
    rw [hU.db] at hclash hgo
    replace hout1 : s1.out = .frame x.id (.ack id) true :: commits1 := by rw [hout1, hAout]; rfl
    simp only [closeGo_eq, closeOpened, hh, e]
    by_cases hcl : s.db.Clash app mb
    · obtain ⟨rfl, rfl⟩ := hclash hcl
      simp only [closeFinish]
      refine ⟨fun _ _ => ⟨?_, ⟨⟨hU.db, hU.disk, hU.udb, hU.udisk, hU.cfg, hU.rebooted, hU.snaps⟩, ?_⟩⟩,
        fun _ hnc => absurd hcl hnc, fun hno => absurd ⟨trivial, Or.inl hcl⟩ hno⟩
      · show s1.out ++ [_] = _
        rw [hAout]; rfl
      · show s1.conns.map _ = _
        rw [hU.conns]
        exact Chan.map_eq_self _ _ (fun y _ => by simp)
    · obtain ⟨hr, hdb, hsync1, hR⟩ := hgo hcl
      by_cases hlen : ((s.db.openDb app mb (x.side.getD "") t).mbSidesOf mb).length > 2
      · rw [if_pos hlen] at hr
        subst hr
        simp only [closeFinish]
        refine ⟨fun _ h => absurd h hcl, fun _ _ _ => ⟨⟨commits1, hc1, ?_⟩, hdb, hsync1, ?_⟩,
          fun hno => absurd ⟨trivial, Or.inr hlen⟩ hno⟩
        · show (s1.send x.id (.error "crowded")).out = _
          rw [send_out hsync1, hout1]; rfl
        · refine ⟨?_, hR.udb.trans hU.udb, hR.udisk.trans hU.udisk, hR.cfg.trans hU.cfg,
            hR.rebooted.trans hU.rebooted⟩
          show s1.conns.map _ = _
          rw [hR.conns, hU.conns]
          exact Chan.map_eq_self _ _ (fun y _ => by simp)
      · rw [if_neg hlen] at hr
        subst hr
        refine ⟨fun _ h => absurd h hcl, fun _ _ hl => absurd hl hlen, fun _ => ?_⟩
        simp only [if_true]
        obtain ⟨s', hs', ⟨commits, hc, hout⟩, hrest⟩ :=
          close_tail (s := s) (s1 := s1.updConn x.id (fun y => { y with mailbox := some mb }))
            (by show s1.db.PInv; rw [hdb]; exact hP.openDb _ _ hcl) (by show s1.db.NpHasSide; rw [hdb]; exact hN)
            hsync1 x (g := fun y => { y with mailbox := some mb }) (fun _ => rfl)
            (by show s1.conns.map _ = _; rw [hR.conns, hU.conns])
            (hR.udb.trans hU.udb) (hR.cfg.trans hU.cfg) (hR.rebooted.trans hU.rebooted)
            (by show s1.db.nameplates = _; rw [hdb]; rfl) app mb (x.side.getD "") mood t
        rw [hs']
        simp only [updConn_db, hdb] at hrest
        refine ⟨⟨commits1 ++ commits, fun e he => (List.mem_append.1 he).elim (hc1 e) (hc e), ?_⟩, hrest⟩
        rw [hout]
        show s1.out ++ commits ++ _ = _
        rw [hout1]
        simp

theorem open_accepted {x : Conn} {m : Option String} (hr : rejectText x (.open_ m) = none) :
    (∃ app, x.app = some app) ∧ x.mailbox = none ∧ ∃ mb, m = some mb := by
  obtain ⟨happ, h⟩ := needBind_eq_none hr
  have h1 : x.mailbox = none := by cases hd : x.mailbox <;> simp_all
  refine ⟨happ, h1, ?_⟩
  cases m with
  | none => simp [h1] at h
  | some mb => exact ⟨mb, rfl⟩

/-- the frames `open` replays: the stored messages of (app, mb) in `server_rx` order -/
def replayFrames (d : Chan) (c : Nat) (app mb : String) : List Event :=
  ((d.messagesOf app mb).mergeSort (fun a b => decide (a.rx ≤ b.rx))).map
    (fun m => Event.frame c (.message m.side m.phase m.body m.rx m.msgId) true)

theorem replay_eq {s : Sys} (hS : s.Synced) (c : Nat) (app mb : String) :
    s.replay c app mb = { s with out := s.out ++ replayFrames s.db c app mb } := by
  have := foldl_send_eq (fun _ => c) (fun m : Message => Frame.message m.side m.phase m.body m.rx m.msgId)
    ((s.db.messagesOf app mb).mergeSort (fun a b => decide (a.rx ≤ b.rx))) s
  rw [(synced_iff s).2 hS] at this
  exact this

/-- **`open`, the whole step** (validation passed; from a state with the invariants).
    In every case the connection remembers the name (`mailboxId`); it gets a handle and a
    subscription only in case (c). -/
theorem open_step {s : Sys} (hP : s.db.PInv) (hS : s.Synced)
    {c : Nat} {x : Conn} (hx : s.findConn c = some x) {mb : String}
    (hr : rejectText x (.open_ (some mb)) = none) {app : String} (happ : x.app = some app)
    (t : Time) (id : Val) :
    (s.db.Clash app mb →
      (s.step (.recv c t id (.open_ (some mb)))).out =
        [.frame c (.ack id) true, .internal (some c) "IntegrityError"] ∧
      SameStores s (s.step (.recv c t id (.open_ (some mb)))) ∧
      (s.step (.recv c t id (.open_ (some mb)))).conns =
        s.conns.map (fun y => if y.id = c then { y with mailboxId := some mb } else y)) ∧
    (¬ s.db.Clash app mb → ((s.db.openDb app mb (x.side.getD "") t).mbSidesOf mb).length > 2 →
      (∃ commits, (∀ e ∈ commits, IsCommit e) ∧ (s.step (.recv c t id (.open_ (some mb)))).out =
        .frame c (.ack id) true :: (commits ++ [.frame c (.error "crowded") true])) ∧
      (s.step (.recv c t id (.open_ (some mb)))).db = s.db.openDb app mb (x.side.getD "") t ∧
      (s.step (.recv c t id (.open_ (some mb)))).Synced ∧
      (s.step (.recv c t id (.open_ (some mb)))).udb = s.udb ∧
      (s.step (.recv c t id (.open_ (some mb)))).cfg = s.cfg ∧
      (s.step (.recv c t id (.open_ (some mb)))).rebooted = s.rebooted ∧
      (s.step (.recv c t id (.open_ (some mb)))).conns =
        s.conns.map (fun y => if y.id = c then { y with mailboxId := some mb } else y)) ∧
    (¬ s.db.Clash app mb → ¬ ((s.db.openDb app mb (x.side.getD "") t).mbSidesOf mb).length > 2 →
      (∃ commits, (∀ e ∈ commits, IsCommit e) ∧ (s.step (.recv c t id (.open_ (some mb)))).out =
        .frame c (.ack id) true ::
          (commits ++ replayFrames (s.db.openDb app mb (x.side.getD "") t) c app mb)) ∧
      (s.step (.recv c t id (.open_ (some mb)))).db = s.db.openDb app mb (x.side.getD "") t ∧
      (s.step (.recv c t id (.open_ (some mb)))).Synced ∧
      (s.step (.recv c t id (.open_ (some mb)))).udb = s.udb ∧
      (s.step (.recv c t id (.open_ (some mb)))).cfg = s.cfg ∧
      (s.step (.recv c t id (.open_ (some mb)))).rebooted = s.rebooted ∧
      (s.step (.recv c t id (.open_ (some mb)))).conns =
        s.conns.map (fun y => if y.id = c
          then { y with mailboxId := some mb, mailbox := some mb, listening := true } else y)) := by
  obtain ⟨_, hnone, _⟩ := open_accepted hr
  rw [step_recv, onMessage_open_eq (s := { s with out := [], snaps := [] }) hx happ hnone]
  obtain rfl : x.id = c := findConn_id hx
  obtain ⟨sA, hA, hAout, hU⟩ := acked hS x.id id
  rw [hA]
  obtain ⟨s1, r, commits1, e, hc1, hout1, hclash, hgo⟩ :=
    openMailbox_synced (s := sA.updConn x.id (fun y => { y with mailboxId := some mb }))
      (by show sA.db.PInv; rw [hU.db]; exact hP)
      (by show sA.db = sA.disk ∧ sA.udb = sA.udisk; rw [hU.db, hU.disk, hU.udb, hU.udisk]; exact hS)
      app mb (x.side.getD "") t
  simp only [updConn_db, hU.db] at hclash hgo
  replace hout1 : s1.out = .frame x.id (.ack id) true :: commits1 := by
    rw [hout1]; show sA.out ++ _ = _; rw [hAout]; rfl
  rw [e]
  by_cases hcl : s.db.Clash app mb
  · obtain ⟨rfl, rfl⟩ := hclash hcl
    refine ⟨fun _ => ⟨?_, ⟨hU.db, hU.disk, hU.udb, hU.udisk, hU.cfg, hU.rebooted, hU.snaps⟩, ?_⟩,
      fun hnc => absurd hcl hnc, fun hnc => absurd hcl hnc⟩
    · show sA.out ++ [_] = _
      rw [hAout]; rfl
    · show sA.conns.map _ = _
      rw [hU.conns]
  · obtain ⟨hr, hdb, hsync1, hR⟩ := hgo hcl
    have hudb : s1.udb = s.udb := hR.udb.trans hU.udb
    have hcfg : s1.cfg = s.cfg := hR.cfg.trans hU.cfg
    have hreb : s1.rebooted = s.rebooted := hR.rebooted.trans hU.rebooted
    have hconns : s1.conns = s.conns.map (fun y => if y.id = x.id then { y with mailboxId := some mb } else y) := by
      rw [hR.conns]; show sA.conns.map _ = _; rw [hU.conns]
    by_cases hlen : ((s.db.openDb app mb (x.side.getD "") t).mbSidesOf mb).length > 2
    · rw [if_pos hlen] at hr
      subst hr
      refine ⟨fun h => absurd h hcl, fun _ _ => ⟨⟨commits1, hc1, ?_⟩, hdb, hsync1, hudb, hcfg, hreb, hconns⟩,
        fun _ hl => absurd hlen hl⟩
      show (s1.send x.id (.error "crowded")).out = _
      rw [send_out hsync1, hout1]; rfl
    · rw [if_neg hlen] at hr
      subst hr
      refine ⟨fun h => absurd h hcl, fun _ hl => absurd hl hlen, fun _ _ => ?_⟩
      dsimp only
      rw [replay_eq (s := s1.updConn x.id (fun y => { y with mailbox := some mb, listening := true })) hsync1]
      refine ⟨⟨commits1, hc1, ?_⟩, hdb, hsync1, hudb, hcfg, hreb, ?_⟩
      · show s1.out ++ replayFrames s1.db x.id app mb = _
        rw [hout1, hdb]; rfl
      · show s1.conns.map _ = _
        rw [hconns, List.map_map]
        apply List.map_congr_left
        intro y _
        by_cases hy : y.id = x.id <;> simp [hy]

end Sys
end Wormhole
