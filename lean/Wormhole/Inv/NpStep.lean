/-
  What ONE OPERATION (crashes included) can do to the nameplate tables.

  * `NpLbl`: the "kind" of an operation as far as nameplates are concerned, computed from the
    operation and the receiving connection's record (`Sys.npLbl`);
  * `Chan.NpRel lbl d0 d`: the databases `d` that an operation of kind `lbl` may commit (or end
    in) when started on `d0`, given as explicit shapes of the three nameplate components
    `(nameplates, nameplate_sides, AUTOINCREMENT counter)`;
  * `Sys.Np.step_rel`: every step from a synced state with `CInv` ends in a database related to
    the initial one by `NpRel (npLbl op)` -- INCLUDING `crashIn k op`, whose final database is
    one of the commit points of `op` (tracked by `DbAll`, Inv/NpSpec.lean);
  * `Sys.Np.LblSpec`: what the kind says about the operation.
-/
import Wormhole.Inv.NpSpec
import Wormhole.Inv.SweepSys
import Wormhole.Reach

namespace Wormhole

/-- the kind of an operation, as far as the nameplate tables are concerned -/
inductive NpLbl where
  /-- touches no nameplate table -/
  | quiet
  /-- `claim_nameplate(n, σ, t)` in app `a`, with `fresh` from `generate_mailbox_id()` -/
  | claim (a n σ fresh : String) (t : Time)
  /-- `release_nameplate(n, σ)` in app `a` -/
  | release (a n σ : String)
  /-- `Mailbox.close` on mailbox `h` of app `a` -/
  | close (a h : String)
  /-- the expiry sweep -/
  | sweep
  deriving DecidableEq, Repr

namespace Chan

/-- what a sweep may do: delete nameplate rows together with all their side rows, and only
    nameplates whose mailbox is deleted too; nothing is added, no row is altered -/
structure NpSweep (d0 d : Chan) : Prop where
  nextNp : d.nextNp = d0.nextNp
  npSub : ∀ n ∈ d.nameplates, n ∈ d0.nameplates
  nsSub : ∀ r ∈ d.npSides, r ∈ d0.npSides
  nsKeep : ∀ r ∈ d0.npSides, (∃ n ∈ d.nameplates, n.id = r.npid) → r ∈ d.npSides
  mbSub : ∀ m ∈ d.mailboxes, ∃ m0 ∈ d0.mailboxes, m0.id = m.id
  gone : ∀ n ∈ d0.nameplates, n ∉ d.nameplates → ∀ m ∈ d.mailboxes, m.id ≠ n.mailbox

theorem NpSweep.refl (d : Chan) : NpSweep d d :=
  ⟨rfl, fun _ h => h, fun _ h => h, fun _ h _ => h, fun m h => ⟨m, h, rfl⟩, fun _ h h' => absurd h h'⟩

theorem NpSweep.trans {a b c : Chan} (h1 : NpSweep a b) (h2 : NpSweep b c) : NpSweep a c := by
  refine ⟨h2.nextNp.trans h1.nextNp, fun n h => h1.npSub n (h2.npSub n h),
    fun r h => h1.nsSub r (h2.nsSub r h), ?_, ?_, ?_⟩
  · intro r hr ⟨n, hn, e⟩
    exact h2.nsKeep r (h1.nsKeep r hr ⟨n, h2.npSub n hn, e⟩) ⟨n, hn, e⟩
  · intro m hm
    obtain ⟨m1, hm1, e1⟩ := h2.mbSub m hm
    obtain ⟨m0, hm0, e0⟩ := h1.mbSub m1 hm1
    exact ⟨m0, hm0, e0.trans e1⟩
  · intro n hn hnc m hm
    by_cases hb : n ∈ b.nameplates
    · exact h2.gone n hb hnc m hm
    · obtain ⟨m1, hm1, e1⟩ := h2.mbSub m hm
      rw [← e1]
      exact h1.gone n hn hb m1 hm1

theorem NpSweep.of_same {d0 d : Chan} (h : d.npPart = d0.npPart)
    (hm : ∀ m ∈ d.mailboxes, ∃ m0 ∈ d0.mailboxes, m0.id = m.id) : NpSweep d0 d := by
  simp only [npPart, Prod.mk.injEq] at h
  obtain ⟨h1, h2, h3⟩ := h
  refine ⟨h3, ?_, ?_, ?_, hm, ?_⟩
  · rw [h1]; exact fun _ h => h
  · rw [h2]; exact fun _ h => h
  · rw [h2]; exact fun _ h _ => h
  · rw [h1]; exact fun _ h h' => absurd h h'

/-- **The commit points of an operation of kind `lbl` started on `d0`.** -/
def NpRel : NpLbl → Chan → Chan → Prop
  | .quiet, d0, d => d.npPart = d0.npPart
  | .claim a n σ fresh t, d0, d =>
      d.npPart = d0.npPart ∨
      (∃ row, d0.findNameplate a n = some row ∧ d0.findNpSide row.id σ = none ∧
        d.npPart = (d0.nameplates, d0.npSides ++ [⟨row.id, true, σ, t⟩], d0.nextNp)) ∨
      (d0.findNameplate a n = none ∧
        d.npPart = (d0.nameplates ++ [⟨d0.nextNp, a, n, fresh⟩],
                    d0.npSides ++ [⟨d0.nextNp, true, σ, t⟩], d0.nextNp + 1))
  | .release a n σ, d0, d =>
      d.npPart = d0.npPart ∨
      ∃ np r, d0.findNameplate a n = some np ∧ d0.findNpSide np.id σ = some r ∧
        (d.npPart = (d0.unclaim np.id σ).npPart ∨
         (((d0.unclaim np.id σ).npSidesOf np.id).any (·.claimed) = false ∧
           d.npPart = (((d0.unclaim np.id σ).delNpSidesOf np.id).delNameplate np.id).npPart))
  | .close a h, d0, d =>
      d.npPart = d0.npPart ∨
      (d.npPart = ((d0.delNpSidesOfMailbox a h).delNameplatesOfMailbox a h).npPart ∧
        ∀ m ∈ d.mailboxes, m.id ≠ h)
  | .sweep, d0, d => NpSweep d0 d

theorem NpRel.of_same_np {lbl : NpLbl} (hl : lbl ≠ .sweep) {d0 d : Chan}
    (h : d.npPart = d0.npPart) : NpRel lbl d0 d := by
  cases lbl with
  | quiet => exact h
  | sweep => exact absurd rfl hl
  | _ => exact Or.inl h

theorem NpRel.refl (lbl : NpLbl) (d : Chan) : NpRel lbl d d := by
  cases lbl with
  | quiet => exact rfl
  | sweep => exact NpSweep.refl d
  | _ => exact Or.inl rfl

theorem NpRel.of_npPart {lbl : NpLbl} {d0 d d' : Chan} (hl : (∀ a h, lbl ≠ .close a h) ∧ lbl ≠ .sweep)
    (h : d'.npPart = d.npPart) (hr : NpRel lbl d0 d) : NpRel lbl d0 d' := by
  cases lbl with
  | quiet => exact h.trans hr
  | claim a n σ fresh t => simp only [NpRel] at hr ⊢; rw [h]; exact hr
  | release a n σ => simp only [NpRel] at hr ⊢; rw [h]; exact hr
  | close a h' => exact absurd rfl (hl.1 a h')
  | sweep => exact absurd rfl hl.2

theorem unclaim_eq_self {d : Chan} {i : Nat} {σ : String}
    (h : ∀ r ∈ d.npSides, r.npid = i → r.side = σ → r.claimed = false) : d.unclaim i σ = d := by
  unfold unclaim
  have : d.npSides.map (fun r => if r.npid = i ∧ r.side = σ then { r with claimed := false } else r) = d.npSides := by
    conv => rhs; rw [← List.map_id d.npSides]
    apply List.map_congr_left
    intro r hr
    by_cases hc : r.npid = i ∧ r.side = σ
    · have := h r hr hc.1 hc.2
      simp only [hc, and_self, if_true, id]
      cases r; simp_all
    · simp [hc]
  rw [this]

end Chan

namespace Sys.Np

/-- `send`, `sendError`, `internalErr`, `updConn`, `emit` change neither `db` nor `disk` nor
    `snaps`: `AllRel` of their result unfolds to `AllRel` of their argument, which the handler
    lemmas below use without saying. -/
def AllRel (lbl : NpLbl) (d0 : Chan) (s : Sys) : Prop :=
  DbAll (Chan.NpRel lbl d0) s ∧ Chan.NpRel lbl d0 s.db

theorem AllRel.emit {lbl d0} {s : Sys} (h : AllRel lbl d0 s) (e) : AllRel lbl d0 (s.emit e) := h

theorem AllRel.refl' (lbl : NpLbl) {s : Sys} (hA : DbAll (Chan.NpRel lbl s.db) s) : AllRel lbl s.db s :=
  ⟨hA, Chan.NpRel.refl _ _⟩

theorem claimNameplate_rel {s s1 : Sys} {a n σ t fresh r}
    (h : s.claimNameplate a n σ t fresh = (s1, r)) (hb : s.db.IdsBounded)
    (hA : DbAll (Chan.NpRel (.claim a n σ fresh t) s.db) s) :
    AllRel (.claim a n σ fresh t) s.db s1 := by
  have hl : (∀ a' h', NpLbl.claim a n σ fresh t ≠ .close a' h') ∧ NpLbl.claim a n σ fresh t ≠ .sweep :=
    ⟨fun _ _ => by simp, by simp⟩
  -- from the first commit on the nameplate tables do not change
  have key : ∀ {s0 npid mb}, claimCont s0 a npid mb σ t = (s1, r) → NoCommit s s0 →
      Chan.NpRel (.claim a n σ fresh t) s.db s0.db → AllRel (.claim a n σ fresh t) s.db s1 := by
    intro s0 npid mb h hn hmid
    have hfin := Chan.NpRel.of_npPart hl (claimCont_spec h).1.np hmid
    exact ⟨claimCont_dbAll h (hn.dbAll hA) hmid hfin, hfin⟩
  cases hrow : s.db.findNameplate a n with
  | some row =>
    rcases claimNameplate_of_some h hrow with ⟨_, _, _, rfl, _⟩ | ⟨_, h⟩
    · exact AllRel.refl' _ hA
    · refine key h (NoCommit.modDb _ _) ?_
      rw [modDb_db]
      split
      · rename_i hside
        exact Or.inr (Or.inl ⟨row, hrow, hside, rfl⟩)
      · exact Chan.NpRel.refl _ _
  | none =>
    rcases claimNameplate_of_none h hb hrow with ⟨_, rfl, _⟩ | ⟨s0, e, hnp, h⟩
    · exact AllRel.refl' _ hA
    · refine key h ((addMailbox_noCommit e).trans ⟨rfl, rfl⟩) (Or.inr (Or.inr ⟨hrow, ?_⟩))
      simp only [Chan.npPart, Prod.mk.injEq] at hnp
      simp [Chan.npPart, Chan.insNpSide, Chan.insNameplate, hnp]

theorem releaseNameplate_rel {s s1 : Sys} {a n σ t b}
    (h : s.releaseNameplate a n σ t = (s1, b))
    (hA : DbAll (Chan.NpRel (.release a n σ) s.db) s) :
    AllRel (.release a n σ) s.db s1 := by
  obtain ⟨_, _, hcases⟩ := releaseNameplate_exact h
  have hfin : Chan.NpRel (.release a n σ) s.db s1.db := by
    rcases hcases with ⟨_, rfl⟩ | ⟨np, _, _, rfl⟩ | ⟨np, r0, h1, h2, h3⟩
    · exact Chan.NpRel.refl _ _
    · exact Chan.NpRel.refl _ _
    · rcases h3 with ⟨_, e, _⟩ | ⟨hany, e, _⟩
      · exact Or.inr ⟨np, r0, h1, h2, Or.inl (by rw [e])⟩
      · exact Or.inr ⟨np, r0, h1, h2, Or.inr ⟨hany, by rw [e]⟩⟩
  refine ⟨releaseNameplate_dbAll h hA ?_ hfin, hfin⟩
  intro np hnp
  cases hs : s.db.findNpSide np.id σ with
  | none =>
    rw [Chan.unclaim_eq_self fun r hr e1 e2 => absurd ⟨e1, e2⟩ (Chan.findNpSide_none hs r hr)]
    exact Chan.NpRel.refl _ _
  | some r0 => exact Or.inr ⟨np, r0, hnp, hs, Or.inl rfl⟩

/-! ### open, add: no nameplate table is touched -/

theorem openMailbox_allRel {lbl : NpLbl} (hl : lbl ≠ .sweep) {d0 : Chan} {s s1 : Sys} {app mb side t r}
    (h : s.openMailbox app mb side t = (s1, r)) (hnp : s.db.npPart = d0.npPart)
    (hA : DbAll (Chan.NpRel lbl d0) s) : AllRel lbl d0 s1 ∧ s1.db.npPart = d0.npPart := by
  have hnp1 : s1.db.npPart = d0.npPart := (openMailbox_spec h).1.np.trans hnp
  have hfin := Chan.NpRel.of_same_np hl hnp1
  exact ⟨⟨openMailbox_dbAll h hA hfin, hfin⟩, hnp1⟩

theorem mailboxClose_db {s s1 : Sys} {app mb side mood t b}
    (h : s.mailboxClose app mb side mood t = (s1, b)) :
    s1.db.npPart = s.db.npPart ∨
    s1.db = (((((s.db.closeSide mb side mood).delNpSidesOfMailbox app mb).delNameplatesOfMailbox app mb).delMessagesOf
      mb).delMbSidesOf mb).delMailbox mb := by
  revert h
  refine mailboxClose_cases s app mb side mood t ?_ ?_ ?_ ?_
  · rintro _ ⟨⟩
    exact Or.inl rfl
  · rintro _ _ _ rfl _ ⟨⟩
    exact Or.inl (by simp)
  · rintro _ _ s₂ _ rfl _ hE ⟨⟩
    exact Or.inl (by simp [(closeStore_spec hE).1.db])
  · rintro _ _ s₂ _ _ rfl _ hE rfl ⟨⟩
    refine Or.inr ?_
    rw [stopListeners_db, commit_db]
    split <;> simp [(closeStore_spec hE).1.db, storeMailboxUsage]

theorem mailboxClose_rel {d0 : Chan} {s s1 : Sys} {a hd side mood t b}
    (h : s.mailboxClose a hd side mood t = (s1, b)) (hnp : s.db.npPart = d0.npPart)
    (hA : DbAll (Chan.NpRel (.close a hd) d0) s) : AllRel (.close a hd) d0 s1 := by
  have hfin : Chan.NpRel (.close a hd) d0 s1.db := by
    rcases mailboxClose_db h with e | e
    · exact Or.inl (e.trans hnp)
    · refine Or.inr ⟨?_, ?_⟩
      · simp only [Chan.npPart, Prod.mk.injEq] at hnp
        obtain ⟨h1, h2, h3⟩ := hnp
        rw [e]
        simp [Chan.npPart, Chan.delMailbox, Chan.delMbSidesOf, Chan.delMessagesOf, Chan.delNameplatesOfMailbox,
          Chan.delNpSidesOfMailbox, Chan.nameplatesOfMailbox, Chan.closeSide, h1, h2, h3]
      · intro m hm
        rw [e] at hm
        simp only [Chan.delMailbox, List.mem_filter, decide_eq_true_eq] at hm
        exact hm.2
  exact ⟨mailboxClose_dbAll h hA (Or.inl hnp) hfin, hfin⟩

end Sys.Np

theorem Chan.npSweep_drop {d : Chan} {oldMb : List MailboxRow} {oldNp : List Nameplate}
    (hu : d.NpIdsUnique) (hNp : ∀ n ∈ oldNp, n ∈ d.nameplates ∧ n.mailbox ∈ oldMb.map (·.id)) :
    Chan.NpSweep d ((d.dropNps (oldNp.map (·.id))).dropMbs (oldMb.map (·.id))) := by
  refine ⟨rfl, fun n hn => (List.mem_filter.1 hn).1, fun r hr => (List.mem_filter.1 hr).1, ?_,
    fun m hm => ⟨m, (List.mem_filter.1 hm).1, rfl⟩, ?_⟩
  · intro r hr ⟨n, hn, e⟩
    exact List.mem_filter.2 ⟨hr, e ▸ (List.mem_filter.1 hn).2⟩
  · intro n hn hnot m hm e
    have hid : n.id ∈ oldNp.map (·.id) := by
      apply Classical.byContradiction
      intro hc
      exact hnot (List.mem_filter.2 ⟨hn, by simpa using hc⟩)
    obtain ⟨n', hn', e'⟩ := List.mem_map.1 hid
    have : n' = n := Chan.eq_of_pairwise_ne (f := Nameplate.id) hu (hNp n' hn').1 hn e'
    subst this
    have := (List.mem_filter.1 hm).2
    rw [e] at this
    simp only [decide_not, Bool.not_eq_eq_eq_not, Bool.not_true, decide_eq_false_iff_not] at this
    exact this (hNp n' hn').2

namespace Sys.Np

theorem pruneRest_sweep {d0 : Chan} {s s1 : Sys} {app now oldMb oldNp b}
    (h : pruneRest s app now oldMb oldNp = (s1, b)) (hn : s.db.NpOk)
    (hNp : ∀ n ∈ oldNp, n ∈ s.db.nameplates ∧ n.mailbox ∈ oldMb.map (·.id))
    (hpw : oldNp.Pairwise (fun a b => ¬ a.id = b.id)) (hA : AllRel .sweep d0 s) : AllRel .sweep d0 s1 := by
  unfold pruneRest at h
  split at h
  · rename_i s2 e
    cases ((pruneNameplates_spec _ e).2 hn (fun n hn => (hNp n hn).1) hpw).2
  · rename_i s2 e
    -- the two loops delete and write usage records: no commit
    have r2 := Runs.pruneNameplates (K := (· ≠ .sync)) nofun nofun (app := app) (now := now) oldNp (.refl s)
    rw [e] at r2
    have hA3 : DbAll (Chan.NpSweep d0) (s2.pruneMailboxes app now oldMb) :=
      (NoCommit.of_runs (fun h => h rfl)
        (Runs.pruneMailboxes nofun (app := app) (now := now) oldMb (fun _ _ => nofun) r2)).dbAll hA.1
    have hfin : Chan.NpSweep d0 (s2.pruneMailboxes app now oldMb).db := by
      rw [(sw_pruneMailboxes_db oldMb s2).1, sw_pruneNameplates_db _ e]
      exact hA.2.trans (Chan.npSweep_drop hn.ids hNp)
    dsimp only at h
    split at h
    · cases h
      split
      · exact ⟨(hA3.commit hfin).ucommit, by rw [ucommit_db, commit_db]; exact hfin⟩
      · exact ⟨hA3.commit hfin, by rw [commit_db]; exact hfin⟩
    · cases h
      exact ⟨hA3, hfin⟩

theorem prune_sweep {d0 : Chan} {s s1 : Sys} {app now old b} (h : s.prune app now old = (s1, b))
    (hn : s.db.NpOk) (hA : AllRel .sweep d0 s) : AllRel .sweep d0 s1 := by
  rw [prune_eq] at h
  have hn1 : ((s.touchListened app now).commit).db.NpOk := hn.of_npPart (by simp [touchListened]; rfl)
  refine pruneRest_sweep h hn1 ?_ (List.Pairwise.filter _ (List.Pairwise.filter _ hn1.ids)) ?_
  · intro n hn
    rw [List.mem_filter] at hn
    exact ⟨(List.mem_filter.1 hn.1).1, by simpa using hn.2⟩
  · -- the touch loop re-stamps mailbox rows, then commits
    have h1 : Chan.NpSweep d0 ((s.touchListened app now).commit).db := by
      refine hA.2.trans (Chan.NpSweep.of_same (by simp [touchListened]; rfl) ?_)
      intro m hm
      simp only [commit_db, touchListened, modDb_db, List.mem_map] at hm
      obtain ⟨m0, hm0, rfl⟩ := hm
      exact ⟨m0, hm0, by split <;> rfl⟩
    exact ⟨DbAll.commit ((NoCommit.touchListened s app now).dbAll hA.1) (by rw [commit_db] at h1; exact h1), h1⟩

theorem pruneApps_sweep {d0 : Chan} {now old} (l : List String) :
    ∀ {s s1 : Sys} {b}, s.pruneApps now old l = (s1, b) → s.db.NpOk →
      AllRel .sweep d0 s → AllRel .sweep d0 s1 := by
  induction l with
  | nil =>
    intro s s1 b h _ hA
    cases h
    exact hA
  | cons app rest ih =>
    intro s s1 b h hn hA
    unfold pruneApps at h
    split at h
    · rename_i s2 e
      cases h
      exact prune_sweep e hn hA
    · rename_i s2 e
      exact ih h ((prune_spec e).2 hn).1 (prune_sweep e hn hA)

theorem dumpStats_rel {lbl d0} {s : Sys} (h : AllRel lbl d0 s) (now : Time) : AllRel lbl d0 (s.dumpStats now) := by
  refine ⟨?_, by simpa using h.2⟩
  unfold dumpStats
  split
  · exact DbAll.ucommit h.1
  · exact h.1

theorem expire_sweep {s : Sys} (now : Time) (hn : s.db.NpOk) (hA : DbAll (Chan.NpRel .sweep s.db) s) :
    AllRel .sweep s.db (s.expire now false) := by
  unfold Sys.expire
  apply dumpStats_rel
  simp only [Bool.false_eq_true, ↓reduceIte]
  split <;>
  · rename_i s1 e
    exact (pruneApps_sweep (d0 := s.db) _ e hn (AllRel.refl' _ hA) :)

theorem handleClaim_rel {s : Sys} (x : Conn) (a σ : String) (t : Time) (n fresh : String)
    (hb : s.db.IdsBounded) (hA : DbAll (Chan.NpRel (.claim a n σ fresh t) s.db) s) :
    AllRel (.claim a n σ fresh t) s.db (s.handleClaim x a σ t (some n) fresh) := by
  unfold handleClaim
  dsimp only
  split
  · exact AllRel.refl' _ hA
  · split <;>
    · rename_i e
      exact (claimNameplate_rel e hb hA :)

def allocLbl (d : Chan) (a σ : String) (t : Time) (pick : Nat) (draws : List Nat) (fresh : String) : NpLbl :=
  match findAvailable (d.namesOfApp a) pick draws with
  | some n => .claim a n σ fresh t
  | none => .quiet

theorem handleAllocate_rel {s : Sys} (x : Conn) (a σ : String) (t : Time) (pick draws fresh)
    (hb : s.db.IdsBounded) (hA : DbAll (Chan.NpRel (allocLbl s.db a σ t pick draws fresh) s.db) s) :
    AllRel (allocLbl s.db a σ t pick draws fresh) s.db (s.handleAllocate x a σ t pick draws fresh) := by
  unfold handleAllocate
  split
  · exact AllRel.refl' _ hA
  · unfold allocLbl at hA ⊢
    cases e : findAvailable (s.db.namesOfApp a) pick draws with
    | none =>
      rw [e] at hA
      exact AllRel.refl' _ hA
    | some name =>
      rw [e] at hA
      dsimp only at hA ⊢
      split <;>
      · rename_i e'
        exact (claimNameplate_rel e' hb hA :)

/-- the nameplate a `release` resolves to -/
def releaseTarget (x : Conn) (n : Option String) : Option String :=
  match n with
  | some n => some n
  | none => x.nameplateId

def releaseLbl (x : Conn) (a σ : String) (n : Option String) : NpLbl :=
  match releaseTarget x n with
  | some n => .release a n σ
  | none => .quiet

theorem handleRelease_rel {s : Sys} (x : Conn) (a σ : String) (t : Time) (n : Option String)
    (hA : DbAll (Chan.NpRel (releaseLbl x a σ n) s.db) s) :
    AllRel (releaseLbl x a σ n) s.db (s.handleRelease x a σ t n) := by
  have hgo : ∀ name, releaseLbl x a σ n = .release a name σ →
      AllRel (releaseLbl x a σ n) s.db (s.releaseWith x a σ t name) := by
    intro name hl
    rw [hl] at hA ⊢
    unfold releaseWith
    split <;>
    · rename_i e
      exact (releaseNameplate_rel e hA :)
  rw [handleRelease_eq]
  split
  · exact AllRel.refl' _ hA
  · split
    · split
      · exact AllRel.refl' _ hA
      · exact hgo _ rfl
    · exact hgo _ rfl
    · rename_i held hh
      exact hgo _ (by simp [releaseLbl, releaseTarget, hh])
    · exact AllRel.refl' _ hA

/-- the mailbox a `close` acts on: the handle if the connection has one, else the named /
    remembered id -/
def closeTarget (x : Conn) (m : Option String) : Option String :=
  match x.mailbox with
  | some h => some h
  | none =>
    match m with
    | some m => some m
    | none => x.mailboxId

def closeLbl (x : Conn) (a : String) (m : Option String) : NpLbl :=
  match closeTarget x m with
  | some h => .close a h
  | none => .quiet

theorem closeFinish_rel {d0 : Chan} {s1 : Sys} (x : Conn) (a σ : String) (t : Time) (mood : Option String)
    (r : OpenRes) (hd : String) (h1 : AllRel (.close a hd) d0 s1) (hnp : s1.db.npPart = d0.npPart) :
    AllRel (.close a hd) d0 (closeFinish x a σ t mood (s1, r, hd)) := by
  cases r with
  | ok =>
    dsimp only [closeFinish]
    split <;>
    · rename_i e
      exact (mailboxClose_rel e hnp h1.1 :)
  | _ => exact h1

theorem handleClose_rel {s : Sys} (x : Conn) (a σ : String) (t : Time) (m : Option String) (mood : Option String)
    (hA : DbAll (Chan.NpRel (closeLbl x a m) s.db) s) :
    AllRel (closeLbl x a m) s.db (s.handleClose x a σ t m mood) := by
  rcases handleClose_cases s x a σ t m mood with ⟨⟨_, _, e⟩, _⟩ | ⟨mb, hmb, e⟩ <;> rw [e]
  · exact AllRel.refl' _ hA
  · unfold closeOpened
    cases hx : x.mailbox with
    | some hd =>
      rw [show closeLbl x a m = .close a hd by simp [closeLbl, closeTarget, hx]] at hA ⊢
      exact closeFinish_rel x a σ t mood _ hd (AllRel.refl' _ hA) rfl
    | none =>
      -- `open_mailbox` first; it leaves the nameplate tables alone
      have hl : closeTarget x m = some mb := by unfold closeTarget; rw [hx]; exact hmb
      rw [closeLbl, hl] at hA ⊢
      dsimp only
      cases e : s.openMailbox a mb σ t with
      | mk s1 r =>
        obtain ⟨h1, hnp⟩ := openMailbox_allRel (lbl := .close a mb) (by simp) e rfl hA
        exact closeFinish_rel x a σ t mood r mb h1 hnp

theorem AllRel.replay {lbl d0} {s : Sys} (h : AllRel lbl d0 s) (c a mb) : AllRel lbl d0 (s.replay c a mb) :=
  replay_closed (T := AllRel lbl d0) (fun _ _ _ h => h) h c a mb

theorem AllRel.broadcast {lbl d0} {s : Sys} (h : AllRel lbl d0 s) (a mb f) : AllRel lbl d0 (s.broadcast a mb f) :=
  broadcast_closed (T := AllRel lbl d0) (fun _ _ _ h => h) h a mb f

theorem handleOpen_rel {s : Sys} (x : Conn) (a σ : String) (t : Time) (m : Option String)
    (hA : DbAll (Chan.NpRel .quiet s.db) s) : AllRel .quiet s.db (s.handleOpen x a σ t m) := by
  unfold handleOpen
  split
  · exact AllRel.refl' _ hA
  · split
    · exact AllRel.refl' _ hA
    · dsimp only
      split
      all_goals
        rename_i s1 e
        have h1 := (openMailbox_allRel (lbl := .quiet) (d0 := s.db) (by simp) e rfl hA).1
      · exact h1
      · exact h1
      · exact AllRel.replay (s := s1.updConn x.id _) h1 _ _ _

theorem handleAdd_rel {s : Sys} (x : Conn) (a σ : String) (t : Time) (id : Val) (ph bd : Option Val)
    (hA : DbAll (Chan.NpRel .quiet s.db) s) : AllRel .quiet s.db (s.handleAdd x a σ t id ph bd) := by
  unfold handleAdd
  split
  · exact AllRel.refl' _ hA
  · split
    · exact AllRel.refl' _ hA
    · split
      · exact AllRel.refl' _ hA
      · refine AllRel.broadcast ⟨addMessage_dbAll _ _ _ _ _ _ _ _ hA ?_, ?_⟩ _ _ _
        all_goals exact (addMessage_donly _ _ _ _ _ _ _ _).np

theorem handleBind_rel {s : Sys} (x : Conn) (t : Time) (a sd i v)
    (hA : DbAll (Chan.NpRel .quiet s.db) s) : AllRel .quiet s.db (s.handleBind x t a sd i v) := by
  unfold handleBind
  split
  · exact AllRel.refl' _ hA
  · split
    · exact AllRel.refl' _ hA
    · split
      · exact AllRel.refl' _ hA
      · refine ⟨?_, by simp; exact Chan.NpRel.refl _ _⟩
        unfold logClientVersion
        split
        · exact DbAll.ucommit hA
        · exact hA


/-- the kind of command `cmd` received at time `t` on connection record `x` -/
def cmdLbl (d : Chan) (x : Conn) (t : Time) : Cmd → NpLbl
  | .claim (some n) fresh =>
    match x.app with
    | some a => .claim a n (x.side.getD "") fresh t
    | none => .quiet
  | .allocate pick draws fresh =>
    match x.app with
    | some a => allocLbl d a (x.side.getD "") t pick draws fresh
    | none => .quiet
  | .release n =>
    match x.app with
    | some a => releaseLbl x a (x.side.getD "") n
    | none => .quiet
  | .close m _ =>
    match x.app with
    | some a => closeLbl x a m
    | none => .quiet
  | _ => .quiet

end Sys.Np

/-- **the kind of an operation** in state `s` (a crashed operation has the kind of the
    operation it cuts short) -/
def Sys.npLbl (s : Sys) : Op → NpLbl
  | .recv c t _ cmd =>
    match s.findConn c with
    | some x => Sys.Np.cmdLbl s.db x t cmd
    | none => .quiet
  | .sweep _ fault => if fault then .quiet else .sweep
  | .crashIn _ op => s.npLbl op
  | _ => .quiet

/-- the operation a (possibly crashed) operation consists of -/
def Op.inner : Op → Op
  | .crashIn _ op => op.inner
  | op => op

namespace Sys.Np

theorem cmdLbl_unbound {d : Chan} {x : Conn} (ha : x.app = none) (t : Time) (cmd : Cmd) :
    cmdLbl d x t cmd = .quiet := by
  rcases cmd with _ | _ | _ | _ | _ | _ | ⟨_ | n, f⟩ | _ | _ | _ | _ <;> simp only [cmdLbl, ha]

theorem onMessage_rel {s : Sys} (c : Nat) (t : Time) (id : Val) (cmd : Cmd) (hb : s.db.IdsBounded)
    (hA : DbAll (Chan.NpRel (s.npLbl (.recv c t id cmd)) s.db) s) :
    AllRel (s.npLbl (.recv c t id cmd)) s.db (s.onMessage c t id cmd) := by
  rw [onMessage_dispatch]
  unfold Sys.npLbl at hA ⊢
  cases hx : s.findConn c with
  | none => exact AllRel.refl' _ (by simpa [hx] using hA)
  | some x =>
    simp only [hx] at hA ⊢
    cases ha : x.app with
    | none =>
      rw [cmdLbl_unbound ha] at hA ⊢
      split
      · exact AllRel.refl' _ hA
      · unfold handlePing
        split <;> exact AllRel.refl' _ hA
      · exact handleBind_rel (s := s.send c (.ack id)) x t _ _ _ _ hA
      · exact AllRel.refl' _ hA
    | some a =>
      cases cmd with
      | noType => exact AllRel.refl' _ hA
      | ping v =>
        dsimp only
        unfold handlePing
        split <;> exact AllRel.refl' _ hA
      | bind a' sd i v => exact handleBind_rel (s := s.send c (.ack id)) x t a' sd i v hA
      | allocate pick draws fresh =>
        simp only [cmdLbl, ha] at hA ⊢
        exact handleAllocate_rel (s := s.send c (.ack id)) x a _ t pick draws fresh hb hA
      | claim n fresh =>
        cases n with
        | none =>
          dsimp only [handleBound]
          unfold handleClaim
          exact AllRel.refl' _ hA
        | some n =>
          simp only [cmdLbl, ha] at hA ⊢
          exact handleClaim_rel (s := s.send c (.ack id)) x a _ t n fresh hb hA
      | release n =>
        simp only [cmdLbl, ha] at hA ⊢
        exact handleRelease_rel (s := s.send c (.ack id)) x a _ t n hA
      | close m mood =>
        simp only [cmdLbl, ha] at hA ⊢
        exact handleClose_rel (s := s.send c (.ack id)) x a _ t m mood hA
      | open_ m => exact handleOpen_rel (s := s.send c (.ack id)) x _ _ t m hA
      | add ph bd => exact handleAdd_rel (s := s.send c (.ack id)) x _ _ t id ph bd hA
      | list | unknown => exact AllRel.refl' _ hA

theorem npLbl_clear (s : Sys) (op : Op) :
    ({ s with out := [], snaps := [] } : Sys).npLbl op = s.npLbl op := by
  induction op with
  | crashIn k op ih => exact ih
  | _ => rfl

theorem stepPlain_rel {s : Sys} (op : Op) (hn : s.db.NpOk)
    (hA : DbAll (Chan.NpRel (s.npLbl op) s.db) s) :
    AllRel (s.npLbl op) s.db (s.stepPlain op) := by
  cases op with
  | recv c t id cmd => exact onMessage_rel c t id cmd hn.bounded hA
  | sweep now fault =>
    cases fault with
    | true =>
      -- the first database access fails: no table is touched
      simp only [Sys.stepPlain, Sys.expire, ↓reduceIte]
      exact dumpStats_rel (s := (s.emit _).emit _) (AllRel.refl' _ hA) now
    | false => exact expire_sweep now hn hA
  | restart t => exact ⟨hA, hA.1⟩
  | _ => exact AllRel.refl' _ hA

/-- what a crash after the `k`-th commit of `op` leaves is one of the commit points of `op`, or
    the committed state before `op` -- and then the step has emitted nothing -/
theorem DbAll.crash {P : Chan → Prop} {s : Sys} (k : Nat) (op : Op)
    (h0 : (s.step (.crashIn k op)).out = [] → P s.disk)
    (h : DbAll P (({ s with out := [], snaps := [] } : Sys).stepPlain op)) : P (s.step (.crashIn k op)).db := by
  unfold Sys.step at h0 ⊢
  dsimp only at h0 ⊢
  split
  · exact h0 rfl
  · rename_i p _ hp
    exact h.2 p (List.mem_of_getElem? hp)
  · exact h.1

/-- **Every step** (crashes included) from a state with nothing uncommitted ends in a database
    that the kind of the operation allows. -/
theorem step_rel {s : Sys} (hs : s.Synced) (hn : s.db.NpOk) (op : Op) :
    Chan.NpRel (s.npLbl op) s.db (s.step op).db := by
  have h0 : ∀ L, Chan.NpRel L s.db s.disk := fun L => hs.1 ▸ Chan.NpRel.refl L s.db
  have hplain : ∀ op' : Op, AllRel (s.npLbl op') s.db (({ s with out := [], snaps := [] } : Sys).stepPlain op') := by
    intro op'
    have := stepPlain_rel (s := { s with out := [], snaps := [] }) op' hn
      (by rw [npLbl_clear]; exact ⟨h0 _, by intro p hp; cases hp⟩)
    rw [npLbl_clear] at this
    exact this
  cases op with
  | crashIn k op' => exact DbAll.crash k op' (fun _ => h0 _) (hplain op').1
  | _ => exact (hplain _).2

/-- what kind `lbl` says about an operation of that kind: nothing (`quiet`); a non-faulted sweep;
    (a crash of) a `claim` of `n`, or an `allocate` that picks `n`, at time `t` with generated id
    `fresh`, received on a connection bound to `a` with side `σ`; a `release` that resolves to `n`;
    a `close` that acts on mailbox `hd` -/
def LblSpec (s : Sys) (op : Op) : NpLbl → Prop
  | .quiet => True
  | .sweep => ∃ now, op.inner = .sweep now false
  | .claim a n σ fresh t =>
    ∃ c id cmd x, op.inner = .recv c t id cmd ∧ s.findConn c = some x ∧ x.app = some a ∧
      x.side.getD "" = σ ∧ op.fresh? = some fresh ∧
      (cmd = .claim (some n) fresh ∨
        ∃ pick draws, cmd = .allocate pick draws fresh ∧
          findAvailable (s.db.namesOfApp a) pick draws = some n)
  | .release a n σ =>
    ∃ c t id nm x, op.inner = .recv c t id (.release nm) ∧ s.findConn c = some x ∧ x.app = some a ∧
      x.side.getD "" = σ ∧ releaseTarget x nm = some n
  | .close a hd =>
    ∃ c t id m mood x, op.inner = .recv c t id (.close m mood) ∧ s.findConn c = some x ∧ x.app = some a ∧
      closeTarget x m = some hd

theorem npLbl_spec (s : Sys) (op : Op) : LblSpec s op (s.npLbl op) := by
  induction op with
  | crashIn k op ih => exact ih
  | sweep now fault =>
    cases fault with
    | true => trivial
    | false => exact ⟨now, rfl⟩
  | recv c t id cmd =>
    unfold Sys.npLbl
    cases hx : s.findConn c with
    | none => trivial
    | some x =>
      cases ha : x.app with
      | none =>
        rcases cmd with _ | _ | _ | _ | _ | _ | ⟨_ | n, f⟩ | _ | _ | _ | _ <;> simp only [cmdLbl, ha] <;> trivial
      | some a =>
        cases cmd with
        | claim n fresh =>
          cases n with
          | none => trivial
          | some n =>
            simp only [cmdLbl, ha]
            exact ⟨c, id, _, x, rfl, hx, ha, rfl, rfl, Or.inl rfl⟩
        | allocate pick draws fresh =>
          simp only [cmdLbl, ha, allocLbl]
          cases hf : findAvailable (s.db.namesOfApp a) pick draws with
          | none => trivial
          | some n => exact ⟨c, id, _, x, rfl, hx, ha, rfl, rfl, Or.inr ⟨pick, draws, rfl, hf⟩⟩
        | release nm =>
          simp only [cmdLbl, ha, releaseLbl]
          cases hr : releaseTarget x nm with
          | none => trivial
          | some n => exact ⟨c, t, id, nm, x, rfl, hx, ha, rfl, hr⟩
        | close m mood =>
          simp only [cmdLbl, ha, closeLbl]
          cases hr : closeTarget x m with
          | none => trivial
          | some hd => exact ⟨c, t, id, m, mood, x, rfl, hx, ha, hr⟩
        | _ => trivial
  | _ => trivial

theorem npLbl_spec_of {s : Sys} {op : Op} {lbl : NpLbl} (h : s.npLbl op = lbl) : LblSpec s op lbl :=
  h ▸ npLbl_spec s op

end Sys.Np
end Wormhole
