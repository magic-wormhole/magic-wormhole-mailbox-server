/-
  A subscription is kept by every operation that is not the subscriber's own drop / close, a
  restart, a crash or somebody's `close`: `Sys.Holds s c a mb` ("connection `c` is subscribed to
  mailbox `mb` of app `a`, whose row exists") is preserved by `Sys.step`.

  `Holds` is one of the properties Inv/MbTrack.lean follows through Core.lean and the handlers
  (`Holds.closed`); what is left to do by hand are the three commands that change subscriptions
  (`bind`, `open`, `close`) and the sweep.
-/
import Wormhole.Inv.MsgDb
import Wormhole.Inv.MbRel
import Wormhole.Inv.SweepRows

namespace Wormhole

/-- the operations that cannot end the subscription of connection `c`: everything except its
    own `drop`, any `close` command, a restart and a crash -/
def Op.harmlessFor (c : Nat) : Op → Bool
  | .connect _ => true
  | .recv _ _ _ (.close _ _) => false
  | .recv _ _ _ _ => true
  | .drop c' => decide (c' ≠ c)
  | .sweep _ _ => true
  | .restart _ => false
  | .crashIn _ _ => false

namespace Sys

/-- connection `c` is subscribed to mailbox `mb` of app `a`, and the mailbox row exists -/
structure Holds (s : Sys) (c : Nat) (a mb : String) : Prop where
  sub : ∃ y ∈ s.conns, y.id = c ∧ y.listening = true ∧ y.app = some a ∧ y.mailbox = some mb
  key : (a, mb) ∈ s.db.mbKeys

instance (s : Sys) (c : Nat) (a mb : String) : Decidable (s.Holds c a mb) :=
  decidable_of_iff ((∃ y ∈ s.conns, y.id = c ∧ y.listening = true ∧ y.app = some a ∧ y.mailbox = some mb) ∧
    (a, mb) ∈ s.db.mbKeys) ⟨fun h => ⟨h.1, h.2⟩, fun h => ⟨h.1, h.2⟩⟩

theorem mem_mbKeys_iff {d : Chan} {a mb : String} : (a, mb) ∈ d.mbKeys ↔ d.HasBox a mb := by
  simp only [Chan.mbKeys, Chan.HasBox, List.mem_map, Prod.mk.injEq]

section
variable {c : Nat} {a mb : String}

theorem Holds.same {s s' : Sys} (h : s.Holds c a mb) (h1 : s'.conns = s.conns) (h2 : s'.db = s.db) :
    s'.Holds c a mb := ⟨by rw [h1]; exact h.sub, by rw [h2]; exact h.key⟩

theorem Holds.updConn {s : Sys} (h : s.Holds c a mb) (i : Nat) {f : Conn → Conn} (hf : i = c → Harmless f) :
    (s.updConn i f).Holds c a mb := by
  refine ⟨?_, h.key⟩
  obtain ⟨y, hy, e, k1, k2, k3⟩ := h.sub
  simp only [Sys.updConn, List.mem_map]
  by_cases hi : y.id = i
  · obtain ⟨f1, f2, _, f4, f5⟩ := hf (hi.symm.trans e) y
    exact ⟨f y, ⟨y, hy, by simp [hi]⟩, f1.trans e, f5.trans k1, f2.trans k2, f4.trans k3⟩
  · exact ⟨y, ⟨y, hy, by simp [hi]⟩, e, k1, k2, k3⟩

theorem Holds.closed (c : Nat) (a mb : String) : Closed (fun s => s.Holds c a mb) where
  emit := fun _ _ _ h => h.same rfl rfl
  modUdb := fun _ _ h => h.same rfl rfl
  commit := fun _ h => h.same (commit_conns _) (commit_db _)
  ucommit := fun _ h => h.same (ucommit_conns _) (ucommit_db _)
  grow := fun s _ hf h =>
    ⟨h.sub, mem_mbKeys_iff.2 ((Chan.Mono.grow hf s.db).rows a mb (mem_mbKeys_iff.1 h.key))⟩
  flag := fun _ i _ hf h => h.updConn i (fun _ => hf)

theorem Holds.send {s : Sys} (h : s.Holds c a mb) (i f) : (s.send i f).Holds c a mb := h.same rfl rfl

theorem Holds.msgClosed (c : Nat) (a mb : String) : MsgClosed (fun s => s.Holds c a mb) :=
  fun _ i f h => h.send i f

theorem Holds.broadcast {s : Sys} (h : s.Holds c a mb) (app m f) : (s.broadcast app m f).Holds c a mb :=
  (Holds.msgClosed c a mb).broadcast h app m f

theorem Holds.replay {s : Sys} (h : s.Holds c a mb) (i app m) : (s.replay i app m).Holds c a mb :=
  (Holds.msgClosed c a mb).replay h i app m

theorem Holds.claimNameplate {s : Sys} (h : s.Holds c a mb) (app name side t fresh) :
    (s.claimNameplate app name side t fresh).1.Holds c a mb :=
  (Holds.closed c a mb).toClosedG.claimNameplate h app name side t fresh

theorem Holds.releaseNameplate {s : Sys} (h : s.Holds c a mb) (app name side t) :
    (s.releaseNameplate app name side t).1.Holds c a mb :=
  (Holds.closed c a mb).toClosedG.releaseNameplate h app name side t

theorem Holds.openMailbox {s : Sys} (h : s.Holds c a mb) (app m side t) :
    (s.openMailbox app m side t).1.Holds c a mb :=
  (Holds.closed c a mb).toClosedG.openMailbox h app m side t

theorem Holds.addMessage {s : Sys} (h : s.Holds c a mb) (app m side ph bd t id) :
    (s.addMessage app m side ph bd t id).Holds c a mb :=
  (Holds.closed c a mb).toClosedG.addMessage h app m side ph bd t id

/-! ### `bind` and `open`: refused on the subscriber's own connection -/

variable {s : Sys} {x : Conn}

/-- what we know about the record the handler works on: if it is `c`'s, it is the subscribed one -/
def IsSub (x : Conn) (c : Nat) (a mb : String) : Prop :=
  x.id = c → x.listening = true ∧ x.app = some a ∧ x.mailbox = some mb

theorem Holds.isSub (h : s.Holds c a mb) (hids : s.conns.Pairwise (fun p q => ¬ p.id = q.id)) {i : Nat}
    (hx : s.findConn i = some x) : IsSub x c a mb := by
  intro e
  obtain ⟨y, hy, e', k⟩ := h.sub
  have : x = y := Chan.eq_of_pairwise_ne (f := Conn.id) hids (List.mem_of_find?_eq_some hx) hy (e.trans e'.symm)
  subst this; exact k

theorem Holds.handleBind (h : s.Holds c a mb) (hx : IsSub x c a mb) (t app side impl version) :
    (s.handleBind x t app side impl version).Holds c a mb := by
  unfold Sys.handleBind
  split
  · exact h.same rfl rfl
  · rename_i hnb
    split
    · exact h.same rfl rfl
    · split
      · exact h.same rfl rfl
      · refine (h.updConn x.id fun e => absurd (Or.inl ?_) hnb).same (logClientVersion_conns ..)
          (logClientVersion_db ..)
        rw [(hx e).2.1]; rfl

theorem Holds.handleOpen (h : s.Holds c a mb) (hx : IsSub x c a mb) (app side t m) :
    (s.handleOpen x app side t m).Holds c a mb := by
  unfold Sys.handleOpen
  split
  · exact h.same rfl rfl
  · rename_i hno
    have hne : ∀ {f : Conn → Conn}, x.id = c → Harmless f := fun e => absurd (by rw [(hx e).2.2]; rfl) hno
    split
    · exact h.same rfl rfl
    · rename_i m'
      have h1 := (h.updConn x.id (f := fun y => { y with mailboxId := some m' }) hne).openMailbox app m' side t
      dsimp only
      split <;> rename_i heq <;> rw [heq] at h1
      · exact h1.same rfl rfl
      · exact h1.same rfl rfl
      · exact (h1.updConn x.id hne).replay _ _ _

/-- every command other than `close` keeps the subscription -/
theorem Holds.onMessage (h : s.Holds c a mb) (hids : s.conns.Pairwise (fun p q => ¬ p.id = q.id))
    (i : Nat) (t : Time) (id : Val) {cmd : Cmd} (hcmd : ∀ m mood, cmd ≠ .close m mood) :
    (s.onMessage i t id cmd).Holds c a mb := by
  by_cases hb : ∃ ap sd im v, cmd = .bind ap sd im v
  · obtain ⟨ap, sd, im, v, rfl⟩ := hb
    unfold Sys.onMessage
    split
    · exact h
    · exact (h.send i (.ack id)).handleBind (h.isSub hids ‹_›) _ _ _ _ _
  · by_cases ho : ∃ m, cmd = .open_ m
    · obtain ⟨m, rfl⟩ := ho
      unfold Sys.onMessage
      split
      · exact h
      · dsimp only
        split
        · exact (h.send i (.ack id)).same rfl rfl
        · exact (h.send i (.ack id)).handleOpen (h.isSub hids ‹_›) _ _ _ _
    · exact (Holds.closed c a mb).onMessage h i t id (fun _ => Holds.msgClosed c a mb)
        (fun ap sd im v e => hb ⟨ap, sd, im, v, e⟩) (fun m e => ho ⟨m, e⟩) hcmd

end


section close
variable {c : Nat} {a mb : String}

/-- the subscription is intact, or the mailbox row is gone -/
def HoldsOrGone (s : Sys) (c : Nat) (a mb : String) : Prop :=
  s.Holds c a mb ∨ ∀ k ∈ s.db.mbKeys, ¬ k.2 = mb

theorem HoldsOrGone.same {s s' : Sys} (h : s.HoldsOrGone c a mb) (h1 : s'.conns = s.conns) (h2 : s'.db = s.db) :
    s'.HoldsOrGone c a mb := by
  rcases h with h | h
  · exact .inl (h.same h1 h2)
  · exact .inr (by rw [h2]; exact h)

theorem HoldsOrGone.updConn_ne {s : Sys} (h : s.HoldsOrGone c a mb) {i : Nat} (hne : i ≠ c) (f : Conn → Conn) :
    (s.updConn i f).HoldsOrGone c a mb := by
  rcases h with h | h
  · exact .inl (h.updConn i fun e => absurd e hne)
  · exact .inr h

theorem delClosed_key : Chan.DelClosed (fun _ m' => ¬ m' = mb) (fun d => (a, mb) ∈ d.mbKeys) := by
  rintro d d' h ⟨dead, sh, hok⟩
  show (a, mb) ∈ d'.mbKeys
  rw [sh.keys, List.mem_filter]
  refine ⟨h, ?_⟩
  simp only [decide_eq_true_eq]
  intro hd
  exact hok (a, mb) h hd rfl

/-- `Mailbox.close` on a state where `c` is subscribed to `(a, mb)` -/
theorem Holds.mailboxClose {s : Sys} (h : s.Holds c a mb) (app tgt side mood t) :
    (s.mailboxClose app tgt side mood t).1.HoldsOrGone c a mb := by
  by_cases e : tgt = mb
  · subst e
    rcases mailboxClose_conns s app tgt side mood t with ⟨h1, h2⟩ | ⟨_, _, h3⟩
    · refine .inl ⟨by rw [h1]; exact h.sub, ?_⟩
      simp only [Chan.mpart, Prod.mk.injEq] at h2
      rw [h2.2]; exact h.key
    · exact .inr h3
  · left
    refine ⟨?_, ((AllDb.dbOnly (P := fun d => (a, mb) ∈ d.mbKeys) h.key).mailboxClose delClosed_key
      (fun _ => e)).db⟩
    obtain ⟨y, hy, k0, k1, k2, k3⟩ := h.sub
    rcases mailboxClose_conns s app tgt side mood t with ⟨h1, _⟩ | ⟨h1, _, _⟩
    · rw [h1]; exact ⟨y, hy, k0, k1, k2, k3⟩
    · rw [h1]
      refine ⟨y, ?_, k0, k1, k2, k3⟩
      simp only [stopListeners, List.mem_map]
      refine ⟨y, hy, ?_⟩
      have : ¬ (y.listening = true ∧ y.app = some app ∧ y.mailbox = some tgt) := by
        rintro ⟨_, _, e3⟩
        rw [k3] at e3
        exact e (Option.some.inj e3).symm
      simp [this]

/-- `handle_close` on a connection other than `c`: the implicit open keeps the subscription, `Mailbox.close`
    keeps it or deletes the mailbox -/
theorem Holds.handleClose {s : Sys} {x : Conn} (h : s.Holds c a mb) (hne : x.id ≠ c) (app side t m mood) :
    (s.handleClose x app side t m mood).HoldsOrGone c a mb := by
  have hx : ∀ {f : Conn → Conn}, x.id = c → Harmless f := fun e => absurd e hne
  rcases handleClose_cases s x app side t m mood with ⟨⟨_, _, e⟩, _⟩ | ⟨tgt, _, e⟩ <;> rw [e]
  · exact .inl (h.same rfl rfl)
  · have ho : (s.closeOpened x app side t tgt).1.Holds c a mb := by
      unfold closeOpened
      split
      · exact h
      · exact (h.openMailbox app tgt side t).updConn x.id hx
    generalize s.closeOpened x app side t tgt = p at ho ⊢
    obtain ⟨s1, r, hd⟩ := p
    cases r <;> dsimp only [closeFinish]
    · have hc := (ho.updConn x.id (f := fun y => { y with listening := false, didClose := true }) hx).mailboxClose
        app hd side mood t
      split <;> rename_i heq <;> rw [heq] at hc
      · exact hc.same rfl rfl
      · exact (hc.updConn_ne hne _).same rfl rfl
    · exact .inl (ho.same rfl rfl)
    · exact .inl (ho.same rfl rfl)

/-- **a `close` sent on ANOTHER connection** either leaves `c`'s subscription and the mailbox row
    intact, or it deleted the mailbox: no row with that id is left -/
theorem Holds.step_close {s : Sys} {c : Nat} {a mb : String} (h : s.Holds c a mb) {i : Nat} (hi : i ≠ c)
    (t : Time) (id : Val) (m mood : Option String) :
    (s.step (.recv i t id (.close m mood))).HoldsOrGone c a mb := by
  have h0 : ({ s with out := [], snaps := [] } : Sys).Holds c a mb := ⟨h.sub, h.key⟩
  rw [step_recv]
  unfold Sys.onMessage
  split
  · exact .inl h0
  · rename_i x hx
    dsimp only
    split
    · exact .inl ((h0.send i (.ack id)).same rfl rfl)
    · exact (h0.send i (.ack id)).handleClose (by rw [findConn_id hx]; exact hi) _ _ _ _ _

end close

/-- **a subscription is kept by every harmless operation**: from a state satisfying the sweep
    invariant, after any operation other than the subscriber's drop, a `close` command, a restart
    or a crash, connection `c` is still subscribed to `(a, mb)` and the row still exists -/
theorem Holds.step {s : Sys} (hI : s.SwInv) {c : Nat} {a mb : String} (h : s.Holds c a mb) {op : Op}
    (hop : op.harmlessFor c = true) : (s.step op).Holds c a mb := by
  cases op with
  | connect i =>
    refine ⟨?_, h.key⟩
    obtain ⟨y, hy, k⟩ := h.sub
    exact ⟨y, by simp [Sys.step, Sys.stepPlain, Sys.connect, Sys.send, Sys.emit, hy], k⟩
  | recv i t id cmd =>
    refine Holds.onMessage (s := { s with out := [], snaps := [] }) ⟨h.sub, h.key⟩ hI.conn.ids i t id ?_
    rintro m mood rfl
    simp [Op.harmlessFor] at hop
  | drop i =>
    simp only [Op.harmlessFor, decide_eq_true_eq] at hop
    refine ⟨?_, h.key⟩
    obtain ⟨y, hy, e, k⟩ := h.sub
    refine ⟨y, ?_, e, k⟩
    simp only [Sys.step, Sys.stepPlain, Sys.dropConn, List.mem_filter, decide_not, Bool.not_eq_eq_eq_not,
      Bool.not_true, decide_eq_false_iff_not]
    exact ⟨hy, by rw [e]; exact fun e' => hop e'.symm⟩
  | sweep now fault =>
    obtain ⟨r, hr, e1, e2⟩ := mem_mbKeys_iff.1 h.key
    obtain ⟨y, hy, e, k1, k2, k3⟩ := h.sub
    obtain ⟨k, _, hc⟩ := sweep_keeps hI.cinv now fault hr
      (.inr (.inr (listened_iff.2 ⟨y, hy, k1, by rw [k2, e1], by rw [k3, e2]⟩)))
    exact ⟨by rw [hc]; exact h.sub, mem_mbKeys_iff.2 ⟨_, k, by simpa using e1, by simpa using e2⟩⟩
  | restart t => simp [Op.harmlessFor] at hop
  | crashIn k op => simp [Op.harmlessFor] at hop

end Sys
end Wormhole
