/-
  What the functions of Core.lean (server.py) do to the `messages` table and to the set of
  mailbox rows -- the two things C01 / C02 look at in the database.

  * `Chan.mbKeys`     the (app, id) pairs of the mailbox rows;
  * `Chan.mpart`      (messages, mbKeys): most statements leave it alone;
  * `Chan.Grow`       same messages, possibly more mailbox rows (open / claim / allocate);
  * `Chan.ShrinkBy dead`  the mailbox rows with an id in `dead` and the messages with such a
                      mailbox id are gone, everything else is as before (close / prune);
  * `Chan.DelStep ok` a `ShrinkBy` whose deleted rows all satisfy `ok app id`;
  * `Sys.AllDb W P`     `P` holds of the live database, of the committed one and of every
                      committed state reached inside the current step (the crash points).
  `AllDb.stmt_same / stmt_grow / stmt_closeDel / stmt_delMb` say which statements of the code
  (Inv/Acts.lean) `AllDb W P` survives, by the closure of `P`; every function then preserves it
  along its run, which serves crash-free steps, crashes, C01 and C02 at once.  In the same way
  `Runs.conns_eq`: the functions of Core.lean leave the connection records alone.
-/
import Wormhole.Inv.SyncLemmas
import Wormhole.Inv.WsLemmas
import Wormhole.Inv.Acts

namespace Wormhole
namespace Chan

/-- the (app, id) pairs of the mailbox rows, in row order -/
def mbKeys (d : Chan) : List (String × String) := d.mailboxes.map (fun r => (r.app, r.id))

def mpart (d : Chan) : List Message × List (String × String) := (d.messages, d.mbKeys)

theorem mpart_eq {d d' : Chan} (h1 : d'.messages = d.messages) (h2 : d'.mailboxes = d.mailboxes) :
    d'.mpart = d.mpart := by simp [mpart, mbKeys, h1, h2]

section prim
variable (d : Chan)

@[simp] theorem mpart_insNameplate (a n m) : (d.insNameplate a n m).mpart = d.mpart := rfl
@[simp] theorem mpart_insNpSide (r) : (d.insNpSide r).mpart = d.mpart := rfl
@[simp] theorem mpart_insMbSide (r) : (d.insMbSide r).mpart = d.mpart := rfl
@[simp] theorem mpart_unclaim (n sd) : (d.unclaim n sd).mpart = d.mpart := rfl
@[simp] theorem mpart_closeSide (m sd mood) : (d.closeSide m sd mood).mpart = d.mpart := rfl
@[simp] theorem mpart_delNpSidesOf (n) : (d.delNpSidesOf n).mpart = d.mpart := rfl
@[simp] theorem mpart_delNameplate (n) : (d.delNameplate n).mpart = d.mpart := rfl
@[simp] theorem mpart_delNpSidesOfMailbox (a m) : (d.delNpSidesOfMailbox a m).mpart = d.mpart := rfl
@[simp] theorem mpart_delNameplatesOfMailbox (a m) : (d.delNameplatesOfMailbox a m).mpart = d.mpart := rfl
@[simp] theorem mpart_delMbSidesOf (m) : (d.delMbSidesOf m).mpart = d.mpart := rfl

theorem mbKeys_map (f : MailboxRow → MailboxRow) (hf : ∀ r, (f r).app = r.app ∧ (f r).id = r.id) :
    ({ d with mailboxes := d.mailboxes.map f } : Chan).mbKeys = d.mbKeys := by
  simp only [mbKeys, List.map_map]
  apply List.map_congr_left
  intro r _
  simp [(hf r).1, (hf r).2]

@[simp] theorem mpart_touch (m t) : (d.touch m t).mpart = d.mpart := by
  have := d.mbKeys_map (fun r => if r.id = m then { r with updated := t } else r)
    (fun r => by split <;> simp)
  simp only [mpart, touch] at this ⊢
  rw [this]

@[simp] theorem messages_insMessage (r) : (d.insMessage r).messages = d.messages ++ [r] := rfl
@[simp] theorem mbKeys_insMessage (r) : (d.insMessage r).mbKeys = d.mbKeys := rfl
@[simp] theorem messages_insMailbox (r) : (d.insMailbox r).messages = d.messages := rfl
@[simp] theorem mbKeys_insMailbox (r) : (d.insMailbox r).mbKeys = d.mbKeys ++ [(r.app, r.id)] := by
  simp [mbKeys, insMailbox]

end prim

/-- same messages, the same mailbox rows (possibly re-stamped) and possibly more of them -/
structure Grow (d d' : Chan) : Prop where
  msgs : d'.messages = d.messages
  keys : ∃ extra, d'.mbKeys = d.mbKeys ++ extra

theorem Grow.refl (d : Chan) : Grow d d := ⟨rfl, [], by simp⟩

theorem Grow.of_mpart {d d' : Chan} (h : d'.mpart = d.mpart) : Grow d d' := by
  simp only [mpart, Prod.mk.injEq] at h
  exact ⟨h.1, [], by simp [h.2]⟩

theorem Grow.trans {a b c : Chan} (h1 : Grow a b) (h2 : Grow b c) : Grow a c := by
  obtain ⟨e1, k1⟩ := h1.keys
  obtain ⟨e2, k2⟩ := h2.keys
  exact ⟨h2.msgs.trans h1.msgs, e1 ++ e2, by simp [k2, k1]⟩

/-- the mailbox rows with an id in `dead` and the messages of those ids are gone; nothing else
    changed in `messages` / in the set of mailbox rows -/
structure ShrinkBy (dead : List String) (d d' : Chan) : Prop where
  msgs : d'.messages = d.messages.filter (fun r => r.mailbox ∉ dead)
  keys : d'.mbKeys = d.mbKeys.filter (fun k => k.2 ∉ dead)

theorem ShrinkBy.of_mpart {d d' : Chan} (h : d'.mpart = d.mpart) : ShrinkBy [] d d' := by
  simp only [mpart, Prod.mk.injEq] at h
  exact ⟨by rw [h.1]; exact (List.filter_eq_self.2 (by simp)).symm,
    by rw [h.2]; exact (List.filter_eq_self.2 (by simp)).symm⟩

theorem ShrinkBy.trans {l1 l2 : List String} {a b c : Chan} (h1 : ShrinkBy l1 a b)
    (h2 : ShrinkBy l2 b c) : ShrinkBy (l1 ++ l2) a c := by
  have key : ∀ {α} (f : α → String) (l : List α),
      (l.filter (fun r => f r ∉ l1)).filter (fun r => f r ∉ l2) = l.filter (fun r => f r ∉ l1 ++ l2) := by
    intro α f l
    rw [List.filter_filter]
    apply List.filter_congr
    intro r _
    simp only [List.mem_append, not_or, Bool.decide_and, Bool.and_comm]
  exact ⟨by rw [h2.msgs, h1.msgs, key], by rw [h2.keys, h1.keys, key]⟩

/-- a deletion step all of whose victims satisfy `ok` -/
def DelStep (ok : String → String → Prop) (d d' : Chan) : Prop :=
  ∃ dead, ShrinkBy dead d d' ∧ ∀ k ∈ d.mbKeys, k.2 ∈ dead → ok k.1 k.2

theorem DelStep.of_mpart {ok} {d d' : Chan} (h : d'.mpart = d.mpart) : DelStep ok d d' :=
  ⟨[], ShrinkBy.of_mpart h, by simp⟩

theorem DelStep.refl {ok} (d : Chan) : DelStep ok d d := DelStep.of_mpart rfl

theorem DelStep.trans {ok} {a b c : Chan} (h1 : DelStep ok a b) (h2 : DelStep ok b c) :
    DelStep ok a c := by
  obtain ⟨l1, s1, o1⟩ := h1
  obtain ⟨l2, s2, o2⟩ := h2
  refine ⟨l1 ++ l2, s1.trans s2, ?_⟩
  intro k hk hd
  by_cases h : k.2 ∈ l1
  · exact o1 k hk h
  · have hk' : k ∈ b.mbKeys := by
      rw [s1.keys, List.mem_filter]; exact ⟨hk, by simpa using h⟩
    rcases List.mem_append.1 hd with h' | h'
    · exact absurd h' h
    · exact o2 k hk' h'

theorem DelStep.mono {ok ok' : String → String → Prop} {d d' : Chan} (h : ∀ a m, ok a m → ok' a m) :
    DelStep ok d d' → DelStep ok' d d' := by
  rintro ⟨l, s, o⟩
  exact ⟨l, s, fun k hk hd => h _ _ (o k hk hd)⟩

/-- `DELETE FROM messages WHERE mailbox_id=?; ...; DELETE FROM mailboxes WHERE id=?` -/
theorem ShrinkBy.delete (d : Chan) (mb : String) {d' : Chan}
    (h1 : d'.messages = (d.delMessagesOf mb).messages) (h2 : d'.mailboxes = (d.delMailbox mb).mailboxes) :
    ShrinkBy [mb] d d' := by
  constructor
  · rw [h1]; simp [delMessagesOf]
  · simp only [mbKeys, h2, delMailbox, List.filter_map]
    congr 1
    apply List.filter_congr
    intro r _
    simp

def SameClosed (P : Chan → Prop) : Prop := ∀ d d', P d → d'.mpart = d.mpart → P d'
def GrowClosed (P : Chan → Prop) : Prop := ∀ d d', P d → Grow d d' → P d'
def DelClosed (ok : String → String → Prop) (P : Chan → Prop) : Prop := ∀ d d', P d → DelStep ok d d' → P d'

theorem GrowClosed.same {P} (h : GrowClosed P) : SameClosed P :=
  fun d d' hp e => h d d' hp (Grow.of_mpart e)
theorem DelClosed.same {ok P} (h : DelClosed ok P) : SameClosed P :=
  fun d d' hp e => h d d' hp (DelStep.of_mpart e)

theorem growClosed_grow (d0 : Chan) : GrowClosed (Grow d0) := fun _ _ h1 h2 => h1.trans h2

/-- first grown, then shrunk: what a whole operation other than `add` does -/
def Tr (ok : String → String → Prop) (d0 d : Chan) : Prop := ∃ d1, Grow d0 d1 ∧ DelStep ok d1 d

theorem Tr.of_grow {ok} {d0 d : Chan} (h : Grow d0 d) : Tr ok d0 d := ⟨d, h, DelStep.refl d⟩
theorem Tr.of_del {ok} {d0 d : Chan} (h : DelStep ok d0 d) : Tr ok d0 d := ⟨d0, Grow.refl d0, h⟩
theorem Tr.mem_keys {ok} {d d' : Chan} (h : Tr ok d d') {k : String × String} (hk : k ∈ d.mbKeys)
    (hok : ¬ ok k.1 k.2) : k ∈ d'.mbKeys := by
  obtain ⟨d1, g, dead, sh, o⟩ := h
  obtain ⟨extra, he⟩ := g.keys
  have hk1 : k ∈ d1.mbKeys := by rw [he]; exact List.mem_append_left _ hk
  rw [sh.keys, List.mem_filter]
  exact ⟨hk1, by simpa using fun hd => hok (o k hk1 hd)⟩

theorem delClosed_tr (ok) (d0 : Chan) : DelClosed ok (Tr ok d0) :=
  fun _ _ ⟨d1, g, s⟩ h2 => ⟨d1, g, s.trans h2⟩
theorem delClosed_delStep (ok) (d0 : Chan) : DelClosed ok (DelStep ok d0) :=
  fun _ _ h1 h2 => h1.trans h2

end Chan

namespace Sys

/-- `P` holds of the live database and, when `W`, also of the committed database and of every
    crash point of this step (`W := True`: the full statement; `W := False`: the live database
    only, usable in states with uncommitted writes) -/
structure AllDb (W : Prop) (P : Chan → Prop) (s : Sys) : Prop where
  db : P s.db
  rest : W → P s.disk ∧ ∀ p ∈ s.snaps, P p.1

section alldb
variable {W : Prop} {P : Chan → Prop} {s : Sys}

theorem AllDb.dbOnly (h : P s.db) : AllDb False P s := ⟨h, fun w => w.elim⟩

theorem AllDb.mono {Q : Chan → Prop} (h : ∀ d, P d → Q d) (a : AllDb W P s) : AllDb W Q s :=
  ⟨h _ a.db, fun w => ⟨h _ (a.rest w).1, fun p hp => h _ ((a.rest w).2 p hp)⟩⟩

theorem AllDb.modDb (a : AllDb W P s) {f} (h : P (f s.db)) : AllDb W P (s.modDb f) := ⟨h, a.rest⟩
theorem AllDb.modUdb (a : AllDb W P s) {f} : AllDb W P (s.modUdb f) := ⟨a.db, a.rest⟩
theorem AllDb.emit (a : AllDb W P s) {e} : AllDb W P (s.emit e) := ⟨a.db, a.rest⟩
theorem AllDb.send (a : AllDb W P s) {c f} : AllDb W P (s.send c f) := ⟨a.db, a.rest⟩
theorem AllDb.stopListeners (a : AllDb W P s) {app mb} : AllDb W P (s.stopListeners app mb) :=
  ⟨a.db, a.rest⟩

theorem AllDb.commit (a : AllDb W P s) : AllDb W P s.commit := by
  unfold Sys.commit
  split
  · exact a
  · refine ⟨a.db, fun w => ⟨a.db, ?_⟩⟩
    intro p hp
    rcases List.mem_append.1 hp with h | h
    · exact (a.rest w).2 p h
    · simp only [List.mem_singleton] at h; subst h; exact a.db

theorem AllDb.ucommit (a : AllDb W P s) : AllDb W P s.ucommit := by
  unfold Sys.ucommit
  split
  · exact a
  · refine ⟨a.db, fun w => ⟨(a.rest w).1, ?_⟩⟩
    intro p hp
    rcases List.mem_append.1 hp with h | h
    · exact (a.rest w).2 p h
    · simp only [List.mem_singleton] at h; subst h; exact (a.rest w).1

theorem AllDb.modDb_same (a : AllDb W P s) (hP : Chan.SameClosed P) {f}
    (h : (f s.db).mpart = s.db.mpart) : AllDb W P (s.modDb f) := a.modDb (hP _ _ a.db h)

theorem AllDb.foldl_send {α} (g : α → Nat) (fr : α → Frame) (l : List α) :
    ∀ {s : Sys}, AllDb W P s → AllDb W P (l.foldl (fun s a => s.send (g a) (fr a)) s) := by
  induction l with
  | nil => intro s a; exact a
  | cons x l ih => intro s a; exact ih a.send

theorem AllDb.storeNameplateUsage (a : AllDb W P s) {app sides t p} :
    AllDb W P (s.storeNameplateUsage app sides t p).1 := by
  unfold Sys.storeNameplateUsage
  split
  · exact a
  · exact ⟨a.db, a.rest⟩

theorem AllDb.storeNameplatesOfMailbox {app t} (l : List Nameplate) :
    ∀ {s : Sys}, AllDb W P s → AllDb W P (s.storeNameplatesOfMailbox app t l).1 := by
  induction l with
  | nil => intro s a; exact a
  | cons np rest ih =>
    intro s a
    unfold Sys.storeNameplatesOfMailbox
    have h1 := a.storeNameplateUsage (app := app) (sides := s.db.npSidesOf np.id) (t := t) (p := false)
    split
    · rename_i s2 heq; rw [heq] at h1; exact h1
    · rename_i s2 heq; rw [heq] at h1; exact ih h1

theorem AllDb.dumpStats (a : AllDb W P s) {now} : AllDb W P (s.dumpStats now) := by
  unfold Sys.dumpStats
  split
  · exact a.modUdb.ucommit
  · exact a

/-! ### what a statement of the code does to `AllDb W P`, by the closure of `P` -/

/-- the kinds of statements that leave `messages` and the mailbox keys alone -/
def Kind.keepsMpart : Kind → Bool
  | .grow _ | .add _ | .closeDel _ _ | .sweep (some _) | .boot => false
  | _ => true

theorem AllDb.stmt_same (a : AllDb W P s) (hP : Chan.SameClosed P) {k : Kind} {s' : Sys} (h : Stmt k s s')
    (hk : k.keepsMpart = true) : AllDb W P s' := by
  cases h with
  | commit => exact a.commit
  | ucommit => exact a.ucommit
  | storeNp => exact a.storeNameplateUsage
  | unclaim | releaseDel | closeSide | delNp => exact a.modDb_same hP (by simp)
  | touchListened _ app now =>
    apply a.modDb_same hP
    have := s.db.mbKeys_map (fun r => if r.app = app ∧ s.listeners app r.id ≠ [] then { r with updated := now } else r)
      (fun r => by split <;> simp)
    simp only [Chan.mpart] at this ⊢
    rw [this]
  | grow | insMessage | closeDeletes | stop | delMb | restart => cases hk
  | _ => exact ⟨a.db, a.rest⟩

theorem AllDb.stmt_grow (a : AllDb W P s) (hP : Chan.GrowClosed P) {t : Time} {s' : Sys} (h : Stmt (.grow t) s s') :
    AllDb W P s' := by
  cases h with
  | grow _ _ f hf =>
    cases hf with
    | insMailbox app mb => exact a.modDb (hP _ _ a.db ⟨by simp, [(app, mb)], by simp⟩)
    | _ => exact a.modDb_same hP.same (by simp)

section del
variable {ok : String → String → Prop}

theorem _root_.Wormhole.Chan.delBlock_close (d : Chan) (app mb : String) :
    Chan.ShrinkBy [mb] d (d.closeDeletes app mb) := Chan.ShrinkBy.delete d mb rfl rfl

theorem _root_.Wormhole.Chan.delBlock_prune (d : Chan) (mb : String) :
    Chan.ShrinkBy [mb] d (((d.delMessagesOf mb).delMbSidesOf mb).delMailbox mb) :=
  Chan.ShrinkBy.delete d mb rfl rfl

theorem AllDb.stmt_closeDel (a : AllDb W P s) (hP : Chan.DelClosed ok P) {app mb : String}
    (hok : ∀ a', ok a' mb) {s' : Sys} (h : Stmt (.closeDel app mb) s s') : AllDb W P s' := by
  cases h with
  | stop => exact ⟨a.db, a.rest⟩
  | closeDeletes =>
    exact a.modDb (hP _ _ a.db ⟨[mb], Chan.delBlock_close _ app mb, fun k _ hd => by
      have : k.2 = mb := by simpa using hd
      rw [this]; exact hok k.1⟩)

theorem AllDb.stmt_delMb (a : AllDb W P s) (hP : Chan.DelClosed ok P) {id : String}
    (hok : ∀ k ∈ s.db.mbKeys, k.2 = id → ok k.1 k.2) {s' : Sys} (h : Stmt (.sweep (some id)) s s') :
    AllDb W P s' := by
  cases h
  exact a.modDb (hP _ _ a.db ⟨[id], Chan.delBlock_prune _ id, fun k hk hd => hok k hk (by simpa using hd)⟩)

end del

theorem AllDb.runs_grow (a : AllDb W P s) (hP : Chan.GrowClosed P) {s' : Sys}
    (r : Runs (fun k => k.keepsMpart = true ∨ ∃ t, k = .grow t) s s') : AllDb W P s' :=
  r.preserves (fun _ hk _ _ h a => hk.elim (a.stmt_same hP.same h) (fun ⟨_, e⟩ => a.stmt_grow hP (e ▸ h))) a

theorem AllDb.runs_same (a : AllDb W P s) (hP : Chan.SameClosed P) {s' : Sys}
    (r : Runs (fun k => k.keepsMpart = true) s s') : AllDb W P s' :=
  r.preserves (fun _ hk _ _ h a => a.stmt_same hP h hk) a

theorem AllDb.openMailbox (a : AllDb W P s) (hP : Chan.GrowClosed P) {app mb side t} :
    AllDb W P (s.openMailbox app mb side t).1 :=
  a.runs_grow hP ((Runs.refl s).openMailbox (by exact .inl rfl) app mb side t (by exact .inr ⟨_, rfl⟩))

theorem AllDb.claimNameplate (a : AllDb W P s) (hP : Chan.GrowClosed P) {app name side t fresh} :
    AllDb W P (s.claimNameplate app name side t fresh).1 :=
  a.runs_grow hP ((Runs.refl s).claimNameplate (by exact .inl rfl) app name side t fresh (by exact .inr ⟨_, rfl⟩))

theorem AllDb.releaseNameplate (a : AllDb W P s) (hP : Chan.SameClosed P) {app name side t} :
    AllDb W P (s.releaseNameplate app name side t).1 :=
  a.runs_same hP ((Runs.refl s).releaseNameplate (by rfl) (by rfl) (by rfl) app name side t)

section del
variable {ok : String → String → Prop}

theorem AllDb.mailboxClose (a : AllDb W P s) (hP : Chan.DelClosed ok P) {mb : String}
    (hok : ∀ a', ok a' mb) {app side mood t} :
    AllDb W P (s.mailboxClose app mb side mood t).1 :=
  ((Runs.refl s).mailboxClose (K := fun k => k.keepsMpart = true ∨ k = .closeDel app mb) (.inl rfl) (.inl rfl)
    app mb side mood t (.inl rfl) (.inr rfl)).preserves
    (fun _ hk _ _ h a => hk.elim (a.stmt_same hP.same h) (fun e => a.stmt_closeDel hP hok (e ▸ h))) a

end del
end alldb

/-! ### Core.lean leaves the connection records alone (except the stop callbacks of `close`) -/

def Kind.keepsConns : Kind → Bool
  | .closeDel _ _ | .flag | .bind | .conn | .link | .boot => false
  | _ => true

theorem Stmt.conns_eq {k : Kind} {s s' : Sys} (h : Stmt k s s') (hk : k.keepsConns = true) : s'.conns = s.conns := by
  cases h with
  | commit | ucommit => simp
  | storeNp => unfold storeNameplateUsage; split <;> rfl
  | closeDeletes | stop | flag | bind | conn | conns | restart => cases hk
  | _ => rfl

theorem Runs.conns_eq {s s' : Sys} (r : Runs (fun k => k.keepsConns = true) s s') : s'.conns = s.conns :=
  r.lift (R := fun a b => b.conns = a.conns) (fun _ => rfl) (fun _ _ _ h1 h2 => h2.trans h1)
    (fun _ hk _ _ h => h.conns_eq hk)

section conns
variable (s : Sys)

theorem listeners_congr {s s' : Sys} (h : s'.conns = s.conns) (a m : String) :
    s'.listeners a m = s.listeners a m := by simp [listeners, h]

@[simp] theorem storeMailboxUsage_conns (app forNp sides t p) :
    (s.storeMailboxUsage app forNp sides t p).conns = s.conns := rfl
@[simp] theorem touchListened_conns (app now) : (s.touchListened app now).conns = s.conns := rfl
@[simp] theorem emit_conns (e) : (s.emit e).conns = s.conns := rfl
@[simp] theorem send_conns (c f) : (s.send c f).conns = s.conns := rfl
@[simp] theorem sendError_conns (c t) : (s.sendError c t).conns = s.conns := rfl
@[simp] theorem internalErr_conns (c t) : (s.internalErr c t).conns = s.conns := rfl

@[simp] theorem openMailbox_conns (app mb side t) : (s.openMailbox app mb side t).1.conns = s.conns :=
  Runs.conns_eq ((Runs.refl s).openMailbox (by rfl) app mb side t (by rfl))

@[simp] theorem claimNameplate_conns (app name side t fresh) :
    (s.claimNameplate app name side t fresh).1.conns = s.conns :=
  Runs.conns_eq ((Runs.refl s).claimNameplate (by rfl) app name side t fresh (by rfl))

@[simp] theorem releaseNameplate_conns (app name side t) :
    (s.releaseNameplate app name side t).1.conns = s.conns :=
  Runs.conns_eq ((Runs.refl s).releaseNameplate (by rfl) (by rfl) (by rfl) app name side t)

theorem pruneNameplates_conns {app now} (l : List Nameplate) :
    ∀ (s : Sys), (s.pruneNameplates app now l).1.conns = s.conns :=
  fun s => Runs.conns_eq (Runs.pruneNameplates (by rfl) (by rfl) l (.refl s))

theorem pruneMailboxes_conns {app now} (l : List MailboxRow) :
    ∀ (s : Sys), (s.pruneMailboxes app now l).conns = s.conns :=
  fun s => Runs.conns_eq (Runs.pruneMailboxes (by rfl) l (fun _ _ => by rfl) (.refl s))

@[simp] theorem prune_conns (app now old) : (s.prune app now old).1.conns = s.conns :=
  Runs.conns_eq ((Runs.refl s).prune (by rfl) (by rfl) (by rfl) app now old (by rfl) (fun _ _ => by rfl))

@[simp] theorem expire_conns (now fault) : (s.expire now fault).conns = s.conns :=
  Runs.conns_eq ((Runs.refl s).expire (by rfl) (by rfl) (by rfl) (fun _ => by rfl) (by rfl) now fault (by rfl))

/-- `Mailbox.close`: either the connection records and `mpart` are as before, or the mailbox row
    was deleted and the stop callbacks ran (and nothing else happened to the records) -/
theorem mailboxClose_conns (app mb side mood t) :
    ((s.mailboxClose app mb side mood t).1.conns = s.conns ∧
      (s.mailboxClose app mb side mood t).1.db.mpart = s.db.mpart) ∨
    ((s.mailboxClose app mb side mood t).1.conns = (s.stopListeners app mb).conns ∧
      (∃ row, s.db.findMailbox app mb = some row) ∧
      ∀ k ∈ (s.mailboxClose app mb side mood t).1.db.mbKeys, ¬ k.2 = mb) := by
  refine mailboxClose_cases s app mb side mood t ?_ ?_ ?_ ?_
  · exact fun _ => .inl ⟨rfl, rfl⟩
  · rintro _ _ _ rfl _
    exact .inl ⟨by simp, by simp⟩
  · rintro _ _ s₂ _ rfl _ hE
    obtain ⟨u, -, -⟩ := closeStore_udbOnly hE
    exact .inl ⟨by simp [u.conns], by simp [u.db]⟩
  · rintro row _ s₂ _ hrow rfl _ hE rfl
    obtain ⟨u, -, -⟩ := closeStore_udbOnly hE
    refine .inr ⟨?_, ⟨row, hrow⟩, fun k hk => ?_⟩
    · simp only [stopListeners]
      split <;> simp [u.conns, storeMailboxUsage]
    · simp only [stopListeners_db, commit_db] at hk
      have hk' : k ∈ (s₂.db.closeDeletes app mb).mbKeys := by
        split at hk <;> simpa [storeMailboxUsage, Chan.closeDeletes] using hk
      rw [(Chan.delBlock_close s₂.db app mb).keys] at hk'
      simpa using (List.mem_filter.1 hk').2

end conns

end Sys
end Wormhole
