/-
  C14 (re-sending an acknowledged command), part 3: the duplicate as operations.

      dup c' = [connect c', recv c' t id₁ (bind a σ impl ver), recv c' t id cmd', drop c']

  * `dup_prefix`   the first two operations: state `sb` = the state before plus one fresh connection
                   record bound to (a, σ) (`DupReady`); only the usage database may differ;
  * `dup_claim`, `dup_release`, `dup_open`, `dup_close_gone`, `dup_close_survived`
                   the third operation from such a state (`Step3`): exact answer, database unchanged
                   (`touch m t` of it for a close of a surviving mailbox: K-close-touch);
  * `dup_drop`     the fourth: the connection table is the one before the duplicate.
  `release_whole` is for `release` what `claim_step`, `open_step`, `close_step` (Inv/MbClaim, Inv/MbStep) are for
  the other three commands.
-/
import Wormhole.Inv.DupCore
import Wormhole.Inv.UsageTrack
import Wormhole.Inv.MsgDb

namespace Wormhole
namespace Sys

/-- the record of the duplicate's connection after its `bind` -/
def dupConn (c' : Nat) (a σ : String) : Conn := { id := c', app := some a, side := some σ }

/-- `sb` is `s` plus one fresh connection `c'` bound to (a, σ); the usage database is free -/
structure DupReady (s sb : Sys) (c' : Nat) (a σ : String) : Prop where
  db : sb.db = s.db
  disk : sb.disk = s.disk
  cfg : sb.cfg = s.cfg
  conns : sb.conns = s.conns ++ [dupConn c' a σ]
  usync : sb.udb = sb.udisk

/-- what the third operation of the duplicate delivers: on ANY state `sb` that is `s` plus a fresh connection `c'`
    bound to `(a, σ)`, `recv c' t id cmd'` is answered `ack`, commits, `ans`; the channel database afterwards is
    `D'`, nothing is left uncommitted, only the record of `c'` changes -/
def Step3 (s : Sys) (c' : Nat) (a σ : String) (t : Time) (id : Val) (cmd' : Cmd) (D' : Chan) (ans : List Event) : Prop :=
  ∀ sb, DupReady s sb c' a σ → ∀ sc, sc = sb.step (.recv c' t id cmd') →
    sc.db = D' ∧ sc.Synced ∧ sc.cfg = s.cfg ∧ (∃ y, sc.conns = s.conns ++ [y] ∧ y.id = c') ∧
    ∃ commits, (∀ e ∈ commits, IsCommit e) ∧ sc.out = .frame c' (.ack id) true :: (commits ++ ans)

/-! ### connection tables with one fresh record at the end -/

theorem find_append_fresh {cs : List Conn} {c' : Nat} (hf : ∀ y ∈ cs, y.id ≠ c') (x : Conn) (hx : x.id = c') :
    (cs ++ [x]).find? (fun y => y.id = c') = some x := by
  rw [List.find?_append]
  have : cs.find? (fun y => decide (y.id = c')) = none := by
    simp only [List.find?_eq_none, decide_eq_true_eq]
    exact hf
  rw [this]
  simp [hx]

theorem map_append_fresh {cs : List Conn} {c' : Nat} (hf : ∀ y ∈ cs, y.id ≠ c') (x : Conn) (hx : x.id = c')
    (f : Conn → Conn) :
    (cs ++ [x]).map (fun y => if y.id = c' then f y else y) = cs ++ [f x] := by
  rw [List.map_append]
  congr 1
  · apply Chan.map_eq_self
    intro y hy
    rw [if_neg (hf y hy)]
  · simp [hx]

theorem filter_append_fresh {cs : List Conn} {c' : Nat} (hf : ∀ y ∈ cs, y.id ≠ c') (x : Conn) (hx : x.id = c') :
    (cs ++ [x]).filter (fun y => ¬ y.id = c') = cs := by
  rw [List.filter_append]
  have h1 : cs.filter (fun y => decide (¬ y.id = c')) = cs := by
    apply List.filter_eq_self.2
    intro y hy
    simpa using hf y hy
  rw [h1]
  simp [hx]

theorem DupReady.findConn {s sb : Sys} {c' : Nat} {a σ : String} (h : DupReady s sb c' a σ)
    (hf : ∀ y ∈ s.conns, y.id ≠ c') : sb.findConn c' = some (dupConn c' a σ) := by
  unfold Sys.findConn
  rw [h.conns]
  exact find_append_fresh hf _ rfl

theorem DupReady.map_conns {s sb : Sys} {c' : Nat} {a σ : String} (h : DupReady s sb c' a σ)
    (hf : ∀ y ∈ s.conns, y.id ≠ c') (f : Conn → Conn) :
    sb.conns.map (fun y => if y.id = c' then f y else y) = s.conns ++ [f (dupConn c' a σ)] := by
  rw [h.conns]
  exact map_append_fresh hf _ rfl f

theorem DupReady.synced {s sb : Sys} {c' : Nat} {a σ : String} (h : DupReady s sb c' a σ) (hs : s.Synced) :
    sb.Synced := ⟨by rw [h.db, h.disk]; exact hs.1, h.usync⟩

/-! ### `connect`, `bind` -/

/-- **the first two operations of the duplicate.**  From a state `s` with nothing uncommitted
    and no connection `c'`: after `connect c'` and `bind (a, σ)` the channel database, its
    committed copy and the configuration are those of `s`, the connection table is that of `s`
    plus the record of `c'`; the events are `welcome` to `c'`, then `ack` to `c'` followed by
    commits only (the usage commit of `log_client_version`, when a usage database exists). -/
theorem dup_prefix {s : Sys} (hs : s.Synced) {c' : Nat} (hf : ∀ y ∈ s.conns, y.id ≠ c') (a σ : String)
    (t : Time) (id₁ : Val) (impl ver : Option String) :
    DupReady s ((s.step (.connect c')).step (.recv c' t id₁ (.bind (some a) (some σ) impl ver))) c' a σ ∧
    (s.step (.connect c')).out = [.frame c' (.welcome s.cfg.welcome) true] ∧
    ∃ commits, (∀ e ∈ commits, IsCommit e) ∧
      ((s.step (.connect c')).step (.recv c' t id₁ (.bind (some a) (some σ) impl ver))).out =
        .frame c' (.ack id₁) true :: commits := by
  have hsy : s.synced = true := (synced_iff s).2 hs
  have hfind : ({ s.step (.connect c') with out := [], snaps := [] } : Sys).findConn c' = some { id := c' } :=
    find_append_fresh hf _ rfl
  have hstep : (s.step (.connect c')).step (.recv c' t id₁ (.bind (some a) (some σ) impl ver)) =
      ((({ s.step (.connect c') with out := [], snaps := [] } : Sys).send c' (.ack id₁)).updConn c'
        (fun y => { y with app := some a, side := some σ })).logClientVersion a σ t impl ver := by
    rw [step_recv]
    unfold onMessage
    rw [hfind]
    simp [handleBind]
  rw [hstep]
  refine ⟨⟨?_, ?_, ?_, ?_, ?_⟩, by rw [(C17_welcome s c').1, hsy], ?_⟩
  · rw [logClientVersion_db]; rfl
  · rw [logClientVersion_disk]; rfl
  · rw [logClientVersion_cfg]; rfl
  · rw [logClientVersion_conns]
    exact map_append_fresh hf _ rfl _
  · exact logClientVersion_usync _ _ _ _ _ _ hs.2
  · obtain ⟨l, hl, hcl⟩ := CExt.logClientVersion (OutExt.refl (s := (({ s.step (.connect c') with out := [], snaps := [] }
      : Sys).send c' (.ack id₁)).updConn c' (fun y => { y with app := some a, side := some σ })))
      (app := a) (side := σ) (t := t) (impl := impl) (version := ver)
    refine ⟨l, hcl, ?_⟩
    rw [hl]
    show ([] ++ [Event.frame c' (.ack id₁) s.synced]) ++ l = _
    rw [hsy]
    rfl

/-! ### `drop` -/

/-- **the last operation of the duplicate**: dropping `c'` from a connection table that is the
    one of `s` plus one record of `c'` gives back the table of `s`; nothing else changes and no
    event is emitted. -/
theorem dup_drop {s sc : Sys} {c' : Nat} (hf : ∀ y ∈ s.conns, y.id ≠ c') {y : Conn} (hy : y.id = c')
    (hc : sc.conns = s.conns ++ [y]) :
    let sd := sc.step (.drop c')
    sd.conns = s.conns ∧ sd.db = sc.db ∧ sd.disk = sc.disk ∧ sd.cfg = sc.cfg ∧ sd.udb = sc.udb ∧
    sd.udisk = sc.udisk ∧ sd.out = [] := by
  refine ⟨?_, rfl, rfl, rfl, rfl, rfl, rfl⟩
  show sc.conns.filter (fun x => ¬ x.id = c') = s.conns
  rw [hc]
  exact filter_append_fresh hf y hy

/-! ### the third operation: `claim` -/

/-- **the re-sent `claim`.**  `s`: a state with nothing uncommitted whose database is in the state a
    successful claim of `(a, n)` by side `σ` at `t` left (`ClaimDone`, see `claimNameplate_ok_done`).
    Then `claim n` on the duplicate's connection at `t`, with ANY generated id `f'`, is answered
    `claimed m`, and the channel database is unchanged. -/
theorem dup_claim {s : Sys} {c' : Nat} {a σ : String} (hs : s.Synced)
    (hf : ∀ y ∈ s.conns, y.id ≠ c') (hP : s.db.PInv) {n m : String} {t : Time}
    (hD : s.db.ClaimDone a n σ m t) (id : Val) (f' : String) :
    Step3 s c' a σ t id (.claim (some n) f') s.db [.frame c' (.claimed m) true] := by
  intro sb hR sc hsc
  subst hsc
  have hPb : sb.db.PInv := by rw [hR.db]; exact hP
  obtain ⟨s1, r, e, ⟨commits, hc, hout⟩, hdb, hsy, hconns⟩ := claim_step hPb (hR.synced hs) (hR.findConn hf)
    (name := n) (fresh := f') (by simp [rejectText, needBind, dupConn]) (app := a) rfl t id
  obtain ⟨rfl, e1, e3⟩ := claimNameplate_again_eq e hPb (by rw [hR.db]; exact hD)
  exact ⟨hdb.trans (e1.trans hR.db), hsy, (step_cfg sb _).trans hR.cfg,
    ⟨_, hconns.trans (e3.trans (hR.map_conns hf _)), rfl⟩, commits, hc, hout⟩

/-! ### the third operation: `release` -/

theorem step_release_eq {s : Sys} {c : Nat} {x : Conn} {a : String} (t : Time) (id : Val) (nm : Option String)
    (hx : s.findConn c = some x) (ha : x.app = some a) (hnr : rejectText x (.release nm) = none) :
    ∃ n, Np.releaseTarget x nm = some n ∧
      s.step (.recv c t id (.release nm)) =
        match (((({ s with out := [], snaps := [] } : Sys).send c (.ack id)).updConn c
            (fun y => { y with didRelease := true })).releaseNameplate a n (x.side.getD "") t) with
        | (s1, true) => s1.send c .released
        | (s1, false) => s1.internalErr c "IndexError" := by
  have hid := findConn_id hx
  simp only [rejectText, needBind, ha] at hnr
  have hd : x.didRelease = false := by
    cases h : x.didRelease
    · rfl
    · simp [h] at hnr
  simp only [hd] at hnr
  rw [step_recv]
  unfold Sys.onMessage
  have : ({ s with out := [], snaps := [] } : Sys).findConn c = some x := hx
  rw [this]
  simp only [ha]
  unfold Sys.handleRelease
  simp only [hd, hid]
  cases nm with
  | some n =>
    refine ⟨n, rfl, ?_⟩
    cases hh : x.nameplateId with
    | none => simp; rfl
    | some held =>
      simp only [hh] at hnr
      have : n = held := by
        apply Classical.byContradiction
        intro hne
        simp [hne] at hnr
      subst this
      simp; rfl
  | none =>
    cases hh : x.nameplateId with
    | none => simp [hh] at hnr
    | some held => exact ⟨held, by simp [Np.releaseTarget, hh], by simp; rfl⟩

/-- **`release`, the whole step** (validation passed, nothing uncommitted): `release_nameplate` is called on `s`
    with the record of `c` marked; it returns normally in a state `s1` with nothing uncommitted, the step is `s1` plus
    the answer, and the output is exactly `ack, commits, released` -/
theorem release_whole {s : Sys} (hS : s.Synced) {c : Nat} {x : Conn} {a : String} (t : Time) (id : Val)
    (nm : Option String) (hx : s.findConn c = some x) (ha : x.app = some a)
    (hnr : rejectText x (.release nm) = none) :
    ∃ (n : String) (s1 : Sys), Np.releaseTarget x nm = some n ∧
      ((({ s with out := [], snaps := [] } : Sys).send c (.ack id)).updConn c
        (fun y => { y with didRelease := true })).releaseNameplate a n (x.side.getD "") t = (s1, true) ∧
      s.step (.recv c t id (.release nm)) = s1.send c .released ∧ s1.Synced ∧
      ∃ commits, (∀ e ∈ commits, IsCommit e) ∧
        (s.step (.recv c t id (.release nm))).out = .frame c (.ack id) true :: (commits ++ [.frame c .released true]) := by
  obtain ⟨n, hn, hstep⟩ := step_release_eq t id nm hx ha hnr
  rw [hstep]
  generalize hX : ((({ s with out := [], snaps := [] } : Sys).send c (.ack id)).updConn c
    (fun y => { y with didRelease := true })) = X
  have hXS : X.Synced := by rw [← hX]; exact hS
  have hXout : X.out = [.frame c (.ack id) true] := by
    rw [← hX]
    show [Event.frame c (.ack id) s.synced] = _
    rw [(synced_iff s).2 hS]
  cases e : X.releaseNameplate a n (x.side.getD "") t with
  | mk s1 b1 =>
    obtain ⟨rfl, _, _⟩ := Np.releaseNameplate_exact e
    obtain ⟨_, _, hsy⟩ := releaseNameplate_spec e
    have hcx := CExt.releaseNameplate (OutExt.refl (s := X)) (app := a) (name := n) (side := x.side.getD "") (t := t)
    rw [e] at hcx
    obtain ⟨commits, hout, hc⟩ := hcx
    refine ⟨n, s1, hn, e, rfl, hsy hXS, commits, hc, ?_⟩
    show s1.out ++ [Event.frame c .released s1.synced] = _
    rw [(synced_iff s1).2 (hsy hXS), hout, hXout]
    simp

/-- **the re-sent `release`.**  `s`: a state with nothing uncommitted whose database is the one a
    call `release_nameplate(a, n, σ, t)` left (from a database satisfying the invariant).  Then `release n`
    on the duplicate's connection (at any time) is answered `released`, and the channel database is
    unchanged. -/
theorem dup_release {s : Sys} {c' : Nat} {a σ : String} (hs : s.Synced)
    (hf : ∀ y ∈ s.conns, y.id ≠ c') {s0 s1 : Sys} {n : String} {t : Time} {b : Bool} (hP0 : s0.db.PInv)
    (h0 : s0.releaseNameplate a n σ t = (s1, b)) (hdb : s.db = s1.db) (t' : Time) (id : Val) :
    Step3 s c' a σ t' id (.release (some n)) s.db [.frame c' .released true] := by
  intro sb hR sc hsc
  subst hsc
  obtain ⟨n', s1, hn', e, hstep, hsy, hout⟩ := release_whole (hR.synced hs) t' id
    (some n) (hR.findConn hf) (a := a) rfl (by simp [rejectText, needBind, dupConn])
  cases hn'
  obtain ⟨_, e1, e3⟩ := releaseNameplate_again e hP0 h0 (hR.db.trans hdb)
  exact ⟨by rw [hstep]; exact e1.trans hR.db, by rw [hstep]; exact hsy, (step_cfg sb _).trans hR.cfg,
    ⟨_, by rw [hstep]; exact e3.trans (hR.map_conns hf _), rfl⟩, hout⟩

/-! ### the third operation: `open` -/

theorem filter_isFrame_answer {c : Nat} {id : Val} {commits rest : List Event} (hc : ∀ e ∈ commits, IsCommit e)
    (hr : ∀ e ∈ rest, e.isFrame = true) :
    (Event.frame c (.ack id) true :: (commits ++ rest)).filter Event.isFrame = .frame c (.ack id) true :: rest := by
  have h1 : commits.filter Event.isFrame = [] := by
    rw [List.filter_eq_nil_iff]
    intro e he
    obtain ⟨w, rfl⟩ := hc e he
    simp [Event.isFrame]
  have h2 : rest.filter Event.isFrame = rest := List.filter_eq_self.2 hr
  simp [List.filter_cons, Event.isFrame, List.filter_append, h1, h2]

theorem replayFrames_frames (d : Chan) (c : Nat) (a m : String) :
    ∀ e ∈ replayFrames d c a m, ∃ f, e = .frame c f true := by
  intro e he
  simp only [replayFrames, List.mem_map] at he
  obtain ⟨_, _, rfl⟩ := he
  exact ⟨_, rfl⟩

theorem replayFrames_isFrame (d : Chan) (c : Nat) (a m : String) : ∀ e ∈ replayFrames d c a m, e.isFrame = true := by
  intro e he
  obtain ⟨f, rfl⟩ := replayFrames_frames d c a m e he
  rfl

/-- **the re-sent `open`.**  `s`: a state with nothing uncommitted whose database is the one a
    successful `open_mailbox(a, m, σ, t)` left (`openDb` of some database, at most two side rows).
    Then `open m` on the duplicate's connection at `t` is answered with the replay of the stored messages of
    `(a, m)` — the frames `replayFrames s.db · a m` that the first open got, addressed to `c'`; the channel
    database is unchanged (`c'` is subscribed until it is dropped). -/
theorem dup_open {s : Sys} {c' : Nat} {a σ : String} (hs : s.Synced)
    (hf : ∀ y ∈ s.conns, y.id ≠ c') (hP : s.db.PInv) {d0 : Chan} {m : String} {t : Time}
    (hd : s.db = d0.openDb a m σ t) (hlen : (s.db.mbSidesOf m).length ≤ 2) (id : Val) :
    Step3 s c' a σ t id (.open_ (some m)) s.db (replayFrames s.db c' a m) := by
  intro sb hR sc hsc
  subst hsc
  have hbox : sb.db.HasBox a m := by rw [hR.db, hd]; exact Chan.openDb_hasBox _ _ _ _ _
  have hidem : sb.db.openDb a m σ t = s.db := by rw [hR.db, hd]; exact Chan.openDb_idem _ _ _ _ _
  obtain ⟨_, _, h3⟩ := open_step (s := sb) (by rw [hR.db]; exact hP) (hR.synced hs) (hR.findConn hf) (mb := m)
    (by simp [rejectText, needBind, dupConn]) (app := a) rfl t id
  rw [show (dupConn c' a σ).side.getD "" = σ from rfl, hidem] at h3
  obtain ⟨hout, hdb, hsy, _, hcfg, _, hconns⟩ := h3 (fun hc => hc.2 hbox) (by omega)
  exact ⟨hdb, hsy, hcfg.trans hR.cfg, ⟨_, hconns.trans (hR.map_conns hf _), rfl⟩, hout⟩

/-! ### the third operation: `close` -/

theorem dupConn_close_valid (c' : Nat) (a σ m : String) (mood : Option String) :
    rejectText (dupConn c' a σ) (.close (some m) mood) = none := by
  simp [rejectText, needBind, dupConn]

theorem dupConn_closeTarget (c' : Nat) (a σ m : String) : (dupConn c' a σ).closeTarget (some m) = some m := by
  simp [Conn.closeTarget, Conn.closeName, dupConn]

theorem dupConn_closePre (sb : Sys) (c' : Nat) (a σ m : String) (t : Time) :
    closePre sb (dupConn c' a σ) a m t = sb.db.openDb a m σ t := by
  simp [closePre, dupConn]

/-- **the re-sent `close`, the mailbox is gone.**  `s`: a state with nothing uncommitted satisfying
    the invariants in which no mailbox row has id `m` (the close deleted it) and hence no
    connection holds a handle on it.  Then `close m mood` on the duplicate's connection is answered `closed`;
    the implicit `open_mailbox` creates the mailbox row and a side row and `Mailbox.close` deletes them
    again within the step: the channel database is unchanged.  (With a usage database one usage
    `mailboxes` row is written: the usage database is not part of the stored channel state.) -/
theorem dup_close_gone {s : Sys} {c' : Nat} {a σ : String} (hs : s.Synced)
    (hf : ∀ y ∈ s.conns, y.id ≠ c') (hP : s.db.PInv) (hN : s.db.NpHasSide) {m : String}
    (hgone : ¬ s.db.HasId m) (hH : ∀ y ∈ s.conns, y.mailbox ≠ some m) (mood : Option String) (t : Time) (id : Val) :
    Step3 s c' a σ t id (.close (some m) mood) s.db [.frame c' .closed true] := by
  intro sb hR sc hsc
  subst hsc
  obtain ⟨_, _, h3⟩ := close_step (s := sb) (by rw [hR.db]; exact hP) (by rw [hR.db]; exact hN) (hR.synced hs)
    (hR.findConn hf) (dupConn_close_valid c' a σ m mood) (app := a) rfl (dupConn_closeTarget c' a σ m) t id
  rw [dupConn_closePre, show (dupConn c' a σ).side.getD "" = σ from rfl, hR.db] at h3
  have hgo : ¬ ((dupConn c' a σ).mailbox = none ∧
      (s.db.Clash a m ∨ ((s.db.openDb a m σ t).mbSidesOf m).length > 2)) := by
    obtain ⟨h1, h2⟩ := hP.openDb_of_gone hgone a σ t
    rintro ⟨_, hk | hk⟩
    · exact h1 hk
    · omega
  obtain ⟨hout, hdb, hsy, hcfg, _, _, hdel⟩ := h3 hgo
  obtain ⟨hconns, _⟩ := hdel (Chan.openDb_hasBox _ _ _ _ _) (Chan.openDb_findMbSide_ne_none _ _ _ _ _)
    (hP.not_otherOpen_openDb_of_gone hgone a σ t)
  refine ⟨by rw [hdb, Chan.closeDb_openDb_gone hP hgone], hsy, hcfg.trans hR.cfg,
    ⟨closerUpd (dupConn c' a σ), ?_, rfl⟩, hout⟩
  -- no other connection holds a handle on `m`: the stop callbacks of the deletion change no record
  rw [hconns, hR.conns]
  unfold closeConnsDel
  rw [List.map_append]
  congr 1
  · apply Chan.map_eq_self
    intro y hy
    rw [if_neg (hf y hy), if_neg]
    rintro ⟨_, _, hk⟩
    exact hH y hy hk
  · simp [dupConn]

/-- **the re-sent `close`, the mailbox survived** (another side still has it open) — findings
    K-close-touch and K-crowded-rejoin.  `s`: a state with nothing uncommitted satisfying the
    invariants whose database is in the state a close of `(a, m)` by side `σ` with mood `mood` left
    (`CloseSurvived`), with AT MOST TWO side rows on `m` (guard of K-crowded-rejoin, see
    `dup_close_crowded`).  Then `close m mood` (same mood) on the duplicate's connection at `t` is answered
    `closed`, and the channel database is `touch m t` of the one before: all five tables and the counter are
    unchanged EXCEPT the column `updated` of the mailbox row `m`, which becomes `t` (K-close-touch). -/
theorem dup_close_survived {s : Sys} {c' : Nat} {a σ : String} (hs : s.Synced)
    (hf : ∀ y ∈ s.conns, y.id ≠ c') (hP : s.db.PInv) (hN : s.db.NpHasSide) {m : String} {mood : Option String}
    (hSv : s.db.CloseSurvived a m σ mood) (hlen : (s.db.mbSidesOf m).length ≤ 2) (t : Time) (id : Val) :
    Step3 s c' a σ t id (.close (some m) mood) (s.db.touch m t) [.frame c' .closed true] := by
  intro sb hR sc hsc
  subst hsc
  obtain ⟨_, _, h3⟩ := close_step (s := sb) (by rw [hR.db]; exact hP) (by rw [hR.db]; exact hN) (hR.synced hs)
    (hR.findConn hf) (dupConn_close_valid c' a σ m mood) (app := a) rfl (dupConn_closeTarget c' a σ m) t id
  rw [dupConn_closePre, show (dupConn c' a σ).side.getD "" = σ from rfl, hR.db] at h3
  have hgo : ¬ ((dupConn c' a σ).mailbox = none ∧
      (s.db.Clash a m ∨ ((s.db.openDb a m σ t).mbSidesOf m).length > 2)) := by
    rintro ⟨_, hk | hk⟩
    · exact hk.2 hSv.box
    · rw [hSv.openDb_mbSidesOf] at hk; omega
  obtain ⟨hout, hdb, hsy, hcfg, _, hsurv, _⟩ := h3 hgo
  obtain ⟨hconns, _⟩ := hsurv (fun hk => hk.2.2 ((Chan.otherOpen_openDb _ _ _ _ _).2 hSv.other))
  exact ⟨by rw [hdb, Chan.closeDb_openDb_survived hP.mbIds hSv], hsy, hcfg.trans hR.cfg,
    ⟨_, hconns.trans (hR.map_conns hf closerUpd), rfl⟩, hout⟩

/-- **K-crowded-rejoin for the re-sent `close`**: the same situation with MORE than two side rows on
    `m` (a third side has touched the mailbox): the re-sent close of one of the first two sides is
    answered `crowded`, not `closed`. -/
theorem dup_close_crowded {s sb : Sys} {c' : Nat} {a σ : String} (hR : DupReady s sb c' a σ) (hs : s.Synced)
    (hf : ∀ y ∈ s.conns, y.id ≠ c') (hP : s.db.PInv) (hN : s.db.NpHasSide) {m : String} {mood : Option String}
    (hSv : s.db.CloseSurvived a m σ mood) (hlen : (s.db.mbSidesOf m).length > 2) (t : Time) (id : Val) :
    ∃ commits, (∀ e ∈ commits, IsCommit e) ∧
      (sb.step (.recv c' t id (.close (some m) mood))).out =
        .frame c' (.ack id) true :: (commits ++ [.frame c' (.error "crowded") true]) := by
  obtain ⟨_, h2, _⟩ := close_step (s := sb) (by rw [hR.db]; exact hP) (by rw [hR.db]; exact hN) (hR.synced hs)
    (hR.findConn hf) (dupConn_close_valid c' a σ m mood) (app := a) rfl (dupConn_closeTarget c' a σ m) t id
  rw [dupConn_closePre, hR.db] at h2
  exact (h2 rfl (fun hk => hk.2 hSv.box) (by rw [hSv.openDb_mbSidesOf]; exact hlen)).1

end Sys
end Wormhole
