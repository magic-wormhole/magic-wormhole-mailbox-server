/-
  Two-run simulation for K-close-touch: the handlers of Ws.lean and one operation preserve `Sys.TchRel`.
-/
import Wormhole.Inv.TchCore

namespace Wormhole
namespace Sys

variable {u t : Time} {m ap : String} {b a : Sys}

theorem TchRel.foldl_send {α : Type} (g : α → Nat) (fr : α → Frame) (l : List α) :
    ∀ {b a : Sys}, TchRel u t m ap b a →
      TchRel u t m ap (l.foldl (fun s x => s.send (g x) (fr x)) b) (l.foldl (fun s x => s.send (g x) (fr x)) a) := by
  induction l with
  | nil => intro b a h; exact h
  | cons x l ih => intro b a h; exact ih (h.send _ _)

theorem TchRel.handlePing (h : TchRel u t m ap b a) (c : Nat) (v : Option Val) :
    TchRel u t m ap (b.handlePing c v) (a.handlePing c v) := by
  unfold Sys.handlePing
  cases v with
  | none => exact h.sendError _ _
  | some v => exact h.send _ _

theorem TchRel.handleBind (h : TchRel u t m ap b a) (x : Conn) (t' : Time) (app side impl version : Option String) :
    TchRel u t m ap (b.handleBind x t' app side impl version) (a.handleBind x t' app side impl version) := by
  unfold Sys.handleBind
  split
  · exact h.sendError _ _
  · cases app with
    | none => exact h.sendError _ _
    | some ap' =>
      cases side with
      | none => exact h.sendError _ _
      | some sd => exact (h.updConn _ _).logClientVersion _ _ _ _ _

theorem TchRel.handleList (h : TchRel u t m ap b a) (x : Conn) (app : String) :
    TchRel u t m ap (b.handleList x app) (a.handleList x app) := by
  unfold Sys.handleList
  rw [h.cfg, h.db.namesOfApp]
  exact h.send _ _

theorem TchRel.handleAllocate (h : TchRel u t m ap b a) (x : Conn) (app side : String) (t' : Time) (pick : Nat)
    (draws : List Nat) (fresh : String) :
    TchRel u t m ap (b.handleAllocate x app side t' pick draws fresh) (a.handleAllocate x app side t' pick draws fresh) := by
  unfold Sys.handleAllocate
  split
  · exact h.sendError _ _
  · rw [h.db.namesOfApp]
    cases findAvailable (b.db.namesOfApp app) pick draws with
    | none => exact h.internalErr _ _
    | some name =>
      obtain ⟨b1, a1, r, eb, ea, h1⟩ := TchRel.pair (h.claimNameplate app name side t' fresh)
      simp only [eb, ea]
      cases r with
      | ok mb => exact (h1.updConn _ _).send _ _
      | crowded => exact h1.internalErr _ _
      | reclaimed => exact h1.internalErr _ _
      | integrity => exact h1.internalErr _ _

theorem TchRel.handleClaim (h : TchRel u t m ap b a) (x : Conn) (app side : String) (t' : Time)
    (nameplate : Option String) (fresh : String) :
    TchRel u t m ap (b.handleClaim x app side t' nameplate fresh) (a.handleClaim x app side t' nameplate fresh) := by
  unfold Sys.handleClaim
  cases nameplate with
  | none => exact h.sendError _ _
  | some name =>
    dsimp only
    split
    · exact h.sendError _ _
    · obtain ⟨b1, a1, r, eb, ea, h1⟩ := TchRel.pair
        ((h.updConn x.id (fun y => { y with didClaim := true, nameplateId := some name })).claimNameplate
          app name side t' fresh)
      rw [eb, ea]
      cases r with
      | ok mb => exact h1.send _ _
      | crowded => exact h1.sendError _ _
      | reclaimed => exact h1.sendError _ _
      | integrity => exact h1.internalErr _ _

theorem TchRel.releaseWith (h : TchRel u t m ap b a) (x : Conn) (app side : String) (t' : Time) (name : String) :
    TchRel u t m ap (b.releaseWith x app side t' name) (a.releaseWith x app side t' name) := by
  unfold Sys.releaseWith
  obtain ⟨b1, a1, r, eb, ea, h1⟩ := TchRel.pair
    ((h.updConn x.id (fun y => { y with didRelease := true })).releaseNameplate app name side t')
  rw [eb, ea]
  cases r with
  | true => exact h1.send _ _
  | false => exact h1.internalErr _ _

theorem TchRel.handleRelease (h : TchRel u t m ap b a) (x : Conn) (app side : String) (t' : Time)
    (nameplate : Option String) :
    TchRel u t m ap (b.handleRelease x app side t' nameplate) (a.handleRelease x app side t' nameplate) := by
  rw [handleRelease_eq, handleRelease_eq]
  split
  · exact h.sendError _ _
  · split
    · split
      · exact h.sendError _ _
      · exact h.releaseWith _ _ _ _ _
    · exact h.releaseWith _ _ _ _ _
    · exact h.releaseWith _ _ _ _ _
    · exact h.sendError _ _

theorem TchRel.replay (h : TchRel u t m ap b a) (c : Nat) (app mb : String) :
    TchRel u t m ap (b.replay c app mb) (a.replay c app mb) := by
  unfold Sys.replay
  rw [h.db.messagesOf]
  exact TchRel.foldl_send (fun _ => c) (fun x : Message => .message x.side x.phase x.body x.rx x.msgId) _ h

theorem TchRel.handleOpen (h : TchRel u t m ap b a) (x : Conn) (app side : String) (t' : Time)
    (mailbox : Option String) :
    TchRel u t m ap (b.handleOpen x app side t' mailbox) (a.handleOpen x app side t' mailbox) := by
  unfold Sys.handleOpen
  split
  · exact h.sendError _ _
  · cases mailbox with
    | none => exact h.sendError _ _
    | some mb =>
      obtain ⟨b1, a1, r, eb, ea, h1⟩ := TchRel.pair
        ((h.updConn x.id (fun y => { y with mailboxId := some mb })).openMailbox app mb side t')
      simp only [eb, ea]
      cases r with
      | crowded => exact h1.sendError _ _
      | integrity => exact h1.internalErr _ _
      | ok => exact (h1.updConn _ _).replay _ _ _

theorem TchRel.broadcast (h : TchRel u t m ap b a) (app mb : String) (f : Frame) :
    TchRel u t m ap (b.broadcast app mb f) (a.broadcast app mb f) := by
  unfold Sys.broadcast
  rw [h.listeners]
  exact TchRel.foldl_send (fun c => c) (fun _ => f) _ h

theorem TchRel.handleAdd (h : TchRel u t m ap b a) (x : Conn) (app side : String) (t' : Time) (id : Val)
    (phase body : Option Val) :
    TchRel u t m ap (b.handleAdd x app side t' id phase body) (a.handleAdd x app side t' id phase body) := by
  unfold Sys.handleAdd
  cases x.mailbox with
  | none => exact h.sendError _ _
  | some mb =>
    dsimp only
    cases phase with
    | none => exact h.sendError _ _
    | some ph =>
      cases body with
      | none => exact h.sendError _ _
      | some bd => exact (h.addMessage app mb side ph bd t' id).broadcast _ _ _

/-- `handle_close` from its (possibly implicit) open on: the two opens return the same result and handle -/
theorem TchRel.closeFinish_closeOpened (h : TchRel u t m ap b a) (x : Conn) (app side : String) (t' : Time)
    (mood : Option String) (mb : String) :
    TchRel u t m ap (closeFinish x app side t' mood (b.closeOpened x app side t' mb))
      (closeFinish x app side t' mood (a.closeOpened x app side t' mb)) := by
  obtain ⟨b1, a1, r, hd, eb, ea, h1⟩ : ∃ b1 a1 r hd, b.closeOpened x app side t' mb = (b1, r, hd) ∧
      a.closeOpened x app side t' mb = (a1, r, hd) ∧ TchRel u t m ap b1 a1 := by
    unfold Sys.closeOpened
    cases x.mailbox with
    | some hd => exact ⟨_, _, _, _, rfl, rfl, h⟩
    | none =>
      obtain ⟨b1, a1, r, eb, ea, h1⟩ := TchRel.pair (h.openMailbox app mb side t')
      simp only [eb, ea]
      exact ⟨_, _, _, _, rfl, rfl, h1.updConn _ _⟩
  rw [eb, ea]
  cases r with
  | crowded => exact h1.sendError _ _
  | integrity => exact h1.internalErr _ _
  | ok =>
    obtain ⟨b3, a3, r, eb, ea, h2⟩ := TchRel.pair
      ((h1.updConn x.id (fun y => { y with listening := false, didClose := true })).mailboxClose app hd side mood t')
    simp only [closeFinish, eb, ea]
    cases r with
    | false => exact h2.internalErr _ _
    | true => exact (h2.updConn _ _).send _ _

theorem TchRel.handleClose (h : TchRel u t m ap b a) (x : Conn) (app side : String) (t' : Time)
    (mailbox mood : Option String) :
    TchRel u t m ap (b.handleClose x app side t' mailbox mood) (a.handleClose x app side t' mailbox mood) := by
  rw [handleClose_eq, handleClose_eq]
  split
  · exact h.sendError _ _
  · split
    · split
      · exact h.sendError _ _
      · exact h.closeFinish_closeOpened _ _ _ _ _ _
    · exact h.closeFinish_closeOpened _ _ _ _ _ _
    · exact h.closeFinish_closeOpened _ _ _ _ _ _
    · exact h.sendError _ _

theorem TchRel.handleBound (h : TchRel u t m ap b a) (c : Nat) (x : Conn) (app : String) (t' : Time) (id : Val)
    (cmd : Cmd) : TchRel u t m ap (b.handleBound c x app t' id cmd) (a.handleBound c x app t' id cmd) := by
  cases cmd with
  | list => exact h.handleList _ _
  | allocate pick draws fresh => exact h.handleAllocate _ _ _ _ _ _ _
  | claim n fresh => exact h.handleClaim _ _ _ _ _ _
  | release n => exact h.handleRelease _ _ _ _ _
  | open_ mb => exact h.handleOpen _ _ _ _ _
  | add ph bd => exact h.handleAdd _ _ _ _ _ _ _
  | close mb mood => exact h.handleClose _ _ _ _ _ _
  | _ => exact h.sendError _ _

theorem TchRel.onMessage (h : TchRel u t m ap b a) (c : Nat) (t' : Time) (id : Val) (cmd : Cmd) :
    TchRel u t m ap (b.onMessage c t' id cmd) (a.onMessage c t' id cmd) := by
  rw [onMessage_dispatch, onMessage_dispatch, h.findConn]
  have h1 := h.send c (.ack id)
  split
  · exact h
  · split
    · exact h.sendError _ _
    · exact h1.handlePing _ _
    · exact h1.handleBind _ _ _ _ _ _
    · split
      · exact h1.sendError _ _
      · exact h1.handleBound _ _ _ _ _ _

theorem TchRel.connect (h : TchRel u t m ap b a) (c : Nat) : TchRel u t m ap (b.connect c) (a.connect c) := by
  have e : a.cfg.welcome = b.cfg.welcome := by rw [h.cfg]
  unfold Sys.connect
  rw [e, h.conns]
  exact (h.setConns _).send _ _

theorem TchRel.dropConn (h : TchRel u t m ap b a) (c : Nat) : TchRel u t m ap (b.dropConn c) (a.dropConn c) := by
  unfold Sys.dropConn
  rw [h.conns]
  exact h.setConns _

theorem TchRel.restart (h : TchRel u t m ap b a) (t' : Time) : TchRel u t m ap (b.restart t') (a.restart t') :=
  ⟨h.disk, h.disk, rfl, h.cfg, h.out⟩

/-- the condition on one operation: a non-faulted sweep at `now` either finds somebody subscribed to
    `(ap, m)` or its cutoff does not separate the two stamps -/
def SweepOK (u t : Time) (m ap : String) (b : Sys) (op : Op) : Prop :=
  ∀ now, op = .sweep now false → b.listeners ap m ≠ [] ∨ NoSplit u t (now - Generated.expirationTicks)

theorem TchRel.step (h : TchRel u t m ap b a) (op : Op) (hop : op.isCrash = false) (hs : SweepOK u t m ap b op) :
    TchRel u t m ap (b.step op) (a.step op) := by
  rw [step_eq_of_not_crash b hop, step_eq_of_not_crash a hop]
  have h0 : TchRel u t m ap { b with out := [], snaps := [] } { a with out := [], snaps := [] } :=
    ⟨h.db, h.disk, h.conns, h.cfg, rfl⟩
  cases op with
  | connect c => exact h0.connect c
  | recv c t' id cmd => exact h0.onMessage c t' id cmd
  | drop c => exact h0.dropConn c
  | restart t' => exact h0.restart t'
  | crashIn k op => simp [Op.isCrash] at hop
  | sweep now fault =>
    refine h0.expire now fault ?_
    intro hf
    subst hf
    exact hs now rfl

end Sys
end Wormhole
