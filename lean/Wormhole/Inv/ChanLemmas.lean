/-
  Table-level lemmas: every statement (or block of statements the code runs between two
  look-ups) of server.py preserves the invariants of Inv/Defs.lean, under the guard the code
  establishes before it (select-before-insert, parent exists, children deleted before the
  parent).

  * `PInv.<primitive>`            keys unique, foreign keys resolved, ids bounded;
  * `NpHasSide` / `CInv` lemmas   every nameplate has a side row (re-using Inv/NpOk.lean);
  * `SExtra.<...>`                the crash-free strengthening (claimed side / opened side);
  * `HasMb`, `MbAll`              which mailbox rows exist / what all mailbox rows satisfy;
  * `DelNameplatesOk`, `DelMailboxOk`   the FOREIGN KEY facts that make SQLite accept each DELETE.
-/
import Wormhole.Inv.NpOk

namespace Wormhole
namespace Chan

def HasMb (d : Chan) (app mb : String) : Prop := ∃ m ∈ d.mailboxes, m.id = mb ∧ m.app = app

def MbAll (Q : MailboxRow → Prop) (d : Chan) : Prop := ∀ m ∈ d.mailboxes, Q m

/-- what `SInv` adds to `CInv` -/
structure SExtra (d : Chan) : Prop where
  npClaimed : ∀ n ∈ d.nameplates, ∃ r ∈ d.npSides, r.npid = n.id ∧ r.claimed = true
  mbOpened : ∀ m ∈ d.mailboxes, ∃ r ∈ d.mbSides, r.mailbox = m.id ∧ r.opened = true

theorem SInv.of {d : Chan} (c : d.CInv) (e : d.SExtra) : d.SInv := ⟨c, e.npClaimed, e.mbOpened⟩
theorem SInv.sextra {d : Chan} (h : d.SInv) : d.SExtra := ⟨h.npClaimed, h.mbOpened⟩

/-! ### what the SELECTs tell -/

section selects
variable {d : Chan}

theorem findMailbox_some {app id : String} {row : MailboxRow} (h : d.findMailbox app id = some row) :
    row ∈ d.mailboxes ∧ row.app = app ∧ row.id = id := of_find?_some h

theorem findMailbox_hasMb {app id : String} {row : MailboxRow} (h : d.findMailbox app id = some row) :
    d.HasMb app id := by
  obtain ⟨a, b, c⟩ := findMailbox_some h
  exact ⟨row, a, c, b⟩

theorem findMailbox_none {app id : String} (h : d.findMailbox app id = none) : ¬ d.HasMb app id := by
  simp only [findMailbox, List.find?_eq_none, decide_eq_true_eq, not_and] at h
  rintro ⟨m, hm, h1, h2⟩
  exact h m hm h2 h1

theorem findMailbox_isSome_of_hasMb {app id : String} (h : d.HasMb app id) :
    ∃ row, d.findMailbox app id = some row := by
  cases e : d.findMailbox app id with
  | none => exact absurd h (findMailbox_none e)
  | some row => exact ⟨row, rfl⟩

theorem findMailboxById_none {id : String} (h : d.findMailboxById id = none) :
    ∀ m ∈ d.mailboxes, ¬ m.id = id := by
  simpa only [findMailboxById, List.find?_eq_none, decide_eq_true_eq] using h

theorem findMailboxById_some {id : String} {row : MailboxRow} (h : d.findMailboxById id = some row) :
    row ∈ d.mailboxes ∧ row.id = id := of_find?_some h

theorem findNameplate_none {app name : String} (h : d.findNameplate app name = none) :
    ∀ n ∈ d.nameplates, ¬ (n.app = app ∧ n.name = name) := by
  simpa only [findNameplate, List.find?_eq_none, decide_eq_true_eq] using h

theorem findNameplate_some {app name : String} {row : Nameplate} (h : d.findNameplate app name = some row) :
    row ∈ d.nameplates ∧ row.app = app ∧ row.name = name := of_find?_some h

theorem findNpSide_none {npid : Nat} {side : String} (h : d.findNpSide npid side = none) :
    ∀ r ∈ d.npSides, ¬ (r.npid = npid ∧ r.side = side) := by
  simpa only [findNpSide, List.find?_eq_none, decide_eq_true_eq] using h

theorem findNpSide_some {npid : Nat} {side : String} {r : NpSide} (h : d.findNpSide npid side = some r) :
    r ∈ d.npSides ∧ r.npid = npid ∧ r.side = side := of_find?_some h

theorem findMbSide_none {mb side : String} (h : d.findMbSide mb side = none) :
    ∀ r ∈ d.mbSides, ¬ (r.mailbox = mb ∧ r.side = side) := by
  simpa only [findMbSide, List.find?_eq_none, decide_eq_true_eq] using h

theorem findMbSide_some {mb side : String} {r : MbSide} (h : d.findMbSide mb side = some r) :
    r ∈ d.mbSides ∧ r.mailbox = mb ∧ r.side = side := of_find?_some h

end selects

theorem PInv.mb_app_unique {d : Chan} (h : d.PInv) {a b mb : String} (ha : d.HasMb a mb) (hb : d.HasMb b mb) :
    a = b := by
  obtain ⟨m, hm, e1, e2⟩ := ha
  obtain ⟨m', hm', e1', e2'⟩ := hb
  have := eq_of_pairwise_ne (f := MailboxRow.id) h.mbIds hm hm' (by rw [e1, e1'])
  subst this
  rw [← e2, ← e2']

theorem PInv.np_app_of_mailbox {d : Chan} (h : d.PInv) {app mb : String} (hm : d.HasMb app mb)
    {n : Nameplate} (hn : n ∈ d.nameplates) (e : n.mailbox = mb) : n.app = app := by
  obtain ⟨m, hm', e1, e2⟩ := h.npMb n hn
  exact h.mb_app_unique ⟨m, hm', e1.trans e, e2⟩ hm

/-! ### INSERTs -/

/-- `INSERT INTO mailboxes`: accepted (PRIMARY KEY) when no row has that id -/
theorem PInv.insMailbox {d : Chan} (h : d.PInv) {r : MailboxRow} (hfree : d.findMailboxById r.id = none) :
    (d.insMailbox r).PInv := by
  obtain ⟨h1, h2, h3, h4, h5, h6, h7, h8, h9, h10⟩ := h
  have up : ∀ {m : MailboxRow}, m ∈ d.mailboxes → m ∈ (d.insMailbox r).mailboxes := List.mem_append_left _
  exact ⟨h1, h2, h3, pairwise_concat.2 ⟨h4, findMailboxById_none hfree⟩,
    fun n hn => (h5 n hn).imp fun _ hm => ⟨up hm.1, hm.2⟩, h6, h7,
    fun r' hr' => (h8 r' hr').imp fun _ hm => ⟨up hm.1, hm.2⟩, h9,
    fun r' hr' => (h10 r' hr').imp fun _ hm => ⟨up hm.1, hm.2⟩⟩

/-- `INSERT INTO nameplates`: after the SELECT found no row `(app, name)`, with the mailbox row
    `(app, mb)` in place (FOREIGN KEY) -/
theorem PInv.insNameplate {d : Chan} (h : d.PInv) {app name mb : String}
    (hfree : d.findNameplate app name = none) (hmb : d.HasMb app mb) :
    (d.insNameplate app name mb).PInv := by
  obtain ⟨h1, h2, ⟨b1, b2⟩, h4, h5, h6, h7, h8, h9, h10⟩ := h
  exact ⟨pairwise_concat.2 ⟨h1, fun a ha => Nat.ne_of_lt (b1 a ha)⟩,
    pairwise_concat.2 ⟨h2, findNameplate_none hfree⟩,
    ⟨forall_mem_concat.2 ⟨fun n hn => Nat.lt_succ_of_lt (b1 n hn), Nat.lt_succ_self _⟩,
      fun r hr => Nat.lt_succ_of_lt (b2 r hr)⟩,
    h4, forall_mem_concat.2 ⟨h5, hmb⟩,
    fun r hr => (h6 r hr).imp fun _ hn => ⟨List.mem_append_left _ hn.1, hn.2⟩, h7, h8, h9, h10⟩

/-- `INSERT INTO nameplate_sides`: after the SELECT found no row `(npid, side)`, for an existing
    nameplate (FOREIGN KEY) -/
theorem PInv.insNpSide {d : Chan} (h : d.PInv) {r : NpSide}
    (hfree : d.findNpSide r.npid r.side = none) (hnp : ∃ n ∈ d.nameplates, n.id = r.npid) :
    (d.insNpSide r).PInv := by
  obtain ⟨h1, h2, ⟨b1, b2⟩, h4, h5, h6, h7, h8, h9, h10⟩ := h
  obtain ⟨n, hn, e⟩ := hnp
  exact ⟨h1, h2, ⟨b1, forall_mem_concat.2 ⟨b2, e ▸ b1 n hn⟩⟩, h4, h5, forall_mem_concat.2 ⟨h6, n, hn, e⟩,
    pairwise_concat.2 ⟨h7, findNpSide_none hfree⟩, h8, h9, h10⟩

/-- `INSERT INTO mailbox_sides`: after the SELECT found no row `(mb, side)`, for an existing
    mailbox (FOREIGN KEY) -/
theorem PInv.insMbSide {d : Chan} (h : d.PInv) {r : MbSide}
    (hfree : d.findMbSide r.mailbox r.side = none) (hmb : ∃ m ∈ d.mailboxes, m.id = r.mailbox) :
    (d.insMbSide r).PInv := by
  obtain ⟨h1, h2, h3, h4, h5, h6, h7, h8, h9, h10⟩ := h
  exact ⟨h1, h2, h3, h4, h5, h6, h7, forall_mem_concat.2 ⟨h8, hmb⟩,
    pairwise_concat.2 ⟨h9, findMbSide_none hfree⟩, h10⟩

/-- `INSERT INTO messages` for an existing mailbox of the same app -/
theorem PInv.insMessage {d : Chan} (h : d.PInv) {r : Message} (hmb : d.HasMb r.app r.mailbox) :
    (d.insMessage r).PInv :=
  { h with msgFk := forall_mem_concat.2 ⟨h.msgFk, hmb⟩ }

/-! ### UPDATEs (no key column is written) -/

theorem PInv.mapMailboxes {d : Chan} (h : d.PInv) (f : MailboxRow → MailboxRow)
    (hf : ∀ r, (f r).id = r.id ∧ (f r).app = r.app) :
    ({ d with mailboxes := d.mailboxes.map f } : Chan).PInv := by
  obtain ⟨h1, h2, h3, h4, h5, h6, h7, h8, h9, h10⟩ := h
  refine ⟨h1, h2, h3, ?_, ?_, h6, h7, ?_, h9, ?_⟩
  · simp only [List.pairwise_map]
    exact h4.imp (fun {a b} hab => by rw [(hf a).1, (hf b).1]; exact hab)
  · intro n hn
    obtain ⟨m, hm, e1, e2⟩ := h5 n hn
    exact ⟨f m, List.mem_map_of_mem hm, by rw [(hf m).1, e1], by rw [(hf m).2, e2]⟩
  · intro r hr
    obtain ⟨m, hm, e1⟩ := h8 r hr
    exact ⟨f m, List.mem_map_of_mem hm, by rw [(hf m).1, e1]⟩
  · intro r hr
    obtain ⟨m, hm, e1, e2⟩ := h10 r hr
    exact ⟨f m, List.mem_map_of_mem hm, by rw [(hf m).1, e1], by rw [(hf m).2, e2]⟩

theorem PInv.touch {d : Chan} (h : d.PInv) (mb : String) (t : Time) : (d.touch mb t).PInv := by
  apply h.mapMailboxes
  intro r; split <;> simp

theorem PInv.unclaim {d : Chan} (h : d.PInv) (npid : Nat) (side : String) : (d.unclaim npid side).PInv := by
  obtain ⟨h1, h2, ⟨b1, b2⟩, h4, h5, h6, h7, h8, h9, h10⟩ := h
  have key : ∀ r : NpSide, (if r.npid = npid ∧ r.side = side then { r with claimed := false } else r).npid = r.npid ∧
      (if r.npid = npid ∧ r.side = side then { r with claimed := false } else r).side = r.side := by
    intro r; split <;> simp
  refine ⟨h1, h2, ⟨b1, ?_⟩, h4, h5, ?_, ?_, h8, h9, h10⟩
  · intro r hr
    simp only [Chan.unclaim, List.mem_map] at hr
    obtain ⟨r0, hr0, rfl⟩ := hr
    rw [(key r0).1]; exact b2 r0 hr0
  · intro r hr
    simp only [Chan.unclaim, List.mem_map] at hr
    obtain ⟨r0, hr0, rfl⟩ := hr
    rw [(key r0).1]; exact h6 r0 hr0
  · simp only [Chan.unclaim, List.pairwise_map]
    exact h7.imp (fun {a b} hab => by rw [(key a).1, (key a).2, (key b).1, (key b).2]; exact hab)

theorem PInv.closeSide {d : Chan} (h : d.PInv) (mb side : String) (mood : Option String) :
    (d.closeSide mb side mood).PInv := by
  obtain ⟨h1, h2, h3, h4, h5, h6, h7, h8, h9, h10⟩ := h
  have key : ∀ r : MbSide,
      (if r.mailbox = mb ∧ r.side = side then { r with opened := false, mood := mood } else r).mailbox = r.mailbox ∧
      (if r.mailbox = mb ∧ r.side = side then { r with opened := false, mood := mood } else r).side = r.side := by
    intro r; split <;> simp
  refine ⟨h1, h2, h3, h4, h5, h6, h7, ?_, ?_, h10⟩
  · intro r hr
    simp only [Chan.closeSide, List.mem_map] at hr
    obtain ⟨r0, hr0, rfl⟩ := hr
    rw [(key r0).1]; exact h8 r0 hr0
  · simp only [Chan.closeSide, List.pairwise_map]
    exact h9.imp (fun {a b} hab => by rw [(key a).1, (key a).2, (key b).1, (key b).2]; exact hab)

/-! ### DELETE blocks -/

/-- deleting rows cannot break a key or a bound; a FOREIGN KEY survives if, of every row that stays,
    the parent stays -/
theorem PInv.sub {d d' : Chan} (h : d.PInv) (e : d'.nextNp = d.nextNp)
    (sn : d'.nameplates.Sublist d.nameplates) (ss : d'.npSides.Sublist d.npSides)
    (sm : d'.mailboxes.Sublist d.mailboxes) (sb : d'.mbSides.Sublist d.mbSides)
    (sg : d'.messages.Sublist d.messages)
    (fk1 : ∀ n ∈ d'.nameplates, ∀ m ∈ d.mailboxes, m.id = n.mailbox → m ∈ d'.mailboxes)
    (fk2 : ∀ r ∈ d'.npSides, ∀ n ∈ d.nameplates, n.id = r.npid → n ∈ d'.nameplates)
    (fk3 : ∀ r ∈ d'.mbSides, ∀ m ∈ d.mailboxes, m.id = r.mailbox → m ∈ d'.mailboxes)
    (fk4 : ∀ r ∈ d'.messages, ∀ m ∈ d.mailboxes, m.id = r.mailbox → m ∈ d'.mailboxes) : d'.PInv := by
  obtain ⟨h1, h2, ⟨b1, b2⟩, h4, h5, h6, h7, h8, h9, h10⟩ := h
  refine ⟨h1.sublist sn, h2.sublist sn, ⟨fun n hn => e ▸ b1 n (sn.subset hn), fun r hr => e ▸ b2 r (ss.subset hr)⟩,
    h4.sublist sm, fun n hn => ?_, fun r hr => ?_, h7.sublist ss, fun r hr => ?_, h9.sublist sb, fun r hr => ?_⟩
  · obtain ⟨m, hm, e1, e2⟩ := h5 n (sn.subset hn)
    exact ⟨m, fk1 n hn m hm e1, e1, e2⟩
  · obtain ⟨n, hn, e1⟩ := h6 r (ss.subset hr)
    exact ⟨n, fk2 r hr n hn e1, e1⟩
  · obtain ⟨m, hm, e1⟩ := h8 r (sb.subset hr)
    exact ⟨m, fk3 r hr m hm e1, e1⟩
  · obtain ⟨m, hm, e1, e2⟩ := h10 r (sg.subset hr)
    exact ⟨m, fk4 r hr m hm e1, e1, e2⟩

/-- `DELETE FROM nameplate_sides WHERE nameplates_id=?; DELETE FROM nameplates WHERE id=?` -/
theorem PInv.delById {d : Chan} (h : d.PInv) (npid : Nat) :
    ((d.delNpSidesOf npid).delNameplate npid).PInv := by
  refine h.sub rfl List.filter_sublist List.filter_sublist (.refl _) (.refl _) (.refl _) (fun _ _ _ hm _ => hm)
    (fun r hr n hn e => List.mem_filter.2 ⟨hn, ?_⟩) (fun _ _ _ hm _ => hm) (fun _ _ _ hm _ => hm)
  simpa [e] using (List.mem_filter.1 hr).2

/-- the five DELETEs of `Mailbox.close`, for the existing mailbox row `(app, mb)` -/
theorem PInv.closeBlock {d : Chan} (h : d.PInv) {app mb : String} (hmb : d.HasMb app mb) :
    (((((d.delNpSidesOfMailbox app mb).delNameplatesOfMailbox app mb).delMessagesOf mb).delMbSidesOf
      mb).delMailbox mb).PInv := by
  refine h.sub rfl List.filter_sublist List.filter_sublist List.filter_sublist List.filter_sublist
    List.filter_sublist (fun n hn m hm e => List.mem_filter.2 ⟨hm, ?_⟩)
    (fun r hr n hn e => List.mem_filter.2 ⟨hn, ?_⟩) (fun r hr m hm e => List.mem_filter.2 ⟨hm, ?_⟩)
    (fun r hr m hm e => List.mem_filter.2 ⟨hm, ?_⟩)
  · -- a nameplate that stays does not point at `mb`: it would belong to `app`
    obtain ⟨hn, hk⟩ := List.mem_filter.1 hn
    simp only [decide_not, Bool.not_eq_eq_eq_not, Bool.not_true, decide_eq_false_iff_not] at hk ⊢
    exact fun e' => hk ⟨h.np_app_of_mailbox hmb hn (e.symm.trans e'), e.symm.trans e'⟩
  · have hr2 := of_decide_eq_true (List.mem_filter.1 hr).2
    simp only [nameplatesOfMailbox, List.mem_map, List.mem_filter, decide_eq_true_eq, not_exists, not_and] at hr2
    exact decide_eq_true fun ⟨hk1, hk2⟩ => hr2 n ⟨hn, hk1, hk2⟩ e
  · simpa [e] using (List.mem_filter.1 hr).2
  · simpa [e] using (List.mem_filter.1 hr).2

/-- the three DELETEs of one iteration of the mailbox loop of `prune`; guard: no nameplate
    references the mailbox any more (the nameplate loop ran first) -/
theorem PInv.pruneBlock {d : Chan} (h : d.PInv) {mb : String} (hno : ∀ n ∈ d.nameplates, ¬ n.mailbox = mb) :
    (((d.delMessagesOf mb).delMbSidesOf mb).delMailbox mb).PInv := by
  refine h.sub rfl (.refl _) (.refl _) List.filter_sublist List.filter_sublist List.filter_sublist
    (fun n hn m hm e => List.mem_filter.2 ⟨hm, ?_⟩) (fun _ _ _ hn _ => hn)
    (fun r hr m hm e => List.mem_filter.2 ⟨hm, ?_⟩) (fun r hr m hm e => List.mem_filter.2 ⟨hm, ?_⟩)
  · simpa [e] using hno n hn
  · simpa [e] using (List.mem_filter.1 hr).2
  · simpa [e] using (List.mem_filter.1 hr).2

/-! ### `CInv` = `PInv` + `NpOk` -/

theorem CInv.of_pinv_npOk {d : Chan} (p : d.PInv) (n : d.NpOk) : d.CInv := ⟨p, n.hasSide⟩

theorem PInv.npOk {d : Chan} (p : d.PInv) (h : d.NpHasSide) : d.NpOk := ⟨p.bounded, p.npIds, h⟩

/-! ### which mailbox rows exist -/

section hasMb
variable (d : Chan) (a m : String)

@[simp] theorem hasMb_insMbSide (r) : (d.insMbSide r).HasMb a m ↔ d.HasMb a m := Iff.rfl
@[simp] theorem hasMb_insNpSide (r) : (d.insNpSide r).HasMb a m ↔ d.HasMb a m := Iff.rfl
@[simp] theorem hasMb_insMessage (r) : (d.insMessage r).HasMb a m ↔ d.HasMb a m := Iff.rfl
@[simp] theorem hasMb_insNameplate (x y z) : (d.insNameplate x y z).HasMb a m ↔ d.HasMb a m := Iff.rfl
@[simp] theorem hasMb_unclaim (x y) : (d.unclaim x y).HasMb a m ↔ d.HasMb a m := Iff.rfl
@[simp] theorem hasMb_closeSide (x y z) : (d.closeSide x y z).HasMb a m ↔ d.HasMb a m := Iff.rfl
@[simp] theorem hasMb_delNpSidesOf (x) : (d.delNpSidesOf x).HasMb a m ↔ d.HasMb a m := Iff.rfl
@[simp] theorem hasMb_delNameplate (x) : (d.delNameplate x).HasMb a m ↔ d.HasMb a m := Iff.rfl
@[simp] theorem hasMb_delNpSidesOfMailbox (x y) : (d.delNpSidesOfMailbox x y).HasMb a m ↔ d.HasMb a m := Iff.rfl
@[simp] theorem hasMb_delNameplatesOfMailbox (x y) : (d.delNameplatesOfMailbox x y).HasMb a m ↔ d.HasMb a m :=
  Iff.rfl
@[simp] theorem hasMb_delMessagesOf (x) : (d.delMessagesOf x).HasMb a m ↔ d.HasMb a m := Iff.rfl
@[simp] theorem hasMb_delMbSidesOf (x) : (d.delMbSidesOf x).HasMb a m ↔ d.HasMb a m := Iff.rfl

theorem hasMb_insMailbox (r : MailboxRow) :
    (d.insMailbox r).HasMb a m ↔ d.HasMb a m ∨ (r.id = m ∧ r.app = a) := by
  simp only [HasMb, Chan.insMailbox, List.mem_append, List.mem_singleton]
  constructor
  · rintro ⟨x, hx | rfl, e⟩
    · exact Or.inl ⟨x, hx, e⟩
    · exact Or.inr e
  · rintro (⟨x, hx, e⟩ | e)
    · exact ⟨x, Or.inl hx, e⟩
    · exact ⟨r, Or.inr rfl, e⟩

theorem hasMb_mapMailboxes (f : MailboxRow → MailboxRow) (hf : ∀ r, (f r).id = r.id ∧ (f r).app = r.app) :
    ({ d with mailboxes := d.mailboxes.map f } : Chan).HasMb a m ↔ d.HasMb a m := by
  simp only [HasMb, List.mem_map]
  constructor
  · rintro ⟨x, ⟨y, hy, rfl⟩, e⟩
    exact ⟨y, hy, by rw [← (hf y).1, ← (hf y).2]; exact e⟩
  · rintro ⟨y, hy, e⟩
    exact ⟨f y, ⟨y, hy, rfl⟩, by rw [(hf y).1, (hf y).2]; exact e⟩

@[simp] theorem hasMb_touch (mb : String) (t : Time) : (d.touch mb t).HasMb a m ↔ d.HasMb a m := by
  apply hasMb_mapMailboxes
  intro r; split <;> simp

theorem hasMb_delMailbox (mb : String) : (d.delMailbox mb).HasMb a m ↔ d.HasMb a m ∧ ¬ m = mb := by
  simp only [HasMb, Chan.delMailbox, List.mem_filter, decide_not, Bool.not_eq_eq_eq_not, Bool.not_true,
    decide_eq_false_iff_not]
  constructor
  · rintro ⟨x, ⟨hx, hne⟩, e⟩
    exact ⟨⟨x, hx, e⟩, by rw [← e.1]; exact hne⟩
  · rintro ⟨⟨x, hx, e⟩, hne⟩
    exact ⟨x, ⟨hx, by rw [e.1]; exact hne⟩, e⟩

end hasMb

/-! ### what every mailbox row satisfies: its id is known (`U`) and it is not stamped later than `t` -/

def MbQ (U : String → Prop) (t : Time) (d : Chan) : Prop := ∀ m ∈ d.mailboxes, U m.id ∧ m.updated ≤ t

section mbq
variable {U : String → Prop} {t : Time} {d : Chan}

theorem MbQ.of_mailboxes_eq {d' : Chan} (h : d.MbQ U t) (e : d'.mailboxes = d.mailboxes) : d'.MbQ U t := by
  unfold MbQ; rw [e]; exact h

theorem MbQ.insMailbox (h : d.MbQ U t) {r : MailboxRow} (hu : U r.id) (ht : r.updated ≤ t) :
    (d.insMailbox r).MbQ U t := by
  intro m hm
  simp only [Chan.insMailbox, List.mem_append, List.mem_singleton] at hm
  rcases hm with hm | rfl
  · exact h m hm
  · exact ⟨hu, ht⟩

theorem MbQ.touch (h : d.MbQ U t) (mb : String) : (d.touch mb t).MbQ U t := by
  intro m hm
  simp only [Chan.touch, List.mem_map] at hm
  obtain ⟨m0, hm0, rfl⟩ := hm
  have := h m0 hm0
  split
  · exact ⟨this.1, Int.le_refl _⟩
  · exact this

theorem MbQ.delMailbox (h : d.MbQ U t) (mb : String) : (d.delMailbox mb).MbQ U t := by
  intro m hm
  simp only [Chan.delMailbox, List.mem_filter] at hm
  exact h m hm.1

theorem MbQ.mono {U' : String → Prop} {t' : Time} (h : d.MbQ U t) (hu : ∀ x, U x → U' x) (ht : t ≤ t') :
    d.MbQ U' t' := by
  intro m hm
  have := h m hm
  exact ⟨hu _ this.1, Int.le_trans this.2 ht⟩

end mbq

/-! ### the crash-free strengthening -/

section sextra
variable {d : Chan}

theorem SExtra.of_eq {d' : Chan} (h : d.SExtra) (e1 : d'.nameplates = d.nameplates) (e2 : d'.npSides = d.npSides)
    (e3 : d'.mbSides = d.mbSides) (e4 : ∀ m' ∈ d'.mailboxes, ∃ m ∈ d.mailboxes, m.id = m'.id) : d'.SExtra := by
  constructor
  · rw [e1, e2]; exact h.npClaimed
  · intro m' hm'
    obtain ⟨m, hm, e⟩ := e4 m' hm'
    rw [e3, ← e]; exact h.mbOpened m hm

theorem SExtra.mapMailboxes (h : d.SExtra) (f : MailboxRow → MailboxRow) (hf : ∀ r, (f r).id = r.id) :
    ({ d with mailboxes := d.mailboxes.map f } : Chan).SExtra := by
  refine h.of_eq rfl rfl rfl ?_
  intro m' hm'
  simp only [List.mem_map] at hm'
  obtain ⟨m, hm, rfl⟩ := hm'
  exact ⟨m, hm, (hf m).symm⟩

theorem SExtra.touch (h : d.SExtra) (mb : String) (t : Time) : (d.touch mb t).SExtra := by
  apply h.mapMailboxes
  intro r; split <;> simp

theorem SExtra.insMessage (h : d.SExtra) (r : Message) : (d.insMessage r).SExtra :=
  h.of_eq rfl rfl rfl (fun m hm => ⟨m, hm, rfl⟩)

theorem SExtra.insMbSide (h : d.SExtra) (r : MbSide) : (d.insMbSide r).SExtra := by
  refine ⟨h.npClaimed, ?_⟩
  intro m hm
  obtain ⟨r', hr', e⟩ := h.mbOpened m hm
  exact ⟨r', by simp [Chan.insMbSide, hr'], e⟩

theorem SExtra.insNpSide (h : d.SExtra) (r : NpSide) : (d.insNpSide r).SExtra := by
  refine ⟨?_, h.mbOpened⟩
  intro n hn
  obtain ⟨r', hr', e⟩ := h.npClaimed n hn
  exact ⟨r', by simp [Chan.insNpSide, hr'], e⟩

theorem SExtra.insMailbox_insMbSide (h : d.SExtra) (r : MailboxRow) (side : String) (t : Time) (mood) :
    ((d.insMailbox r).insMbSide ⟨r.id, true, side, t, mood⟩).SExtra := by
  refine ⟨h.npClaimed, ?_⟩
  intro m hm
  simp only [Chan.insMbSide, Chan.insMailbox, List.mem_append, List.mem_singleton] at hm ⊢
  rcases hm with hm | rfl
  · obtain ⟨r', hr', e⟩ := h.mbOpened m hm
    exact ⟨r', Or.inl hr', e⟩
  · exact ⟨_, Or.inr rfl, rfl, rfl⟩

theorem SExtra.insNew (h : d.SExtra) (app name mb side : String) (t : Time) :
    ((d.insNameplate app name mb).insNpSide ⟨d.nextNp, true, side, t⟩).SExtra := by
  refine ⟨?_, h.mbOpened⟩
  intro n hn
  simp only [Chan.insNpSide, Chan.insNameplate, List.mem_append, List.mem_singleton] at hn ⊢
  rcases hn with hn | rfl
  · obtain ⟨r', hr', e⟩ := h.npClaimed n hn
    exact ⟨r', Or.inl hr', e⟩
  · exact ⟨_, Or.inr rfl, rfl, rfl⟩

/-- `UPDATE mailbox_sides SET opened=False` after which some side of that mailbox is still open -/
theorem SExtra.closeSide_of_any (h : d.SExtra) {mb side : String} {mood : Option String}
    (hany : ((d.closeSide mb side mood).mbSidesOf mb).any (·.opened) = true) :
    (d.closeSide mb side mood).SExtra := by
  refine ⟨h.npClaimed, ?_⟩
  intro m hm
  by_cases e : m.id = mb
  · simp only [List.any_eq_true, Chan.mbSidesOf, List.mem_filter, decide_eq_true_eq] at hany
    obtain ⟨r, ⟨hr, e1⟩, e2⟩ := hany
    exact ⟨r, hr, by rw [e1, e], e2⟩
  · obtain ⟨r, hr, e1, e2⟩ := h.mbOpened m hm
    refine ⟨r, ?_, e1, e2⟩
    simp only [Chan.closeSide, List.mem_map]
    refine ⟨r, hr, ?_⟩
    rw [if_neg]
    rintro ⟨e3, _⟩
    exact e (e1.symm.trans e3)

/-- `closeSide` followed by the five DELETEs of `Mailbox.close` -/
theorem SExtra.closeSide_closeBlock (h : d.SExtra) (hids : d.NpIdsUnique) (app mb side : String)
    (mood : Option String) :
    ((((((d.closeSide mb side mood).delNpSidesOfMailbox app mb).delNameplatesOfMailbox app mb).delMessagesOf
      mb).delMbSidesOf mb).delMailbox mb).SExtra := by
  constructor
  · intro n hn
    simp only [delMailbox, delMbSidesOf, delMessagesOf, delNameplatesOfMailbox, delNpSidesOfMailbox,
      Chan.closeSide, List.mem_filter] at hn ⊢
    obtain ⟨r, hr, e1, e2⟩ := h.npClaimed n hn.1
    refine ⟨r, ⟨hr, ?_⟩, e1, e2⟩
    apply decide_eq_true
    simp only [nameplatesOfMailbox, List.mem_map, List.mem_filter, decide_eq_true_eq, not_exists, not_and]
    intro n' ⟨hn', hk⟩ e'
    have : n' = n := eq_of_pairwise_ne (f := Nameplate.id) hids hn' hn.1 (by omega)
    subst this
    simp_all
  · intro m hm
    simp only [delMailbox, delMbSidesOf, delMessagesOf, delNameplatesOfMailbox, delNpSidesOfMailbox,
      Chan.closeSide, List.mem_filter, List.mem_map, decide_not, Bool.not_eq_eq_eq_not, Bool.not_true,
      decide_eq_false_iff_not] at hm ⊢
    obtain ⟨r, hr, e1, e2⟩ := h.mbOpened m hm.1
    refine ⟨r, ⟨⟨r, hr, ?_⟩, by rw [e1]; exact hm.2⟩, e1, e2⟩
    rw [if_neg]
    rintro ⟨e3, _⟩
    exact hm.2 (e1.symm.trans e3)

/-- `UPDATE nameplate_sides SET claimed=False` after which some side of that nameplate is still claimed -/
theorem SExtra.unclaim_of_any (h : d.SExtra) {npid : Nat} {side : String}
    (hany : ((d.unclaim npid side).npSidesOf npid).any (·.claimed) = true) :
    (d.unclaim npid side).SExtra := by
  refine ⟨?_, h.mbOpened⟩
  intro n hn
  by_cases e : n.id = npid
  · simp only [List.any_eq_true, Chan.npSidesOf, List.mem_filter, decide_eq_true_eq] at hany
    obtain ⟨r, ⟨hr, e1⟩, e2⟩ := hany
    exact ⟨r, hr, by rw [e1, e], e2⟩
  · obtain ⟨r, hr, e1, e2⟩ := h.npClaimed n hn
    refine ⟨r, ?_, e1, e2⟩
    simp only [Chan.unclaim, List.mem_map]
    refine ⟨r, hr, ?_⟩
    rw [if_neg]
    rintro ⟨e3, _⟩
    exact e (e1.symm.trans e3)

/-- `unclaim` followed by the two DELETEs of `release_nameplate` -/
theorem SExtra.unclaim_delById (h : d.SExtra) (npid : Nat) (side : String) :
    (((d.unclaim npid side).delNpSidesOf npid).delNameplate npid).SExtra := by
  refine ⟨?_, h.mbOpened⟩
  intro n hn
  simp only [delNameplate, delNpSidesOf, Chan.unclaim, List.mem_filter, List.mem_map, decide_not,
    Bool.not_eq_eq_eq_not, Bool.not_true, decide_eq_false_iff_not] at hn ⊢
  obtain ⟨r, hr, e1, e2⟩ := h.npClaimed n hn.1
  refine ⟨r, ⟨⟨r, hr, ?_⟩, by rw [e1]; exact hn.2⟩, e1, e2⟩
  rw [if_neg]
  rintro ⟨e3, _⟩
  exact hn.2 (e1.symm.trans e3)

/-- the two DELETEs of one iteration of the nameplate loop of `prune` -/
theorem SExtra.delById (h : d.SExtra) (npid : Nat) : ((d.delNpSidesOf npid).delNameplate npid).SExtra := by
  refine ⟨?_, h.mbOpened⟩
  intro n hn
  simp only [delNameplate, delNpSidesOf, List.mem_filter, decide_not, Bool.not_eq_eq_eq_not, Bool.not_true,
    decide_eq_false_iff_not] at hn ⊢
  obtain ⟨r, hr, e1, e2⟩ := h.npClaimed n hn.1
  exact ⟨r, ⟨hr, by rw [e1]; exact hn.2⟩, e1, e2⟩

/-- the three DELETEs of one iteration of the mailbox loop of `prune` -/
theorem SExtra.pruneBlock (h : d.SExtra) (mb : String) :
    (((d.delMessagesOf mb).delMbSidesOf mb).delMailbox mb).SExtra := by
  refine ⟨h.npClaimed, ?_⟩
  intro m hm
  simp only [delMailbox, delMbSidesOf, delMessagesOf, List.mem_filter, decide_not, Bool.not_eq_eq_eq_not,
    Bool.not_true, decide_eq_false_iff_not] at hm ⊢
  obtain ⟨r, hr, e1, e2⟩ := h.mbOpened m hm.1
  exact ⟨r, ⟨hr, by rw [e1]; exact hm.2⟩, e1, e2⟩

end sextra

/-! ### FOREIGN KEY facts: SQLite accepts each DELETE

  With `PRAGMA foreign_keys = ON` a `DELETE` of a parent row raises `IntegrityError` while a
  child row still references it.  The model's delete primitives are total; these lemmas state
  that at each parent DELETE of server.py the children are already gone, so the model's
  totality is not an omission. -/

/-- `DELETE FROM nameplates WHERE <P>` is accepted: no side row references a row satisfying `P` -/
def DelNameplatesOk (d : Chan) (P : Nameplate → Prop) : Prop :=
  ∀ n ∈ d.nameplates, P n → ∀ r ∈ d.npSides, ¬ r.npid = n.id

/-- `DELETE FROM mailboxes WHERE id=mb` is accepted: no nameplate and no side row references `mb`
    (`messages.mailbox_id` carries no REFERENCES clause) -/
def DelMailboxOk (d : Chan) (mb : String) : Prop :=
  (∀ n ∈ d.nameplates, ¬ n.mailbox = mb) ∧ (∀ r ∈ d.mbSides, ¬ r.mailbox = mb)

/-- `release_nameplate` / the nameplate loop of `prune`: after `DELETE FROM nameplate_sides WHERE
    nameplates_id=?` the nameplate row can be deleted -/
theorem delNpSidesOf_fk (d : Chan) (npid : Nat) :
    (d.delNpSidesOf npid).DelNameplatesOk (fun n => n.id = npid) := by
  intro n _ e r hr
  simp only [delNpSidesOf, List.mem_filter, decide_not, Bool.not_eq_eq_eq_not, Bool.not_true,
    decide_eq_false_iff_not] at hr
  rw [e]; exact hr.2

/-- `Mailbox.close`, second DELETE: the nameplates of `(app, mb)` have lost their side rows -/
theorem delNpSidesOfMailbox_fk (d : Chan) (app mb : String) :
    (d.delNpSidesOfMailbox app mb).DelNameplatesOk (fun n => n.app = app ∧ n.mailbox = mb) := by
  intro n hn e r hr
  simp only [delNpSidesOfMailbox, List.mem_filter] at hr
  have hr2 := of_decide_eq_true hr.2
  simp only [nameplatesOfMailbox, List.mem_map, List.mem_filter, decide_eq_true_eq, not_exists, not_and] at hr2
  intro e'
  exact hr2 n ⟨hn, e⟩ e'.symm

/-- `Mailbox.close`, fifth DELETE: nothing references the mailbox row any more (every nameplate
    that pointed at `mb` belonged to `app`, by the uniqueness of mailbox ids) -/
theorem closeBlock_fk {d : Chan} (h : d.PInv) {app mb : String} (hmb : d.HasMb app mb) :
    ((((d.delNpSidesOfMailbox app mb).delNameplatesOfMailbox app mb).delMessagesOf mb).delMbSidesOf
      mb).DelMailboxOk mb := by
  constructor
  · intro n hn
    simp only [delMbSidesOf, delMessagesOf, delNameplatesOfMailbox, delNpSidesOfMailbox, List.mem_filter,
      decide_not, Bool.not_eq_eq_eq_not, Bool.not_true, decide_eq_false_iff_not] at hn
    intro e
    exact hn.2 ⟨h.np_app_of_mailbox hmb hn.1 e, e⟩
  · intro r hr
    simp only [delMbSidesOf, delMessagesOf, delNameplatesOfMailbox, delNpSidesOfMailbox, List.mem_filter,
      decide_not, Bool.not_eq_eq_eq_not, Bool.not_true, decide_eq_false_iff_not] at hr
    exact hr.2

/-- mailbox loop of `prune`: with no nameplate pointing at `mb` (the guard), after the side rows
    are deleted the mailbox row can be deleted -/
theorem pruneBlock_fk {d : Chan} {mb : String} (hno : ∀ n ∈ d.nameplates, ¬ n.mailbox = mb) :
    ((d.delMessagesOf mb).delMbSidesOf mb).DelMailboxOk mb := by
  constructor
  · exact hno
  · intro r hr
    simp only [delMbSidesOf, delMessagesOf, List.mem_filter, decide_not, Bool.not_eq_eq_eq_not,
      Bool.not_true, decide_eq_false_iff_not] at hr
    exact hr.2

/-! ### `Mailbox.open` on the tables -/

/-- the two statements of `Mailbox.open`: the side row (unless present), the time stamp -/
def openSide (d : Chan) (mb side : String) (t : Time) : Chan :=
  (match d.findMbSide mb side with
   | none => d.insMbSide ⟨mb, true, side, t, none⟩
   | some _ => d).touch mb t

section openSide
variable {d : Chan} (mb side : String) (t : Time)

theorem PInv.openSide (h : d.PInv) (hmb : ∃ m ∈ d.mailboxes, m.id = mb) : (d.openSide mb side t).PInv := by
  unfold Chan.openSide
  split
  · rename_i e
    exact (h.insMbSide (r := ⟨mb, true, side, t, none⟩) e hmb).touch mb t
  · exact h.touch mb t

@[simp] theorem npPart_openSide : (d.openSide mb side t).npPart = d.npPart := by
  unfold Chan.openSide; split <;> rfl

@[simp] theorem hasMb_openSide (a m : String) : (d.openSide mb side t).HasMb a m ↔ d.HasMb a m := by
  unfold Chan.openSide; split <;> simp

theorem MbQ.openSide {U : String → Prop} (h : d.MbQ U t) : (d.openSide mb side t).MbQ U t := by
  unfold Chan.openSide
  split
  · exact MbQ.touch (d := d.insMbSide _) h mb
  · exact h.touch mb

theorem CInv.openSide (h : d.CInv) (hmb : ∃ m ∈ d.mailboxes, m.id = mb) : (d.openSide mb side t).CInv :=
  CInv.of_pinv_npOk (h.toPInv.openSide mb side t hmb) (h.npOk.of_npPart (by simp))

end openSide

/-- `SExtra`, except that the mailbox `mb` may still be without any side row: the state between
    the two commits of a first claim -/
structure SExtra' (mb : String) (d : Chan) : Prop where
  npClaimed : ∀ n ∈ d.nameplates, ∃ r ∈ d.npSides, r.npid = n.id ∧ r.claimed = true
  mbOpened : ∀ m ∈ d.mailboxes, (∃ r ∈ d.mbSides, r.mailbox = m.id ∧ r.opened = true) ∨
    (m.id = mb ∧ ∀ r ∈ d.mbSides, ¬ r.mailbox = mb)

section sextra'
variable {d : Chan} {mb : String}

theorem SExtra.weaken (h : d.SExtra) (mb : String) : d.SExtra' mb :=
  ⟨h.npClaimed, fun m hm => Or.inl (h.mbOpened m hm)⟩

theorem SExtra'.openSide (h : d.SExtra' mb) (side : String) (t : Time) : (d.openSide mb side t).SExtra := by
  have key : ∀ d0 : Chan, d0.SExtra → (d0.touch mb t).SExtra := fun d0 h0 => h0.touch mb t
  unfold Chan.openSide
  split
  · apply key
    refine ⟨h.npClaimed, ?_⟩
    intro m hm
    simp only [Chan.insMbSide, List.mem_append, List.mem_singleton]
    rcases h.mbOpened m hm with ⟨r, hr, e⟩ | ⟨e, _⟩
    · exact ⟨r, Or.inl hr, e⟩
    · exact ⟨_, Or.inr rfl, e.symm, rfl⟩
  · rename_i r0 e0
    apply key
    refine ⟨h.npClaimed, ?_⟩
    intro m hm
    rcases h.mbOpened m hm with h1 | ⟨_, h2⟩
    · exact h1
    · obtain ⟨a, b, _⟩ := findMbSide_some e0
      exact absurd b (h2 r0 a)

/-- a new mailbox row with id `mb` (no row had that id, hence no side row references it) -/
theorem SExtra'.insMailbox (h : d.SExtra' mb) (p : d.PInv) {r : MailboxRow} (e : r.id = mb)
    (hfree : d.findMailboxById mb = none) : (d.insMailbox r).SExtra' mb := by
  have hf := findMailboxById_none hfree
  refine ⟨h.npClaimed, ?_⟩
  intro m hm
  simp only [Chan.insMailbox, List.mem_append, List.mem_singleton] at hm
  rcases hm with hm | rfl
  · exact h.mbOpened m hm
  · refine Or.inr ⟨e, ?_⟩
    intro r' hr' e'
    obtain ⟨m', hm', e''⟩ := p.msFk r' hr'
    exact hf m' hm' (e''.trans e')

theorem SExtra'.of_np {d' : Chan} (h : d.SExtra' mb) (e1 : d'.mailboxes = d.mailboxes) (e2 : d'.mbSides = d.mbSides)
    (hnp : ∀ n ∈ d'.nameplates, ∃ r ∈ d'.npSides, r.npid = n.id ∧ r.claimed = true) : d'.SExtra' mb := by
  refine ⟨hnp, ?_⟩
  rw [e1, e2]; exact h.mbOpened

theorem SExtra'.insNpSide (h : d.SExtra' mb) (r : NpSide) : (d.insNpSide r).SExtra' mb := by
  refine h.of_np rfl rfl ?_
  intro n hn
  obtain ⟨r', hr', e⟩ := h.npClaimed n hn
  exact ⟨r', by simp [Chan.insNpSide, hr'], e⟩

theorem SExtra'.insNew (h : d.SExtra' mb) (app name mb' side : String) (t : Time) :
    ((d.insNameplate app name mb').insNpSide ⟨d.nextNp, true, side, t⟩).SExtra' mb := by
  refine h.of_np rfl rfl ?_
  intro n hn
  simp only [Chan.insNpSide, Chan.insNameplate, List.mem_append, List.mem_singleton] at hn ⊢
  rcases hn with hn | rfl
  · obtain ⟨r', hr', e⟩ := h.npClaimed n hn
    exact ⟨r', Or.inl hr', e⟩
  · exact ⟨_, Or.inr rfl, rfl, rfl⟩

end sextra'

theorem MbQ.mapMailboxes {U : String → Prop} {t : Time} {d : Chan} (h : d.MbQ U t) (f : MailboxRow → MailboxRow)
    (hf : ∀ r, (f r).id = r.id ∧ ((f r).updated = r.updated ∨ (f r).updated ≤ t)) :
    ({ d with mailboxes := d.mailboxes.map f } : Chan).MbQ U t := by
  intro m hm
  simp only [List.mem_map] at hm
  obtain ⟨m0, hm0, rfl⟩ := hm
  have := h m0 hm0
  obtain ⟨e1, e2⟩ := hf m0
  refine ⟨by rw [e1]; exact this.1, ?_⟩
  rcases e2 with e2 | e2
  · rw [e2]; exact this.2
  · exact e2

/-- a new nameplate row together with its first side row: one commit unit -/
theorem CInv.insNew {d : Chan} (h : d.CInv) {app name mb : String} (side : String) (t : Time)
    (hfree : d.findNameplate app name = none) (hmb : d.HasMb app mb) :
    ((d.insNameplate app name mb).insNpSide ⟨d.nextNp, true, side, t⟩).CInv := by
  refine CInv.of_pinv_npOk ?_ (h.npOk.insNew app name mb side true t)
  refine (h.toPInv.insNameplate hfree hmb).insNpSide ?_ ?_
  · have := h.bounded.findNpSide_fresh side
    simpa [Chan.findNpSide, Chan.insNameplate] using this
  · exact ⟨⟨d.nextNp, app, name, mb⟩, by simp [Chan.insNameplate], rfl⟩

theorem CInv.insNpSide {d : Chan} (h : d.CInv) {r : NpSide} (hfree : d.findNpSide r.npid r.side = none)
    {n : Nameplate} (hn : n ∈ d.nameplates) (e : n.id = r.npid) : (d.insNpSide r).CInv :=
  CInv.of_pinv_npOk (h.toPInv.insNpSide hfree ⟨n, hn, e⟩)
    (h.npOk.insNpSide r (by rw [← e]; exact h.bounded.1 n hn))

end Chan
end Wormhole
