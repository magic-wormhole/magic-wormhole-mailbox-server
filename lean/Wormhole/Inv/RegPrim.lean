/-
  `Abs r s`: the registry state `r` satisfies `RegInv` and `s` is what `Sys` sees of it.  How `Abs`
  moves under the elementary updates: a function of `Sys` run on `core`, connection-record updates,
  listener-dict updates.
-/
import Wormhole.Inv.RegInv

namespace Wormhole

theorem mbIdOf_map (mbs : List MbObj) (g : MbObj → MbObj) (h1 : ∀ k, (g k).oid = k.oid)
    (h2 : ∀ k, (g k).mailboxId = k.mailboxId) (o : Nat) : mbIdOf (mbs.map g) o = mbIdOf mbs o := by
  unfold mbIdOf
  rw [List.find?_map]
  simp only [Function.comp_def, h1, Option.map_map]
  congr 1
  funext k
  exact h2 k

theorem mbIdOf_append_of_isSome (mbs l : List MbObj) (o : Nat) (h : (mbIdOf mbs o).isSome) :
    mbIdOf (mbs ++ l) o = mbIdOf mbs o := by
  unfold mbIdOf at *
  rw [List.find?_append]
  cases e : mbs.find? (fun k => k.oid = o) with
  | none => simp [e] at h
  | some k => simp

namespace RSys

def aconns (r : RSys) : List Conn := r.conns.map (absConn r.mbs)

theorem abs_eq' (r : RSys) : r.abs = r.core.setConns r.aconns := rfl

section proj
variable (r : RSys)
@[simp] theorem abs_cfg : r.abs.cfg = r.core.cfg := rfl
@[simp] theorem abs_db : r.abs.db = r.core.db := rfl
@[simp] theorem abs_disk : r.abs.disk = r.core.disk := rfl
@[simp] theorem abs_udb : r.abs.udb = r.core.udb := rfl
@[simp] theorem abs_udisk : r.abs.udisk = r.core.udisk := rfl
@[simp] theorem abs_rebooted : r.abs.rebooted = r.core.rebooted := rfl
@[simp] theorem abs_out : r.abs.out = r.core.out := rfl
@[simp] theorem abs_snaps : r.abs.snaps = r.core.snaps := rfl
@[simp] theorem abs_conns : r.abs.conns = r.aconns := rfl
end proj

@[simp] theorem absConn_id (mbs : List MbObj) (y : RConn) : (absConn mbs y).id = y.id := rfl
@[simp] theorem absConn_app (mbs : List MbObj) (y : RConn) : (absConn mbs y).app = y.app := rfl
@[simp] theorem absConn_side (mbs : List MbObj) (y : RConn) : (absConn mbs y).side = y.side := rfl
@[simp] theorem absConn_listening (mbs : List MbObj) (y : RConn) : (absConn mbs y).listening = y.listening := rfl
@[simp] theorem absConn_didAllocate (mbs : List MbObj) (y : RConn) : (absConn mbs y).didAllocate = y.didAllocate := rfl
@[simp] theorem absConn_didClaim (mbs : List MbObj) (y : RConn) : (absConn mbs y).didClaim = y.didClaim := rfl
@[simp] theorem absConn_didRelease (mbs : List MbObj) (y : RConn) : (absConn mbs y).didRelease = y.didRelease := rfl
@[simp] theorem absConn_didClose (mbs : List MbObj) (y : RConn) : (absConn mbs y).didClose = y.didClose := rfl
@[simp] theorem absConn_nameplateId (mbs : List MbObj) (y : RConn) : (absConn mbs y).nameplateId = y.nameplateId := rfl
@[simp] theorem absConn_mailboxId (mbs : List MbObj) (y : RConn) : (absConn mbs y).mailboxId = y.mailboxId := rfl

theorem absConn_congr {m1 m2 : List MbObj} {x : RConn}
    (h : ∀ o, x.mailbox = some o → mbIdOf m1 o = mbIdOf m2 o) : absConn m1 x = absConn m2 x := by
  have : (absConn m1 x).mailbox = (absConn m2 x).mailbox := by
    rw [absConn_mailbox, absConn_mailbox]
    cases e : x.mailbox with
    | none => rfl
    | some o => exact h o e
  unfold absConn at *
  simp only [Conn.mk.injEq, true_and, and_true]
  exact this

def Framed (f : Sys → Sys) : Prop := ∀ s cs, f (Sys.setConns s cs) = (f s).setConns cs

theorem abs_onCore (r : RSys) (f : Sys → Sys) (hf : Framed f) : (r.onCore f).abs = f r.abs := by
  rw [abs_eq', abs_eq', hf]; rfl

theorem abs_core (r : RSys) (c : Sys) : ({ r with core := c } : RSys).abs = c.setConns r.aconns := rfl

@[simp] theorem abs_emit (r : RSys) (e : Event) : (r.emit e).abs = r.abs.emit e := rfl
@[simp] theorem abs_send (r : RSys) (c : Nat) (f : Frame) : (r.send c f).abs = r.abs.send c f := rfl

theorem RegInv.core {r : RSys} (h : r.RegInv) (c : Sys) : ({ r with core := c } : RSys).RegInv :=
  ⟨h.connIds, h.appsKey, h.nsOids, h.mbOids, h.nsBound, h.mbBound, h.appsNs, h.boxesKey, h.boxesMb, h.nsReg,
    h.mbNs, h.heldObj, h.heldReg, h.listenIff, h.lisConn, h.lisNodup⟩

theorem RegInv.onCore {r : RSys} (h : r.RegInv) (f : Sys → Sys) : (r.onCore f).RegInv := h.core _
theorem RegInv.send {r : RSys} (h : r.RegInv) (c : Nat) (f : Frame) : (r.send c f).RegInv := h.core _

/-! ### the relation between the two machines -/

/-- `r` satisfies the registry invariant and `s` is what `Sys` sees of it -/
structure Abs (r : RSys) (s : Sys) : Prop where
  inv : r.RegInv
  eq : r.abs = s

namespace Abs
variable {r : RSys} {s : Sys}

theorem db (h : Abs r s) : r.core.db = s.db := by rw [← h.eq]; rfl
theorem cfg (h : Abs r s) : r.core.cfg = s.cfg := by rw [← h.eq]; rfl

theorem onCore (h : Abs r s) {f : Sys → Sys} (hf : Framed f) : Abs (r.onCore f) (f s) :=
  ⟨h.inv.onCore f, by rw [abs_onCore _ _ hf, h.eq]⟩

/-- the databases replaced (what a function of `Sys` that returns a pair leaves behind) -/
theorem withCore (h : Abs r s) (c : Sys) : Abs { r with core := c } (c.setConns r.aconns) := ⟨h.inv.core c, rfl⟩

theorem emit (h : Abs r s) (e : Event) : Abs (r.emit e) (s.emit e) := h.onCore (fun _ _ => rfl)
theorem send (h : Abs r s) (c : Nat) (f : Frame) : Abs (r.send c f) (s.send c f) := h.onCore (fun _ _ => rfl)
theorem sendError (h : Abs r s) (c : Nat) (t : String) : Abs (r.sendError c t) (s.sendError c t) := h.send c _
theorem internalErr (h : Abs r s) (c : Nat) (t : String) : Abs (r.internalErr c t) (s.internalErr c t) := h.emit _

theorem ite (c : Prop) [Decidable c] {a b : RSys} {a' b' : Sys} (ht : c → Abs a a') (hf : ¬ c → Abs b b') :
    Abs (if c then a else b) (if c then a' else b') := by
  by_cases hc : c
  · rw [if_pos hc, if_pos hc]; exact ht hc
  · rw [if_neg hc, if_neg hc]; exact hf hc

end Abs

/-- two results with the same value, in states related by `Abs` -/
def AbsP {β : Type} (R : RSys × β) (S : Sys × β) : Prop := ∃ r1 s1 b, R = (r1, b) ∧ S = (s1, b) ∧ Abs r1 s1

theorem Abs.pair {β : Type} {r1 : RSys} {s1 : Sys} (h : Abs r1 s1) (b : β) : AbsP (r1, b) (s1, b) :=
  ⟨_, _, _, rfl, rfl, h⟩

theorem AbsP.ite {β : Type} (c : Prop) [Decidable c] {A B : RSys × β} {A' B' : Sys × β} (ht : c → AbsP A A')
    (hf : ¬ c → AbsP B B') : AbsP (if c then A else B) (if c then A' else B') := by
  by_cases hc : c
  · rw [if_pos hc, if_pos hc]; exact ht hc
  · rw [if_neg hc, if_neg hc]; exact hf hc

/-! ### connection records and listener dicts -/

theorem RegInv.listener_iff {r : RSys} (h : r.RegInv) {y : RConn} (hy : y ∈ r.conns) {k : MbObj} (hk : k ∈ r.mbs) :
    y.id ∈ k.listeners ↔ y.mailbox = some k.oid ∧ y.listening = true := by
  constructor
  · intro hc
    obtain ⟨y', hy', e1, e2⟩ := h.lisConn k hk _ hc
    rw [h.conn_eq hy' hy e1] at e2
    exact ⟨e2, (h.listenIff y hy k hk e2).1 hc⟩
  · rintro ⟨hm, hl⟩
    exact (h.listenIff y hy k hk hm).2 hl

/-- a pointwise update `f` of the connection records and `g` of the listener dicts, nothing else:
    `RegInv` of the result is the coherence clauses, record by record (`H3`, `H4` in the form of `listener_iff`) -/
theorem RegInv.relabel {r : RSys} (h : r.RegInv) (f : RConn → RConn) (g : MbObj → MbObj) {cs : List RConn}
    {ms : List MbObj} (hc : cs = r.conns.map f) (hm : ms = r.mbs.map g) (fid : ∀ y, (f y).id = y.id)
    (hg : ∀ k, (g k).oid = k.oid ∧ (g k).nsOid = k.nsOid ∧ (g k).app = k.app ∧ (g k).mailboxId = k.mailboxId)
    (H1 : ∀ y ∈ r.conns, ∀ o, (f y).mailbox = some o → ∃ k ∈ r.mbs, k.oid = o ∧ (f y).app = some k.app)
    (H2 : ∀ y ∈ r.conns, ∀ k ∈ r.mbs, (f y).mailbox = some k.oid → (f y).listening = true →
      r.Registered k.app k.mailboxId k.oid)
    (H3 : ∀ y ∈ r.conns, ∀ k ∈ r.mbs,
      y.id ∈ (g k).listeners ↔ ((f y).mailbox = some k.oid ∧ (f y).listening = true))
    (H4 : ∀ k ∈ r.mbs, ∀ c ∈ (g k).listeners, ∃ y ∈ r.conns, y.id = c)
    (H5 : ∀ k ∈ r.mbs, (g k).listeners.Pairwise (fun a b => ¬ a = b)) :
    ({ r with conns := cs, mbs := ms } : RSys).RegInv := by
  subst hc hm
  have hmem : ∀ k ∈ r.mbs, g k ∈ r.mbs.map g := fun k hk => List.mem_map.2 ⟨k, hk, rfl⟩
  refine ⟨?_, h.appsKey, h.nsOids, ?_, h.nsBound, ?_, h.appsNs, h.boxesKey, ?_, h.nsReg, ?_, ?_, ?_, ?_, ?_, ?_⟩
  · simpa only [List.pairwise_map, fid] using h.connIds
  · simpa only [List.pairwise_map, (hg _).1] using h.mbOids
  · simpa only [List.forall_mem_map, (hg _).1] using h.mbBound
  · intro ns hns p hp
    obtain ⟨k, hk, e⟩ := h.boxesMb ns hns p hp
    obtain ⟨g1, g2, g3, g4⟩ := hg k
    exact ⟨g k, hmem k hk, by rw [g1, g2, g3, g4]; exact e⟩
  · simpa only [List.forall_mem_map, (hg _).2.1, (hg _).2.2.1] using h.mbNs
  · simp only [List.forall_mem_map]
    intro y hy o hxo
    obtain ⟨k, hk, e1, e2⟩ := H1 y hy o hxo
    exact ⟨g k, hmem k hk, by rw [(hg k).1]; exact e1, by rw [(hg k).2.2.1]; exact e2⟩
  · simp only [List.forall_mem_map, (hg _).1, (hg _).2.2]
    exact H2
  · simp only [List.forall_mem_map, (hg _).1, fid]
    intro y hy k hk hxo
    rw [H3 y hy k hk]
    exact ⟨fun x => x.2, fun x => ⟨hxo, x⟩⟩
  · simp only [List.forall_mem_map, (hg _).1]
    intro k hk c hcl
    obtain ⟨y, hy, e⟩ := H4 k hk c hcl
    exact ⟨f y, List.mem_map.2 ⟨y, hy, rfl⟩, by rw [fid]; exact e, ((H3 y hy k hk).1 (e ▸ hcl)).1⟩
  · simpa only [List.forall_mem_map] using H5

theorem aconns_relabel {r r' : RSys} (f : RConn → RConn) (g : MbObj → MbObj) (f' : Conn → Conn)
    (hc : r'.conns = r.conns.map f) (hm : r'.mbs = r.mbs.map g)
    (g1 : ∀ k, (g k).oid = k.oid) (g4 : ∀ k, (g k).mailboxId = k.mailboxId)
    (hff : ∀ y ∈ r.conns, absConn r.mbs (f y) = f' (absConn r.mbs y)) : r'.aconns = r.aconns.map f' := by
  unfold aconns
  rw [hc, hm, List.map_map, List.map_map]
  apply List.map_congr_left
  intro y hy
  exact (absConn_congr (fun o _ => mbIdOf_map _ g g1 g4 o)).trans (hff y hy)

theorem abs_updConn (r : RSys) (c : Nat) (f0 : RConn → RConn) (g0 : Conn → Conn)
    (hfg : ∀ y ∈ r.conns, y.id = c → absConn r.mbs (f0 y) = g0 (absConn r.mbs y)) :
    (r.updConn c f0).abs = r.abs.updConn c g0 := by
  rw [abs_eq', abs_eq', aconns_relabel (r' := r.updConn c f0) (fun y => if y.id = c then f0 y else y) id
    (fun x => if x.id = c then g0 x else x) rfl (List.map_id _).symm (fun _ => rfl) (fun _ => rfl)]
  · rfl
  · intro y hy
    by_cases e : y.id = c
    · simp only [e, if_true, absConn_id]; exact hfg y hy e
    · simp only [e, if_false, absConn_id]

theorem Abs.updConn {r : RSys} {s : Sys} (h : Abs r s) {c : Nat} {f0 : RConn → RConn} {g0 : Conn → Conn}
    (hinv : (r.updConn c f0).RegInv)
    (hfg : ∀ y ∈ r.conns, y.id = c → absConn r.mbs (f0 y) = g0 (absConn r.mbs y)) :
    Abs (r.updConn c f0) (s.updConn c g0) := ⟨hinv, by rw [abs_updConn _ _ _ _ hfg, h.eq]⟩

theorem RegInv.updConn {r : RSys} (h : r.RegInv) (c : Nat) (f0 : RConn → RConn) (hid : ∀ y, (f0 y).id = y.id)
    (H : ∀ y ∈ r.conns, y.id = c →
      (∀ o, (f0 y).mailbox = some o → ∃ k ∈ r.mbs, k.oid = o ∧ (f0 y).app = some k.app) ∧
      (∀ k ∈ r.mbs, (f0 y).mailbox = some k.oid → (f0 y).listening = true → r.Registered k.app k.mailboxId k.oid) ∧
      (∀ k ∈ r.mbs, y.id ∈ k.listeners ↔ ((f0 y).mailbox = some k.oid ∧ (f0 y).listening = true))) :
    (r.updConn c f0).RegInv := by
  refine h.relabel (fun y => if y.id = c then f0 y else y) id rfl (List.map_id _).symm
    ?_ (fun _ => ⟨rfl, rfl, rfl, rfl⟩) ?_ ?_ ?_ ?_ h.lisNodup
  · intro y; split <;> simp [hid]
  · intro y hy o
    split
    · rename_i e; exact (H y hy e).1 o
    · exact h.heldObj y hy o
  · intro y hy k hk
    split
    · rename_i e; exact (H y hy e).2.1 k hk
    · exact h.heldReg y hy k hk
  · intro y hy k hk
    split
    · rename_i e; exact (H y hy e).2.2 k hk
    · exact h.listener_iff hy hk
  · intro k hk c' hc'
    obtain ⟨y, hy, e, _⟩ := h.lisConn k hk c' hc'
    exact ⟨y, hy, e⟩

theorem Abs.updConn_flags {r : RSys} {s : Sys} (h : Abs r s) {c : Nat} {f0 : RConn → RConn} {g0 : Conn → Conn}
    (hk : ∀ y, (f0 y).id = y.id ∧ (f0 y).mailbox = y.mailbox ∧ (f0 y).listening = y.listening ∧ (f0 y).app = y.app)
    (hfg : ∀ y, absConn r.mbs (f0 y) = g0 (absConn r.mbs y)) : Abs (r.updConn c f0) (s.updConn c g0) := by
  refine h.updConn (h.inv.updConn c f0 (fun y => (hk y).1) ?_) (fun y _ _ => hfg y)
  intro y hy _
  obtain ⟨_, hm, hl, ha⟩ := hk y
  simp only [hm, hl, ha]
  exact ⟨h.inv.heldObj y hy, h.inv.heldReg y hy, fun k hk => h.inv.listener_iff hy hk⟩

theorem Abs.updConn_idle {r : RSys} {s : Sys} (h : Abs r s) {c : Nat} {f0 : RConn → RConn} {g0 : Conn → Conn}
    (hid : ∀ y, (f0 y).id = y.id)
    (H : ∀ y ∈ r.conns, y.id = c → y.listening = false ∧ (f0 y).listening = false ∧
      ∀ o, (f0 y).mailbox = some o → ∃ k ∈ r.mbs, k.oid = o ∧ (f0 y).app = some k.app)
    (hfg : ∀ y ∈ r.conns, y.id = c → absConn r.mbs (f0 y) = g0 (absConn r.mbs y)) :
    Abs (r.updConn c f0) (s.updConn c g0) := by
  refine h.updConn (h.inv.updConn c f0 hid ?_) hfg
  intro y hy e
  obtain ⟨l1, l2, H1⟩ := H y hy e
  refine ⟨H1, fun _ _ _ hl => (Bool.false_ne_true (l2.symm.trans hl)).elim, fun k hk => ?_⟩
  simp [h.inv.listener_iff hy hk, l1, l2]

theorem abs_updMb_listeners (r : RSys) (o : Nat) (g0 : MbObj → MbObj) (g1 : ∀ k, (g0 k).oid = k.oid)
    (g4 : ∀ k, (g0 k).mailboxId = k.mailboxId) : (r.updMb o g0).abs = r.abs := by
  have : (r.updMb o g0).aconns = r.aconns := by
    rw [aconns_relabel (r := r) (r' := r.updMb o g0) id (fun k => if k.oid = o then g0 k else k) id
      (by simp [updMb]) rfl (by intro k; split <;> simp [g1]) (by intro k; split <;> simp [g4]) (fun _ _ => rfl),
      List.map_id]
  rw [abs_eq', abs_eq', this]; rfl

@[simp] theorem abs_addListener (r : RSys) (o c : Nat) : (r.addListener o c).abs = r.abs :=
  abs_updMb_listeners r o _ (fun _ => rfl) (fun _ => rfl)

@[simp] theorem abs_removeListener (r : RSys) (o c : Nat) : (r.removeListener o c).abs = r.abs :=
  abs_updMb_listeners r o _ (fun _ => rfl) (fun _ => rfl)

theorem absConn_hold {mbs : List MbObj} {o : Nat} {mb : String} (hmb : mbIdOf mbs o = some mb) (y : RConn) (l : Bool) :
    absConn mbs { y with mailbox := some o, listening := l } =
      { absConn mbs y with mailbox := some mb, listening := l } := by
  have : (absConn mbs { y with mailbox := some o, listening := l }).mailbox = some mb := by
    rw [absConn_mailbox]; exact hmb
  unfold absConn at *
  simp only [Conn.mk.injEq, true_and, and_true]
  exact this

/-- a held object exists, so `self._mailbox` is set in both models or in neither -/
theorem absConn_mailbox_isSome {r : RSys} (h : r.RegInv) {x : RConn} (hx : x ∈ r.conns) :
    (absConn r.mbs x).mailbox.isSome = x.mailbox.isSome := by
  rw [absConn_mailbox]
  cases e : x.mailbox with
  | none => rfl
  | some o =>
    obtain ⟨k, hk, rfl, _⟩ := h.heldObj x hx o e
    simp [mbIdOf_eq h hk]

theorem absConn_mailbox_eq {r : RSys} (h : r.RegInv) {x : RConn} {k : MbObj} (hk : k ∈ r.mbs)
    (hm : x.mailbox = some k.oid) : (absConn r.mbs x).mailbox = some k.mailboxId := by
  rw [absConn_mailbox, hm]; exact mbIdOf_eq h hk

theorem absConn_mailbox_none {mbs : List MbObj} {x : RConn} (hm : x.mailbox = none) : (absConn mbs x).mailbox = none := by
  rw [absConn_mailbox, hm]; rfl

end RSys
end Wormhole
