/-
  The expiry sweep on the channel database, as a pure function.  `Chan.pruneApp` is one
  `AppNamespace.prune(now, old)`, statement by statement (`L app mb` = "the `Mailbox` object of `(app, mb)`
  has a listener").  `Chan.sweepP A L now old` is the specification: every mailbox row whose app is in `A`,
  that has no listener and is not updated after `old`, disappears together with everything hanging off it
  (by mailbox id / nameplate row id); listened rows of apps in `A` are re-stamped.  Under `PInv` one `prune`
  is `sweepP` of a single app; sweeps compose; so the loop over the apps is `sweepP` of all of them.
-/
import Wormhole.Inv.SyncLemmas

namespace Wormhole
namespace Chan

/-- listener oracle: `L app mb` = somebody is subscribed to mailbox `mb` of `app` -/
abbrev LFun := String → String → Bool

theorem filter_map_congr {α β : Type} {l : List α} {p q : α → Bool} {f g : α → β}
    (hp : ∀ x ∈ l, p x = q x) (hf : ∀ x ∈ l, q x = true → f x = g x) :
    (l.filter p).map f = (l.filter q).map g := by
  rw [List.filter_congr hp]
  apply List.map_congr_left
  intro x hx
  exact hf x (List.mem_filter.1 hx).1 (List.mem_filter.1 hx).2

theorem filter_filter_of_imp {α : Type} {l : List α} {p q : α → Bool} (h : ∀ x ∈ l, q x = true → p x = true) :
    (l.filter p).filter q = l.filter q := by
  rw [List.filter_filter]
  apply List.filter_congr
  intro x hx
  cases hq : q x
  · rfl
  · simp [h x hx hq]

/-- `DELETE FROM nameplate_sides WHERE nameplates_id=?; DELETE FROM nameplates WHERE id=?`
    for every id of the list -/
def dropNps (d : Chan) (ids : List Nat) : Chan :=
  { d with nameplates := d.nameplates.filter (fun n => ¬ n.id ∈ ids),
           npSides := d.npSides.filter (fun r => ¬ r.npid ∈ ids) }

/-- `DELETE FROM messages WHERE mailbox_id=?; DELETE FROM mailbox_sides WHERE mailbox_id=?;
    DELETE FROM mailboxes WHERE id=?` for every id of the list -/
def dropMbs (d : Chan) (ids : List String) : Chan :=
  { d with mailboxes := d.mailboxes.filter (fun m => ¬ m.id ∈ ids),
           mbSides := d.mbSides.filter (fun r => ¬ r.mailbox ∈ ids),
           messages := d.messages.filter (fun r => ¬ r.mailbox ∈ ids) }

theorem dropNps_nil (d : Chan) : d.dropNps [] = d := by
  cases d; simp [dropNps, List.filter_eq_self]

theorem dropMbs_nil (d : Chan) : d.dropMbs [] = d := by
  cases d; simp [dropMbs, List.filter_eq_self]

theorem dropNps_cons (d : Chan) (i : Nat) (ids : List Nat) :
    ((d.delNpSidesOf i).delNameplate i).dropNps ids = d.dropNps (i :: ids) := by
  simp only [dropNps, delNameplate, delNpSidesOf, List.filter_filter, Chan.mk.injEq, and_true]
  constructor <;> (apply List.filter_congr; intro x _; simp; grind)

theorem dropMbs_cons (d : Chan) (i : String) (ids : List String) :
    (((d.delMessagesOf i).delMbSidesOf i).delMailbox i).dropMbs ids = d.dropMbs (i :: ids) := by
  simp only [dropMbs, delMailbox, delMbSidesOf, delMessagesOf, List.filter_filter, Chan.mk.injEq, and_true,
    true_and]
  refine ⟨?_, ?_, ?_⟩ <;> (apply List.filter_congr; intro x _; simp; grind)

/-- the touch loop of `prune` -/
def stampApp (d : Chan) (L : LFun) (app : String) (now : Time) : Chan :=
  { d with mailboxes := d.mailboxes.map (fun r =>
      if r.app = app ∧ L app r.id = true then { r with updated := now } else r) }

/-- the database effect of `AppNamespace.prune(now, old)` for `app` -/
def pruneApp (d : Chan) (L : LFun) (app : String) (now old : Time) : Chan :=
  let d0 := d.stampApp L app now
  let oldMb := (d0.mailboxesOfApp app).filter (fun r => ¬ r.updated > old)
  let oldNp := (d0.nameplatesOfApp app).filter (fun r => r.mailbox ∈ oldMb.map (·.id))
  (d0.dropNps (oldNp.map (·.id))).dropMbs (oldMb.map (·.id))

/-- the row is swept: its app is among the pruned ones, nobody listens, no update after `old` -/
def dead (A : String → Bool) (L : LFun) (old : Time) (m : MailboxRow) : Bool :=
  A m.app && !(L m.app m.id) && decide (m.updated ≤ old)

/-- the row after the touch loop -/
def stamp (A : String → Bool) (L : LFun) (now : Time) (m : MailboxRow) : MailboxRow :=
  if A m.app = true ∧ L m.app m.id = true then { m with updated := now } else m

@[simp] theorem stamp_id (A L now m) : (stamp A L now m).id = m.id := by
  unfold stamp; split <;> rfl
@[simp] theorem stamp_app (A L now m) : (stamp A L now m).app = m.app := by
  unfold stamp; split <;> rfl
@[simp] theorem stamp_forNp (A L now m) : (stamp A L now m).forNp = m.forNp := by
  unfold stamp; split <;> rfl

theorem stamp_eq_self {A : String → Bool} {L : LFun} {now : Time} {m : MailboxRow}
    (h : L m.app m.id = false) : stamp A L now m = m := by
  simp [stamp, h]

def deadIds (d : Chan) (A : String → Bool) (L : LFun) (old : Time) : List String :=
  (d.mailboxes.filter (dead A L old)).map (·.id)

def deadNps (d : Chan) (A : String → Bool) (L : LFun) (old : Time) : List Nat :=
  (d.nameplates.filter (fun n => n.mailbox ∈ d.deadIds A L old)).map (·.id)

def sweepP (d : Chan) (A : String → Bool) (L : LFun) (now old : Time) : Chan :=
  { nameplates := d.nameplates.filter (fun n => ¬ n.mailbox ∈ d.deadIds A L old)
    npSides := d.npSides.filter (fun r => ¬ r.npid ∈ d.deadNps A L old)
    mailboxes := (d.mailboxes.filter (fun m => ¬ m.id ∈ d.deadIds A L old)).map (stamp A L now)
    mbSides := d.mbSides.filter (fun r => ¬ r.mailbox ∈ d.deadIds A L old)
    messages := d.messages.filter (fun r => ¬ r.mailbox ∈ d.deadIds A L old)
    nextNp := d.nextNp }

theorem mem_deadIds {d : Chan} {A L old} {i : String} :
    i ∈ d.deadIds A L old ↔ ∃ m ∈ d.mailboxes, dead A L old m = true ∧ m.id = i := by
  simp [deadIds, List.mem_map, List.mem_filter, and_assoc]

theorem mem_deadNps {d : Chan} {A L old} {j : Nat} :
    j ∈ d.deadNps A L old ↔ ∃ n ∈ d.nameplates, n.mailbox ∈ d.deadIds A L old ∧ n.id = j := by
  simp [deadNps, List.mem_map, List.mem_filter, and_assoc]

theorem dead_iff {A : String → Bool} {L : LFun} {old : Time} {m : MailboxRow} :
    dead A L old m = true ↔ A m.app = true ∧ L m.app m.id = false ∧ m.updated ≤ old := by
  simp [dead, and_assoc]

theorem mem_deadIds_of_mem {d : Chan} (h : d.mailboxes.Pairwise (fun a b => ¬ a.id = b.id))
    {A L old} {m : MailboxRow} (hm : m ∈ d.mailboxes) :
    m.id ∈ d.deadIds A L old ↔ dead A L old m = true := by
  rw [mem_deadIds]
  constructor
  · rintro ⟨m', hm', hd, e⟩
    have : m' = m := eq_of_pairwise_ne (f := MailboxRow.id) h hm' hm e
    subst this; exact hd
  · intro hd; exact ⟨m, hm, hd, rfl⟩

theorem mem_deadNps_of_mem {d : Chan} (h : d.nameplates.Pairwise (fun a b => ¬ a.id = b.id))
    {A L old} {n : Nameplate} (hn : n ∈ d.nameplates) :
    n.id ∈ d.deadNps A L old ↔ n.mailbox ∈ d.deadIds A L old := by
  rw [mem_deadNps]
  constructor
  · rintro ⟨n', hn', hd, e⟩
    have : n' = n := eq_of_pairwise_ne (f := Nameplate.id) h hn' hn e
    subst this; exact hd
  · intro hd; exact ⟨n, hn, hd, rfl⟩

section mem
variable {d : Chan} {A : String → Bool} {L : LFun} {now old : Time}

theorem mem_sweepP_nameplates {n : Nameplate} :
    n ∈ (d.sweepP A L now old).nameplates ↔ n ∈ d.nameplates ∧ ¬ n.mailbox ∈ d.deadIds A L old := by
  simp [sweepP, List.mem_filter]

theorem mem_sweepP_npSides {r : NpSide} :
    r ∈ (d.sweepP A L now old).npSides ↔ r ∈ d.npSides ∧ ¬ r.npid ∈ d.deadNps A L old := by
  simp [sweepP, List.mem_filter]

theorem mem_sweepP_mailboxes {m' : MailboxRow} :
    m' ∈ (d.sweepP A L now old).mailboxes ↔
      ∃ m ∈ d.mailboxes, ¬ m.id ∈ d.deadIds A L old ∧ stamp A L now m = m' := by
  simp [sweepP, List.mem_map, List.mem_filter, and_assoc]

theorem mem_sweepP_mbSides {r : MbSide} :
    r ∈ (d.sweepP A L now old).mbSides ↔ r ∈ d.mbSides ∧ ¬ r.mailbox ∈ d.deadIds A L old := by
  simp [sweepP, List.mem_filter]

theorem mem_sweepP_messages {r : Message} :
    r ∈ (d.sweepP A L now old).messages ↔ r ∈ d.messages ∧ ¬ r.mailbox ∈ d.deadIds A L old := by
  simp [sweepP, List.mem_filter]

end mem

/-! ### `A` matters only on the apps of mailbox rows -/

theorem sweepP_congr {d : Chan} {A A' : String → Bool} {L now old}
    (h : ∀ m ∈ d.mailboxes, A m.app = A' m.app) : d.sweepP A L now old = d.sweepP A' L now old := by
  have hD : d.deadIds A L old = d.deadIds A' L old := by
    unfold deadIds
    congr 1
    exact List.filter_congr fun m hm => by simp [dead, h m hm]
  have hN : d.deadNps A L old = d.deadNps A' L old := by unfold deadNps; rw [hD]
  unfold sweepP
  rw [hD, hN]
  simp only [Chan.mk.injEq, and_true, true_and]
  apply List.map_congr_left
  intro m hm
  have := h m (List.mem_filter.1 hm).1
  simp [stamp, this]

theorem pruneApp_eq_sweepP {d : Chan} (h : d.PInv) (L : LFun) (app : String) {now old : Time}
    (hlt : old < now) : d.pruneApp L app now old = d.sweepP (fun a => a == app) L now old := by
  -- the old mailbox ids
  have hD : (((d.stampApp L app now).mailboxesOfApp app).filter (fun r => ¬ r.updated > old)).map (·.id)
      = d.deadIds (fun a => a == app) L old := by
    simp only [stampApp, mailboxesOfApp, deadIds, List.filter_map, List.filter_filter, List.map_map]
    apply filter_map_congr
    · intro m _
      simp only [Function.comp, dead]
      by_cases h1 : m.app = app <;> by_cases h2 : L app m.id = true
      · simp [h1, h2]; omega
      · simp [h1, h2]
      · simp [h1]
      · simp [h1]
    · intro m _ _
      simp only [Function.comp]
      split <;> rfl
  -- the old nameplates: one that points at a swept mailbox of `app` belongs to `app`
  have hN : (((d.stampApp L app now).nameplatesOfApp app).filter
      (fun r => r.mailbox ∈ d.deadIds (fun a => a == app) L old)).map (·.id) =
      d.deadNps (fun a => a == app) L old := by
    simp only [stampApp, nameplatesOfApp, deadNps]
    refine congrArg (List.map Nameplate.id) (filter_filter_of_imp fun n hn hd => ?_)
    obtain ⟨m, hm, e1, e2⟩ := h.npMb n hn
    have := (dead_iff.1 ((mem_deadIds_of_mem h.mbIds hm).1 (e1 ▸ of_decide_eq_true hd))).1
    simpa [← e2] using this
  unfold pruneApp
  simp only []
  rw [hD, hN]
  simp only [sweepP, dropNps, dropMbs, stampApp, Chan.mk.injEq, and_true, true_and]
  constructor
  · apply List.filter_congr
    intro n hn
    simp only [mem_deadNps_of_mem h.npIds hn]
  · rw [List.filter_map]
    apply filter_map_congr
    · intro m _
      simp only [Function.comp]
      split <;> rfl
    · intro m _ _
      by_cases h1 : m.app = app
      · subst h1; simp [stamp]
      · simp [stamp, h1]

section compose
variable {d : Chan} {A B : String → Bool} {L : LFun} {now old : Time}

theorem dead_stamp {m : MailboxRow} :
    dead B L old (stamp A L now m) = true ↔ dead B L old m = true := by
  cases hl : L m.app m.id with
  | true => simp [dead, hl]
  | false => rw [stamp_eq_self hl]

theorem dead_or {m : MailboxRow} :
    dead (fun a => A a || B a) L old m = true ↔ dead A L old m = true ∨ dead B L old m = true := by
  simp only [dead_iff, Bool.or_eq_true]; grind

theorem stamp_stamp (m : MailboxRow) :
    stamp B L now (stamp A L now m) = stamp (fun a => A a || B a) L now m := by
  by_cases hl : L m.app m.id = true <;> by_cases ha : A m.app = true <;> by_cases hb : B m.app = true <;>
    simp [stamp, hl, ha, hb]

theorem mem_deadIds_sweepP (i : String) :
    i ∈ d.deadIds (fun a => A a || B a) L old ↔
      i ∈ d.deadIds A L old ∨ i ∈ (d.sweepP A L now old).deadIds B L old := by
  simp only [mem_deadIds, mem_sweepP_mailboxes]
  constructor
  · rintro ⟨m, hm, hd, rfl⟩
    by_cases hA : m.id ∈ d.deadIds A L old
    · exact Or.inl (mem_deadIds.1 hA)
    · right
      refine ⟨stamp A L now m, ⟨m, hm, fun h => hA (mem_deadIds.2 h), rfl⟩, ?_, by simp⟩
      rw [dead_stamp]
      rcases dead_or.1 hd with h | h
      · exact absurd (mem_deadIds.2 ⟨m, hm, h, rfl⟩) hA
      · exact h
  · rintro (⟨m, hm, hd, rfl⟩ | ⟨m', ⟨m, hm, _, rfl⟩, hd, rfl⟩)
    · exact ⟨m, hm, dead_or.2 (Or.inl hd), rfl⟩
    · exact ⟨m, hm, dead_or.2 (Or.inr (dead_stamp.1 hd)), by simp⟩

theorem mem_deadNps_sweepP (j : Nat) :
    j ∈ d.deadNps (fun a => A a || B a) L old ↔
      j ∈ d.deadNps A L old ∨ j ∈ (d.sweepP A L now old).deadNps B L old := by
  simp only [mem_deadNps, mem_sweepP_nameplates, mem_deadIds_sweepP (now := now)]
  constructor
  · rintro ⟨n, hn, hd, rfl⟩
    by_cases hA : n.mailbox ∈ d.deadIds A L old
    · exact Or.inl ⟨n, hn, hA, rfl⟩
    · exact Or.inr ⟨n, ⟨hn, hA⟩, hd.resolve_left hA, rfl⟩
  · rintro (⟨n, hn, hd, rfl⟩ | ⟨n, ⟨hn, _⟩, hd, rfl⟩)
    · exact ⟨n, hn, Or.inl hd, rfl⟩
    · exact ⟨n, hn, Or.inr hd, rfl⟩

theorem sweepP_sweepP :
    (d.sweepP A L now old).sweepP B L now old = d.sweepP (fun a => A a || B a) L now old := by
  have hi := mem_deadIds_sweepP (d := d) (A := A) (B := B) (L := L) (now := now) (old := old)
  have hj := mem_deadNps_sweepP (d := d) (A := A) (B := B) (L := L) (now := now) (old := old)
  generalize hD2 : (d.sweepP A L now old).deadIds B L old = D2 at hi
  generalize hN2 : (d.sweepP A L now old).deadNps B L old = N2 at hj
  unfold sweepP at hD2 hN2 ⊢
  simp only [Chan.mk.injEq, and_true] 
  rw [hD2, hN2]
  simp only [List.filter_filter, List.filter_map, List.map_map]
  refine ⟨?_, ?_, ?_, ?_, ?_⟩
  · apply List.filter_congr; intro x _; simp [hi]; grind
  · apply List.filter_congr; intro x _; simp [hj]; grind
  · apply filter_map_congr
    · intro x _; simp [hi]; grind
    · intro x _ _; exact stamp_stamp x
  · apply List.filter_congr; intro x _; simp [hi]; grind
  · apply List.filter_congr; intro x _; simp [hi]; grind

end compose

theorem PInv.sweepP {d : Chan} (h : d.PInv) (A : String → Bool) (L : LFun) (now old : Time) :
    (d.sweepP A L now old).PInv := by
  have hdead : ∀ m ∈ d.mailboxes, ¬ m.id ∈ d.deadIds A L old →
      ∃ m' ∈ (d.sweepP A L now old).mailboxes, m'.id = m.id ∧ m'.app = m.app := by
    intro m hm hd
    exact ⟨stamp A L now m, mem_sweepP_mailboxes.2 ⟨m, hm, hd, rfl⟩, by simp, by simp⟩
  constructor
  · exact List.Pairwise.filter _ h.npIds
  · exact List.Pairwise.filter _ h.npKey
  · constructor
    · intro n hn; exact h.bounded.1 n (mem_sweepP_nameplates.1 hn).1
    · intro r hr; exact h.bounded.2 r (mem_sweepP_npSides.1 hr).1
  · simp only [Chan.sweepP, List.pairwise_map, stamp_id]
    exact List.Pairwise.filter _ h.mbIds
  · intro n hn
    obtain ⟨hn, hd⟩ := mem_sweepP_nameplates.1 hn
    obtain ⟨m, hm, e1, e2⟩ := h.npMb n hn
    obtain ⟨m', hm', e3, e4⟩ := hdead m hm (by rw [e1]; exact hd)
    exact ⟨m', hm', by rw [e3, e1], by rw [e4, e2]⟩
  · intro r hr
    obtain ⟨hr, hd⟩ := mem_sweepP_npSides.1 hr
    obtain ⟨n, hn, e⟩ := h.nsFk r hr
    refine ⟨n, mem_sweepP_nameplates.2 ⟨hn, ?_⟩, e⟩
    intro hdm
    exact hd (mem_deadNps.2 ⟨n, hn, hdm, e⟩)
  · exact List.Pairwise.filter _ h.nsKey
  · intro r hr
    obtain ⟨hr, hd⟩ := mem_sweepP_mbSides.1 hr
    obtain ⟨m, hm, e1⟩ := h.msFk r hr
    obtain ⟨m', hm', e3, _⟩ := hdead m hm (by rw [e1]; exact hd)
    exact ⟨m', hm', by rw [e3, e1]⟩
  · exact List.Pairwise.filter _ h.msKey
  · intro r hr
    obtain ⟨hr, hd⟩ := mem_sweepP_messages.1 hr
    obtain ⟨m, hm, e1, e2⟩ := h.msgFk r hr
    obtain ⟨m', hm', e3, e4⟩ := hdead m hm (by rw [e1]; exact hd)
    exact ⟨m', hm', by rw [e3, e1], by rw [e4, e2]⟩

theorem CInv.sweepP {d : Chan} (h : d.CInv) (A : String → Bool) (L : LFun) (now old : Time) :
    (d.sweepP A L now old).CInv := by
  refine ⟨h.toPInv.sweepP A L now old, ?_⟩
  intro n hn
  obtain ⟨hn, hd⟩ := mem_sweepP_nameplates.1 hn
  obtain ⟨r, hr, e⟩ := h.npHasSide n hn
  refine ⟨r, mem_sweepP_npSides.2 ⟨hr, ?_⟩, e⟩
  rw [e, mem_deadNps_of_mem h.npIds hn]
  exact hd

theorem sweepP_none (d : Chan) (L : LFun) (now old : Time) : d.sweepP (fun _ => false) L now old = d := by
  have hD : d.deadIds (fun _ => false) L old = [] := by simp [deadIds, dead]
  have hN : d.deadNps (fun _ => false) L old = [] := by simp [deadNps, hD]
  have hs : stamp (fun _ => false) L now = id := by funext m; simp [stamp]
  cases d
  simp [Chan.sweepP, hD, hN, hs]

/-- the database effect of `prune_all_apps` over the list `l` -/
def pruneFold (d : Chan) (L : LFun) (now old : Time) (l : List String) : Chan :=
  l.foldl (fun d a => d.pruneApp L a now old) d

theorem pruneFold_eq_sweepP (L : LFun) {now old : Time} (hlt : old < now) (l : List String) :
    ∀ {d : Chan}, d.PInv → d.pruneFold L now old l = d.sweepP (fun a => decide (a ∈ l)) L now old := by
  induction l with
  | nil =>
    intro d _
    simp only [pruneFold, List.foldl_nil, List.not_mem_nil, decide_false, sweepP_none]
  | cons a rest ih =>
    intro d h
    have h1 := h.sweepP (fun x => x == a) L now old
    simp only [pruneFold, List.foldl_cons]
    rw [pruneApp_eq_sweepP h L a hlt]
    have := ih h1
    unfold pruneFold at this
    rw [this, sweepP_sweepP]
    congr 1
    funext x
    by_cases hx : x = a <;> simp [hx]

end Chan
end Wormhole
