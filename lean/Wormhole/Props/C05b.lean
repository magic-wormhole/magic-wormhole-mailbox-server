/-
  C05b — "at most two sides are ever told the mailbox of one nameplate incarnation", with the
  answers that got out of a step that then CRASHED counted too.

  `C05.ClaimedNow` of Props/C05.lean (AUDIT_A.md, table C05 and problem 5) demands
  `op = .recv c t id (.claim …)` literally, so a `claimed` frame emitted by
  `crashIn k (recv c t id (claim …))` with `k` larger than the number of commits of the step (the
  `none` branch of `Sys.step`: the process dies after the whole answer was written) is not
  counted by `C05_nameplate_two_reach`.  `ClaimedNowAll` / `ClaimedInAll` look for the frame in the
  output of the step as it was actually executed; `claimedNowAll_complete` says nothing is left
  uncounted, `C05_cut_output_no_claimed` that only a crash after the last commit lets the frame out,
  `C05_nameplate_two_all` is the theorem.
-/
import Wormhole.Props.C03
import Wormhole.Props.C05
import Wormhole.Props.C09c

namespace Wormhole
namespace C05
open Sys

theorem cutAtCommit_append : ∀ (l r : List Event) (k : Nat), k ≤ commitCount l →
    cutAtCommit k (l ++ r) = cutAtCommit k l := by
  intro l r
  induction l with
  | nil =>
    intro k hk
    obtain rfl : k = 0 := by simpa using hk
    simp [cutAtCommit]
  | cons e rest ih =>
    intro k hk
    cases k with
    | zero => simp [cutAtCommit]
    | succ k =>
      cases e with
      | commit w =>
        rw [commitCount_commit] at hk
        simp only [List.cons_append, cutAtCommit]
        rw [ih k (by omega)]
      | _ =>
        rw [commitCount_notCommit rfl] at hk
        simp only [List.cons_append, cutAtCommit]
        rw [ih (k + 1) hk]

/-- **A cut output never contains `claimed`.**  If a `claim` step cut short by a crash still got its
    `claimed m` out, then (1) `k` is larger than the number of commit points of the step — the
    crash came after the whole step (`none` branch of `Sys.step`); an output cut at a commit
    (`some p` branch) never contains the frame, which is sent after the last commit —, (2) the frame
    is in the output of the uncrashed step, (3) the database the crash leaves is the database of
    the uncrashed step (which ends synced). -/
theorem C05_cut_output_no_claimed {s : Sys} (hs : s.Synced) (hb : s.db.IdsBounded) {k c : Nat} {x : Conn}
    {a n fresh m : String} {t : Time} {id : Val} {b : Bool} (hx : s.findConn c = some x) (ha : x.app = some a)
    (hout : Event.frame c (.claimed m) b ∈ (s.step (.crashIn k (.recv c t id (.claim (some n) fresh)))).out) :
    (s.step (.recv c t id (.claim (some n) fresh))).snaps.length < k ∧
    Event.frame c (.claimed m) b ∈ (s.step (.recv c t id (.claim (some n) fresh))).out ∧
    (s.step (.crashIn k (.recv c t id (.claim (some n) fresh)))).db =
      (s.step (.recv c t id (.claim (some n) fresh))).db := by
  have hout' : Event.frame c (.claimed m) b ∈ (s.step (.recv c t id (.claim (some n) fresh))).out :=
    step_out_sub s _ hout
  obtain ⟨_, s1, hE, hstep⟩ := claim_step_ok hx ha hout'
  obtain ⟨_, _, hsy⟩ := claimNameplate_spec hE hb
  have hplain : s.atStart.stepPlain (.recv c t id (.claim (some n) fresh)) = s1.send c (.claimed m) := hstep
  have hcore : Event.frame c (.claimed m) b ∉ s1.out := by
    intro hm
    have := claimed_not_in_core hE hm
    simp [Sys.send, Sys.emit, Sys.updConn] at this
  -- every crash point of the step has its `commit` in the output before the `claimed` frame
  have hT : s1.snaps.length = commitCount s1.out := by
    have := (ackInv0_stepPlain s (.recv c t id (.claim (some n) fresh))).1
    rw [hplain] at this
    simpa [Sys.send, Sys.emit, commitCount_notFrame_frame] using this
  obtain ⟨h0, hcut, hlate⟩ := crash_restores s k (.recv c t id (.claim (some n) fresh))
  rw [hplain] at hcut hlate
  rw [hstep]
  by_cases hk : (s1.send c (.claimed m)).snaps.length < k
  · obtain ⟨hdb, _, _, _⟩ := hlate hk
    refine ⟨hk, by rw [← hstep]; exact hout', ?_⟩
    rw [hdb]
    exact (hsy hs.1).symm
  · exfalso
    cases k with
    | zero => rw [(h0 rfl).2.2] at hout; cases hout
    | succ j =>
      have hj : j < s1.snaps.length := by
        have : (s1.send c (.claimed m)).snaps = s1.snaps := rfl
        rw [this] at hk; omega
      obtain ⟨_, _, hco, _⟩ := hcut _ (Nat.succ_pos j) (List.getElem?_eq_getElem hj)
      rw [hco, show (s1.send c (.claimed m)).out = s1.out ++ [.frame c (.claimed m) s1.synced] from rfl,
        cutAtCommit_append _ _ _ (by omega)] at hout
      exact hcore (Sys.mem_cutAtCommit _ _ _ hout)

/-- operation `op` — a `claim`, possibly cut short by a crash — answers `claimed` to side `σ` for
    the nameplate row with id `n`: the frame is in the output of the step AS EXECUTED -/
def ClaimedNowAll (g : GSys) (op : Op) (n : Nat) (σ : String) : Prop :=
  ∃ c t id name fresh x app mb b, op.inner = .recv c t id (.claim (some name) fresh) ∧
    g.sys.findConn c = some x ∧ x.app = some app ∧ x.side.getD "" = σ ∧
    Event.frame c (.claimed mb) b ∈ (g.sys.step op).out ∧
    ∃ row ∈ (g.sys.step op).db.nameplates, row.id = n ∧ row.app = app ∧ row.name = name

/-- some operation of the history (crashed ones included) answers `claimed` to side `σ` for
    nameplate row id `n` -/
def ClaimedInAll : GSys → List Op → Nat → String → Prop
  | _, [], _, _ => False
  | g, op :: rest, n, σ => ClaimedNowAll g op n σ ∨ ClaimedInAll (g.step op) rest n σ

theorem ClaimedNow.all {g : GSys} {op : Op} {n : Nat} {σ : String} (h : ClaimedNow g op n σ) :
    ClaimedNowAll g op n σ := by
  obtain ⟨c, t, id, name, fresh, x, app, mb, b, rfl, hrest⟩ := h
  exact ⟨c, t, id, name, fresh, x, app, mb, b, rfl, hrest⟩

theorem ClaimedIn.all : ∀ {ops : List Op} {g : GSys} {n : Nat} {σ : String}, ClaimedIn g ops n σ →
    ClaimedInAll g ops n σ := by
  intro ops
  induction ops with
  | nil => intro g n σ h; exact h
  | cons op rest ih =>
    intro g n σ h
    rcases h with h | h
    · exact Or.inl h.all
    · exact Or.inr (ih h)

theorem claimedNowAll_shape {s : Sys} {op : Op} {c : Nat} {t : Time} {id : Val} {name fresh mb : String}
    {b : Bool} (hop : op.inner = .recv c t id (.claim (some name) fresh))
    (hfr : Event.frame c (.claimed mb) b ∈ (s.step op).out) :
    op = .recv c t id (.claim (some name) fresh) ∨
    ∃ k, op = .crashIn k (.recv c t id (.claim (some name) fresh)) := by
  cases op with
  | crashIn k op' =>
    cases op' with
    | crashIn k' op'' => exact absurd (step_crash_out_subset s k _ hfr) (by simp [Sys.stepPlain])
    | recv c' t' id' cmd => exact .inr ⟨k, congrArg (Op.crashIn k) hop⟩
    | _ => simp [Op.inner] at hop
  | recv c' t' id' cmd => exact .inl hop
  | _ => simp [Op.inner] at hop

/-- **nothing is left uncounted**: a `claimed mb` frame in the output of ANY step (any command, a
    sweep, a connect, …, crashed at any point or not) from a state with `GInv` is an answer counted
    by `ClaimedNowAll`, for the side the receiving connection is bound to and the id of the row
    `(app, name)` of the state the step leaves. -/
theorem claimedNowAll_complete {g : GSys} (hI : g.GInv) (op : Op) {c : Nat} {mb : String} {b : Bool}
    (hfr : Event.frame c (.claimed mb) b ∈ (g.sys.step op).out) :
    ∃ x n, g.sys.findConn c = some x ∧ ClaimedNowAll g op n (x.side.getD "") := by
  obtain ⟨t, id, name, fresh, x, app, hop, hx, happ, _⟩ := claimedAnswers_sees_all g.sys op hfr
  have hrow : ∃ row ∈ (g.sys.step op).db.nameplates, row.app = app ∧ row.name = name ∧ row.mailbox = mb := by
    rcases claimedNowAll_shape hop hfr with rfl | ⟨k, rfl⟩
    · exact (C03_claimed_step hI.synced hI.cinv hx happ hfr).1
    · exact C03_claimed_step_crash hI.synced hI.cinv hx happ hfr
  obtain ⟨row, hrow, hra, hrn, _⟩ := hrow
  exact ⟨x, row.id, hx, c, t, id, name, fresh, x, app, mb, b, hop, hx, happ, rfl, hfr, row, hrow, rfl, hra, hrn⟩

theorem claimedNowAll_facts {g : GSys} (hI : g.GInv) {op : Op} (hI' : (g.step op).GInv) {n : Nat} {σ : String}
    (h : ClaimedNowAll g op n σ) :
    (∃ row ∈ (g.sys.step op).db.nameplates, row.id = n) ∧ σ ∈ (g.sys.step op).db.npSideNames n ∧
    ((g.sys.step op).db.npSideNames n).length ≤ 2 := by
  obtain ⟨c, t, id, name, fresh, x, app, mb, b, hop, hx, happ, rfl, hfr, row, hrow, hid, hra, hrn⟩ := h
  -- the frame is in the output of the uncrashed step, whose database is that of `step op`
  obtain ⟨hfr', hdb⟩ : Event.frame c (.claimed mb) b ∈ (g.sys.step (.recv c t id (.claim (some name) fresh))).out ∧
      (g.sys.step op).db = (g.sys.step (.recv c t id (.claim (some name) fresh))).db := by
    rcases claimedNowAll_shape hop hfr with rfl | ⟨k, rfl⟩
    · exact ⟨hfr, rfl⟩
    · exact (C05_cut_output_no_claimed hI.synced hI.cinv.bounded hx happ hfr).2
  have hcf := C05_claimed_sides hI hx (claim_valid_of_claimed hx hfr') happ t id hfr'
  rw [← hdb] at hcf
  exact facts_of_claimedFacts hI'.cinv.toPInv hcf hrow hid hra hrn

/-- **C05 (at most two sides are told the mailbox of one nameplate incarnation — crashed steps
    included).**  Along every well-formed history (crashes at any commit point or after the last
    one, restarts, sweeps) from a reachable state, for every nameplate row id `n` (ids are never
    re-used — `C03_id_never_reused` — so an id IS an incarnation) the sides that are answered
    `claimed` for `n`, by a step that completed OR by a step that was cut short by a crash but got
    the frame out, all lie in one list of at most two sides. -/
theorem C05_nameplate_two_all {g : GSys} (hg : g.Reach) (ops : List Op) (hwf : g.WF ops) (n : Nat) :
    ∃ l : List String, l.length ≤ 2 ∧ ∀ σ, ClaimedInAll g ops n σ → σ ∈ l :=
  two_sides_along (fun _ h => h.ginv) n (fun _ _ h => h) (fun _ _ _ _ h => h)
    (fun hI hI' => claimedNowAll_facts hI hI') hg ops hwf

/-- the same from the initial state of any configuration -/
theorem C05_nameplate_two_all_init (cfg : Cfg) (rb : Time) (ops : List Op) (hwf : (GSys.init cfg rb).WF ops)
    (n : Nat) :
    ∃ l : List String, l.length ≤ 2 ∧ ∀ σ, ClaimedInAll (GSys.init cfg rb) ops n σ → σ ∈ l :=
  C05_nameplate_two_all (.init cfg rb) ops hwf n

/-- `C05_nameplate_two_reach` of Props/C05.lean is a special case -/
theorem C05_nameplate_two_reach_of_all {g : GSys} (hg : g.Reach) (ops : List Op) (hwf : g.WF ops) (n : Nat) :
    ∃ l : List String, l.length ≤ 2 ∧ ∀ σ, ClaimedIn g ops n σ → σ ∈ l := by
  obtain ⟨l, hl, h⟩ := C05_nameplate_two_all hg ops hwf n
  exact ⟨l, hl, fun σ hσ => h σ hσ.all⟩

namespace ExB

/-- side s1 claims nameplate "7"; the process is killed AFTER the whole step (`crashIn 5`: the step has
    two commit points), so s1 did receive `claimed "mb"`.  After the restart s2 claims (answered
    `claimed "mb"`), then s3 (answered `crowded`). -/
def histC : List Op :=
  [ .connect 1, .recv 1 10 .null (.bind (some "app") (some "s1") none none),
    .crashIn 5 (.recv 1 11 .null (.claim (some "7") "mb")),
    .restart 20,
    .connect 2, .recv 2 22 .null (.bind (some "app") (some "s2") none none), .recv 2 23 .null (.claim (some "7") "f2"),
    .connect 3, .recv 3 24 .null (.bind (some "app") (some "s3") none none), .recv 3 25 .null (.claim (some "7") "f3") ]

theorem histC_wf : (GSys.init {} 0).WF histC := GSys.wfB_sound (by decide +kernel)

/-- the state before the crashed claim -/
def g2 : GSys := (GSys.init {} 0).run (histC.take 2)

theorem g2_reach : g2.Reach := GSys.reach_of_wfB {} 0 (histC.take 2) (by decide +kernel)

/-- the crashed step has two commit points, `k = 5` is beyond them, and its output — as executed —
    contains the `claimed` frame -/
example : (g2.sys.step (.recv 1 11 .null (.claim (some "7") "mb"))).snaps.length = 2 ∧
    (g2.sys.step (.crashIn 5 (.recv 1 11 .null (.claim (some "7") "mb")))).out =
      [.frame 1 (.ack .null) true, .commit .chan, .commit .chan, .frame 1 (.claimed "mb") true] ∧
    (g2.sys.step (.crashIn 5 (.recv 1 11 .null (.claim (some "7") "mb")))).conns = [] := by
  decide +kernel

/-- a crash AT a commit point of the same step cuts the frame off (`C05_cut_output_no_claimed`) -/
example : (g2.sys.step (.crashIn 2 (.recv 1 11 .null (.claim (some "7") "mb")))).out =
      [.frame 1 (.ack .null) true, .commit .chan, .commit .chan] ∧
    (g2.sys.step (.crashIn 1 (.recv 1 11 .null (.claim (some "7") "mb")))).out =
      [.frame 1 (.ack .null) true, .commit .chan] := by
  decide +kernel

/-- `ClaimedInAll` counts the answer of the crashed step (third operation) … -/
theorem claimedInAll_s1 : ClaimedInAll (GSys.init {} 0) histC 1 "s1" := by
  refine Or.inr (Or.inr (Or.inl ⟨1, 11, .null, "7", "mb", { id := 1, app := some "app", side := some "s1" },
    "app", "mb", true, rfl, by decide +kernel, rfl, rfl, by decide +kernel, ⟨1, "app", "7", "mb"⟩,
    by decide +kernel, rfl, rfl, rfl⟩))

/-- … and that of s2 after the restart (seventh operation), for the SAME row id 1 … -/
theorem claimedInAll_s2 : ClaimedInAll (GSys.init {} 0) histC 1 "s2" := by
  refine Or.inr (Or.inr (Or.inr (Or.inr (Or.inr (Or.inr (Or.inl ⟨2, 23, .null, "7", "f2",
    { id := 2, app := some "app", side := some "s2" },
    "app", "mb", true, rfl, by decide +kernel, rfl, rfl, by decide +kernel, ⟨1, "app", "7", "mb"⟩,
    by decide +kernel, rfl, rfl, rfl⟩))))))

/-- … while `ClaimedIn` does NOT see s1: its only `claimed` came out of a crashed step -/
theorem not_claimedIn_s1 : ¬ ClaimedIn (GSys.init {} 0) histC 1 "s1" := by
  have hside : ∀ (g : GSys) (c : Nat) (t : Time) (id : Val) (cmd : Cmd) (σ' : String),
      (∀ x, g.sys.findConn c = some x → x.side.getD "" = σ') → σ' ≠ "s1" →
      ¬ ClaimedNow g (.recv c t id cmd) 1 "s1" := by
    intro g c t id cmd σ' hs hne ⟨c', _, _, _, _, x, _, _, _, hop, hx, _, hσ, _⟩
    cases hop
    exact hne ((hs x hx).symm.trans hσ)
  have hother : ∀ (g : GSys) (op : Op), (∀ c t id n f, op ≠ .recv c t id (.claim (some n) f)) →
      ¬ ClaimedNow g op 1 "s1" :=
    fun _ _ hne ⟨c, t, id, n, f, _, _, _, _, hop, _⟩ => hne c t id n f hop
  intro h
  simp only [histC, ClaimedIn] at h
  rcases h with h | h | h | h | h | h | h | h | h | h | h
  · exact hother _ _ (by rintro _ _ _ _ _ ⟨⟩) h
  · exact hother _ _ (by rintro _ _ _ _ _ ⟨⟩) h
  · exact hother _ _ (by rintro _ _ _ _ _ ⟨⟩) h
  · exact hother _ _ (by rintro _ _ _ _ _ ⟨⟩) h
  · exact hother _ _ (by rintro _ _ _ _ _ ⟨⟩) h
  · exact hother _ _ (by rintro _ _ _ _ _ ⟨⟩) h
  · refine hside _ _ _ _ _ "s2" ?_ (by decide) h
    intro x hx
    have : ((GSys.init {} 0).run (histC.take 6)).sys.findConn 2 =
        some { id := 2, app := some "app", side := some "s2" } := by decide +kernel
    have e : x = { id := 2, app := some "app", side := some "s2" } := Option.some.inj (hx.symm.trans this)
    rw [e]; rfl
  · exact hother _ _ (by rintro _ _ _ _ _ ⟨⟩) h
  · exact hother _ _ (by rintro _ _ _ _ _ ⟨⟩) h
  · refine hside _ _ _ _ _ "s3" ?_ (by decide) h
    intro x hx
    have : ((GSys.init {} 0).run (histC.take 9)).sys.findConn 3 =
        some { id := 3, app := some "app", side := some "s3" } := by decide +kernel
    have e : x = { id := 3, app := some "app", side := some "s3" } := Option.some.inj (hx.symm.trans this)
    rw [e]; rfl
  · exact h

/-- `C05_nameplate_two_all` applied to `histC`: its list contains both s1 (answered inside the crashed
    step) and s2 -/
example : ∃ l : List String, l.length ≤ 2 ∧ "s1" ∈ l ∧ "s2" ∈ l := by
  obtain ⟨l, hl, h⟩ := C05_nameplate_two_all_init {} 0 histC histC_wf 1
  exact ⟨l, hl, h _ claimedInAll_s1, h _ claimedInAll_s2⟩

/-- the frames of the whole history: `claimed` to 1 (crashed step), `claimed` to 2, `crowded` to 3 -/
example : ((Sys.run { rebooted := 0 } histC).2.filterMap
    (fun e => match e with | .frame c (.claimed m) _ => some (c, m) | .frame c (.error t) _ => some (c, t) | _ => none)) =
    [(1, "mb"), (2, "mb"), (3, "crowded")] := by
  decide +kernel

/-- the hypotheses of `C05_cut_output_no_claimed` / `claimedNowAll_complete` hold at the crashed step -/
example := C05_cut_output_no_claimed (s := g2.sys) (k := 5) (c := 1)
  (x := { id := 1, app := some "app", side := some "s1" }) (a := "app") (n := "7") (fresh := "mb") (m := "mb")
  (t := 11) (id := .null) (b := true) g2_reach.ginv.synced g2_reach.ginv.cinv.bounded (by decide +kernel) rfl
  (by decide +kernel)

example := claimedNowAll_complete g2_reach.ginv (.crashIn 5 (.recv 1 11 .null (.claim (some "7") "mb")))
  (c := 1) (mb := "mb") (b := true) (by decide +kernel)

end ExB

end C05
end Wormhole

#print axioms Wormhole.C05.C05_cut_output_no_claimed
#print axioms Wormhole.C05.claimedNowAll_complete
#print axioms Wormhole.C05.claimedNowAll_facts
#print axioms Wormhole.C05.C05_nameplate_two_all
#print axioms Wormhole.C05.C05_nameplate_two_all_init
#print axioms Wormhole.C05.C05_nameplate_two_reach_of_all
#print axioms Wormhole.C05.ExB.claimedInAll_s1
#print axioms Wormhole.C05.ExB.not_claimedIn_s1
