/-
  C11 — restarting the server is invisible to reconnecting clients.

  WHAT THIS FILE ESTABLISHES, AND WHAT IT DOES NOT.

  In the model, `Sys.restart s t = { s with db := s.disk, udb := s.udisk, conns := [], rebooted := t }`.
  The model has NO registry of `AppNamespace` / `Mailbox` objects: on the repaired tree a
  connection resolves its namespace on every use and drops its handle when the mailbox is
  deleted, so the listeners of a mailbox are a function of the connection records (Sys.lean).
  Consequently, in the model:
  (1) `restart_of_quiet`: a restart of a state with nothing uncommitted and no live
      connection is the identity up to the field `rebooted`;
  (2) `rebooted` is read by exactly one function, `dump_stats`, which copies it into the
      usage `current` row.  `C11_step` is the simulation: two states that agree on everything
      except `rebooted` and the `current` row (`RebootEq`) stay so under every operation other
      than a crash, with EQUAL events — except that the effective usage commit with which
      `dump_stats` ends a sweep may happen in one run and not in the other (the `current` rows
      differ); for operations other than `sweep` the events are equal without exception;
  (3) `C11_restart_of_quiet`: from any state with nothing uncommitted and no live connection,
      `restart t :: H` and `H` are indistinguishable in the sense below, for every crash-free `H`;
      `C11_restart_invisible`: for every history `H₁`, the state reached by dropping every
      connection alive after `H₁`, every continuation `H₂` (commands, reconnects, sweeps
      before/between/after the reconnects, further restarts) and every restart time `t`:
      `run (H₁ ++ dropAll ++ [restart t] ++ H₂)` and `run (H₁ ++ dropAll ++ H₂)` produce the same
      frames (addressee, content, `synced` flag, order), the same events altogether once
      usage commits are erased, and end with the same channel database (five tables and the
      id counter, as seen by the process and as committed), the same connection records, the
      same configuration and the same usage tables `nameplates`, `mailboxes`, `client_versions`.
  NOT equal, and not claimed: the field `rebooted`, and the `rebooted` column of the usage
  `current` row after the first sweep of `H₂` (`C11Example.current_differs`), hence whether the
  usage commit of that `dump_stats` is effective (`C11Example.raw_traces_differ`).

  That the CODE — which does have the registry of namespace and mailbox objects, emptied by a
  restart and garbage-collected by sweeps under its own rules (F-split-namespace before repair
  C) — behaves like this object-free model across restarts and sweeps is NOT proved here: it is
  what the correspondence check (model = implementation on every generated history, restarts
  at every index) and the two-run oracle on the implementation (kept `Server` object vs. a new
  `make_server` on the reopened files) establish.  This theorem says that the model, hence
  the specification the code is checked against, has the property.

  Hypotheses: none on the histories beyond "no `crashIn`" (no well-formedness needed); the
  start state is any state with nothing uncommitted and the nameplate tables in order
  (`NpOk`, Inv/NpOk.lean; needed for C09's "every frame is sent synced" in both runs), in
  particular the initial state of any configuration (`C11_restart_invisible_init`).
  Crashes are not covered (`crashIn` inside `H₂` is comparable here in principle — the same
  commits are effective in both runs except `dump_stats`' — but it is not proved).

  Proof: the generic two-run walk (Inv/SimCore.lean, Inv/SimWs.lean) instantiated with
  `Sys.RebRel` (Inv/SimReboot.lean), then `dump_stats` by hand.
-/
import Wormhole.Inv.SimReboot
import Wormhole.Props.C09

namespace Wormhole
open Sys

/-- The relation between the two runs, between operations: same channel side, same
    configuration, same usage tables except `current` (pending and committed), nothing
    uncommitted.  `rebooted`, `udb.current`, `udisk.current` are unconstrained. -/
structure RebootEq (s₁ s₂ : Sys) : Prop where
  chan : ChanEq s₁ s₂
  cfg : s₁.cfg = s₂.cfg
  unp : s₁.udb.nameplates = s₂.udb.nameplates
  umb : s₁.udb.mailboxes = s₂.udb.mailboxes
  ucl : s₁.udb.clients = s₂.udb.clients
  dnp : s₁.udisk.nameplates = s₂.udisk.nameplates
  dmb : s₁.udisk.mailboxes = s₂.udisk.mailboxes
  dcl : s₁.udisk.clients = s₂.udisk.clients
  synced₁ : s₁.Synced
  synced₂ : s₂.Synced

/-! ### (1) a restart without live connections -/

/-- a restart of a state with nothing uncommitted and no connection changes `rebooted` only -/
theorem restart_of_quiet (s : Sys) (t : Time) (hS : s.Synced) (hC : s.conns = []) :
    s.restart t = { s with rebooted := t } := by
  obtain ⟨h1, h2⟩ := hS
  unfold Sys.restart
  rw [← h1, ← h2, hC]

/-- ... as an operation (a step additionally starts with `out`, `snaps` cleared, and a restart
    emits nothing) -/
theorem step_restart_of_quiet (s : Sys) (t : Time) (hS : s.Synced) (hC : s.conns = []) :
    s.step (.restart t) = { s with rebooted := t, out := [], snaps := [] } :=
  restart_of_quiet { s with out := [], snaps := [] } t hS hC

theorem rebootEq_restart_of_quiet (s : Sys) (t : Time) (hS : s.Synced) (hC : s.conns = []) :
    RebootEq (s.step (.restart t)) s := by
  rw [step_restart_of_quiet s t hS hC]
  exact ⟨⟨rfl, rfl, rfl⟩, rfl, rfl, rfl, rfl, rfl, rfl, rfl, hS, hS⟩

/-! ### (2) the simulation -/

private theorem RebootEq.of_core {a b : Sys} (hc : ChanEq a b) (hcfg : a.cfg = b.cfg)
    (hu : a.udb.core = b.udb.core) (hd : a.udisk.core = b.udisk.core) (sa : a.Synced) (sb : b.Synced) :
    RebootEq a b :=
  have ⟨u1, u2, u3⟩ := Usage.core_eq_iff.1 hu
  have ⟨d1, d2, d3⟩ := Usage.core_eq_iff.1 hd
  ⟨hc, hcfg, u1, u2, u3, d1, d2, d3, sa, sb⟩

/-- **C11, one operation.**  For all states related by `RebootEq` (arbitrary `rebooted` and
    `current` rows on both sides) with the nameplate tables in order, and every operation other
    than a crash: the states after the operation are related again (and the nameplate tables in
    order again); the events of the step are equal up to the trailing usage commit of
    `dump_stats`, and equal outright when the operation is not a sweep. -/
theorem C11_step {s₁ s₂ : Sys} (h : RebootEq s₁ s₂) (hn : s₁.db.NpOk) (op : Op) (hop : op.isCrash = false) :
    RebootEq (s₁.step op) (s₂.step op) ∧ (s₁.step op).db.NpOk ∧
      EqUpToDump (s₁.step op).out (s₂.step op).out ∧
      ((∀ now fault, op ≠ .sweep now fault) → (s₁.step op).out = (s₂.step op).out) := by
  rw [step_eq_of_not_crash s₁ hop, step_eq_of_not_crash s₂ hop]
  have w : W RebRel ({ s₁ with out := [], snaps := [] } : Sys) ({ s₂ with out := [], snaps := [] } : Sys) :=
    ⟨⟨h.chan, h.cfg, rfl, Usage.core_eq_iff.2 ⟨h.unp, h.umb, h.ucl⟩, Usage.core_eq_iff.2 ⟨h.dnp, h.dmb, h.dcl⟩,
      congrArg Usage.current h.synced₁.2, congrArg Usage.current h.synced₂.2⟩,
     Ok.clear h.synced₁ hn, Ok.clear h.synced₂ (h.chan.1 ▸ hn)⟩
  refine w.stepPlain rebRel_simRel op
    (Q := fun a b => RebootEq a b ∧ a.db.NpOk ∧ EqUpToDump a.out b.out ∧
      ((∀ now fault, op ≠ .sweep now fault) → a.out = b.out))
    (fun w' => ?_) fun w1 now fault hs => ?_
  · exact ⟨.of_core w'.rel.chan w'.rel.cfg w'.rel.udb w'.rel.udisk w'.oka.synced w'.okb.synced, w'.oka.np,
      .of_eq w'.rel.out, fun _ => w'.rel.out⟩
  · obtain ⟨hc, hcfg, hu, hd, ho⟩ := w1.rel.dumpStats now
    have oa := w1.oka.dumpStats now
    exact ⟨.of_core hc hcfg hu hd oa.synced (w1.okb.dumpStats now).synced, oa.np, ho,
      fun hne => absurd hs (hne now fault)⟩

/-- **C11, histories from related states.**  The traces are equal once usage commits are erased
    (by `C11_step` the only ones that can differ are those ending a sweep). -/
theorem C11_run (ops : List Op) (hops : ∀ op ∈ ops, op.isCrash = false) :
    ∀ {s₁ s₂ : Sys}, RebootEq s₁ s₂ → s₁.db.NpOk →
      RebootEq (Sys.run s₁ ops).1 (Sys.run s₂ ops).1 ∧ (Sys.run s₁ ops).1.db.NpOk ∧
        (Sys.run s₁ ops).2.filterMap eraseUsage = (Sys.run s₂ ops).2.filterMap eraseUsage := by
  intro s₁ s₂ h hn
  have := run_sim (S := fun a b => RebootEq a b ∧ a.db.NpOk) (er := eraseUsage)
    (fun h op hop => have ⟨h1, n1, o1, _⟩ := C11_step h.1 h.2 op hop; ⟨⟨h1, n1⟩, o1.eraseUsage⟩) ops hops ⟨h, hn⟩
  exact ⟨this.1.1, this.1.2, this.2⟩

/-! ### (3) the property -/

/-- the operations that drop every live connection of `s` -/
def dropAll (s : Sys) : List Op := s.conns.map (fun x => Op.drop x.id)

theorem c11_run_drops_conns (l : List Nat) :
    ∀ s : Sys, (∀ x ∈ s.conns, x.id ∈ l) → (Sys.run s (l.map Op.drop)).1.conns = [] := by
  induction l with
  | nil => intro s h; exact List.eq_nil_iff_forall_not_mem.2 fun x hx => nomatch h x hx
  | cons c l ih =>
    intro s h
    simp only [List.map_cons, Sys.run]
    refine ih _ fun x hx => ?_
    obtain ⟨hx, hc⟩ := List.mem_filter.1 (show x ∈ s.conns.filter (fun x => ¬ x.id = c) from hx)
    exact (List.mem_cons.1 (h x hx)).resolve_left (by simpa using hc)

theorem run_dropAll_conns (s : Sys) : (Sys.run s (dropAll s)).1.conns = [] := by
  have : dropAll s = (s.conns.map (·.id)).map Op.drop := by simp [dropAll, List.map_map, Function.comp_def]
  rw [this]
  exact c11_run_drops_conns _ s fun x hx => List.mem_map.2 ⟨x, hx, rfl⟩

theorem dropAll_noCrash (s : Sys) : ∀ op ∈ dropAll s, op.isCrash = false := by
  intro op hop
  simp only [dropAll, List.mem_map] at hop
  obtain ⟨x, _, rfl⟩ := hop
  rfl

/-- From any state with nothing uncommitted, the nameplate tables in order and no live
    connection, a restart is invisible to every crash-free continuation. -/
theorem C11_restart_of_quiet (s : Sys) (hS : s.Synced) (hN : s.db.NpOk) (hC : s.conns = []) (t : Time)
    (H : List Op) (hH : ∀ op ∈ H, op.isCrash = false) :
    (Sys.run s (.restart t :: H)).2.filterMap eraseUsage = (Sys.run s H).2.filterMap eraseUsage ∧
      RebootEq (Sys.run s (.restart t :: H)).1 (Sys.run s H).1 := by
  have hR := rebootEq_restart_of_quiet s t hS hC
  obtain ⟨hfin, _, htr⟩ := C11_run H hH hR (hR.chan.1 ▸ hN)
  have hout : (s.step (.restart t)).out = [] := by rw [step_restart_of_quiet s t hS hC]
  simp only [Sys.run, hout, List.nil_append]
  exact ⟨htr, hfin⟩

/-- **C11.**  From any state `s₀` with nothing uncommitted and the nameplate tables in order:
    for every `H₁`, `H₂` without crashes, `s` the state after `H₁`, and every restart time `t`,
    the run with a restart right after all connections of `s` were dropped and the run without
    it have the same events up to usage commits, the same frames, and end in states that agree
    on the channel database (seen and committed: five tables and the id counter each), the
    connection records, the configuration and the usage tables `nameplates`, `mailboxes`,
    `client_versions` (`RebootEq`; both with nothing uncommitted). -/
theorem C11_restart_invisible (s₀ : Sys) (hS : s₀.Synced) (hN : s₀.db.NpOk) (H₁ H₂ : List Op)
    (h1 : ∀ op ∈ H₁, op.isCrash = false) (h2 : ∀ op ∈ H₂, op.isCrash = false) (t : Time) :
    let s := (Sys.run s₀ H₁).1
    let A := Sys.run s₀ (H₁ ++ dropAll s ++ [.restart t] ++ H₂)
    let B := Sys.run s₀ (H₁ ++ dropAll s ++ H₂)
    A.2.filterMap eraseUsage = B.2.filterMap eraseUsage ∧
      A.2.filter Event.isFrame = B.2.filter Event.isFrame ∧
      RebootEq A.1 B.1 := by
  intro s A B
  have hpre : ∀ op ∈ H₁ ++ dropAll s, op.isCrash = false := fun op hop =>
    (List.mem_append.1 hop).elim (h1 op) (dropAll_noCrash s op)
  obtain ⟨_, hS', hN'⟩ := C09_frames_synced s₀ (H₁ ++ dropAll s) hpre hS hN
  have hC' : (Sys.run s₀ (H₁ ++ dropAll s)).1.conns = [] := by
    rw [Sys.run_append]; exact run_dropAll_conns s
  obtain ⟨htr, hfin⟩ := C11_restart_of_quiet _ hS' hN' hC' t H₂ h2
  -- both histories split after the common prefix
  have eL : H₁ ++ dropAll s ++ [.restart t] ++ H₂ = (H₁ ++ dropAll s) ++ .restart t :: H₂ := by simp
  have eA : A = _ := (congrArg (Sys.run s₀) eL).trans (Sys.run_append s₀ (H₁ ++ dropAll s) (.restart t :: H₂))
  have eB : B = _ := Sys.run_append s₀ (H₁ ++ dropAll s) H₂
  have hev : A.2.filterMap eraseUsage = B.2.filterMap eraseUsage := by
    rw [eA, eB]
    simp only [List.filterMap_append, htr]
  refine ⟨hev, frames_eq_of_eraseUsage_eq hev, ?_⟩
  rw [eA, eB]
  exact hfin

/-- the same from the initial state of any configuration -/
theorem C11_restart_invisible_init (cfg : Cfg) (rb : Time) (H₁ H₂ : List Op)
    (h1 : ∀ op ∈ H₁, op.isCrash = false) (h2 : ∀ op ∈ H₂, op.isCrash = false) (t : Time) :
    let s := (Sys.run ({ cfg := cfg, rebooted := rb } : Sys) H₁).1
    let A := Sys.run ({ cfg := cfg, rebooted := rb } : Sys) (H₁ ++ dropAll s ++ [.restart t] ++ H₂)
    let B := Sys.run ({ cfg := cfg, rebooted := rb } : Sys) (H₁ ++ dropAll s ++ H₂)
    A.2.filterMap eraseUsage = B.2.filterMap eraseUsage ∧
      A.2.filter Event.isFrame = B.2.filter Event.isFrame ∧
      A.1.db = B.1.db ∧ A.1.disk = B.1.disk ∧ A.1.conns = B.1.conns ∧
      A.1.udb.nameplates = B.1.udb.nameplates ∧ A.1.udb.mailboxes = B.1.udb.mailboxes ∧
      A.1.udb.clients = B.1.udb.clients := by
  intro s A B
  obtain ⟨a, b, c⟩ := C11_restart_invisible _ (init_synced cfg rb) (init_npOk cfg rb) H₁ H₂ h1 h2 t
  exact ⟨a, b, c.chan.1, c.chan.2.1, c.chan.2.2, c.unp, c.umb, c.ucl⟩

/-! ### Non-vacuity -/

namespace C11Example

def start : Sys := { cfg := { usage := true }, rebooted := 0 }

/-- the first client claims nameplate "4", opens the mailbox, stores a message and goes away; two more
    connections are made (and stay unbound); a sweep -/
def H₁ : List Op :=
  [ .connect 1,
    .recv 1 10 (.int 1) (.bind (some "app") (some "s1") none none),
    .recv 1 11 (.int 2) (.claim (some "4") "mb1"),
    .recv 1 12 (.int 3) (.open_ (some "mb1")),
    .recv 1 13 (.int 4) (.add (some (.str "pake")) (some (.str "body"))),
    .connect 2,
    .drop 1,
    .connect 4,
    .sweep 100 false ]

/-- after the reconnection point: a sweep first (same time as the last one, so that the
    `current` row of the run without restart does not change), then the second client
    reconnects, claims the same nameplate, opens (gets the stored message replayed), closes -/
def H₂ : List Op :=
  [ .sweep 100 false,
    .connect 3,
    .recv 3 101 (.int 1) (.bind (some "app") (some "s2") none none),
    .recv 3 102 (.int 2) (.claim (some "4") "mb2"),
    .recv 3 103 (.int 3) (.open_ (some "mb1")),
    .sweep 200 false,
    .recv 3 201 (.int 4) (.close (some "mb1") (some "happy")) ]

def s : Sys := (Sys.run start H₁).1
def A : Sys × List Event := Sys.run start (H₁ ++ dropAll s ++ [.restart 50] ++ H₂)
def B : Sys × List Event := Sys.run start (H₁ ++ dropAll s ++ H₂)

/-- the hypotheses of `C11_restart_invisible` hold, and two connections are alive after `H₁` (next example) -/
example : start.Synced ∧ start.db.NpOk ∧ (∀ op ∈ H₁, op.isCrash = false) ∧ (∀ op ∈ H₂, op.isCrash = false) :=
  ⟨init_synced _ _, init_npOk _ _, by decide, by decide⟩

example : (dropAll s).length = 2 := by decide +kernel

/-- evaluated, not derived: the frames are equal, there are 17 of them, the stored message is
    replayed to the reconnected client in both runs, and the final channel databases are equal
    and not empty -/
example : A.2.filter Event.isFrame = B.2.filter Event.isFrame ∧ (A.2.filter Event.isFrame).length = 17 ∧
    Event.frame 3 (.message "s1" (.str "pake") (.str "body") 13 (.str "4")) true ∈ A.2 ∧
    A.1.db = B.1.db ∧ A.1.db.mailboxes.length = 1 ∧ A.1.db.messages.length = 1 := by
  decide +kernel

/-- what is NOT equal: the `rebooted` column of the `current` row ... -/
theorem current_differs : A.1.udb.current ≠ B.1.udb.current ∧ A.1.rebooted ≠ B.1.rebooted := by
  decide +kernel

example : A.1.udb.current.map (·.rebooted) = [50] ∧ B.1.udb.current.map (·.rebooted) = [0] := by
  decide +kernel

/-- ... and hence the raw traces: the first sweep of `H₂` ends with an effective usage commit
    in the restarted run only -/
theorem raw_traces_differ : A.2 ≠ B.2 ∧ A.2.length = B.2.length + 1 ∧
    A.2.filterMap eraseUsage = B.2.filterMap eraseUsage := by
  decide +kernel

/-- `restart_of_quiet` on the state after `H₁ ++ dropAll`: nothing uncommitted, no connection -/
example : (Sys.run start (H₁ ++ dropAll s)).1.conns = [] ∧
    (Sys.run start (H₁ ++ dropAll s)).1.db = (Sys.run start (H₁ ++ dropAll s)).1.disk ∧
    (Sys.run start (H₁ ++ dropAll s)).1.db.mailboxes.length = 1 := by
  decide +kernel

/-- a non-trivial instance of `RebootEq` (different `rebooted`, different `current` rows) -/
example : RebootEq
    { start with udb := { current := [⟨7, 8, none, 0⟩] }, udisk := { current := [⟨7, 8, none, 0⟩] }, rebooted := 7 }
    { start with udb := { current := [] }, udisk := { current := [] }, rebooted := 0 } :=
  ⟨⟨rfl, rfl, rfl⟩, rfl, rfl, rfl, rfl, rfl, rfl, rfl, ⟨rfl, rfl⟩, ⟨rfl, rfl⟩⟩

end C11Example

end Wormhole

#print axioms Wormhole.restart_of_quiet
#print axioms Wormhole.C11_step
#print axioms Wormhole.C11_run
#print axioms Wormhole.C11_restart_invisible
#print axioms Wormhole.C11_restart_invisible_init
