/-
  C15 — classification rule of the usage summaries (pure part): `summarizeMailbox`
  (`_summarize_mailbox`) and `summarizeNameplate` (`_summarize_nameplate_usage`), for EVERY list of
  side rows (any length, any moods including unknown strings, "" and `none`), every deletion time,
  every blur function and both values of `pruned`: the whole record (`C15_summarizeMailbox`,
  `C15_summarizeNameplate`), its result string as the documented precedence chain and as the "last
  assignment wins" sequence of the Python text, one iff per result string, and the time fields.

  "smallest" / "second smallest" are `l.min?` and `(l.erase m).min?` (remove one occurrence of the
  minimum, take the minimum of the rest: with two equal smallest times the waiting time is 0).
-/
import Wormhole.Props.C16

namespace Wormhole
namespace C15
open C16

theorem min?_none (l : List Time) : l.min? = none ↔ l = [] := List.min?_eq_none_iff

theorem exists_isMin {l : List Time} (h : l ≠ []) : ∃ m, IsMin l m := by
  cases hm : l.min? with
  | none => exact absurd ((min?_none l).1 hm) h
  | some m => exact ⟨m, (isMin_iff_min? l m).2 hm⟩

theorem getD_min? {l : List Time} {m : Time} (h : IsMin l m) (dt : Time) : l.min?.getD dt = m := by
  rw [(isMin_iff_min? l m).1 h]; rfl

/-- some row of `sides` reported mood `m` -/
abbrev HasMood (sides : List MbSide) (m : String) : Prop := ∃ r ∈ sides, r.mood = some m

/-- One step of reading a precedence chain `if c₁ then a₁ else if c₂ then a₂ else …`. -/
theorem ite_eq_iff {α : Sort _} {c : Prop} [Decidable c] {a b x : α} :
    (if c then a else b) = x ↔ c ∧ a = x ∨ ¬ c ∧ b = x := by
  split <;> simp [*]

theorem ite_mem {α : Type _} {l : List α} {c : Prop} [Decidable c] {a b : α} (ha : a ∈ l) (hb : b ∈ l) :
    (if c then a else b) ∈ l := by
  split <;> assumption

/-- closes `chain = "x" ↔ …`: `ite_eq_iff` all the way down says "the earlier guards fail, this guard
    holds and its string is x"; the string comparisons are decided; the rest is propositional -/
local macro "chain_cases" : tactic => `(tactic| (
  simp only [ite_eq_iff, String.reduceEq, and_false, and_true, or_false, false_or]
  grind))

/-- waiting time: second smallest − smallest, when there are at least two times -/
def waitingSpec (l : List Time) : Option Time :=
  match l.min? with
  | none => none
  | some m => (l.erase m).min?.map (· - m)

theorem waitingSpec_eq_none_iff (l : List Time) : waitingSpec l = none ↔ l.length < 2 := by
  unfold waitingSpec
  cases h : l.min? with
  | none => have := (min?_none l).1 h; subst this; simp
  | some m =>
    have hm : m ∈ l := ((isMin_iff_min? l m).2 h).1
    have hlen := List.length_erase_of_mem hm
    simp only [Option.map_eq_none_iff, List.min?_eq_none_iff]
    rw [← List.length_eq_zero_iff]
    have : 0 < l.length := List.length_pos_of_mem hm
    omega

theorem waitingSpec_of_two_le {l : List Time} (h : 2 ≤ l.length) :
    ∃ m m2, IsMin l m ∧ IsMin (l.erase m) m2 ∧ waitingSpec l = some (m2 - m) ∧ 0 ≤ m2 - m := by
  obtain ⟨m, hmin⟩ := exists_isMin (l := l) (by intro e; rw [e] at h; simp at h)
  have hlen := List.length_erase_of_mem hmin.1
  obtain ⟨m2, hmin2⟩ := exists_isMin (l := l.erase m) (by intro e; rw [e] at hlen; simp at hlen; omega)
  refine ⟨m, m2, hmin, hmin2, ?_, ?_⟩
  · simp only [waitingSpec, (isMin_iff_min? _ _).1 hmin, (isMin_iff_min? _ _).1 hmin2, Option.map_some]
  · have := hmin.2 m2 (List.mem_of_mem_erase hmin2.1)
    unfold Time at *; omega

/-- The three shapes of the sorted list, with what `min?.getD` and `waitingSpec` are in each: all that
    the two summaries use of `sortTimes`. -/
theorem sortTimes_shape (l : List Time) (dt : Time) :
    (sortTimes l = [] ∧ l.length = 0 ∧ l.min?.getD dt = dt ∧ waitingSpec l = none) ∨
    (∃ t0, sortTimes l = [t0] ∧ l.length = 1 ∧ l.min?.getD dt = t0 ∧ waitingSpec l = none) ∨
    (∃ t0 t1 rest, sortTimes l = t0 :: t1 :: rest ∧ l.length = rest.length + 2 ∧ l.min?.getD dt = t0 ∧
      waitingSpec l = some (t1 - t0)) := by
  have hlen := length_sortTimes l
  match hs : sortTimes l with
  | [] =>
    rw [hs] at hlen
    cases List.length_eq_zero_iff.1 hlen.symm
    exact .inl ⟨rfl, rfl, rfl, rfl⟩
  | [t0] =>
    rw [hs] at hlen
    exact .inr (.inl ⟨t0, rfl, hlen.symm, getD_min? (sortTimes_head_isMin hs) dt,
      (waitingSpec_eq_none_iff l).2 (by rw [← hlen]; exact Nat.lt_succ_self 1)⟩)
  | t0 :: t1 :: rest =>
    have h0 := sortTimes_head_isMin hs
    have h1 := sortTimes_second_isMin hs
    refine .inr (.inr ⟨t0, t1, rest, rfl, by rw [← hlen, hs]; rfl, getD_min? h0 dt, ?_⟩)
    simp only [waitingSpec, (isMin_iff_min? _ _).1 h0, (isMin_iff_min? _ _).1 h1, Option.map_some]

/-! ### Mailboxes -/

/-- The record a mailbox with side rows `sides`, retired at `dt`, must get. -/
def mailboxSpec (blur : Time → Time) (sides : List MbSide) (dt : Time) (pruned : Bool) : Summary :=
  let l := sides.map (·.added)
  let first := l.min?.getD dt
  { started := blur first
    waiting := waitingSpec l
    total := dt - first
    result :=
      if sides.length > 2 then "crowded"
      else if pruned then "pruney"
      else if HasMood sides "scary" then "scary"
      else if HasMood sides "errory" then "errory"
      else if HasMood sides "lonely" then "lonely"
      else if sides.length = 0 then "quiet"
      else if sides.length = 1 then "lonely"
      else "happy" }

theorem C15_summarizeMailbox (blur : Time → Time) (sides : List MbSide) (dt : Time) (pruned : Bool) :
    summarizeMailbox blur sides dt pruned = mailboxSpec blur sides dt pruned := by
  unfold summarizeMailbox mailboxSpec
  simp only [length_sortTimes, List.length_map, List.any_eq_true, decide_eq_true_eq, HasMood]
  rcases sortTimes_shape (sides.map (·.added)) dt with
      ⟨hs, _, hf, hw⟩ | ⟨t0, hs, _, hf, hw⟩ | ⟨t0, t1, rest, hs, _, hf, hw⟩ <;>
    simp only [hs, hf, hw]

/-- The result string of a mailbox record: the documented precedence. -/
theorem C15_mailbox_result (blur : Time → Time) (sides : List MbSide) (dt : Time) (pruned : Bool) :
    (summarizeMailbox blur sides dt pruned).result =
      if sides.length > 2 then "crowded"
      else if pruned then "pruney"
      else if HasMood sides "scary" then "scary"
      else if HasMood sides "errory" then "errory"
      else if HasMood sides "lonely" then "lonely"
      else if sides.length = 0 then "quiet"
      else if sides.length = 1 then "lonely"
      else "happy" :=
  congrArg Summary.result (C15_summarizeMailbox blur sides dt pruned)

/-- The Python text assigns the result in the opposite order, later assignments overriding earlier
    ones (count, then "lonely", "errory", "scary" moods, then pruned, then > 2 sides). -/
def pythonMailboxResult (sides : List MbSide) (pruned : Bool) : String :=
  let n := sides.length
  let r0 := if n = 0 then "quiet" else if n = 1 then "lonely" else "happy"
  let r1 := if HasMood sides "lonely" then "lonely" else r0
  let r2 := if HasMood sides "errory" then "errory" else r1
  let r3 := if HasMood sides "scary" then "scary" else r2
  let r4 := if pruned then "pruney" else r3
  if n > 2 then "crowded" else r4

-- with the `let`s substituted, `pythonMailboxResult` IS the precedence chain
theorem C15_mailbox_result_python (blur : Time → Time) (sides : List MbSide) (dt : Time) (pruned : Bool) :
    (summarizeMailbox blur sides dt pruned).result = pythonMailboxResult sides pruned :=
  C15_mailbox_result blur sides dt pruned

section iffs
variable (blur : Time → Time) (sides : List MbSide) (dt : Time) (pruned : Bool)

theorem mailbox_result_mem :
    (summarizeMailbox blur sides dt pruned).result ∈
      ["crowded", "pruney", "scary", "errory", "lonely", "quiet", "happy"] := by
  rw [C15_mailbox_result]
  repeat' apply ite_mem
  all_goals simp only [List.mem_cons, String.reduceEq, true_or, or_true, false_or]

theorem mailbox_crowded_iff :
    (summarizeMailbox blur sides dt pruned).result = "crowded" ↔ 2 < sides.length := by
  rw [C15_mailbox_result]
  simp only [ite_eq_iff, String.reduceEq, and_false, and_true, or_false]

theorem mailbox_pruney_iff :
    (summarizeMailbox blur sides dt pruned).result = "pruney" ↔ sides.length ≤ 2 ∧ pruned = true := by
  rw [C15_mailbox_result]
  chain_cases

theorem mailbox_scary_iff :
    (summarizeMailbox blur sides dt pruned).result = "scary" ↔
      sides.length ≤ 2 ∧ pruned = false ∧ HasMood sides "scary" := by
  rw [C15_mailbox_result]
  chain_cases

theorem mailbox_errory_iff :
    (summarizeMailbox blur sides dt pruned).result = "errory" ↔
      sides.length ≤ 2 ∧ pruned = false ∧ ¬ HasMood sides "scary" ∧ HasMood sides "errory" := by
  rw [C15_mailbox_result]
  chain_cases

/-- "lonely" has two sources: a reported mood, or a single side with no overriding mood. -/
theorem mailbox_lonely_iff :
    (summarizeMailbox blur sides dt pruned).result = "lonely" ↔
      sides.length ≤ 2 ∧ pruned = false ∧ ¬ HasMood sides "scary" ∧ ¬ HasMood sides "errory" ∧
        (HasMood sides "lonely" ∨ sides.length = 1) := by
  rw [C15_mailbox_result]
  chain_cases

theorem mailbox_quiet_iff :
    (summarizeMailbox blur sides dt pruned).result = "quiet" ↔ sides = [] ∧ pruned = false := by
  rw [C15_mailbox_result]
  chain_cases

theorem mailbox_happy_iff :
    (summarizeMailbox blur sides dt pruned).result = "happy" ↔
      sides.length = 2 ∧ pruned = false ∧ ¬ HasMood sides "scary" ∧ ¬ HasMood sides "errory" ∧
        ¬ HasMood sides "lonely" := by
  rw [C15_mailbox_result]
  chain_cases

end iffs

theorem C15_mailbox_times (blur : Time → Time) (sides : List MbSide) (dt : Time) (pruned : Bool) :
    let l := sides.map (·.added)
    let u := summarizeMailbox blur sides dt pruned
    u.started = blur (l.min?.getD dt) ∧ u.waiting = waitingSpec l ∧ u.total = dt - l.min?.getD dt := by
  have h := C15_summarizeMailbox blur sides dt pruned
  exact ⟨congrArg Summary.started h, congrArg Summary.waiting h, congrArg Summary.total h⟩

/-- The three shapes, spelled out with least elements instead of `min?`. -/
theorem C15_mailbox_times_cases (blur : Time → Time) (sides : List MbSide) (dt : Time) (pruned : Bool) :
    let l := sides.map (·.added)
    let u := summarizeMailbox blur sides dt pruned
    (sides = [] → u.started = blur dt ∧ u.waiting = none ∧ u.total = 0) ∧
    (sides.length = 1 → ∃ m, IsMin l m ∧ u.started = blur m ∧ u.waiting = none ∧ u.total = dt - m) ∧
    (2 ≤ sides.length → ∃ m m2, IsMin l m ∧ IsMin (l.erase m) m2 ∧
        u.started = blur m ∧ u.waiting = some (m2 - m) ∧ 0 ≤ m2 - m ∧ u.total = dt - m) := by
  intro l u
  obtain ⟨h1, h2, h3⟩ := C15_mailbox_times blur sides dt pruned
  have hl : l.length = sides.length := List.length_map _
  refine ⟨?_, ?_, ?_⟩
  · rintro rfl
    exact ⟨h1, h2, h3.trans (Int.sub_self dt)⟩
  · intro h
    obtain ⟨m, hm⟩ := exists_isMin (l := l) (by intro e; rw [e] at hl; simp at hl; omega)
    refine ⟨m, hm, ?_, h2.trans ((waitingSpec_eq_none_iff l).2 (by omega)), ?_⟩
    · rw [h1, getD_min? hm]
    · rw [h3, getD_min? hm]
  · intro h
    obtain ⟨m, m2, hm, hm2, hw, hnn⟩ := waitingSpec_of_two_le (l := l) (by omega)
    refine ⟨m, m2, hm, hm2, ?_, h2.trans hw, hnn, ?_⟩
    · rw [h1, getD_min? hm]
    · rw [h3, getD_min? hm]

/-! ### Nameplates -/

/-- `IndexError` exactly when there is no side row. -/
theorem C15_nameplate_none_iff (blur : Time → Time) (added : List Time) (dt : Time) (pruned : Bool) :
    summarizeNameplate blur added dt pruned = none ↔ added = [] :=
  summarizeNameplate_eq_none_iff blur added dt pruned

/-- The record a nameplate with side times `added` (non-empty), retired at `dt`, must get. -/
def nameplateSpec (blur : Time → Time) (added : List Time) (dt : Time) (pruned : Bool) : Summary :=
  let first := added.min?.getD dt
  { started := blur first
    waiting := waitingSpec added
    total := dt - first
    result :=
      if added.length > 2 then "crowded"
      else if pruned then "pruney"
      else if added.length = 2 then "happy"
      else "lonely" }

/-- The whole nameplate record. (`getD dt` in `nameplateSpec` is never used: `added ≠ []`.) -/
theorem C15_summarizeNameplate (blur : Time → Time) (added : List Time) (dt : Time) (pruned : Bool) :
    summarizeNameplate blur added dt pruned =
      if added = [] then none else some (nameplateSpec blur added dt pruned) := by
  unfold summarizeNameplate nameplateSpec
  rcases sortTimes_shape added dt with
      ⟨hs, hl, hf, hw⟩ | ⟨t0, hs, hl, hf, hw⟩ | ⟨t0, t1, rest, hs, hl, hf, hw⟩ <;>
    simp only [hs, hf, hw, hl, List.length_cons, List.length_nil]
  · rw [if_pos (List.length_eq_zero_iff.1 hl)]
  · rw [if_neg (List.ne_nil_of_length_pos (l := added) (by omega))]
  · rw [if_neg (List.ne_nil_of_length_pos (l := added) (by omega))]

/-- The result string of a nameplate record: the documented precedence. -/
theorem C15_nameplate_result {blur : Time → Time} {added : List Time} {dt : Time} {pruned : Bool}
    {u : Summary} (h : summarizeNameplate blur added dt pruned = some u) :
    u.result =
      if added.length > 2 then "crowded"
      else if pruned then "pruney"
      else if added.length = 2 then "happy"
      else "lonely" := by
  rw [C15_summarizeNameplate] at h
  split at h
  · cases h
  · cases h; rfl

/-- The Python order of assignments for nameplates. -/
def pythonNameplateResult (n : Nat) (pruned : Bool) : String :=
  let r0 := "lonely"
  let r1 := if n = 2 then "happy" else r0
  let r2 := if pruned then "pruney" else r1
  if n > 2 then "crowded" else r2

theorem C15_nameplate_result_python {blur : Time → Time} {added : List Time} {dt : Time} {pruned : Bool}
    {u : Summary} (h : summarizeNameplate blur added dt pruned = some u) :
    u.result = pythonNameplateResult added.length pruned :=
  C15_nameplate_result h

section iffs
variable {blur : Time → Time} {added : List Time} {dt : Time} {pruned : Bool} {u : Summary}
  (h : summarizeNameplate blur added dt pruned = some u)
include h

theorem nameplate_nonempty : 1 ≤ added.length := by
  have : added ≠ [] := fun e => by
    rw [(C15_nameplate_none_iff blur added dt pruned).2 e] at h; cases h
  exact List.length_pos_iff.2 this

theorem nameplate_crowded_iff : u.result = "crowded" ↔ 2 < added.length := by
  rw [C15_nameplate_result h]
  simp only [ite_eq_iff, String.reduceEq, and_false, and_true, or_false]

theorem nameplate_pruney_iff : u.result = "pruney" ↔ added.length ≤ 2 ∧ pruned = true := by
  rw [C15_nameplate_result h]
  chain_cases

theorem nameplate_happy_iff : u.result = "happy" ↔ added.length = 2 ∧ pruned = false := by
  rw [C15_nameplate_result h]
  chain_cases

theorem nameplate_lonely_iff : u.result = "lonely" ↔ added.length = 1 ∧ pruned = false := by
  have := nameplate_nonempty h
  rw [C15_nameplate_result h]
  chain_cases

theorem C15_nameplate_times :
    ∃ m, IsMin added m ∧ u.started = blur m ∧ u.total = dt - m ∧ u.waiting = waitingSpec added ∧
      (added.length = 1 → u.waiting = none) ∧
      (2 ≤ added.length → ∃ m2, IsMin (added.erase m) m2 ∧ u.waiting = some (m2 - m) ∧ 0 ≤ m2 - m) := by
  have hne := nameplate_nonempty h
  obtain ⟨m, hmin⟩ := exists_isMin (l := added) (by intro e; rw [e] at hne; simp at hne)
  rw [C15_summarizeNameplate] at h
  split at h
  · cases h
  · cases h
    refine ⟨m, hmin, congrArg blur (getD_min? hmin dt), congrArg (dt - ·) (getD_min? hmin dt), rfl, ?_, ?_⟩
    · intro h1; exact (waitingSpec_eq_none_iff added).2 (by omega)
    · intro h2
      obtain ⟨m', m2, hm', hm2, hw, hnn⟩ := waitingSpec_of_two_le h2
      cases hm'.unique hmin
      exact ⟨m2, hm2, hw, hnn⟩

end iffs
/-- `_summarize_mailbox_and_store` appends exactly the row prescribed by `mailboxSpec`. -/
theorem C15_storeMailboxUsage (s : Sys) (app : String) (forNp : Bool) (sides : List MbSide) (t : Time)
    (pruned : Bool) :
    let u := mailboxSpec s.blurTime sides t pruned
    s.storeMailboxUsage app forNp sides t pruned =
      { s with udb := { s.udb with mailboxes := s.udb.mailboxes ++
          [⟨app, forNp, u.started, u.total, u.waiting, u.result⟩] } } := by
  intro u
  unfold Sys.storeMailboxUsage
  simp only [Sys.modUdb]
  rw [C15_summarizeMailbox]

/-- `_summarize_nameplate_and_store`: `IndexError` (nothing written) iff there is no side row;
    otherwise it appends exactly the row prescribed by `nameplateSpec`. -/
theorem C15_storeNameplateUsage (s : Sys) (app : String) (sides : List NpSide) (t : Time) (pruned : Bool) :
    let u := nameplateSpec s.blurTime (sides.map (·.added)) t pruned
    s.storeNameplateUsage app sides t pruned =
      if sides = [] then (s, false)
      else ({ s with udb := { s.udb with nameplates := s.udb.nameplates ++
              [⟨app, u.started, u.waiting, u.total, u.result⟩] } }, true) := by
  intro u
  unfold Sys.storeNameplateUsage
  rw [C15_summarizeNameplate]
  by_cases h : sides = []
  · subst h; rfl
  · simp only [List.map_eq_nil_iff, h, if_false, Sys.modUdb]
    rfl

/-! ### Non-vacuity: concrete rows (moods unknown / missing / empty included) -/

private def r (t : Time) (mood : Option String) : MbSide := ⟨"m", false, "s", t, mood⟩

-- precedence: crowded > pruney > scary > errory > lonely(mood) > count
example : summarizeMailbox id [r 5 (some "scary"), r 3 (some "happy"), r 9 none] 20 true
    = ⟨3, some 2, 17, "crowded"⟩ := by rw [C15_summarizeMailbox]; decide
example : summarizeMailbox id [r 5 (some "scary"), r 3 (some "errory")] 20 true
    = ⟨3, some 2, 17, "pruney"⟩ := by rw [C15_summarizeMailbox]; decide
example : summarizeMailbox id [r 5 (some "errory"), r 3 (some "scary")] 20 false
    = ⟨3, some 2, 17, "scary"⟩ := by rw [C15_summarizeMailbox]; decide
example : summarizeMailbox id [r 5 (some "lonely"), r 3 (some "errory")] 20 false
    = ⟨3, some 2, 17, "errory"⟩ := by rw [C15_summarizeMailbox]; decide
example : summarizeMailbox id [r 5 (some "happy"), r 5 (some "lonely")] 20 false
    = ⟨5, some 0, 15, "lonely"⟩ := by rw [C15_summarizeMailbox]; decide
example : summarizeMailbox id [r 5 (some "bogus"), r 3 none] 20 false
    = ⟨3, some 2, 17, "happy"⟩ := by rw [C15_summarizeMailbox]; decide
example : summarizeMailbox id [r 5 (some "")] 20 false = ⟨5, none, 15, "lonely"⟩ := by
  rw [C15_summarizeMailbox]; decide
example : summarizeMailbox id [] 20 false = ⟨20, none, 0, "quiet"⟩ := by
  rw [C15_summarizeMailbox]; decide
example : summarizeMailbox id [] 20 true = ⟨20, none, 0, "pruney"⟩ := by
  rw [C15_summarizeMailbox]; decide
-- with a blur function
example : summarizeMailbox (fun t => 8 * (t / 8)) [r 13 none, r 21 none] 50 false
    = ⟨8, some 8, 37, "happy"⟩ := by rw [C15_summarizeMailbox]; decide

example : summarizeNameplate id [] 20 true = none := by rw [C15_summarizeNameplate]; decide
example : summarizeNameplate id [7] 20 false = some ⟨7, none, 13, "lonely"⟩ := by
  rw [C15_summarizeNameplate]; decide
example : summarizeNameplate id [9, 7] 20 false = some ⟨7, some 2, 13, "happy"⟩ := by
  rw [C15_summarizeNameplate]; decide
example : summarizeNameplate id [9, 7] 20 true = some ⟨7, some 2, 13, "pruney"⟩ := by
  rw [C15_summarizeNameplate]; decide
example : summarizeNameplate id [9, 7, 8, 7] 20 true = some ⟨7, some 0, 13, "crowded"⟩ := by
  rw [C15_summarizeNameplate]; decide
-- the hypotheses of the nameplate iffs are satisfiable
example : ∃ u, summarizeNameplate id [9, 7] 20 false = some u ∧ u.result = "happy" :=
  ⟨_, by rw [C15_summarizeNameplate]; rfl, by decide⟩

#print axioms C15_mailbox_result
#print axioms C15_mailbox_result_python
#print axioms C15_mailbox_times
#print axioms C15_mailbox_times_cases
#print axioms C15_summarizeMailbox
#print axioms mailbox_lonely_iff
#print axioms mailbox_happy_iff
#print axioms C15_nameplate_none_iff
#print axioms C15_summarizeNameplate
#print axioms C15_nameplate_result
#print axioms C15_nameplate_result_python
#print axioms C15_nameplate_times
#print axioms nameplate_lonely_iff
#print axioms C15_storeMailboxUsage
#print axioms C15_storeNameplateUsage

end C15
end Wormhole
