/-
  C18 — listing and usage options change nothing but what they advertise.

  (The first half of the property, what `list` answers, is `C18_list_answer` in Props/C17.lean.)

  This file: `C18_config_independent`, a simulation between two runs of the same history under
  two configurations.  The relation between the two states BETWEEN operations is `CfgSim`:

      same channel database as seen by the process (`db`: five tables and the AUTOINCREMENT
      counter), same committed channel database (`disk`), same connection records (`conns`),
      same welcome text, nothing uncommitted in either run, nameplate tables in order (`NpOk`).

  NOTHING is assumed about `cfg.allowList`, `cfg.usage`, `cfg.blur`, about the contents of the
  two usage databases (beyond `udb = udisk`, i.e. nothing uncommitted) or about `rebooted`.
  `cfg.welcome` must agree: the `welcome` frame carries it, and the property compares runs that
  differ in {listing, usage database, blur} only.

  Events are compared after `eraseCfg` (Inv/SimDefs.lean): effective commits of the usage database
  are dropped and the payload of a `nameplates` frame — the ONE answer the listing option may
  change — is blanked; the frame itself, its position, addressee and flag, and every other event
  stay.  The `synced` flags can be kept because both runs are `Synced` between operations, hence
  (C09, `Sys.Ok`) every frame of either run is sent with the flag `true`.
  This is stronger than DESIGN.md §6 C18 ("traces with `nameplates` frames erased").

  Crashes: `crashIn k op` is NOT covered, and cannot be in this form.  `k` counts the effective
  commits of `op` on BOTH databases, so with a usage database the k-th commit is a different
  point of the operation than without one: the two runs of `crashIn k op` are two different
  experiments.  `crash_not_comparable` below exhibits a `close` for which `crashIn 2` leaves
  the mailbox row in place with a usage database and deleted without one.  (What does hold for
  crashes is the one-run statement C10: every snapshot satisfies the commit-point invariant.)

  How it is proved: the generic walk of Inv/SimCore.lean + Inv/SimWs.lean (every function of
  Core.lean and Ws.lean preserves any relation closed under the channel primitives and the
  usage blocks) instantiated with `Sys.CfgRel` (Inv/SimCfg.lean).  `cfg.allowList` is read in
  `handleList` only; `cfg.usage`, `cfg.blur`, `udb` feed usage writes, usage commits and the
  `IndexError` of `_summarize_nameplate_usage`, which `NpOk` rules out in both runs.
-/
import Wormhole.Inv.SimCfg
import Wormhole.Props.C09

namespace Wormhole
open Sys

/-- the relation between the two runs, between operations -/
structure CfgSim (s₁ s₂ : Sys) : Prop where
  chan : ChanEq s₁ s₂
  welcome : s₁.cfg.welcome = s₂.cfg.welcome
  synced₁ : s₁.Synced
  synced₂ : s₂.Synced
  np : s₁.db.NpOk

/-- **C18, one operation.**  For all states related by `CfgSim` (arbitrary `allowList`, `usage`,
    `blur`, usage databases, `rebooted` on both sides) and every operation other than a crash:
    the states after the operation are related again, and the events of the step are equal
    after `eraseCfg`. -/
theorem C18_config_independent_step {s₁ s₂ : Sys} (h : CfgSim s₁ s₂) (op : Op) (hop : op.isCrash = false) :
    CfgSim (s₁.step op) (s₂.step op) ∧
      (s₁.step op).out.filterMap eraseCfg = (s₂.step op).out.filterMap eraseCfg := by
  rw [step_eq_of_not_crash s₁ hop, step_eq_of_not_crash s₂ hop]
  have w : W CfgRel ({ s₁ with out := [], snaps := [] } : Sys) ({ s₂ with out := [], snaps := [] } : Sys) :=
    ⟨⟨h.chan, h.welcome, rfl⟩, Ok.clear h.synced₁ h.np, Ok.clear h.synced₂ (h.chan.1 ▸ h.np)⟩
  have fin : ∀ {a b : Sys}, W CfgRel a b → CfgSim a b ∧ a.out.filterMap eraseCfg = b.out.filterMap eraseCfg :=
    fun w' => ⟨⟨w'.rel.chan, w'.rel.welcome, w'.oka.synced, w'.okb.synced, w'.oka.np⟩, w'.rel.out⟩
  exact w.stepPlain cfgRel_simRel op fin fun w1 now _ _ =>
    fin ⟨w1.rel.dumpStats now, w1.oka.dumpStats now, w1.okb.dumpStats now⟩

theorem C18_config_independent_run (ops : List Op) (hops : ∀ op ∈ ops, op.isCrash = false) :
    ∀ {s₁ s₂ : Sys}, CfgSim s₁ s₂ →
      CfgSim (Sys.run s₁ ops).1 (Sys.run s₂ ops).1 ∧
        (Sys.run s₁ ops).2.filterMap eraseCfg = (Sys.run s₂ ops).2.filterMap eraseCfg :=
  run_sim (S := CfgSim) (fun h op hop => C18_config_independent_step h op hop) ops hops

theorem cfgSim_init (cfg₁ cfg₂ : Cfg) (hw : cfg₁.welcome = cfg₂.welcome) (rb₁ rb₂ : Time) :
    CfgSim ({ cfg := cfg₁, rebooted := rb₁ } : Sys) ({ cfg := cfg₂, rebooted := rb₂ } : Sys) :=
  ⟨⟨rfl, rfl, rfl⟩, hw, init_synced cfg₁ rb₁, init_synced cfg₂ rb₂, init_npOk cfg₁ rb₁⟩

/-- **C18 (second half).**  For every crash-free history and every two configurations (listing
    allowed or not, usage database or not, any blur interval; same welcome text), started at
    any two times: the traces are equal after `eraseCfg`, and the channel database (five tables
    and the id counter), its committed copy and the connection records are equal at the end. -/
theorem C18_config_independent (cfg₁ cfg₂ : Cfg) (hw : cfg₁.welcome = cfg₂.welcome) (rb₁ rb₂ : Time)
    (ops : List Op) (hops : ∀ op ∈ ops, op.isCrash = false) :
    (Sys.run ({ cfg := cfg₁, rebooted := rb₁ } : Sys) ops).2.filterMap eraseCfg =
      (Sys.run ({ cfg := cfg₂, rebooted := rb₂ } : Sys) ops).2.filterMap eraseCfg ∧
    (Sys.run ({ cfg := cfg₁, rebooted := rb₁ } : Sys) ops).1.db =
      (Sys.run ({ cfg := cfg₂, rebooted := rb₂ } : Sys) ops).1.db ∧
    (Sys.run ({ cfg := cfg₁, rebooted := rb₁ } : Sys) ops).1.disk =
      (Sys.run ({ cfg := cfg₂, rebooted := rb₂ } : Sys) ops).1.disk ∧
    (Sys.run ({ cfg := cfg₁, rebooted := rb₁ } : Sys) ops).1.conns =
      (Sys.run ({ cfg := cfg₂, rebooted := rb₂ } : Sys) ops).1.conns := by
  obtain ⟨h, o⟩ := C18_config_independent_run ops hops (cfgSim_init cfg₁ cfg₂ hw rb₁ rb₂)
  exact ⟨o, h.chan.1, h.chan.2.1, h.chan.2.2⟩

/-- ... and the same after every prefix of the history ("after every step"). -/
theorem C18_config_independent_prefix (cfg₁ cfg₂ : Cfg) (hw : cfg₁.welcome = cfg₂.welcome) (rb₁ rb₂ : Time)
    (ops : List Op) (hops : ∀ op ∈ ops, op.isCrash = false) (n : Nat) :
    (Sys.run ({ cfg := cfg₁, rebooted := rb₁ } : Sys) (ops.take n)).2.filterMap eraseCfg =
      (Sys.run ({ cfg := cfg₂, rebooted := rb₂ } : Sys) (ops.take n)).2.filterMap eraseCfg ∧
    (Sys.run ({ cfg := cfg₁, rebooted := rb₁ } : Sys) (ops.take n)).1.db =
      (Sys.run ({ cfg := cfg₂, rebooted := rb₂ } : Sys) (ops.take n)).1.db :=
  let h := C18_config_independent cfg₁ cfg₂ hw rb₁ rb₂ (ops.take n)
    (fun op ho => hops op (List.mem_of_mem_take ho))
  ⟨h.1, h.2.1⟩

/-! ### what `eraseCfg` keeps -/

theorem eraseCfg_frame (c : Nat) (f : Frame) (b : Bool) (hf : ∀ ids, f ≠ .nameplates ids) :
    eraseCfg (.frame c f b) = some (.frame c f b) := by
  cases f <;> first | rfl | exact absurd rfl (hf _)

theorem eraseCfg_nameplates (c : Nat) (ids : List String) (b : Bool) :
    eraseCfg (.frame c (.nameplates ids) b) = some (.frame c (.nameplates []) b) := rfl

theorem eraseCfg_commit_chan : eraseCfg (.commit .chan) = some (.commit .chan) := rfl
theorem eraseCfg_commit_usage : eraseCfg (.commit .usage) = none := rfl
theorem eraseCfg_internal (c : Option Nat) (cls : String) : eraseCfg (.internal c cls) = some (.internal c cls) := rfl
theorem eraseCfg_fired (now old : Time) : eraseCfg (.fired now old) = some (.fired now old) := rfl

/-! ### Non-vacuity -/

namespace C18Example

/-- connect, bind, claim (new nameplate "4" with mailbox "mb1"), list, open, close -/
def hist : List Op :=
  [ .connect 1,
    .recv 1 10 (.int 1) (.bind (some "app") (some "s1") (some "impl") (some "v")),
    .recv 1 11 (.int 2) (.claim (some "4") "mb1"),
    .recv 1 12 (.int 3) .list,
    .recv 1 13 (.int 4) (.open_ (some "mb1")),
    .recv 1 14 (.int 5) (.close (some "mb1") (some "happy")) ]

def cfgs : List Cfg :=
  [ { allowList := true,  usage := false },
    { allowList := false, usage := false },
    { allowList := true,  usage := true, blur := some 3600 },
    { allowList := false, usage := true, blur := some 7 } ]

def trace (c : Cfg) : List Event := (Sys.run ({ cfg := c, rebooted := 0 } : Sys) hist).2
def finalDb (c : Cfg) : Chan := (Sys.run ({ cfg := c, rebooted := 0 } : Sys) hist).1.db

/-- a non-trivial instance of `CfgSim` (the hypothesis of `C18_config_independent_step`): a live
    nameplate and a bound connection; the two sides differ in listing, usage, blur, the usage
    database and the start time -/
def exDb : Chan :=
  { nameplates := [⟨1, "app", "4", "mb1"⟩], npSides := [⟨1, true, "s1", 11⟩],
    mailboxes := [⟨"app", "mb1", 11, true⟩], mbSides := [⟨"mb1", true, "s1", 11, none⟩], nextNp := 2 }

def exConns : List Conn := [{ id := 1, app := some "app", side := some "s1", didClaim := true, nameplateId := some "4" }]

example : CfgSim
    { cfg := { allowList := true, usage := true, blur := some 60 }, db := exDb, disk := exDb,
      udb := { clients := [⟨"app", "s1", 0, none, none⟩] }, udisk := { clients := [⟨"app", "s1", 0, none, none⟩] },
      conns := exConns, rebooted := 5 }
    { cfg := { allowList := false }, db := exDb, disk := exDb, conns := exConns, rebooted := 9 } :=
  ⟨⟨rfl, rfl, rfl⟩, rfl, ⟨rfl, rfl⟩, ⟨rfl, rfl⟩,
    ⟨⟨by decide, by decide⟩, by unfold Chan.NpIdsUnique; decide, by unfold Chan.NpHasSide; decide⟩⟩

/-- the hypotheses of `C18_config_independent` hold for the example -/
example : (∀ c ∈ cfgs, c.welcome = "{}") ∧ ∀ op ∈ hist, op.isCrash = false := by decide

/-- evaluated, not derived from the theorem: the four erased traces are equal and so are the
    four final channel databases ... -/
example : ∀ c ∈ cfgs, (trace c).filterMap eraseCfg = (trace { allowList := true, usage := false }).filterMap eraseCfg ∧
    finalDb c = finalDb { allowList := true, usage := false } := by
  decide +kernel

/-- ... while the raw traces are pairwise different (the `nameplates` answer is `["4"]` or `[]`;
    with a usage database there are usage commits) -/
example : cfgs.Pairwise (fun c d => trace c ≠ trace d) := by decide +kernel

/-- the answer to `list` in the first and in the second configuration -/
example : Event.frame 1 (.nameplates ["4"]) true ∈ trace { allowList := true, usage := false } ∧
    Event.frame 1 (.nameplates []) true ∈ trace { allowList := false, usage := false } := by
  decide +kernel

/-- the erased trace is not trivial: 9 frames and 5 channel commits (2 usage commits erased) -/
example : ((trace { allowList := true, usage := true, blur := some 3600 }).filterMap eraseCfg).length = 14 := by
  decide +kernel

/-- `crashIn k` is not comparable between a run with and a run without a usage database:
    after connect, bind, open, the `close` commits chan, usage, chan with a usage database and
    chan, chan without; a crash after the 2nd commit leaves the mailbox row on disk in the
    first run and deleted in the second. -/
def crashHist : List Op :=
  [ .connect 1,
    .recv 1 10 (.int 1) (.bind (some "app") (some "s1") none none),
    .recv 1 11 (.int 2) (.open_ (some "mb1")),
    .crashIn 2 (.recv 1 12 (.int 3) (.close (some "mb1") (some "happy"))) ]

theorem crash_not_comparable :
    (Sys.run ({ cfg := { usage := true }, rebooted := 0 } : Sys) crashHist).1.db ≠
      (Sys.run ({ cfg := { usage := false }, rebooted := 0 } : Sys) crashHist).1.db := by
  decide +kernel

example : ((Sys.run ({ cfg := { usage := true }, rebooted := 0 } : Sys) crashHist).1.db.mailboxes.length,
    (Sys.run ({ cfg := { usage := false }, rebooted := 0 } : Sys) crashHist).1.db.mailboxes.length) = (1, 0) := by
  decide +kernel

end C18Example

end Wormhole

#print axioms Wormhole.C18_config_independent_step
#print axioms Wormhole.C18_config_independent_run
#print axioms Wormhole.C18_config_independent
#print axioms Wormhole.C18_config_independent_prefix
#print axioms Wormhole.C18Example.crash_not_comparable
