/-
  C10 (re-send clause), `close`: the channel-database statements of Props/C10b.lean WITHOUT their hypothesis
  `htg : x.closeTarget (some m) = some m` ("if the connection holds a handle it is the handle of the
  mailbox it names"), which is not part of `GInv`.  It follows from
    * `GSys.Reach.handleId` (Inv/HandleId.lean): in every reachable state a held handle `h` is the handle
      of the remembered id, `x.mailbox = some h → x.mailboxId = some h`;
    * the `close (some m)` was answered `closed`, so it was not rejected, and
      `rejectText x (.close (some m) mood) = none` forces `m = mailboxId` when an id is remembered
      ("open and close must use same mailbox");
    hence a held handle is `m` (`closeTarget_of_accepted`).

  * `C10_resend_close_partial'`: `C10_resend_close_partial` without `htg` -- partial for exactly the two known
    findings K-crowded-rejoin (`hguard`) and K-close-touch (`touch m t`), whose counterexamples are in C10b
    (`C10bExample.C10_close_touch_counterexample`, `C10bExample.C10_close_crowded_counterexample`);
  * `C10_resend_converges_partial'`: the four commands together, with the guard `ResendGuard'` = only the
    K-crowded-rejoin condition.
-/
import Wormhole.Props.C10b
import Wormhole.Inv.HandleId

namespace Wormhole
open Sys Sys.Np

/-- a `close (some m)` that validation lets through, on a record whose handle (if any) is the handle of
    the remembered id, acts on `m` -/
theorem closeTarget_of_accepted {x : Conn} {m : String} {mood : Option String}
    (hinv : ∀ h, x.mailbox = some h → x.mailboxId = some h)
    (hr : rejectText x (.close (some m) mood) = none) : closeTarget x (some m) = some m := by
  unfold closeTarget
  cases hmb : x.mailbox with
  | none => rfl
  | some h =>
    have hid := hinv h hmb
    simp only [rejectText, needBind, hid] at hr
    split at hr
    · cases hr
    · split at hr
      · cases hr
      · split at hr
        · cases hr
        · rename_i hne
          have : m = h := by simpa using hne
          rw [this]

/-- **C10 (re-sent `close`)** — `C10_resend_close_partial` of C10b with `htg` derived from the handle
    invariant.  Partial for exactly the two known findings (see C10b):
    K-crowded-rejoin (`hguard`: if the original connection held a handle, at most two side rows) and
    K-close-touch (database equal up to `touch m t`; EQUAL when the mailbox was deleted). -/
theorem C10_resend_close_partial' {g : GSys} (hg : g.ReachCF) {c : Nat} {x : Conn} {a σ : String}
    (hx : g.sys.findConn c = some x) (happ : x.app = some a) (hside : x.side = some σ)
    {m : String} {mood : Option String} (t : Time) (id : Val) (hw : g.WFOp (.recv c t id (.close (some m) mood)))
    {b : Bool} (hans : Event.frame c .closed b ∈ (g.sys.step (.recv c t id (.close (some m) mood))).out)
    (hguard : x.mailbox ≠ none → (g.sys.db.mbSidesOf m).length ≤ 2)
    {k : Nat} (hk : 1 ≤ k) (c' : Nat) (id₁ : Val) (impl ver : Option String) :
    (g.sys.step (.recv c t id (.close (some m) mood))).frames = [.frame c (.ack id) true, .frame c .closed true] ∧
    (resend (g.sys.step (.crashIn k (.recv c t id (.close (some m) mood)))) c' t id₁ id a σ impl ver
      (.close (some m) mood)).frames = [.frame c' (.ack id) true, .frame c' .closed true] ∧
    ((resend (g.sys.step (.crashIn k (.recv c t id (.close (some m) mood)))) c' t id₁ id a σ impl ver
        (.close (some m) mood)).db = (g.sys.step (.recv c t id (.close (some m) mood))).db ∨
      (resend (g.sys.step (.crashIn k (.recv c t id (.close (some m) mood)))) c' t id₁ id a σ impl ver
        (.close (some m) mood)).db = (g.sys.step (.recv c t id (.close (some m) mood))).db.touch m t) ∧
    (¬ (g.sys.step (.recv c t id (.close (some m) mood))).db.HasId m →
      (resend (g.sys.step (.crashIn k (.recv c t id (.close (some m) mood)))) c' t id₁ id a σ impl ver
        (.close (some m) mood)).db = (g.sys.step (.recv c t id (.close (some m) mood))).db) :=
  C10_resend_close_partial hg hx happ hside t id hw
    (closeTarget_of_accepted (hg.reach.handleId x (findConn_mem hx)) (not_rejected_of_frame hx hans (by simp) (by simp)))
    hans hguard hk c' id₁ impl ver

/-- the guard of K-crowded-rejoin, needed for `close` only: a connection that holds a handle closes a
    mailbox with at most two side rows (compare `ResendGuard` of C10b, which also carried `htg`) -/
def ResendGuard' (d : Chan) (x : Conn) : Cmd → Prop
  | .close (some m) _ => x.mailbox ≠ none → (d.mbSidesOf m).length ≤ 2
  | _ => True

/-- **C10_resend_converges_partial'** — `C10_resend_converges_partial` of C10b under the weaker guard
    `ResendGuard'` (K-crowded-rejoin only); the equality of the databases for `close` is up to `touch m t`
    (K-close-touch). -/
theorem C10_resend_converges_partial' {g : GSys} (hg : g.ReachCF) {c : Nat} {x : Conn} {a σ : String}
    (hx : g.sys.findConn c = some x) (happ : x.app = some a) (hside : x.side = some σ)
    {cmd cmd' : Cmd} (hcmd : ResendCmd cmd cmd') (t : Time) (id : Val) (hw : g.WFOp (.recv c t id cmd))
    (hans : Answered (g.sys.step (.recv c t id cmd)).out c id cmd) (hguard : ResendGuard' g.sys.db x cmd)
    {k : Nat} (hk : 1 ≤ k) (c' : Nat) (id₁ : Val) (impl ver : Option String) :
    (resend (g.sys.step (.crashIn k (.recv c t id cmd))) c' t id₁ id a σ impl ver cmd').frames =
      (g.sys.step (.recv c t id cmd)).frames.map (Event.toConn c') ∧
    ((resend (g.sys.step (.crashIn k (.recv c t id cmd))) c' t id₁ id a σ impl ver cmd').db =
        (g.sys.step (.recv c t id cmd)).db ∨
      ∃ m mood, cmd = .close (some m) mood ∧
        (resend (g.sys.step (.crashIn k (.recv c t id cmd))) c' t id₁ id a σ impl ver cmd').db =
          (g.sys.step (.recv c t id cmd)).db.touch m t) := by
  refine C10_resend_converges_partial hg hx happ hside hcmd t id hw hans ?_ hk c' id₁ impl ver
  cases hcmd with
  | claim n f f' => trivial
  | release n => trivial
  | open_ m => trivial
  | close m mood =>
    obtain ⟨b, hA⟩ := hans
    exact ⟨closeTarget_of_accepted (hg.reach.handleId x (findConn_mem hx)) (not_rejected_of_frame hx hA (by simp) (by simp)),
      hguard⟩

/-! ### Non-vacuity -/

namespace C10cExample
open C10bExample

/-- the state `gd` of C10b (connection 1 holds mailbox "m"): every hypothesis of
    `C10_resend_close_partial'` holds, no `htg` supplied … -/
def xd : Conn := { id := 1, app := some "app", side := some "s1", listening := true, mailbox := some "m",
                   mailboxId := some "m" }

theorem gd_reachCF : gd.ReachCF :=
  GSys.reachCF_run (.init cfg 0) Hd (GSys.wfB_sound (by decide +kernel)) (by decide)

example : gd.sys.findConn 1 = some xd ∧ gd.WFOp closeOp ∧
    Event.frame 1 .closed true ∈ (gd.sys.step closeOp).out ∧ (gd.sys.db.mbSidesOf "m").length ≤ 2 :=
  ⟨by decide +kernel, GSys.wfOpB_sound (by decide +kernel), by decide +kernel, by decide +kernel⟩

/-- … and the instance: crash after the first commit of the last close, re-send, databases equal -/
example : (resend (gd.sys.step (.crashIn 1 closeOp)) 9 200 (.int 7) (.int 3) "app" "s1" none none
    (.close (some "m") (some "happy"))).db = (gd.sys.step closeOp).db :=
  (C10_resend_close_partial' gd_reachCF (c := 1) (x := xd) (a := "app") (σ := "s1") (m := "m")
    (mood := some "happy") (by decide +kernel) rfl rfl 200 (.int 3) (GSys.wfOpB_sound (by decide +kernel))
    (b := true) (by decide +kernel) (fun _ => by decide +kernel) (k := 1) (by decide) 9 (.int 7) none none).2.2.2
    (by decide +kernel)

/-- the invariant itself on that state, and that it is not trivially true: connection 1 does hold a handle -/
example : ∀ y ∈ gd.sys.conns, ∀ h, y.mailbox = some h → y.mailboxId = some h := gd_reachCF.reach.handleId
example : ∃ y ∈ gd.sys.conns, y.mailbox = some "m" := ⟨xd, by decide +kernel, rfl⟩

/-- `close m` on a connection that never opened: during the step the record transiently holds the handle
    of `m` without remembering an id; afterwards it holds none -/
def Hn : List Op := [ .connect 1, bind 1 10 "s1", .recv 1 100 (.int 2) (.close (some "m") none) ]
example : ((GSys.init cfg 0).run Hn).sys.conns.map (fun y => (y.mailbox, y.mailboxId)) = [(none, none)] ∧
    (((GSys.init cfg 0).run Hn).sys.conns.map (·.didClose)) = [true] := by decide +kernel

end C10cExample

end Wormhole

#print axioms Wormhole.GSys.Reach.handleId
#print axioms Wormhole.closeTarget_of_accepted
#print axioms Wormhole.C10_resend_close_partial'
#print axioms Wormhole.C10_resend_converges_partial'
