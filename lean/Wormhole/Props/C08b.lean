/-
  C08, supplements: the usage database, and the counterexamples on reachable states.

  * `C08_reclose_gone_usage` — `C08_reclose_gone` (Props/C08.lean) says that a re-sent `close` of a mailbox
    that is gone is answered `closed` and leaves the CHANNEL database as it was.  It is silent on the usage
    database.  Here is the exact effect: the step creates the mailbox row and the closing side's row,
    closes and deletes them, so
      - with `cfg.usage = false` the usage database is untouched;
      - with `cfg.usage = true` EXACTLY ONE usage `mailboxes` row is appended, `goneRecord`
        = `(app, for_nameplate = 0, started = blur t, total = 0, waiting = NULL, result)` with
        `result = goneResult mood`: one side, the mood as submitted — "scary" / "errory" as they are, every
        other mood (happy, lonely, none, anything else) gives "lonely" (one side only).  Nothing is added to
        the usage `nameplates` table (no nameplate can point at a mailbox id that has no row).
    So a re-sent close is harmless for the channel database but NOT invisible in the usage database: every
    repetition adds a row for a mailbox that never carried a message.  This is the third case of finding
    K-usage-crash-dup (Props/C10d.lean, `C10_resend_close_all_partial`) and it needs no crash at all.
  * `C08_reclose_touch_counterexample_reach`, `C08_reclose_crowded_counterexample_reach` — the two
    counterexamples of Props/C08.lean (K-close-touch, K-crowded-rejoin) are about hand-written states
    `Ex.g1`, `Ex.g2` shown to satisfy `GInv`; here the same phenomena on states shown REACHABLE
    (`GSys.reach_of_wfB` on explicit crash-free histories).
-/
import Wormhole.Props.C08
import Wormhole.Props.C10d

namespace Wormhole
open Sys

/-- the classification of a mailbox that had one side, by that side's mood -/
def goneResult (mood : Option String) : String :=
  if mood = some "scary" then "scary" else if mood = some "errory" then "errory" else "lonely"

/-- **the surplus row, spelled out**: one side, retired at the instant it was added -/
theorem goneRecord_eq (blur : Time → Time) (a m σ : String) (mood : Option String) (t : Time) :
    goneRecord blur a m σ mood t = ⟨a, false, blur t, 0, none, goneResult mood⟩ := by
  unfold goneRecord mbRecord C15.mailboxSpec goneResult
  have hw : C15.waitingSpec [t] = none := (C15.waitingSpec_eq_none_iff [t]).2 (by simp)
  have hmin : ([t] : List Time).min?.getD t = t := by simp
  have hm : ∀ s : String, C15.HasMood [(⟨m, false, σ, t, mood⟩ : MbSide)] s ↔ mood = some s := by
    intro s; simp [C15.HasMood]
  simp only [List.map_cons, List.map_nil, hw, hmin, List.length_cons, List.length_nil, hm]
  by_cases h1 : mood = some "scary"
  · simp [h1]
  · by_cases h2 : mood = some "errory"
    · simp [h2]
    · by_cases h3 : mood = some "lonely" <;> simp [h1, h2, h3]

namespace C08

/-- **C08 (re-close, mailbox gone): the usage database.**  Same hypotheses as `C08_reclose_gone`.
    Without a usage database nothing is written; with one, exactly one `mailboxes` row is appended -- the
    `goneRecord` -- and nothing else changes (`nameplates`, `current`, `client_versions` as they were). -/
theorem C08_reclose_gone_usage {g : GSys} (hI : g.GInv) {c : Nat} {x : Conn} {app : String}
    (hx : g.sys.findConn c = some x) (hf : FreshBound x app) {mb : String}
    (hgone : ¬ g.sys.db.HasId mb) (mood : Option String) (t : Time) (id : Val) :
    (g.sys.cfg.usage = false → (g.sys.step (.recv c t id (.close (some mb) mood))).udb = g.sys.udb) ∧
    (g.sys.cfg.usage = true →
      (g.sys.step (.recv c t id (.close (some mb) mood))).udb =
        { g.sys.udb with mailboxes := g.sys.udb.mailboxes ++
            [goneRecord g.sys.blurTime app mb (x.side.getD "") mood t] } ∧
      goneRecord g.sys.blurTime app mb (x.side.getD "") mood t =
        ⟨app, false, g.sys.blurTime t, 0, none, goneResult mood⟩) := by
  have hP := hI.cinv.toPInv
  have hc := hf.closeCase hx mb mood
  have hnoid : ∀ r ∈ g.sys.db.mailboxes, r.id ≠ mb := fun r hr e => hgone ⟨r, hr, e⟩
  have hnoside := hP.no_side_of_gone hgone
  have hnonp : ∀ n ∈ g.sys.db.nameplates, ¬ (n.app = app ∧ n.mailbox = mb) := by
    intro n hn hk
    obtain ⟨m0, hm0, hi, _⟩ := hP.npMb n hn
    exact hgone ⟨m0, hm0, hi.trans hk.2⟩
  have hpre : closePre g.sys x app mb t = g.sys.db.openDb app mb (x.side.getD "") t := by
    simp [closePre, hf.noHandle]
  have hgo : ¬ (x.mailbox = none ∧ (g.sys.db.Clash app mb ∨ ((closePre g.sys x app mb t).mbSidesOf mb).length > 2)) := by
    obtain ⟨h1, h2⟩ := hP.openDb_of_gone hgone app (x.side.getD "") t
    rintro ⟨_, hk | hk⟩
    · exact h1 hk
    · rw [hpre] at hk; omega
  have hudb := close_step_udb_all hP hI.cinv.npHasSide hI.synced hc.conn hc.valid hc.bound hc.target t id hgo
    (by rw [hpre]; exact Chan.openDb_hasBox _ _ _ _ _)
    (by rw [hpre]; exact Chan.openDb_findMbSide_ne_none _ _ _ _ _)
  rw [hpre] at hudb
  have hrecs := Chan.closeRecs_fresh hnoid hnoside hnonp g.sys.cfg.usage g.sys.blurTime (x.side.getD "") mood t
  constructor
  · intro hu
    rw [hudb]; unfold closeUdb; rw [hrecs, hu]; simp
  · intro hu
    refine ⟨?_, goneRecord_eq _ _ _ _ _ _⟩
    rw [hudb]; unfold closeUdb; rw [hrecs, hu]; simp

/-! ## Non-vacuity, and the two counterexamples of Props/C08.lean on REACHABLE states -/

namespace ExB

def bind (c : Nat) (t : Time) (σ : String) : Op := .recv c t (.int 1) (.bind (some "app") (some σ) none none)

/-- sides s1 and s2 have mailbox "m" open since t = 100; s1 closes at t = 200; side s1 comes back on a
    fresh connection 3 -/
def H1 : List Op :=
  [ .connect 1, bind 1 10 "s1", .recv 1 100 (.int 2) (.open_ (some "m")),
    .connect 2, bind 2 100 "s2", .recv 2 100 (.int 2) (.open_ (some "m")),
    .recv 1 200 (.int 3) (.close (some "m") (some "happy")),
    .connect 3, bind 3 200 "s1" ]
def g1 : GSys := (GSys.init { usage := true } 0).run H1
theorem g1_reach : g1.Reach := GSys.reach_of_wfB _ _ _ (by decide +kernel)
def conn3 : Conn := { id := 3, app := some "app", side := some "s1" }
def reclose : Op := .recv 3 300 (.int 6) (.close (some "m") (some "happy"))

/-- **K-close-touch on a reachable state**: every hypothesis of `C08_reclose_survives_partial` holds in the
    reachable state `g1` (the guard included); the repeated close is answered `closed`, but the channel
    database is NOT what it was: `updated` of "m" went from 100 to 300 -/
theorem C08_reclose_touch_counterexample_reach :
    g1.Reach ∧ g1.sys.findConn 3 = some conn3 ∧ FreshBound conn3 "app" ∧ g1.sys.db.HasBox "app" "m" ∧
    (∃ r ∈ g1.sys.db.mbSides, r.mailbox = "m" ∧ r.side = conn3.side.getD "") ∧
    g1.sys.db.OtherOpen "m" (conn3.side.getD "") ∧ (g1.sys.db.mbSidesOf "m").length ≤ 2 ∧
    (g1.sys.step reclose).out = [.frame 3 (.ack (.int 6)) true, .commit .chan, .frame 3 .closed true] ∧
    (g1.sys.step reclose).db ≠ g1.sys.db ∧
    g1.sys.db.mailboxes = [⟨"app", "m", 100, false⟩] ∧
    (g1.sys.step reclose).db = { g1.sys.db with mailboxes := [⟨"app", "m", 300, false⟩] } :=
  ⟨g1_reach, by decide +kernel, ⟨rfl, rfl, rfl, rfl⟩, by decide +kernel, by decide +kernel, by decide +kernel,
    by decide +kernel, by decide +kernel, by decide +kernel, by decide +kernel, by decide +kernel⟩

/-- a third side s3 has tried to open "m" meanwhile (answered `crowded`; its side row stays) -/
def H2 : List Op :=
  [ .connect 1, bind 1 10 "s1", .recv 1 100 (.int 2) (.open_ (some "m")),
    .connect 2, bind 2 100 "s2", .recv 2 100 (.int 2) (.open_ (some "m")),
    .recv 1 200 (.int 3) (.close (some "m") (some "happy")),
    .connect 4, bind 4 250 "s3", .recv 4 250 (.int 2) (.open_ (some "m")),
    .connect 3, bind 3 250 "s1" ]
def g2 : GSys := (GSys.init { usage := true } 0).run H2
theorem g2_reach : g2.Reach := GSys.reach_of_wfB _ _ _ (by decide +kernel)

/-- **K-crowded-rejoin on a reachable state**: all hypotheses of `C08_reclose_survives_partial` except the
    guard hold in the reachable state `g2`, and the repeated close of side s1 -- one of the first two
    sides -- is answered `crowded`, not `closed` -/
theorem C08_reclose_crowded_counterexample_reach :
    g2.Reach ∧ g2.sys.findConn 3 = some conn3 ∧ FreshBound conn3 "app" ∧ g2.sys.db.HasBox "app" "m" ∧
    (∃ r ∈ g2.sys.db.mbSides, r.mailbox = "m" ∧ r.side = conn3.side.getD "") ∧
    g2.sys.db.OtherOpen "m" (conn3.side.getD "") ∧ ¬ (g2.sys.db.mbSidesOf "m").length ≤ 2 ∧
    (g2.sys.step reclose).out =
      [.frame 3 (.ack (.int 6)) true, .commit .chan, .frame 3 (.error "crowded") true] :=
  ⟨g2_reach, by decide +kernel, ⟨rfl, rfl, rfl, rfl⟩, by decide +kernel, by decide +kernel, by decide +kernel,
    by decide +kernel, by decide +kernel⟩

/-- `C08_reclose_gone_usage`: the hypotheses hold in `g1` for a mailbox id that has no row, with a usage
    database; the theorem gives the row, and evaluation agrees (mood "happy" is recorded as "lonely",
    mood "scary" as "scary") -/
example : g1.sys.findConn 3 = some conn3 ∧ FreshBound conn3 "app" ∧ ¬ g1.sys.db.HasId "gone" ∧
    g1.sys.cfg.usage = true :=
  ⟨by decide +kernel, ⟨rfl, rfl, rfl, rfl⟩, by decide +kernel, by decide +kernel⟩
example : (g1.sys.step (.recv 3 300 (.int 6) (.close (some "gone") (some "happy")))).udb =
    { g1.sys.udb with mailboxes := g1.sys.udb.mailboxes ++
        [goneRecord g1.sys.blurTime "app" "gone" "s1" (some "happy") 300] } :=
  ((C08_reclose_gone_usage g1_reach.ginv (c := 3) (x := conn3) (app := "app") (by decide +kernel)
    ⟨rfl, rfl, rfl, rfl⟩ (mb := "gone") (by decide +kernel) (some "happy") 300 (.int 6)).2 (by decide +kernel)).1
example : (g1.sys.step (.recv 3 300 (.int 6) (.close (some "gone") (some "happy")))).udb.mailboxes =
      [⟨"app", false, 300, 0, none, "lonely"⟩] ∧
    (g1.sys.step (.recv 3 300 (.int 6) (.close (some "gone") (some "scary")))).udb.mailboxes =
      [⟨"app", false, 300, 0, none, "scary"⟩] ∧
    (g1.sys.step (.recv 3 300 (.int 6) (.close (some "gone") (some "happy")))).db = g1.sys.db := by
  decide +kernel
example : goneResult (some "happy") = "lonely" ∧ goneResult none = "lonely" ∧ goneResult (some "scary") = "scary" ∧
    goneResult (some "errory") = "errory" ∧ goneResult (some "lonely") = "lonely" := by decide

/-- without a usage database (same history): nothing is written -/
def g1N : GSys := (GSys.init {} 0).run H1
theorem g1N_reach : g1N.Reach := GSys.reach_of_wfB _ _ _ (by decide +kernel)
example : (g1N.sys.step (.recv 3 300 (.int 6) (.close (some "gone") (some "happy")))).udb = g1N.sys.udb :=
  (C08_reclose_gone_usage g1N_reach.ginv (c := 3) (x := conn3) (app := "app") (by decide +kernel)
    ⟨rfl, rfl, rfl, rfl⟩ (mb := "gone") (by decide +kernel) (some "happy") 300 (.int 6)).1 (by decide +kernel)

end ExB

end C08
end Wormhole

#print axioms Wormhole.goneRecord_eq
#print axioms Wormhole.C08.C08_reclose_gone_usage
#print axioms Wormhole.C08.ExB.C08_reclose_touch_counterexample_reach
#print axioms Wormhole.C08.ExB.C08_reclose_crowded_counterexample_reach
