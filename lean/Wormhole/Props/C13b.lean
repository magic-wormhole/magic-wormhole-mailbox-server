/-
  C13, second part — "consequently empty by T + E + P" for a PERIODIC schedule.

  `C13_quiesce_reach` / `C13_empty_by_deadline_reach` (Props/C13.lean) measure the bound from the ghost
  clock, which every firing advances, so they do not fire for a schedule in which a good firing happens
  between the departure of the last client (time `T`) and `T + E`.  Here the bound is transported across
  EVERY firing, good or faulted (`C13_sweep_keeps_bound`, `C13_empty_on_schedule`), and the arithmetic of a
  periodic timer `firingAt f₀ i = f₀ + i·P` is added: the FIRST firing at or after `T + E` exists and is
  before `T + E + P` (`firing_exists`, `firing_first`); if the `k` firings from it on are faulted, the store
  is empty before `T + E + P·(1 + k)` (`C13_empty_by_T_E_P`).  Such a schedule is a well-formed history when
  `f₀` is not before the clock (`firings_wf`).
  E = `Generated.expirationTicks`, P = `Generated.periodTicks`; nothing depends on their values beyond `0 < P`.
-/
import Wormhole.Props.C13

namespace Wormhole
open Generated

/-- **C13_sweep_keeps_bound.**  From a state satisfying the invariant with no live connection and every
    mailbox row stamped `≤ T`: after a sweep at ANY time, faulted or not, there is still no connection and
    every remaining mailbox row is still stamped `≤ T` (and the invariant still holds, `C13_loop_survives`,
    `C13_sweep_no_failure`). -/
theorem C13_sweep_keeps_bound {g : GSys} (hI : g.GInv) (hc : g.sys.conns = []) {T : Time}
    (hT : ∀ m ∈ g.sys.db.mailboxes, m.updated ≤ T) (now : Time) (fault : Bool) :
    (g.step (.sweep now fault)).sys.conns = [] ∧
    (∀ m ∈ (g.step (.sweep now fault)).sys.db.mailboxes, m.updated ≤ T) ∧
    (g.step (.sweep now fault)).sys.SwInv :=
  ⟨(Sys.sweep_keeps_bound hI.cinv hc hT now fault).1, (Sys.sweep_keeps_bound hI.cinv hc hT now fault).2,
    hI.swInv.step_sweep now fault⟩

/-- **C13_empty_on_schedule.**  The same for every REACHABLE state (any well-formed history: crashes,
    restarts, crowding, errors): once no client is connected and every mailbox row carries a stamp `≤ T`,
    any firings whatsoever followed by a good one at or after `T + expirationTicks` empty the store. -/
theorem C13_empty_on_schedule {g : GSys} (hg : g.Reach) (hc : g.sys.conns = []) {T : Time}
    (hT : ∀ m ∈ g.sys.db.mailboxes, m.updated ≤ T) (ops : List Op) (hops : ∀ op ∈ ops, op.isFiring = true)
    {now : Time} (hnow : T + expirationTicks ≤ now) :
    (g.run (ops ++ [.sweep now false])).sys.db.Empty :=
  C13_empty_after_quiet_firings hg.ginv hc hT ops hops hnow

/-- ... with `T` := the clock of the state in which the last client left (the time of the last operation
    before the quiet period: no row is stamped later than the clock, `GInv.clockMb`).  The firings in `ops`
    advance the clock of the LATER states; the bound stays `g.clock + expirationTicks`. -/
theorem C13_empty_on_schedule_clock {g : GSys} (hg : g.Reach) (hc : g.sys.conns = []) (ops : List Op)
    (hops : ∀ op ∈ ops, op.isFiring = true) {now : Time} (hnow : g.clock + expirationTicks ≤ now) :
    (g.run (ops ++ [.sweep now false])).sys.db.Empty :=
  C13_empty_on_schedule hg hc hg.ginv.clockMb ops hops hnow

/-- the `i`-th firing of a timer started at `f₀` with period `periodTicks` -/
def firingAt (f₀ : Int) (i : Nat) : Int := f₀ + (i : Int) * periodTicks

theorem firingAt_zero (f₀ : Int) : firingAt f₀ 0 = f₀ := by simp [firingAt]

theorem firingAt_succ (f₀ : Int) (i : Nat) : firingAt f₀ (i + 1) = firingAt f₀ i + periodTicks := by
  unfold firingAt
  rw [Int.natCast_succ, Int.add_mul, Int.one_mul]; omega

theorem firingAt_succ' (f₀ : Int) (i : Nat) : firingAt f₀ (i + 1) = firingAt (f₀ + periodTicks) i := by
  unfold firingAt
  rw [Int.natCast_succ, Int.add_mul, Int.one_mul]; omega

theorem firingAt_add (f₀ : Int) (i k : Nat) : firingAt f₀ (i + k) = firingAt f₀ i + (k : Int) * periodTicks := by
  unfold firingAt
  rw [Int.natCast_add, Int.add_mul]; omega

theorem firingAt_mono (f₀ : Int) {i j : Nat} (h : i ≤ j) : firingAt f₀ i ≤ firingAt f₀ j := by
  obtain ⟨k, rfl⟩ := Nat.exists_eq_add_of_le h
  rw [firingAt_add]
  have : (0 : Int) ≤ k * periodTicks := Int.mul_nonneg (Int.natCast_nonneg k) (Int.le_of_lt sweep_periodTicks_pos)
  omega

theorem firingAt_strictMono (f₀ : Int) {i j : Nat} (h : i < j) : firingAt f₀ i < firingAt f₀ j := by
  have := firingAt_mono f₀ (Nat.succ_le_of_lt h)
  rw [firingAt_succ] at this
  have := sweep_periodTicks_pos
  omega

/-- a timer with a positive period `P` that has started before `D + P` has a first firing at or after
    `D`, and that firing is before `D + P` (generic in the period) -/
theorem period_exists {P : Int} (hP : 0 < P) (D : Int) :
    ∀ (n : Nat) (f₀ : Int), (D - f₀).toNat ≤ n → f₀ < D + P →
      ∃ i : Nat, D ≤ f₀ + (i : Int) * P ∧ f₀ + (i : Int) * P < D + P ∧ ∀ j : Nat, j < i → f₀ + (j : Int) * P < D := by
  intro n
  induction n with
  | zero =>
    intro f₀ hn hlt
    refine ⟨0, by omega, by omega, by intro j hj; omega⟩
  | succ n ih =>
    intro f₀ hn hlt
    by_cases hD : D ≤ f₀
    · exact ⟨0, by omega, by omega, by intro j hj; omega⟩
    · obtain ⟨i, h1, h2, h3⟩ := ih (f₀ + P) (by omega) (by omega)
      refine ⟨i + 1, ?_, ?_, ?_⟩
      · rw [Int.natCast_succ, Int.add_mul, Int.one_mul]; omega
      · rw [Int.natCast_succ, Int.add_mul, Int.one_mul]; omega
      · intro j hj
        cases j with
        | zero => simp; omega
        | succ j =>
          have := h3 j (by omega)
          rw [Int.natCast_succ, Int.add_mul, Int.one_mul]; omega

/-- **the firing exists.**  If the timer has started by `D + periodTicks` (`f₀ < D + P`; in particular if
    `f₀ ≤ D`), there is an index `i` such that `firingAt f₀ i` is the FIRST firing at or after `D`:
    `D ≤ firingAt f₀ i`, every earlier firing is before `D`, and `firingAt f₀ i < D + periodTicks`. -/
theorem firing_exists (f₀ D : Int) (h : f₀ < D + periodTicks) :
    ∃ i : Nat, D ≤ firingAt f₀ i ∧ firingAt f₀ i < D + periodTicks ∧ ∀ j : Nat, j < i → firingAt f₀ j < D :=
  period_exists sweep_periodTicks_pos D _ f₀ (Nat.le_refl _) h

/-- the first firing at or after `D` is unique -/
theorem firing_first {f₀ D : Int} {i i' : Nat}
    (h1 : D ≤ firingAt f₀ i) (h2 : ∀ j : Nat, j < i → firingAt f₀ j < D)
    (h1' : D ≤ firingAt f₀ i') (h2' : ∀ j : Nat, j < i' → firingAt f₀ j < D) : i = i' := by
  rcases Nat.lt_trichotomy i i' with h | h | h
  · have := h2' i h; omega
  · exact h
  · have := h2 i' h; omega

/-- the deadline for the firing `k` periods after the first one at or after `D` -/
theorem firing_deadline {f₀ D : Int} {i : Nat} (h : firingAt f₀ i < D + periodTicks) (k : Nat) :
    firingAt f₀ (i + k) < D + periodTicks * (1 + (k : Int)) := by
  rw [firingAt_add, Int.mul_add, Int.mul_one, Int.mul_comm periodTicks k]
  omega

/-- the first `n` firings of the timer started at `f₀`; firing `j` is faulted iff `flt j` -/
def firings (f₀ : Time) (flt : Nat → Bool) (n : Nat) : List Op :=
  (List.range n).map (fun j => .sweep (firingAt f₀ j) (flt j))

theorem firings_succ (f₀ : Time) (flt : Nat → Bool) (n : Nat) :
    firings f₀ flt (n + 1) = firings f₀ flt n ++ [.sweep (firingAt f₀ n) (flt n)] := by
  simp [firings, List.range_succ]

theorem firings_isFiring (f₀ : Time) (flt : Nat → Bool) (n : Nat) : ∀ op ∈ firings f₀ flt n, op.isFiring = true := by
  intro op h
  obtain ⟨j, _, rfl⟩ := List.mem_map.1 h
  rfl

/-- **C13_empty_at_firing.**  Reachable state, no client connected, rows stamped `≤ T`; the timer fires at
    `firingAt f₀ 0, …, firingAt f₀ n` with fault pattern `flt`.  If firing `n` is at or after
    `T + expirationTicks` and is not faulted, the store is empty after it — whatever happened at the
    firings before (good ones between `T` and `T + E` included). -/
theorem C13_empty_at_firing {g : GSys} (hg : g.Reach) (hc : g.sys.conns = []) {T : Time}
    (hT : ∀ m ∈ g.sys.db.mailboxes, m.updated ≤ T) (f₀ : Time) (flt : Nat → Bool) {n : Nat}
    (hn : T + expirationTicks ≤ firingAt f₀ n) (hgood : flt n = false) :
    (g.run (firings f₀ flt (n + 1))).sys.db.Empty := by
  rw [firings_succ, hgood]
  exact C13_empty_on_schedule hg hc hT _ (firings_isFiring f₀ flt n) hn

/-- **C13_empty_by_T_E_P.**  Reachable state `g`, no client connected, every mailbox row stamped `≤ T`
    (e.g. `T = g.clock`).  The timer fires every `periodTicks`, at `firingAt f₀ j = f₀ + j·P`
    (`j = 0, 1, …`; `f₀ < T + E + P`, i.e. the timer is running by then), firing `j` fails iff `flt j`.
    Then there is an index `i` — the FIRST firing at or after `T + E` — with
    * `T + E ≤ firingAt f₀ i < T + E + P`, every earlier firing before `T + E`;
    * if firing `i` is not faulted, the store is empty after it (so: empty before `T + E + P`);
    * for every `k`: if firing `i + k` is not faulted (in particular when `k` is the number of consecutive
      faulted firings from `i` on), the store is empty after firing `i + k`, which takes place before
      `T + E + P·(1 + k)`. -/
theorem C13_empty_by_T_E_P {g : GSys} (hg : g.Reach) (hc : g.sys.conns = []) {T : Time}
    (hT : ∀ m ∈ g.sys.db.mailboxes, m.updated ≤ T) (f₀ : Time) (hf₀ : f₀ < T + expirationTicks + periodTicks)
    (flt : Nat → Bool) :
    ∃ i : Nat,
      T + expirationTicks ≤ firingAt f₀ i ∧ firingAt f₀ i < T + expirationTicks + periodTicks ∧
      (∀ j : Nat, j < i → firingAt f₀ j < T + expirationTicks) ∧
      (flt i = false → (g.run (firings f₀ flt (i + 1))).sys.db.Empty) ∧
      ∀ k : Nat, flt (i + k) = false →
        (g.run (firings f₀ flt (i + k + 1))).sys.db.Empty ∧
        firingAt f₀ (i + k) < T + expirationTicks + periodTicks * (1 + (k : Int)) := by
  obtain ⟨i, h1, h2, h3⟩ := firing_exists f₀ (T + expirationTicks) hf₀
  refine ⟨i, h1, h2, h3, fun hgood => C13_empty_at_firing hg hc hT f₀ flt h1 hgood, ?_⟩
  intro k hgood
  exact ⟨C13_empty_at_firing hg hc hT f₀ flt (Int.le_trans h1 (firingAt_mono f₀ (Nat.le_add_right i k))) hgood,
    firing_deadline h2 k⟩

/-- the same with the ghost clock of the quiet state as `T` -/
theorem C13_empty_by_T_E_P_clock {g : GSys} (hg : g.Reach) (hc : g.sys.conns = []) (f₀ : Time)
    (hf₀ : f₀ < g.clock + expirationTicks + periodTicks) (flt : Nat → Bool) :
    ∃ i : Nat,
      g.clock + expirationTicks ≤ firingAt f₀ i ∧ firingAt f₀ i < g.clock + expirationTicks + periodTicks ∧
      (∀ j : Nat, j < i → firingAt f₀ j < g.clock + expirationTicks) ∧
      (flt i = false → (g.run (firings f₀ flt (i + 1))).sys.db.Empty) ∧
      ∀ k : Nat, flt (i + k) = false →
        (g.run (firings f₀ flt (i + k + 1))).sys.db.Empty ∧
        firingAt f₀ (i + k) < g.clock + expirationTicks + periodTicks * (1 + (k : Int)) :=
  C13_empty_by_T_E_P hg hc hg.ginv.clockMb f₀ hf₀ flt

theorem GSys.wfOp_sweep {g : GSys} {now : Time} (h : g.clock ≤ now) (fault : Bool) : g.WFOp (.sweep now fault) where
  connFresh := by intro c h; cases h
  mono := by intro t e; cases e; exact h
  idFresh := by intro f e; cases e
  crashPlain := by intro k o e; cases e

/-- the firings of a timer started not before the clock form a well-formed history; the clock afterwards
    is the time of the last firing -/
theorem firings_wf {g : GSys} {f₀ : Time} (h : g.clock ≤ f₀) (flt : Nat → Bool) (n : Nat) :
    g.WF (firings f₀ flt n) ∧ (g.run (firings f₀ flt n)).clock ≤ firingAt f₀ n := by
  induction n with
  | zero => exact ⟨trivial, by rw [firingAt_zero]; exact h⟩
  | succ n ih =>
    rw [firings_succ, GSys.run_append]
    refine ⟨GSys.WF_append.2 ⟨ih.1, GSys.wfOp_sweep ih.2 _, trivial⟩, ?_⟩
    show firingAt f₀ n ≤ firingAt f₀ (n + 1)
    exact firingAt_mono f₀ (Nat.le_succ n)

/-! ## Non-vacuity -/

namespace SweepExample

/-- `C13_sweep_keeps_bound` on the quiescent example state `g0` (four mailbox rows, stamps `≤ E + 100`):
    a GOOD sweep at `E + 150` (cutoff 150: deletes the rows stamped `0`) keeps the bound `E + 100` although
    it advances the ghost clock to `E + 150` -/
example : g0.sys.conns = [] ∧ (∀ m ∈ g0.sys.db.mailboxes, m.updated ≤ E + 100) := by decide
example := C13_sweep_keeps_bound g0_ginv rfl (T := E + 100) (by decide) (E + 150) false
#guard decide ((g0.step (.sweep (E + 150) false)).clock = E + 150 ∧ ¬ (g0.step (.sweep (E + 150) false)).sys.db.Empty)

/-- `C13_empty_after_quiet_firings`: a good firing, a faulted one, a good one — all before `T + E` — and
    then the good firing at `T + E = 2E + 100`: empty.  (`C13_quiesce_clock` does not apply to the state
    before the last firing: its clock is `2E`, and `2E + E > 2E + 100`.) -/
example := C13_empty_after_quiet_firings g0_ginv rfl (T := E + 100) (by decide)
  [.sweep (E + 150) false, .sweep (2 * E - 50) true, .sweep (2 * E) false] (by decide)
  (now := 2 * E + 100) (by decide)
#guard decide ((g0.run [.sweep (E + 150) false, .sweep (2 * E - 50) true, .sweep (2 * E) false,
  .sweep (2 * E + 100) false]).sys.db.Empty)
#guard decide (¬ (g0.run [.sweep (E + 150) false, .sweep (2 * E - 50) true, .sweep (2 * E) false,
  .sweep (2 * E + 99) false]).sys.db.Empty)

/-- `C13_empty_on_schedule` / `C13_empty_by_T_E_P` on the REACHABLE state `gH` (history `hist` of
    Props/C13.lean: traffic, a crash, a restart, a last client leaving at 22): `T = gH.clock = 22`; the
    timer of the example — firings at 100, 100 + P, 100 + 2P, … — good firings before `22 + E`
    included. -/
theorem gH_conns : gH.sys.conns = [] := by decide +kernel
theorem gH_clock : gH.clock = 22 := by decide +kernel

/-- index of the first firing of the timer started at 100 that is at or after `22 + E` (3 for the shipped constants
    E = 5280, P = 2400: firings at 100, 2500, 4900, 7300 and `22 + E = 5302`); computed, so that the examples below hold
    for whatever constants the source has (they are regenerated from server_tap.py on every run) -/
def kH : Nat := ((22 + expirationTicks - 100 + periodTicks - 1) / periodTicks).toNat

example : (gH.run (firings 100 (fun j => decide (j + 1 = kH)) kH ++ [.sweep (firingAt 100 kH) false])).sys.db.Empty :=
  C13_empty_on_schedule_clock gH_reach gH_conns _ (firings_isFiring _ _ _) (by rw [gH_clock]; decide)

example := C13_empty_by_T_E_P gH_reach gH_conns (T := 22) (by
  have := gH_reach.ginv.clockMb; rw [gH_clock] at this; exact this) 100 (by decide) (fun _ => false)
example := C13_empty_by_T_E_P_clock gH_reach gH_conns 100 (by rw [gH_clock]; decide) (fun j => decide (j = kH))

/-- the first firing at or after `22 + E` is the one with index `kH`, and it is before `22 + E + P`
    (shipped constants: index 3, at 7300, `5302 ≤ 7300 < 7702`) -/
example : 22 + expirationTicks ≤ firingAt 100 kH ∧ firingAt 100 kH < 22 + expirationTicks + periodTicks ∧
    ∀ j : Nat, j < kH → firingAt 100 j < 22 + expirationTicks := by decide
#guard decide ((gH.run (firings 100 (fun _ => false) (kH + 1))).sys.db.Empty)
#guard decide (¬ (gH.run (firings 100 (fun _ => false) kH)).sys.db.Empty)
-- the state before that firing has the clock of firing `kH - 1` (4900): `C13_quiesce_reach` would ask for a firing
-- at `≥ that + E` (10180), later than the one that empties the store
#guard decide ((gH.run (firings 100 (fun _ => false) kH)).clock = firingAt 100 (kH - 1))

/-- the schedule is a well-formed history from `gH` (so every intermediate state is reachable) -/
example : gH.WF (firings 100 (fun _ => false) (kH + 1)) := (firings_wf (by rw [gH_clock]; decide) _ (kH + 1)).1

end SweepExample

end Wormhole

#print axioms Wormhole.C13_sweep_keeps_bound
#print axioms Wormhole.C13_empty_on_schedule
#print axioms Wormhole.C13_empty_on_schedule_clock
#print axioms Wormhole.firing_exists
#print axioms Wormhole.firing_first
#print axioms Wormhole.firing_deadline
#print axioms Wormhole.C13_empty_at_firing
#print axioms Wormhole.C13_empty_by_T_E_P
#print axioms Wormhole.C13_empty_by_T_E_P_clock
#print axioms Wormhole.firings_wf
