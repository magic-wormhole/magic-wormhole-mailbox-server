/-
  C09, second clause — "a crash right after a frame loses nothing acknowledged" (DESIGN §6, corollary
  `C09_ack_durable`: the state restored by a crash immediately after a frame equals the state the
  server was acting on when it sent it).  Props/C09.lean / C09b.lean prove that every frame carries
  `synced = true`; this file says what that is worth for a crash, frame by frame, INSIDE a step.

  `Sys` has no field for "the databases as they were when frame number i was sent", and the model must
  not be changed; so executions are described from outside.  `Exec s0 s L`: `s` is obtained from `s0`
  by the primitives of Sys.lean (frames by `send` only, commit events by `commit` / `ucommit` only),
  and `L` is the GHOST LOG: the states from which `send` was called, oldest first.  Every operation of
  the model is such an execution (`stepPlain_exec`, via `AClosed`), and for EVERY execution from a
  state with empty `out` / `snaps` (`Exec.sends`): commits and snapshots are appended together, the
  last snapshot is the disk, every frame of `out` has its entry in the log.

  `C09_ack_durable`: for every frame of a step, `out = pre ++ frame c f b :: post`: `b = true`, the log
  holds the state `m` that sent it (`m.out = pre`), `m` had nothing uncommitted, and the files a kill
  right after the frame leaves (`lastSnap … (snaps.take (commitCount pre))`) are `(m.db, m.udb)`.
  Those files literally are a `crashIn` state (`step_crash_files`, `C09_ack_durable_crash`).  The model
  has crash points only at commits: `crashIn j op` dies right after the `j`-th commit, so its output is
  the part of `pre` up to its last commit; the files are the same at all instants in between
  (`lastSnap` depends on the number of commits only).

  `Exec` is a relation, so one final state might be reached by several executions with different logs;
  the theorems hold for EVERY log (`hL` is a hypothesis), and the entry of a frame is pinned down by
  the final state anyway.  Limits of the model, not of the theorem: crash points between two commits
  are not separate `Op`s (harmless, see above); a commit is atomic and durable, journal side files are
  not modelled (C19/C20).
-/
import Wormhole.Props.C09b
import Wormhole.Inv.AckDurClosed

namespace Wormhole
namespace Sys

/-- **the meaning of the flag**: `send` appends one frame whose flag is computed from the sending
    state; it is `true` iff that state has nothing uncommitted; nothing else changes -/
theorem send_flag (s : Sys) (c : Nat) (f : Frame) :
    (s.send c f).out = s.out ++ [.frame c f (decide (s.db = s.disk) && decide (s.udb = s.udisk))] ∧
    ((decide (s.db = s.disk) && decide (s.udb = s.udisk)) = true ↔ s.db = s.disk ∧ s.udb = s.udisk) ∧
    (s.send c f).snaps = s.snaps ∧ (s.send c f).db = s.db ∧ (s.send c f).udb = s.udb ∧
    (s.send c f).disk = s.disk ∧ (s.send c f).udisk = s.udisk :=
  ⟨rfl, by simp, rfl, rfl, rfl, rfl, rfl⟩

def isCommitB : Event → Bool
  | .commit _ => true
  | _ => false

/-- number of (effective) commits among the events -/
def commitCount (l : List Event) : Nat := l.countP isCommitB

@[simp] theorem commitCount_nil : commitCount [] = 0 := rfl
@[simp] theorem commitCount_append (a b : List Event) : commitCount (a ++ b) = commitCount a + commitCount b :=
  List.countP_append
@[simp] theorem commitCount_commit (w : DbId) (l : List Event) :
    commitCount (.commit w :: l) = commitCount l + 1 := by
  unfold commitCount; rw [List.countP_cons_of_pos (by rfl)]
theorem commitCount_notCommit {e : Event} (h : isCommitB e = false) (l : List Event) :
    commitCount (e :: l) = commitCount l := by simp [commitCount, h]
theorem commitCount_notFrame_frame (c f b) (l : List Event) :
    commitCount (.frame c f b :: l) = commitCount l := commitCount_notCommit rfl l

/-- the files a kill leaves when the step started with files `D0` and has committed the snapshots
    `snaps` so far: the last snapshot, `D0` if there is none -/
def lastSnap (D0 : Chan × Usage) (snaps : List (Chan × Usage)) : Chan × Usage := snaps.getLast?.getD D0

@[simp] theorem lastSnap_nil (D0) : lastSnap D0 [] = D0 := rfl
@[simp] theorem lastSnap_concat (D0) (l : List (Chan × Usage)) (p) : lastSnap D0 (l ++ [p]) = p := by
  simp [lastSnap]

/-- commits and snapshots have been appended together, and the last snapshot is the disk -/
def AckInv0 (D0 : Chan × Usage) (s : Sys) : Prop :=
  s.snaps.length = commitCount s.out ∧ lastSnap D0 s.snaps = (s.disk, s.udisk)

/-- **a synced `send` is durable**: in a state satisfying `AckInv0`, if nothing is uncommitted then
    the frame goes out with flag `true`, and the files a kill leaves right after it — the last of
    the snapshots committed before it, `D0` if none — are the `(db, udb)` of the sending state -/
theorem send_durable {D0 : Chan × Usage} {s : Sys} (h : AckInv0 D0 s) (c : Nat) (f : Frame)
    (hs : s.synced = true) :
    (s.send c f).out = s.out ++ [.frame c f true] ∧
    lastSnap D0 ((s.send c f).snaps.take (commitCount (s.out ++ [.frame c f true]))) = (s.db, s.udb) := by
  have h1 : (s.send c f).out = s.out ++ [.frame c f true] := by
    show s.out ++ [.frame c f s.synced] = _
    rw [hs]
  have hsy := (synced_iff s).1 hs
  refine ⟨h1, ?_⟩
  have : commitCount (s.out ++ [.frame c f true]) = s.snaps.length := by
    rw [commitCount_append, h.1]; simp [commitCount, isCommitB]
  rw [this]
  show lastSnap D0 (s.snaps.take s.snaps.length) = _
  rw [List.take_length, h.2, hsy.1, hsy.2]

theorem lastSnap_take (D0) (l : List (Chan × Usage)) (k : Nat) :
    lastSnap D0 (l.take k) =
      if k = 0 then D0 else match l[k - 1]? with
        | some p => p
        | none => lastSnap D0 l := by
  cases k with
  | zero => simp
  | succ k =>
    cases h : l[k]? <;> simp [lastSnap, List.getLast?_take, h]

/-- `Exec s0 s L`: `s` is reached from `s0` by the primitives of Sys.lean; `L` = the states from
    which `send` was called along the way, oldest first -/
inductive Exec (s0 : Sys) : Sys → List Sys → Prop
  | start : Exec s0 s0 []
  | send {s : Sys} {L : List Sys} (c : Nat) (f : Frame) : Exec s0 s L → Exec s0 (s.send c f) (L ++ [s])
  | note {s : Sys} {L : List Sys} (e : Event) : Note e → Exec s0 s L → Exec s0 (s.emit e) L
  | commit {s : Sys} {L : List Sys} : Exec s0 s L → Exec s0 s.commit L
  | ucommit {s : Sys} {L : List Sys} : Exec s0 s L → Exec s0 s.ucommit L
  | modDb {s : Sys} {L : List Sys} (f : Chan → Chan) : Exec s0 s L → Exec s0 (s.modDb f) L
  | modUdb {s : Sys} {L : List Sys} (f : Usage → Usage) : Exec s0 s L → Exec s0 (s.modUdb f) L
  | conns {s : Sys} {L : List Sys} (cs : List Conn) : Exec s0 s L → Exec s0 { s with conns := cs } L
  | reboot {s : Sys} {L : List Sys} (t : Time) : Exec s0 s L → Exec s0 { s with rebooted := t } L

/-- what holds of an execution from a state with empty `out`/`snaps` and files `D0` -/
structure Sends (D0 : Chan × Usage) (s : Sys) (L : List Sys) : Prop where
  /-- commits and snapshots are appended together -/
  count : s.snaps.length = commitCount s.out
  /-- the last snapshot is the disk -/
  last : lastSnap D0 s.snaps = (s.disk, s.udisk)
  /-- every logged state had the two properties above, its frame is in `out` right after what it
      had emitted, with the flag computed from it; `out` and `snaps` have only grown since -/
  mid : ∀ m ∈ L, m.snaps.length = commitCount m.out ∧ lastSnap D0 m.snaps = (m.disk, m.udisk) ∧
      ∃ c f post sn, s.out = m.out ++ .frame c f m.synced :: post ∧ s.snaps = m.snaps ++ sn
  /-- every frame of `out` was sent from a logged state -/
  cover : ∀ pre c f b post, s.out = pre ++ .frame c f b :: post → ∃ m ∈ L, m.out = pre

theorem split_snoc {α : Type} {a pre post : List α} {x y : α} (h : a ++ [x] = pre ++ y :: post) :
    (a = pre ∧ x = y ∧ post = []) ∨ ∃ post', post = post' ++ [x] ∧ a = pre ++ y :: post' := by
  rcases List.eq_nil_or_concat post with rfl | ⟨p', z, rfl⟩
  · left
    have := List.append_inj' h rfl
    simp_all
  · right
    rw [List.concat_eq_append] at h ⊢
    have h' : a ++ [x] = (pre ++ y :: p') ++ [z] := by simpa using h
    have := List.append_inj' h' rfl
    refine ⟨p', ?_, this.1⟩
    simp_all

theorem Sends.congr {D0 s s' L} (h : Sends D0 s L) (ho : s'.out = s.out) (hs : s'.snaps = s.snaps)
    (hd : s'.disk = s.disk) (hu : s'.udisk = s.udisk) : Sends D0 s' L := by
  refine ⟨by rw [ho, hs]; exact h.count, by rw [hs, hd, hu]; exact h.last, ?_, ?_⟩
  · rw [ho, hs]; exact h.mid
  · rw [ho]; exact h.cover

/-- one non-frame event, with as many snapshots as it is a commit -/
theorem Sends.grow1 {D0 s s' L} (h : Sends D0 s L) {e : Event} {sn : List (Chan × Usage)}
    (ho : s'.out = s.out ++ [e]) (he : NotFrame e) (hs : s'.snaps = s.snaps ++ sn)
    (hc : sn.length = commitCount [e]) (hl : lastSnap D0 s'.snaps = (s'.disk, s'.udisk)) :
    Sends D0 s' L := by
  refine ⟨?_, hl, ?_, ?_⟩
  · rw [ho, hs, List.length_append, commitCount_append, h.count, hc]
  · intro m hm
    obtain ⟨h1, h2, c, f, post, sn0, h3, h4⟩ := h.mid m hm
    exact ⟨h1, h2, c, f, post ++ [e], sn0 ++ sn, by rw [ho, h3]; simp, by rw [hs, h4]; simp⟩
  · intro pre c f b post hp
    rw [ho] at hp
    rcases split_snoc hp with ⟨_, rfl, _⟩ | ⟨post', _, h2⟩
    · exact absurd he (by simp [NotFrame])
    · exact h.cover pre c f b post' h2

theorem Sends.send {D0 s L} (h : Sends D0 s L) (c : Nat) (f : Frame) : Sends D0 (s.send c f) (L ++ [s]) := by
  have ho : (s.send c f).out = s.out ++ [.frame c f s.synced] := rfl
  refine ⟨?_, h.last, ?_, ?_⟩
  · rw [ho, commitCount_append]
    show s.snaps.length = _
    rw [h.count]; simp [commitCount, isCommitB]
  · intro m hm
    rcases List.mem_append.1 hm with hm | hm
    · obtain ⟨h1, h2, c', f', post, sn0, h3, h4⟩ := h.mid m hm
      exact ⟨h1, h2, c', f', post ++ [.frame c f s.synced], sn0, by rw [ho, h3]; simp, h4⟩
    · have : m = s := by simpa using hm
      subst this
      exact ⟨h.count, h.last, c, f, [], [], ho, by simp [Sys.send, Sys.emit]⟩
  · intro pre c' f' b post hp
    rw [ho] at hp
    rcases split_snoc hp with ⟨h1, _, _⟩ | ⟨post', _, h2⟩
    · exact ⟨s, by simp, h1⟩
    · obtain ⟨m, hm, h3⟩ := h.cover pre c' f' b post' h2
      exact ⟨m, List.mem_append_left _ hm, h3⟩

theorem Sends.commit {D0 s L} (h : Sends D0 s L) : Sends D0 s.commit L := by
  unfold Sys.commit
  split
  · exact h
  · exact h.grow1 (e := .commit .chan) (sn := [(s.db, s.udisk)]) rfl trivial rfl
      (by simp) (by simp)

theorem Sends.ucommit {D0 s L} (h : Sends D0 s L) : Sends D0 s.ucommit L := by
  unfold Sys.ucommit
  split
  · exact h
  · exact h.grow1 (e := .commit .usage) (sn := [(s.disk, s.udb)]) rfl trivial rfl
      (by simp) (by simp)

/-- **every execution** from a state with empty `out` and `snaps` -/
theorem Exec.sends {s0 s : Sys} {L : List Sys} (h : Exec s0 s L) (ho : s0.out = []) (hs : s0.snaps = []) :
    Sends (s0.disk, s0.udisk) s L := by
  induction h with
  | start =>
    refine ⟨by rw [ho, hs]; rfl, by rw [hs]; rfl, by intro m hm; simp at hm, ?_⟩
    intro pre c f b post hp
    rw [ho] at hp
    simp at hp
  | send c f _ ih => exact ih.send c f
  | @note s1 L1 e he _ ih =>
    cases e with
    | frame c f b => exact absurd he (by simp [Note])
    | commit w => exact absurd he (by simp [Note])
    | internal c cls =>
      exact ih.grow1 (s' := s1.emit (.internal c cls)) (sn := []) rfl trivial (by simp [Sys.emit]) rfl ih.last
    | fired a b =>
      exact ih.grow1 (s' := s1.emit (.fired a b)) (sn := []) rfl trivial (by simp [Sys.emit]) rfl ih.last
  | commit _ ih => exact ih.commit
  | ucommit _ ih => exact ih.ucommit
  | modDb _ _ ih | modUdb _ _ ih | conns _ _ ih | reboot _ _ ih => exact ih.congr rfl rfl rfl rfl

theorem Sends.frame {D0 s L} (h : Sends D0 s L) {pre : List Event} {c f b post}
    (ho : s.out = pre ++ .frame c f b :: post) :
    ∃ m ∈ L, m.out = pre ∧ m.snaps = s.snaps.take (commitCount pre) ∧ b = m.synced ∧
      lastSnap D0 (s.snaps.take (commitCount pre)) = (m.disk, m.udisk) := by
  obtain ⟨m, hm, hpre⟩ := h.cover pre c f b post ho
  obtain ⟨h1, h2, c', f', post', sn, h3, h4⟩ := h.mid m hm
  have htake : s.snaps.take (commitCount pre) = m.snaps := by
    rw [h4, ← hpre]; exact List.take_left' h1
  refine ⟨m, hm, hpre, htake.symm, ?_, by rw [htake]; exact h2⟩
  rw [ho, hpre] at h3
  have := List.append_cancel_left h3
  simp only [List.cons.injEq, Event.frame.injEq] at this
  exact this.1.2.2

theorem exec_closed (s0 : Sys) : AClosed (fun s => ∃ L, Exec s0 s L) where
  send0 := fun s c f ⟨L, h⟩ => ⟨L ++ [s], h.send c f⟩
  note := fun _ e he ⟨L, h⟩ => ⟨L, h.note e he⟩
  commit := fun _ ⟨L, h⟩ => ⟨L, h.commit⟩
  ucommit := fun _ ⟨L, h⟩ => ⟨L, h.ucommit⟩
  modDb := fun _ f ⟨L, h⟩ => ⟨L, h.modDb f⟩
  modUdb := fun _ f ⟨L, h⟩ => ⟨L, h.modUdb f⟩
  conns := fun _ cs ⟨L, h⟩ => ⟨L, h.conns cs⟩
  reboot := fun _ t ⟨L, h⟩ => ⟨L, h.reboot t⟩

/-- **every operation of the model is an execution by primitives, with a log of its sends** -/
theorem stepPlain_exec (s0 : Sys) (op : Op) : ∃ L, Exec s0 (s0.stepPlain op) L :=
  (exec_closed s0).stepPlain ⟨[], .start⟩ op

/-- the state a step starts from -/
def atStart (s : Sys) : Sys := { s with out := [], snaps := [] }

end Sys

/-- the operation a step executes (a crash executes the operation it interrupts) -/
def Op.body : Op → Op
  | .crashIn _ op => op
  | op => op

namespace Sys

theorem body_of_not_crash {op : Op} (h : op.isCrash = false) : op.body = op := by
  cases op <;> first | rfl | simp [Op.isCrash] at h

theorem stepPlain_sends (s : Sys) (op : Op) {L : List Sys} (hL : Exec s.atStart (s.atStart.stepPlain op) L) :
    Sends (s.disk, s.udisk) (s.atStart.stepPlain op) L :=
  hL.sends rfl rfl

/-- `AckInv0` holds at the end of (and, `Exec.sends`, all along) every operation -/
theorem ackInv0_stepPlain (s : Sys) (op : Op) : AckInv0 (s.disk, s.udisk) (s.atStart.stepPlain op) := by
  obtain ⟨L, hL⟩ := stepPlain_exec s.atStart op
  exact ⟨(stepPlain_sends s op hL).count, (stepPlain_sends s op hL).last⟩

theorem cutAtCommit_zero (l : List Event) : cutAtCommit 0 l = [] := by
  cases l <;> rfl

/-- cutting at the number of commits of a prefix `pre` gives the part of `pre` up to its last
    commit, whatever follows `pre` -/
theorem cutAtCommit_count : ∀ (pre rest : List Event),
    ∃ r, pre = cutAtCommit (commitCount pre) (pre ++ rest) ++ r ∧ commitCount r = 0 := by
  intro pre rest
  induction pre with
  | nil => exact ⟨[], by simp [cutAtCommit_zero], rfl⟩
  | cons a l ih =>
    obtain ⟨r, hr, hr0⟩ := ih
    have nc : ∀ e : Event, isCommitB e = false → (∀ k (t : List Event), cutAtCommit (k + 1) (e :: t) = e :: cutAtCommit (k + 1) t) →
        ∃ r, e :: l = cutAtCommit (commitCount (e :: l)) (e :: l ++ rest) ++ r ∧ commitCount r = 0 := by
      intro e he hcut
      rw [commitCount_notCommit he]
      cases hn : commitCount l with
      | zero =>
        refine ⟨e :: l, by rw [cutAtCommit_zero]; rfl, ?_⟩
        rw [commitCount_notCommit he]; exact hn
      | succ n =>
        rw [hn] at hr
        exact ⟨r, by rw [List.cons_append, hcut, List.cons_append, ← hr], hr0⟩
    cases a with
    | commit w =>
      refine ⟨r, ?_, hr0⟩
      rw [commitCount_commit, List.cons_append]
      simp only [cutAtCommit, List.cons_append, ← hr]
    | _ => exact nc _ rfl (fun _ _ => rfl)

theorem step_crash_succ (s : Sys) (k : Nat) (op : Op) :
    s.step (.crashIn (k + 1) op) =
      match (s.atStart.stepPlain op).snaps[k]? with
      | some p => { ((s.atStart.stepPlain op).crashTo p) with out := cutAtCommit (k + 1) (s.atStart.stepPlain op).out }
      | none => (s.atStart.stepPlain op).crashTo ((s.atStart.stepPlain op).disk, (s.atStart.stepPlain op).udisk) := by
  unfold Sys.step atStart
  dsimp only
  rw [Nat.add_sub_cancel]
  generalize (Sys.stepPlain _ op) = s1
  cases s1.snaps[k]? <;> rfl

/-- **what a crash restores**: for every `k`, the step `crashIn k op` leaves the files as of the
    `k`-th snapshot of `op` (those the step started with if `k = 0`, the final ones if `op` commits
    fewer than `k` times), nothing uncommitted, no connections -/
theorem step_crash_files (s : Sys) (k : Nat) (op : Op) :
    ((s.step (.crashIn k op)).db, (s.step (.crashIn k op)).udb) =
        lastSnap (s.disk, s.udisk) ((s.atStart.stepPlain op).snaps.take k) ∧
    (s.step (.crashIn k op)).disk = (s.step (.crashIn k op)).db ∧
    (s.step (.crashIn k op)).udisk = (s.step (.crashIn k op)).udb ∧
    (s.step (.crashIn k op)).conns = [] := by
  obtain ⟨L, hL⟩ := stepPlain_exec s.atStart op
  have hlast := (stepPlain_sends s op hL).last
  rw [lastSnap_take]
  cases k with
  | zero => exact ⟨rfl, rfl, rfl, rfl⟩
  | succ k =>
    simp only [Nat.add_one_ne_zero, if_false, Nat.add_sub_cancel]
    rw [step_crash_succ]
    cases h : (s.atStart.stepPlain op).snaps[k]? with
    | some p => exact ⟨rfl, rfl, rfl, rfl⟩
    | none => exact ⟨hlast.symm, rfl, rfl, rfl⟩

theorem crash_restores (s : Sys) (k : Nat) (op : Op) :
    (k = 0 → (s.step (.crashIn k op)).db = s.disk ∧ (s.step (.crashIn k op)).udb = s.udisk ∧
      (s.step (.crashIn k op)).out = []) ∧
    (∀ p, 1 ≤ k → (s.atStart.stepPlain op).snaps[k - 1]? = some p →
      (s.step (.crashIn k op)).db = p.1 ∧ (s.step (.crashIn k op)).udb = p.2 ∧
      (s.step (.crashIn k op)).out = cutAtCommit k (s.atStart.stepPlain op).out ∧
      (s.step (.crashIn k op)).snaps = (s.atStart.stepPlain op).snaps) ∧
    ((s.atStart.stepPlain op).snaps.length < k →
      (s.step (.crashIn k op)).db = (s.atStart.stepPlain op).disk ∧
      (s.step (.crashIn k op)).udb = (s.atStart.stepPlain op).udisk ∧
      (s.step (.crashIn k op)).out = (s.atStart.stepPlain op).out ∧
      (s.step (.crashIn k op)).snaps = (s.atStart.stepPlain op).snaps) := by
  cases k with
  | zero => exact ⟨fun _ => ⟨rfl, rfl, rfl⟩, fun _ h => absurd h (by omega), fun h => absurd h (by omega)⟩
  | succ k =>
    refine ⟨fun h => absurd h (by omega), fun p _ h => ?_, fun hlt => ?_⟩
    · simp only [Nat.add_sub_cancel] at h
      rw [step_crash_succ, h]; exact ⟨rfl, rfl, rfl, rfl⟩
    · have h : (s.atStart.stepPlain op).snaps[k]? = none := by
        rw [List.getElem?_eq_none_iff]; omega
      rw [step_crash_succ, h]; exact ⟨rfl, rfl, rfl, rfl⟩

/-- the output of any step is an initial part of the output of the operation it executes, and
    (unless it is empty) its snapshots are those of that operation -/
theorem step_out_prefix (s : Sys) (op : Op) :
    (∃ r, (s.atStart.stepPlain op.body).out = (s.step op).out ++ r) ∧
    ((s.step op).out = [] ∨ (s.step op).snaps = (s.atStart.stepPlain op.body).snaps) := by
  cases op with
  | crashIn k op' =>
    show (∃ r, (s.atStart.stepPlain op').out = _ ++ r) ∧ (_ ∨ _ = (s.atStart.stepPlain op').snaps)
    cases k with
    | zero => exact ⟨⟨_, rfl⟩, .inl rfl⟩
    | succ k =>
      rw [step_crash_succ]
      cases (s.atStart.stepPlain op').snaps[k]? with
      | some p => exact ⟨(cutAtCommit_isPrefix _ _).imp fun _ h => h.symm, .inr rfl⟩
      | none => exact ⟨⟨[], (List.append_nil _).symm⟩, .inr rfl⟩
  | _ => exact ⟨⟨[], by simp [Op.body, Sys.step, atStart]⟩, .inr rfl⟩

/-- **per-frame statement, any state** (no invariant needed): the frame at `pre` was sent by the
    logged state `m`; its flag is `m.synced`; the files a kill leaves at that point are `m`'s disk -/
theorem ack_files (s : Sys) (op : Op) {L : List Sys}
    (hL : Exec s.atStart (s.atStart.stepPlain op.body) L)
    {pre : List Event} {c f b post} (ho : (s.step op).out = pre ++ .frame c f b :: post) :
    ∃ m ∈ L, m.out = pre ∧ m.snaps = (s.step op).snaps.take (commitCount pre) ∧ b = m.synced ∧
      lastSnap (s.disk, s.udisk) ((s.step op).snaps.take (commitCount pre)) = (m.disk, m.udisk) := by
  obtain ⟨⟨r, hr⟩, hsn⟩ := step_out_prefix s op
  have hsn' : (s.step op).snaps = (s.atStart.stepPlain op.body).snaps := by
    rcases hsn with h | h
    · rw [h] at ho; simp at ho
    · exact h
  rw [hsn']
  apply (stepPlain_sends s op.body hL).frame (c := c) (f := f) (b := b) (post := post ++ r)
  rw [hr, ho]; simp

end Sys

open Sys

/-- **C09, second clause (`C09_ack_durable`).**  For every state satisfying the invariant, every
    operation (crashes included), every execution log `L` of the step and every frame of its
    output, `out = pre ++ frame c f b :: post`:
    the frame was sent with `synced = true` from a state `m` of the log — an intermediate state of
    the step with `m.out = pre` and the snapshots committed so far — which had nothing uncommitted;
    and the files a kill right after this frame leaves (the last snapshot committed before it, the
    files the step started with if there is none) are exactly the databases `m` was acting on. -/
theorem C09_ack_durable {g : GSys} (hI : g.GInv) (op : Op) {L : List Sys}
    (hL : Exec g.sys.atStart (g.sys.atStart.stepPlain op.body) L)
    {pre : List Event} {c : Nat} {f : Frame} {b : Bool} {post : List Event}
    (ho : (g.sys.step op).out = pre ++ .frame c f b :: post) :
    b = true ∧ ∃ m ∈ L, m.out = pre ∧ m.snaps = (g.sys.step op).snaps.take (commitCount pre) ∧
      m.db = m.disk ∧ m.udb = m.udisk ∧
      lastSnap (g.sys.disk, g.sys.udisk) ((g.sys.step op).snaps.take (commitCount pre)) = (m.db, m.udb) := by
  have hb : b = true := C09_step_all hI op (.frame c f b) (by rw [ho]; simp) c f b rfl
  obtain ⟨m, hm, h1, h2, h3, h4⟩ := ack_files g.sys op hL ho
  have hs := (synced_iff m).1 (by rw [← h3]; exact hb)
  exact ⟨hb, m, hm, h1, h2, hs.1, hs.2, by rw [h4, hs.1, hs.2]⟩

/-- the log quantified over in `C09_ack_durable` exists -/
theorem C09_ack_durable_log (s : Sys) (op : Op) : ∃ L, Exec s.atStart (s.atStart.stepPlain op.body) L :=
  stepPlain_exec _ _

/-- `C09_ack_durable` for reachable states, log supplied -/
theorem C09_ack_durable_reach {g : GSys} (hg : g.Reach) (op : Op) :
    ∃ L, Exec g.sys.atStart (g.sys.atStart.stepPlain op.body) L ∧
      ∀ pre c f b post, (g.sys.step op).out = pre ++ .frame c f b :: post →
        b = true ∧ ∃ m ∈ L, m.out = pre ∧ m.snaps = (g.sys.step op).snaps.take (commitCount pre) ∧
          m.db = m.disk ∧ m.udb = m.udisk ∧
          lastSnap (g.sys.disk, g.sys.udisk) ((g.sys.step op).snaps.take (commitCount pre)) = (m.db, m.udb) := by
  obtain ⟨L, hL⟩ := C09_ack_durable_log g.sys op
  exact ⟨L, hL, fun _ _ _ _ _ ho => C09_ack_durable hg.ginv op hL ho⟩

/-- **the restored state is a `crashIn` state.**  `op` not a crash, a frame of its output with `j`
    commits before it: the step `crashIn j op` (the process dies right after the `j`-th commit; for
    `j = 0`, before the first) leaves exactly the databases the sender `m` of the frame was acting
    on; its output is the part of `pre` up to that commit (`r` has no commit: the files do not
    change between that commit and the frame). -/
theorem C09_ack_durable_crash {g : GSys} (hI : g.GInv) {op : Op} (hop : op.isCrash = false) {L : List Sys}
    (hL : Exec g.sys.atStart (g.sys.atStart.stepPlain op) L)
    {pre : List Event} {c : Nat} {f : Frame} {b : Bool} {post : List Event}
    (ho : (g.sys.step op).out = pre ++ .frame c f b :: post) :
    ∃ m ∈ L, m.out = pre ∧ m.db = m.disk ∧ m.udb = m.udisk ∧
      (g.sys.step (.crashIn (commitCount pre) op)).db = m.db ∧
      (g.sys.step (.crashIn (commitCount pre) op)).udb = m.udb ∧
      ∃ r, pre = (g.sys.step (.crashIn (commitCount pre) op)).out ++ r ∧ commitCount r = 0 := by
  have hbody := body_of_not_crash hop
  obtain ⟨_, m, hm, h1, _, h3, h4, h5⟩ := C09_ack_durable hI op (hbody.symm ▸ hL) ho
  have hstep : g.sys.step op = g.sys.atStart.stepPlain op := step_eq_of_not_crash g.sys hop
  have hf := (step_crash_files g.sys (commitCount pre) op).1
  rw [hstep] at h5 ho
  rw [h5] at hf
  have hdb := congrArg Prod.fst hf
  have hudb := congrArg Prod.snd hf
  refine ⟨m, hm, h1, h3, h4, hdb, hudb, ?_⟩
  have hcnt := (stepPlain_sends g.sys op hL).count
  have hc := crash_restores g.sys (commitCount pre) op
  rcases Nat.eq_zero_or_pos (commitCount pre) with h0 | hpos
  · obtain ⟨_, _, hout⟩ := hc.1 h0
    exact ⟨pre, by rw [hout]; rfl, h0⟩
  · have hle : commitCount pre - 1 < (g.sys.atStart.stepPlain op).snaps.length := by
      rw [hcnt, ho, commitCount_append]; omega
    obtain ⟨_, _, hout, _⟩ := hc.2.1 _ hpos (List.getElem?_eq_getElem hle)
    rw [hout, ho]
    exact cutAtCommit_count pre _

/-- **(B) the last frame / a crash after the last commit**: `op` not a crash; if the process dies
    after the last commit of `op` (in particular right after its answer frame), the files are the
    databases of the completed step -/
theorem C09_ack_durable_last {g : GSys} (hI : g.GInv) {op : Op} (hop : op.isCrash = false) {k : Nat}
    (hk : (g.sys.step op).snaps.length ≤ k) :
    (g.sys.step (.crashIn k op)).db = (g.sys.step op).db ∧
    (g.sys.step (.crashIn k op)).udb = (g.sys.step op).udb := by
  have hstep : g.sys.step op = g.sys.atStart.stepPlain op := step_eq_of_not_crash g.sys hop
  have hsy : (g.sys.step op).Synced := (Ok.step hI.synced hI.cinv.npOk hop).synced
  obtain ⟨L, hL⟩ := stepPlain_exec g.sys.atStart op
  have hlast := (stepPlain_sends g.sys op hL).last
  have hf := (step_crash_files g.sys k op).1
  rw [hstep] at hk hsy ⊢
  rw [List.take_of_length_le hk, hlast] at hf
  exact ⟨(congrArg Prod.fst hf).trans hsy.1.symm, (congrArg Prod.snd hf).trans hsy.2.symm⟩

theorem Sys.trace_split : ∀ (ops : List Op) (s0 : Sys) (tpre : List Event) (e : Event) (tpost : List Event),
    (Sys.run s0 ops).2 = tpre ++ e :: tpost →
    ∃ a op rest pre post, ops = a ++ op :: rest ∧ tpre = (Sys.run s0 a).2 ++ pre ∧
      ((Sys.run s0 a).1.step op).out = pre ++ e :: post := by
  intro ops
  induction ops with
  | nil => intro s0 tpre e tpost h; simp [Sys.run] at h
  | cons op rest ih =>
    intro s0 tpre e tpost h
    simp only [Sys.run] at h
    -- the event belongs to a later step
    have later : ∀ as, tpre = (s0.step op).out ++ as → (Sys.run (s0.step op) rest).2 = as ++ e :: tpost →
        ∃ a op' rest' pre post, op :: rest = a ++ op' :: rest' ∧ tpre = (Sys.run s0 a).2 ++ pre ∧
          ((Sys.run s0 a).1.step op').out = pre ++ e :: post := by
      intro as h1 h2
      obtain ⟨a, op', rest', pre, post, e1, e2, e3⟩ := ih (s0.step op) as e tpost h2
      refine ⟨op :: a, op', rest', pre, post, by rw [e1]; rfl, ?_, by simpa only [Sys.run] using e3⟩
      simp only [Sys.run]; rw [h1, e2, List.append_assoc]
    rcases List.append_eq_append_iff.1 h with ⟨as, h1, h2⟩ | ⟨bs, h1, h2⟩
    · exact later as h1 h2
    · cases bs with
      | nil => exact later [] (by simpa using h1.symm) (by simpa using h2.symm)
      | cons x bs =>
        simp only [List.cons_append, List.cons.injEq] at h2
        refine ⟨[], op, rest, tpre, bs, rfl, by simp [Sys.run], ?_⟩
        show (s0.step op).out = _
        rw [h1, h2.1]

/-- **C09, second clause, on traces.**  For every configuration, start time and well-formed
    history `ops` (crashes, sweeps, restarts included), every prefix `tpre ++ [frame c f fl]` of the
    trace: `fl = true`; the frame belongs to a step `op` of the history (`ops = a ++ op :: rest`,
    `tpre` = the trace of `a` followed by `pre`), executed from the state `s` reached by `a`; that
    step has an execution log `L` and in it the state `m` that sent the frame (`m.out = pre`),
    which had nothing uncommitted, and the files a kill right after the frame leaves — the last
    snapshot committed before it in that step, else the files `s` had — are the databases `m` was
    acting on. -/
theorem C09_ack_durable_trace (cfg : Cfg) (rb : Time) (ops : List Op) (hwf : (GSys.init cfg rb).WF ops)
    {tpre : List Event} {c : Nat} {f : Frame} {fl : Bool} {tpost : List Event}
    (ht : (Sys.run { cfg := cfg, rebooted := rb } ops).2 = tpre ++ .frame c f fl :: tpost) :
    fl = true ∧ ∃ a op rest pre post, ops = a ++ op :: rest ∧
      tpre = (Sys.run { cfg := cfg, rebooted := rb } a).2 ++ pre ∧
      ((Sys.run { cfg := cfg, rebooted := rb } a).1.step op).out = pre ++ .frame c f fl :: post ∧
      ∃ L, Exec (Sys.run { cfg := cfg, rebooted := rb } a).1.atStart
            ((Sys.run { cfg := cfg, rebooted := rb } a).1.atStart.stepPlain op.body) L ∧
        ∃ m ∈ L, m.out = pre ∧ m.db = m.disk ∧ m.udb = m.udisk ∧
          lastSnap ((Sys.run { cfg := cfg, rebooted := rb } a).1.disk, (Sys.run { cfg := cfg, rebooted := rb } a).1.udisk)
            (((Sys.run { cfg := cfg, rebooted := rb } a).1.step op).snaps.take (commitCount pre)) = (m.db, m.udb) := by
  obtain ⟨a, op, rest, pre, post, e1, e2, e3⟩ := Sys.trace_split ops _ _ _ _ ht
  have hreach : ((GSys.init cfg rb).run a).Reach :=
    GSys.reach_run (.init cfg rb) a (GSys.WF_append.1 (e1 ▸ hwf)).1
  have hI := hreach.ginv
  have hsys : ((GSys.init cfg rb).run a).sys = (Sys.run { cfg := cfg, rebooted := rb } a).1 := GSys.run_sys _ _
  obtain ⟨L, hL⟩ := C09_ack_durable_log ((GSys.init cfg rb).run a).sys op
  have e3' : (((GSys.init cfg rb).run a).sys.step op).out = pre ++ .frame c f fl :: post := by rw [hsys]; exact e3
  obtain ⟨hb, m, hm, h1, _, h3, h4, h5⟩ := C09_ack_durable hI op hL e3'
  rw [hsys] at hL h5
  exact ⟨hb, a, op, rest, pre, post, e1, e2, e3, L, hL, m, hm, h1, h3, h4, h5⟩

/-! ## non-vacuity: a `close` that commits three times (usage database on) -/

namespace C09cExample

/-- connect, bind, claim (new nameplate and mailbox), open, add -/
def hist : List Op :=
  [ .connect 1,
    .recv 1 10 (.int 1) (.bind (some "app") (some "s1") (some "impl") (some "v")),
    .recv 1 11 (.int 2) (.claim (some "4") "mb1"),
    .recv 1 12 (.int 3) (.open_ (some "mb1")),
    .recv 1 13 (.int 4) (.add (some (.str "pake")) (some (.str "body"))) ]

def g : GSys := (GSys.init { usage := true } 0).run hist

theorem g_reach : g.Reach := GSys.reach_of_wfB _ _ _ (by decide +kernel)

/-- the last side closes: side row updated + commit; nameplate and mailbox summaries written,
    rows deleted, usage commit; channel commit; answer -/
def closeOp : Op := .recv 1 14 (.int 5) (.close (some "mb1") (some "happy"))

def ackF : Event := .frame 1 (.ack (.int 5)) true
def closedF : Event := .frame 1 .closed true
def cC : Event := .commit .chan
def cU : Event := .commit .usage

/-- evaluated: the `ack` precedes all three commits, the answer follows them -/
theorem close_out : (g.sys.step closeOp).out = [ackF, cC, cU, cC, closedF] := by decide +kernel

example : (g.sys.step closeOp).snaps.length = 3 := by decide +kernel

/-- the three crash points are three different pairs of files, all different from the files the
    step started with; the last one is the databases of the completed step -/
example :
    let D0 := (g.sys.disk, g.sys.udisk)
    let sn := (g.sys.step closeOp).snaps
    lastSnap D0 (sn.take 0) = D0 ∧ lastSnap D0 (sn.take 1) ≠ D0 ∧
    lastSnap D0 (sn.take 2) ≠ lastSnap D0 (sn.take 1) ∧ lastSnap D0 (sn.take 3) ≠ lastSnap D0 (sn.take 2) ∧
    lastSnap D0 (sn.take 3) = ((g.sys.step closeOp).db, (g.sys.step closeOp).udb) := by
  decide +kernel

/-- `C09_ack_durable` applied to both frames of the step: the `ack` was sent from a state `m` with
    empty output acting on the files the step STARTED with — a kill right after the `ack` leaves
    those; the `closed` was sent from a state acting on the THIRD snapshot — a kill right after
    `closed` leaves that one (the mailbox gone, its usage rows written) -/
example : ∃ L, Exec g.sys.atStart (g.sys.atStart.stepPlain closeOp) L ∧
    (∃ m ∈ L, m.out = [] ∧ m.db = m.disk ∧ m.udb = m.udisk ∧ (g.sys.disk, g.sys.udisk) = (m.db, m.udb)) ∧
    (∃ m ∈ L, m.out = [ackF, cC, cU, cC] ∧ m.db = m.disk ∧ m.udb = m.udisk ∧
      lastSnap (g.sys.disk, g.sys.udisk) ((g.sys.step closeOp).snaps.take 3) = (m.db, m.udb)) := by
  obtain ⟨L, hL, H⟩ := C09_ack_durable_reach g_reach closeOp
  refine ⟨L, hL, ?_, ?_⟩
  · obtain ⟨_, m, hm, h1, _, h3, h4, h5⟩ := H [] 1 (.ack (.int 5)) true [cC, cU, cC, closedF] close_out
    exact ⟨m, hm, h1, h3, h4, h5⟩
  · obtain ⟨_, m, hm, h1, _, h3, h4, h5⟩ := H [ackF, cC, cU, cC] 1 .closed true [] close_out
    exact ⟨m, hm, h1, h3, h4, h5⟩

/-- `C09_ack_durable_crash` on the answer frame: the step `crashIn 3 closeOp` has the databases
    the sender of `closed` was acting on, and its output is `pre` itself here (`r = []` is forced:
    `pre` ends with a commit); on the `ack`: `crashIn 0 closeOp`, empty output, `r = pre = []` -/
example : ∃ L, Exec g.sys.atStart (g.sys.atStart.stepPlain closeOp) L ∧
    ∃ m ∈ L, m.out = [ackF, cC, cU, cC] ∧ (g.sys.step (.crashIn 3 closeOp)).db = m.db ∧
      (g.sys.step (.crashIn 3 closeOp)).udb = m.udb := by
  obtain ⟨L, hL⟩ := C09_ack_durable_log g.sys closeOp
  obtain ⟨m, hm, h1, _, _, h4, h5, _⟩ :=
    C09_ack_durable_crash g_reach.ginv (op := closeOp) rfl hL (pre := [ackF, cC, cU, cC]) (post := []) close_out
  exact ⟨L, hL, m, hm, h1, h4, h5⟩

example : (g.sys.step (.crashIn 3 closeOp)).out = [ackF, cC, cU, cC] ∧
    (g.sys.step (.crashIn 0 closeOp)).out = [] ∧
    (g.sys.step (.crashIn 0 closeOp)).db = g.sys.db ∧
    (g.sys.step (.crashIn 3 closeOp)).db = (g.sys.step closeOp).db ∧
    (g.sys.step (.crashIn 3 closeOp)).db ≠ g.sys.db := by decide +kernel

/-- the theorem covers crashed steps too: the `ack` that got out of `crashIn 2 closeOp` -/
example : (g.sys.step (.crashIn 2 closeOp)).out = [] ++ ackF :: [cC, cU] := by decide +kernel

example : ∃ L, Exec g.sys.atStart (g.sys.atStart.stepPlain closeOp) L ∧
    ∃ m ∈ L, m.out = [] ∧ (g.sys.disk, g.sys.udisk) = (m.db, m.udb) := by
  obtain ⟨L, hL, H⟩ := C09_ack_durable_reach g_reach (.crashIn 2 closeOp)
  obtain ⟨_, m, hm, h1, _, _, _, h5⟩ := H [] 1 (.ack (.int 5)) true [cC, cU] (by decide +kernel)
  exact ⟨L, hL, m, hm, h1, h5⟩

/-- `C09_ack_durable_last`: hypotheses satisfiable (`k = 3 = snaps.length`) -/
example : (g.sys.step (.crashIn 3 closeOp)).db = (g.sys.step closeOp).db ∧
    (g.sys.step (.crashIn 3 closeOp)).udb = (g.sys.step closeOp).udb :=
  C09_ack_durable_last g_reach.ginv (op := closeOp) rfl (by decide +kernel)

/-- `send_durable`: hypotheses satisfiable (the state a step starts from), conclusion non-trivial
    (the answer frame of `closeOp` is sent after three commits: see `close_out`) -/
example : AckInv0 (g.sys.disk, g.sys.udisk) g.sys.atStart ∧ g.sys.atStart.synced = true :=
  ⟨⟨rfl, rfl⟩, by decide +kernel⟩

/-- `Exec` itself does not force `synced = true`: a write followed by `send` without a commit is an
    execution, its frame carries `false`, and the files a kill leaves are NOT what the sender was
    acting on — `b = true` in `C09_ack_durable` comes from the commit discipline of the code -/
example :
    let s0 : Sys := {}
    let w : Chan → Chan := (·.insMailbox ⟨"app", "mb", 0, false⟩)
    Exec s0 ((s0.modDb w).send 1 .released) [s0.modDb w] ∧
    ((s0.modDb w).send 1 .released).out = [.frame 1 .released false] ∧
    lastSnap (s0.disk, s0.udisk) ((s0.modDb w).send 1 .released).snaps ≠ ((s0.modDb w).db, (s0.modDb w).udb) :=
  ⟨(Exec.start.modDb _).send 1 .released, by decide +kernel, by decide +kernel⟩

/-- `C09_ack_durable_trace`: its hypotheses hold for `hist ++ [closeOp]` (17 events) and the last
    event of its trace, the `closed` frame -/
example : (GSys.init { usage := true } 0).WF (hist ++ [closeOp]) ∧
    (Sys.run { cfg := { usage := true }, rebooted := 0 } (hist ++ [closeOp])).2 =
      (Sys.run { cfg := { usage := true }, rebooted := 0 } (hist ++ [closeOp])).2.take 16 ++ closedF :: [] :=
  ⟨GSys.wfB_sound (by decide +kernel), by decide +kernel⟩

end C09cExample

end Wormhole

#print axioms Wormhole.Sys.send_flag
#print axioms Wormhole.Sys.send_durable
#print axioms Wormhole.Sys.ackInv0_stepPlain
#print axioms Wormhole.Sys.Exec.sends
#print axioms Wormhole.Sys.stepPlain_exec
#print axioms Wormhole.Sys.stepPlain_sends
#print axioms Wormhole.Sys.step_crash_files
#print axioms Wormhole.Sys.crash_restores
#print axioms Wormhole.Sys.ack_files
#print axioms Wormhole.C09_ack_durable
#print axioms Wormhole.C09_ack_durable_log
#print axioms Wormhole.C09_ack_durable_reach
#print axioms Wormhole.C09_ack_durable_crash
#print axioms Wormhole.C09_ack_durable_last
#print axioms Wormhole.C09_ack_durable_trace
