/-
  C15 (history half) — "Exactly one correctly classified usage record per retired nameplate/mailbox".

  Props/C15.lean proves what a record SAYS (`C15_summarizeNameplate`, `C15_summarizeMailbox`: the
  classification and the three times, for every list of side rows).  This file proves WHICH records
  are written, for every operation of every crash-free history:

  * `C15_one_record_each` (step level, from ANY state satisfying the global invariant `GInv`, with a
    usage database configured, for every non-crash operation):
      usage `nameplates` after = before ++ R, where R is, up to order (`List.Perm`), one record per
      RETIRED nameplate row, the record being `npRecord` (= `summarizeNameplate` of the `added` times
      of that nameplate's side rows, the step's time, `pruned := the operation is a sweep`, under the
      nameplate's app); the same for usage `mailboxes` and retired mailbox rows (`mbRecord` =
      `summarizeMailbox` of the mailbox's side rows, with `for_nameplate` of the row);
      `client_versions` gains exactly `newClients` (one row in an accepted `bind`, else nothing);
      the configuration is unchanged.
    RETIRED = row of the base `B = Sys.usageBase s op` whose id is absent from the channel database
    after the step (`Chan.retiredNp B db'`, `Chan.retiredMb B db'`).  `B` is the channel database
    before the step, except for an accepted `close` by side σ with mood μ on mailbox `tgt`: there
    `B = D.closeSide tgt σ μ` where `D` is the database before the step or — for a connection that
    holds no handle — the database COMMITTED by the implicit `open_mailbox` inside the step
    (`C15_base_commit_point`: `D` is the first component of one of the step's snapshots).  So the
    side rows a mailbox record is computed from are those AT THE MOMENT OF DELETION: the closing
    side's own row already carries `opened = 0` and the submitted mood (and exists, stamped with the
    step's time, even if the closing side had never opened the mailbox).
    THE SUBTLE CASE: a `close` on a mailbox id that does not exist creates the row and the closing
    side's row, commits, closes, deletes, and writes one usage record -- for an object that is in
    neither the pre- nor the post-state.  The theorem is TRUE for it because "retired" refers to `B`:
    the row is in `B` (it is in the commit point `D`) and absent afterwards
    (`C15bExample.phantom_close`).
    For nameplates the base rows are always those of the pre-state (`usageBase_np`): a record is computed from the `added` times, which no statement changes.
  * corollaries: `C15_nothing_retired_nothing_written`, `C15_tables_only_grow`,
    `C15_nameplate_record_is_summary`, `C15_mailbox_record_is_summary`, `C15_client_rows`;
  * `C15_history_counts`: over any crash-free well-formed history from a state with `GInv` the
    number of usage nameplate (mailbox) records grows by exactly the number of retirements;
    `C15_history_counts_init` from the initial state (records = retirements);
    `C15_retired_absent` / `C15_retired_nameplate_never_returns`: an object still present has no
    record -- a retired row's id is absent after the step, and (nameplate row ids are AUTOINCREMENT)
    never appears again;
  * `C15_no_usage_db_no_writes`: with `cfg.usage = false` the usage database never changes (any
    operation, crashes included).

  No theorem here carries a hypothesis "GInv is preserved": `GSys.GInv.step` (Inv/Main.lean) is used.
-/
import Wormhole.Inv.UsageSnaps
import Wormhole.Inv.Main
import Wormhole.Inv.WFDec

namespace Wormhole
open Sys

/-! ### the records are the model's summaries -/

theorem npRecord_spec (blur : Time → Time) (app : String) {added : List Time} (t : Time) (pruned : Bool)
    (h : added ≠ []) :
    ∃ u, summarizeNameplate blur added t pruned = some u ∧
      npRecord blur app added t pruned = ⟨app, u.started, u.waiting, u.total, u.result⟩ := by
  refine ⟨C15.nameplateSpec blur added t pruned, ?_, rfl⟩
  rw [C15.C15_summarizeNameplate, if_neg h]

theorem mbRecord_spec (blur : Time → Time) (app : String) (forNp : Bool) (sides : List MbSide) (t : Time)
    (pruned : Bool) :
    mbRecord blur app forNp sides t pruned =
      (let u := summarizeMailbox blur sides t pruned
       ⟨app, forNp, u.started, u.total, u.waiting, u.result⟩) := by
  unfold mbRecord
  rw [C15.C15_summarizeMailbox]

/-! ### the base -/

theorem Sys.usageBase_np (s : Sys) (op : Op) :
    (s.usageBase op).nameplates = s.db.nameplates ∧ (s.usageBase op).npSides = s.db.npSides := by
  unfold Sys.usageBase
  split
  · split
    · exact ⟨rfl, rfl⟩
    · split
      · split
        · exact ⟨closePre_nameplates _ _ _ _ _, closePre_npSides _ _ _ _ _⟩
        · exact ⟨rfl, rfl⟩
      · exact ⟨rfl, rfl⟩
  · exact ⟨rfl, rfl⟩

theorem Sys.usageBase_npSidesOf (s : Sys) (op : Op) (i : Nat) : (s.usageBase op).npSidesOf i = s.db.npSidesOf i := by
  unfold Chan.npSidesOf; rw [(s.usageBase_np op).2]

theorem GSys.GInv.retiredNp_pre {g : GSys} (hI : g.GInv) {op : Op} {d : Chan} {n : Nameplate}
    (hn : n ∈ (g.sys.usageBase op).retiredNp d) :
    n ∈ g.sys.db.nameplates ∧ (g.sys.db.npSidesOf n.id).map (·.added) ≠ [] := by
  have hnB := (Chan.mem_retiredNp.1 hn).1
  rw [(g.sys.usageBase_np op).1] at hnB
  exact ⟨hnB, by simpa using npSidesOf_ne_nil hI.cinv.npHasSide hnB⟩

/-- **the base of a `close` is made from a commit point of the step** (or from the pre-state) -/
theorem C15_base_commit_point {g : GSys} (hI : g.GInv) {c : Nat} {x : Conn} (hx : g.sys.findConn c = some x)
    {m mood : Option String} (hr : rejectText x (.close m mood) = none) {app : String} (happ : x.app = some app)
    {tgt : String} (htg : x.closeTarget m = some tgt) (t : Time) (id : Val) :
    g.sys.usageBase (.recv c t id (.close m mood)) = g.sys.db ∨
    ∃ D : Chan, (D = g.sys.db ∨ ∃ p ∈ (g.sys.step (.recv c t id (.close m mood))).snaps, p.1 = D) ∧
      D.nameplates = g.sys.db.nameplates ∧ D.npSides = g.sys.db.npSides ∧
      g.sys.usageBase (.recv c t id (.close m mood)) = D.closeSide tgt (x.side.getD "") mood :=
  usageBase_commit_point hI.cinv.toPInv hI.synced hx hr happ htg t id

/-- for every operation that is not a `close` the base is the pre-state -/
theorem C15_base_of_not_close (s : Sys) {op : Op} (h : ∀ c t id m mood, op ≠ .recv c t id (.close m mood)) :
    s.usageBase op = s.db := usageBase_of_not_close s h

/-! ### the step theorem -/

theorem GSys.opTime_eq (g : GSys) (op : Op) : g.opTime op = op.time?.getD g.clock := by
  unfold GSys.opTime; cases op.time? <;> rfl

/-- **C15_one_record_each** (see the header) -/
theorem C15_one_record_each {g : GSys} (hI : g.GInv) (hu : g.sys.cfg.usage = true) (op : Op)
    (hop : op.isCrash = false) :
    UsageStep g.sys (g.step op).sys (g.sys.usageBase op) (g.opTime op) op.isSweep (g.sys.newClients op) := by
  rw [GSys.opTime_eq]
  exact step_usage hI.cinv hI.synced hu op hop g.clock

/-- a step that retires nothing writes no usage `nameplates` / `mailboxes` row -/
theorem C15_nothing_retired_nothing_written {g : GSys} (hI : g.GInv) (hu : g.sys.cfg.usage = true) (op : Op)
    (hop : op.isCrash = false) :
    ((g.sys.usageBase op).retiredNp (g.step op).sys.db = [] →
      (g.step op).sys.udb.nameplates = g.sys.udb.nameplates) ∧
    ((g.sys.usageBase op).retiredMb (g.step op).sys.db = [] →
      (g.step op).sys.udb.mailboxes = g.sys.udb.mailboxes) := by
  have h := C15_one_record_each hI hu op hop
  constructor
  · intro e
    obtain ⟨recs, e1, e2⟩ := h.nameplates
    rw [e] at e2
    rw [e1, e2.eq_nil, List.append_nil]
  · intro e
    obtain ⟨recs, e1, e2⟩ := h.mailboxes
    rw [e] at e2
    rw [e1, e2.eq_nil, List.append_nil]

/-- exactly as many new records as retired rows; no row of the three tables is removed or changed -/
theorem C15_tables_only_grow {g : GSys} (hI : g.GInv) (hu : g.sys.cfg.usage = true) (op : Op)
    (hop : op.isCrash = false) :
    g.sys.udb.nameplates <+: (g.step op).sys.udb.nameplates ∧
    g.sys.udb.mailboxes <+: (g.step op).sys.udb.mailboxes ∧
    g.sys.udb.clients <+: (g.step op).sys.udb.clients ∧
    (g.step op).sys.udb.nameplates.length =
      g.sys.udb.nameplates.length + ((g.sys.usageBase op).retiredNp (g.step op).sys.db).length ∧
    (g.step op).sys.udb.mailboxes.length =
      g.sys.udb.mailboxes.length + ((g.sys.usageBase op).retiredMb (g.step op).sys.db).length := by
  have h := C15_one_record_each hI hu op hop
  obtain ⟨r1, e1, p1⟩ := h.nameplates
  obtain ⟨r2, e2, p2⟩ := h.mailboxes
  refine ⟨⟨r1, e1.symm⟩, ⟨r2, e2.symm⟩, ⟨_, h.clients.symm⟩, ?_, ?_⟩
  · rw [e1, List.length_append, p1.length_eq, List.length_map]
  · rw [e2, List.length_append, p2.length_eq, List.length_map]

/-- every retired nameplate has its record among the new rows, and the record is the model's
    `summarizeNameplate` of the `added` times of its side rows (as in the pre-state: no statement
    changes them), the step's time and `pruned := sweep`, under the nameplate's app -/
theorem C15_nameplate_record_is_summary {g : GSys} (hI : g.GInv) (hu : g.sys.cfg.usage = true) (op : Op)
    (hop : op.isCrash = false) {n : Nameplate} (hn : n ∈ (g.sys.usageBase op).retiredNp (g.step op).sys.db) :
    n ∈ g.sys.db.nameplates ∧ (∀ n' ∈ (g.step op).sys.db.nameplates, n'.id ≠ n.id) ∧
    ∃ u, summarizeNameplate g.sys.blurTime ((g.sys.db.npSidesOf n.id).map (·.added)) (g.opTime op) op.isSweep
        = some u ∧
      ∃ recs, (g.step op).sys.udb.nameplates = g.sys.udb.nameplates ++ recs ∧
        (⟨n.app, u.started, u.waiting, u.total, u.result⟩ : UNameplate) ∈ recs := by
  obtain ⟨hnB, hne⟩ := hI.retiredNp_pre hn
  obtain ⟨u, hu1, hu2⟩ := npRecord_spec g.sys.blurTime n.app (g.opTime op) op.isSweep hne
  obtain ⟨recs, e1, p1⟩ := (C15_one_record_each hI hu op hop).nameplates
  refine ⟨hnB, (Chan.mem_retiredNp.1 hn).2, u, hu1, recs, e1, ?_⟩
  rw [← hu2]
  refine p1.symm.subset (List.mem_map.2 ⟨n, hn, ?_⟩)
  unfold Chan.npRec
  rw [Sys.usageBase_npSidesOf]

/-- every retired mailbox has its record among the new rows, and the record is the model's
    `summarizeMailbox` of its side rows in the base (at the moment of deletion), the step's time and
    `pruned := sweep`, under the row's app, with the row's `for_nameplate` -/
theorem C15_mailbox_record_is_summary {g : GSys} (hI : g.GInv) (hu : g.sys.cfg.usage = true) (op : Op)
    (hop : op.isCrash = false) {m : MailboxRow} (hm : m ∈ (g.sys.usageBase op).retiredMb (g.step op).sys.db) :
    m ∈ (g.sys.usageBase op).mailboxes ∧ (∀ m' ∈ (g.step op).sys.db.mailboxes, m'.id ≠ m.id) ∧
    ∃ recs, (g.step op).sys.udb.mailboxes = g.sys.udb.mailboxes ++ recs ∧
      (let u := summarizeMailbox g.sys.blurTime ((g.sys.usageBase op).mbSidesOf m.id) (g.opTime op) op.isSweep
       (⟨m.app, m.forNp, u.started, u.total, u.waiting, u.result⟩ : UMailbox)) ∈ recs := by
  obtain ⟨hmB, habs⟩ := Chan.mem_retiredMb.1 hm
  obtain ⟨recs, e1, p1⟩ := (C15_one_record_each hI hu op hop).mailboxes
  refine ⟨hmB, habs, recs, e1, ?_⟩
  rw [← mbRecord_spec]
  exact p1.symm.subset (List.mem_map.2 ⟨m, hm, rfl⟩)

/-- validation lets a complete `bind` through exactly when `handle_bind` does not answer "already bound" -/
theorem rejectText_bind_eq_none (x : Conn) (a sd : String) (i v : Option String) :
    rejectText x (.bind (some a) (some sd) i v) = none ↔
      ¬ (x.app.isSome ∨ (x.side.isSome ∧ x.side ≠ some "")) := by
  simp [rejectText, Option.isSome_iff_ne_none]

/-- `client_versions`: exactly one row (blurred receive time) in an accepted `bind`, nothing otherwise -/
theorem C15_client_rows (s : Sys) (hu : s.cfg.usage = true) (op : Op) :
    (∀ c t id a sd i v x, op = .recv c t id (.bind (some a) (some sd) i v) → s.findConn c = some x →
      rejectText x (.bind (some a) (some sd) i v) = none →
      s.newClients op = [⟨a, sd, s.blurTime t, i, v⟩]) ∧
    ((∀ c t id a sd i v x, op = .recv c t id (.bind (some a) (some sd) i v) → s.findConn c = some x →
      rejectText x (.bind (some a) (some sd) i v) ≠ none) → s.newClients op = []) := by
  constructor
  · intro c t id a sd i v x e hx hr
    subst e
    simp only [newClients, cmdClients, hx, bindRows, hu, true_and]
    exact if_pos ((rejectText_bind_eq_none x a sd i v).1 hr)
  · intro h
    unfold newClients
    split
    · rename_i c t id cmd
      unfold cmdClients
      split
      · rename_i a sd i v
        split
        · rename_i x hx
          unfold bindRows
          split
          · rename_i a' sd'
            exact if_neg (fun hb => h c t id a' sd' i v x rfl hx ((rejectText_bind_eq_none x a' sd' i v).2 hb.2))
          · rfl
        · rfl
      · rfl
    · rfl

/-! ### histories -/

/-- the number of nameplate rows retired along a history -/
def GSys.retiredNps (g : GSys) : List Op → Nat
  | [] => 0
  | op :: rest => ((g.sys.usageBase op).retiredNp (g.step op).sys.db).length + (g.step op).retiredNps rest

/-- the number of mailbox rows retired along a history -/
def GSys.retiredMbs (g : GSys) : List Op → Nat
  | [] => 0
  | op :: rest => ((g.sys.usageBase op).retiredMb (g.step op).sys.db).length + (g.step op).retiredMbs rest

/-- **history corollary**: over a crash-free well-formed history the usage tables grow (as lists:
    nothing is removed or changed) by exactly one record per retirement -/
theorem C15_history_counts {g : GSys} (hI : g.GInv) (hu : g.sys.cfg.usage = true) (ops : List Op)
    (hwf : g.WF ops) (hcf : ∀ op ∈ ops, op.isCrash = false) :
    g.sys.udb.nameplates <+: (g.run ops).sys.udb.nameplates ∧
    g.sys.udb.mailboxes <+: (g.run ops).sys.udb.mailboxes ∧
    (g.run ops).sys.udb.nameplates.length = g.sys.udb.nameplates.length + g.retiredNps ops ∧
    (g.run ops).sys.udb.mailboxes.length = g.sys.udb.mailboxes.length + g.retiredMbs ops := by
  induction ops generalizing g with
  | nil => exact ⟨List.prefix_refl _, List.prefix_refl _, rfl, rfl⟩
  | cons op rest ih =>
    have hop := hcf op List.mem_cons_self
    obtain ⟨p1, p2, _, l1, l2⟩ := C15_tables_only_grow hI hu op hop
    have hu' : (g.step op).sys.cfg.usage = true := (congrArg Cfg.usage (step_cfg g.sys op)).trans hu
    obtain ⟨q1, q2, m1, m2⟩ := ih (hI.step op hwf.1) hu' hwf.2 (fun o ho => hcf o (List.mem_cons_of_mem _ ho))
    refine ⟨p1.trans q1, p2.trans q2, ?_, ?_⟩
    · show ((g.step op).run rest).sys.udb.nameplates.length = _
      rw [m1, l1]; simp only [GSys.retiredNps]; omega
    · show ((g.step op).run rest).sys.udb.mailboxes.length = _
      rw [m2, l2]; simp only [GSys.retiredMbs]; omega

/-- from the initial state: records = retirements -/
theorem C15_history_counts_init (cfg : Cfg) (hu : cfg.usage = true) (rb : Time) (ops : List Op)
    (hwf : (GSys.init cfg rb).WF ops) (hcf : ∀ op ∈ ops, op.isCrash = false) :
    ((GSys.init cfg rb).run ops).sys.udb.nameplates.length = (GSys.init cfg rb).retiredNps ops ∧
    ((GSys.init cfg rb).run ops).sys.udb.mailboxes.length = (GSys.init cfg rb).retiredMbs ops := by
  obtain ⟨_, _, h1, h2⟩ := C15_history_counts (GSys.GInv.init cfg rb) hu ops hwf hcf
  constructor
  · rw [h1]; simp [GSys.init]
  · rw [h2]; simp [GSys.init]

/-- an object that is present after the step is not among the retired ones -/
theorem C15_retired_absent (B d : Chan) :
    (∀ n ∈ B.retiredNp d, ∀ n' ∈ d.nameplates, n'.id ≠ n.id) ∧
    (∀ m ∈ B.retiredMb d, ∀ m' ∈ d.mailboxes, m'.id ≠ m.id) :=
  ⟨fun _ hn => (Chan.mem_retiredNp.1 hn).2, fun _ hm => (Chan.mem_retiredMb.1 hm).2⟩

theorem GSys.run_npGrow {g : GSys} (hI : g.GInv) (ops : List Op) (hwf : g.WF ops) :
    Chan.NpGrow g.sys.db (g.run ops).sys.db := by
  induction ops generalizing g with
  | nil => exact Chan.NpGrow.refl _
  | cons op rest ih =>
    have h1 : Chan.NpGrow g.sys.db (g.step op).sys.db :=
      Sys.step_NpGrow g.sys hI.synced.1 hI.cinv.npIds op
    exact h1.trans (ih (hI.step op hwf.1) hwf.2)

/-- a retired nameplate row never comes back: its row id (AUTOINCREMENT) is not the id of any
    nameplate row of any later state -/
theorem C15_retired_nameplate_never_returns {g : GSys} (hI : g.GInv) (op : Op) (hw : g.WFOp op)
    {n : Nameplate} (hn : n ∈ (g.sys.usageBase op).retiredNp (g.step op).sys.db) (ops : List Op)
    (hwf : (g.step op).WF ops) : ∀ n' ∈ ((g.step op).run ops).sys.db.nameplates, n'.id ≠ n.id := by
  have habs := (Chan.mem_retiredNp.1 hn).2
  have hlt : n.id < g.sys.db.nextNp := hI.cinv.bounded.1 n (hI.retiredNp_pre hn).1
  have h1 : Chan.NpGrow g.sys.db (g.step op).sys.db := Sys.step_NpGrow g.sys hI.synced.1 hI.cinv.npIds op
  have h2 := GSys.run_npGrow (hI.step op hw) ops hwf
  intro n' hn' e
  have := h2.rows n' hn' (by rw [e]; exact Nat.lt_of_lt_of_le hlt h1.next)
  exact habs n' this e

/-! ### without a usage database -/

/-- **without a usage database nothing is ever written**: for every operation, crashes included,
    from a state whose usage database has nothing uncommitted -/
theorem C15_no_usage_db_no_writes {s : Sys} (hS : s.udb = s.udisk) (hu : s.cfg.usage = false) (op : Op) :
    (s.step op).udb = s.udb ∧ (s.step op).udisk = s.udb :=
  UAll.step (P := (· = s.udb)) (fun h => by rw [hu] at h; cases h) rfl hS.symm op

/-- ... along every well-formed history (crashes included) -/
theorem C15_no_usage_history {g : GSys} (hI : g.GInv) (hu : g.sys.cfg.usage = false) (ops : List Op)
    (hwf : g.WF ops) : (g.run ops).sys.udb = g.sys.udb := by
  induction ops generalizing g with
  | nil => rfl
  | cons op rest ih =>
    have h1 := (C15_no_usage_db_no_writes hI.synced.2 hu op).1
    have hu' : (g.step op).sys.cfg.usage = false := (congrArg Cfg.usage (step_cfg g.sys op)).trans hu
    show ((g.step op).run rest).sys.udb = _
    rw [ih (hI.step op hwf.1) hu' hwf.2]
    exact h1

end Wormhole

/-! ### Non-vacuity -/

namespace Wormhole
namespace C15bExample
open Sys

def cfg : Cfg := { usage := true }
def bind (c : Nat) (t : Time) (σ : String) : Op := .recv c t (.int 1) (.bind (some "app") (some σ) (some "impl") none)

/-- side s1 claims nameplate "4" (mailbox "mb1") and goes away -/
def H1 : List Op := [ .connect 1, bind 1 10 "s1", .recv 1 11 (.int 2) (.claim (some "4") "mb1"), .drop 1 ]
def g1 : GSys := (GSys.init cfg 0).run H1
theorem g1_reach : g1.Reach := GSys.reach_of_wfB _ _ _ (by decide +kernel)

/-- the sweep that expires both objects -/
def sweepOp : Op := .sweep 100000 false

/-- the hypotheses of `C15_one_record_each` hold, and the step retires one nameplate and one mailbox -/
example : g1.GInv ∧ g1.sys.cfg.usage = true ∧ sweepOp.isCrash = false := ⟨g1_reach.ginv, rfl, rfl⟩
example : (g1.sys.usageBase sweepOp).retiredNp (g1.step sweepOp).sys.db = [⟨1, "app", "4", "mb1"⟩] ∧
    (g1.sys.usageBase sweepOp).retiredMb (g1.step sweepOp).sys.db = [⟨"app", "mb1", 11, true⟩] := by
  decide +kernel
/-- ... and the usage tables gain exactly the two records (evaluated) -/
example : g1.sys.udb.nameplates = [] ∧ g1.sys.udb.mailboxes = [] ∧
    (g1.step sweepOp).sys.udb.nameplates = [⟨"app", 11, none, 99989, "pruney"⟩] ∧
    (g1.step sweepOp).sys.udb.mailboxes = [⟨"app", true, 11, 99989, none, "pruney"⟩] := by decide +kernel
example : UsageStep g1.sys (g1.step sweepOp).sys g1.sys.db 100000 true [] := by
  have h := C15_one_record_each g1_reach.ginv rfl sweepOp rfl
  rwa [C15_base_of_not_close g1.sys (by intro c t id m mood e; cases e)] at h

/-- THE SUBTLE CASE: a bound connection closes a mailbox id that does not exist -/
def H2 : List Op := [ .connect 1, bind 1 10 "s1" ]
def g2 : GSys := (GSys.init cfg 0).run H2
theorem g2_reach : g2.Reach := GSys.reach_of_wfB _ _ _ (by decide +kernel)
def phantomClose : Op := .recv 1 11 (.int 2) (.close (some "zz") (some "happy"))

/-- no mailbox before, none after, yet one mailbox row of the base is retired and one record written:
    the base contains the row the implicit `open_mailbox` created and committed -/
theorem phantom_close :
    g2.sys.db.mailboxes = [] ∧ (g2.step phantomClose).sys.db.mailboxes = [] ∧
    (g2.sys.usageBase phantomClose).retiredMb (g2.step phantomClose).sys.db = [⟨"app", "zz", 11, false⟩] ∧
    (g2.sys.usageBase phantomClose).mbSidesOf "zz" = [⟨"zz", false, "s1", 11, some "happy"⟩] ∧
    (g2.step phantomClose).sys.udb.mailboxes = [⟨"app", false, 11, 0, none, "lonely"⟩] ∧
    -- the commit point the base comes from
    (g2.sys.step phantomClose).snaps.map (fun p => p.1.mailboxes) =
      [[⟨"app", "zz", 11, false⟩], [⟨"app", "zz", 11, false⟩], [⟨"app", "zz", 11, false⟩], []] := by
  decide +kernel
example : UsageStep g2.sys (g2.step phantomClose).sys (g2.sys.usageBase phantomClose) 11 false [] :=
  C15_one_record_each g2_reach.ginv rfl phantomClose rfl

/-- the accepted `bind` of `H2` wrote exactly one `client_versions` row -/
example : ((GSys.init cfg 0).run [.connect 1]).sys.newClients (bind 1 10 "s1") =
    [⟨"app", "s1", 10, some "impl", none⟩] := by decide +kernel
example : g2.sys.udb.clients = [⟨"app", "s1", 10, some "impl", none⟩] := by decide +kernel

/-- records of objects with two sides (values via the classification theorem, not by evaluation of
    `mergeSort`) -/
example : npRecord id "app" [13, 11] 15 false = ⟨"app", 11, some 2, 4, "happy"⟩ := by
  unfold npRecord; decide
example : mbRecord id "app" true [⟨"m", false, "s1", 11, some "happy"⟩, ⟨"m", false, "s2", 13, some "scary"⟩] 15 false
    = ⟨"app", true, 11, 4, some 2, "scary"⟩ := by
  unfold mbRecord; decide

/-- the history corollary on `H1 ++ [sweep]`: two retirements, two records -/
example : (GSys.init cfg 0).WF (H1 ++ [sweepOp]) ∧ (∀ op ∈ H1 ++ [sweepOp], op.isCrash = false) ∧
    (GSys.init cfg 0).retiredNps (H1 ++ [sweepOp]) = 1 ∧ (GSys.init cfg 0).retiredMbs (H1 ++ [sweepOp]) = 1 :=
  ⟨GSys.wfB_sound (by decide +kernel), by decide, by decide +kernel, by decide +kernel⟩

/-- without a usage database: the hypotheses are satisfiable and nothing is written -/
example : ((GSys.init {} 0).run (H1 ++ [sweepOp])).sys.udb = {} :=
  C15_no_usage_history (GSys.GInv.init {} 0) rfl _ (GSys.wfB_sound (by decide +kernel))

end C15bExample
end Wormhole

#print axioms Wormhole.C15_one_record_each
#print axioms Wormhole.C15_base_commit_point
#print axioms Wormhole.C15_nothing_retired_nothing_written
#print axioms Wormhole.C15_tables_only_grow
#print axioms Wormhole.C15_nameplate_record_is_summary
#print axioms Wormhole.C15_mailbox_record_is_summary
#print axioms Wormhole.C15_client_rows
#print axioms Wormhole.C15_history_counts
#print axioms Wormhole.C15_history_counts_init
#print axioms Wormhole.C15_retired_nameplate_never_returns
#print axioms Wormhole.C15_no_usage_db_no_writes
#print axioms Wormhole.C15_no_usage_history
#print axioms Wormhole.C15bExample.phantom_close
