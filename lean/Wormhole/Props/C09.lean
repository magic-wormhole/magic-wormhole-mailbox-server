/-
  C09 — a response is sent only after its effects are committed.

  Every outbound frame is an `Event.frame c f synced` with
  `synced = decide (db = disk) && decide (udb = udisk)` evaluated at the instant of sending
  (`Sys.send`).  The theorems say: `synced = true` for every frame, for every operation, on
  every path (normal, early return, `CrowdedError`, `ReclaimedError`, IntegrityError,
  `ValueError`, sweeps with and without fault, restarts), with and without a usage database
  (`cfg` is arbitrary everywhere).

  Hypotheses on the state before a step (and nothing else):
  * `s.Synced`           nothing uncommitted (`db = disk ∧ udb = udisk`);
  * `s.db.IdsBounded`    ids in use are below the AUTOINCREMENT counter
                         — used once: `ReclaimedError` cannot be raised right after the INSERT
                         of a NEW nameplate row (which would return without committing it);
  * `s.db.NpHasSide`     every nameplate has a side row (= `Chan.CInv.npHasSide`)
                         — used twice, both only when `cfg.usage = true`: the `IndexError` of
                         `_summarize_nameplate_usage` cannot escape from the loop of repair F in
                         `Mailbox.close` (it would leave usage rows pending:
                         `Sys.mailboxClose_spec`) nor from the nameplate loop of `prune`
                         (it would leave the deletions pending: `Sys.pruneNameplates_spec`);
  * `s.db.NpIdsUnique`   `nameplates.id` is unique (= `Chan.PInv.npIds`)
                         — used to keep `NpHasSide` true across the deletions by id inside the
                         loop of `prune` and across `Mailbox.close`'s DELETE ... IN (SELECT id ...).
  The last three are bundled as `Chan.NpOk` (Inv/NpOk.lean) and are PRESERVED by every
  non-crash step (proved here, `C09_step_synced` (c)), so for crash-free histories nothing has
  to be supplied from outside: they hold in the initial state.

  What is not proved here: that `NpOk` holds in the state left by a crash (it is a fact about
  the snapshots taken at commit points, `CInv` of Inv/Defs.lean).  `C09_frames_synced_crash`
  is the theorem for arbitrary histories with exactly that fact as its hypothesis `hCrash`.
-/
import Wormhole.Inv.SyncLemmas

namespace Wormhole
open Sys

/-- all frames of a list of events carry `synced = true` -/
def AllFramesSynced (tr : List Event) : Prop := ∀ e ∈ tr, ∀ c f b, e = Event.frame c f b → b = true

theorem AllFramesSynced.append {a b : List Event} (ha : AllFramesSynced a) (hb : AllFramesSynced b) :
    AllFramesSynced (a ++ b) := by
  intro e he
  rcases List.mem_append.1 he with h | h
  · exact ha e h
  · exact hb e h

/-- **C09, one step.**  For every state with nothing uncommitted (and the nameplate tables in
    order), every operation other than a crash:
    (a) every frame it emits has `synced = true`;
    (b) it ends with nothing uncommitted;
    (c) the hypotheses on the nameplate tables hold again. -/
theorem C09_step_synced (s : Sys) (op : Op) (hop : op.isCrash = false)
    (hS : s.Synced) (hB : s.db.IdsBounded) (hIds : s.db.NpIdsUnique) (hSides : s.db.NpHasSide) :
    AllFramesSynced (s.step op).out ∧ (s.step op).Synced ∧
      ((s.step op).db.IdsBounded ∧ (s.step op).db.NpIdsUnique ∧ (s.step op).db.NpHasSide) := by
  have h := Ok.step hS ⟨hB, hIds, hSides⟩ hop
  exact ⟨h.frames, h.synced, h.np.bounded, h.np.ids, h.np.hasSide⟩

/-- **C09, a step that crashes.**  The state left by the crash has nothing uncommitted (by
    construction of `crashTo`), and every frame that got out before the crash has
    `synced = true` (the truncated output is a cut of the uncrashed one: `Sys.mem_cutAtCommit`).
    (c) is NOT claimed here: it needs the invariant of the snapshots. -/
theorem C09_step_crash (s : Sys) (k : Nat) (op : Op)
    (hS : s.Synced) (hB : s.db.IdsBounded) (hIds : s.db.NpIdsUnique) (hSides : s.db.NpHasSide) :
    AllFramesSynced (s.step (.crashIn k op)).out ∧ (s.step (.crashIn k op)).Synced :=
  ⟨step_crash_framesOk hS ⟨hB, hIds, hSides⟩ k op, step_crash_synced s k op⟩

theorem frames_synced_aux (P : Op → Prop)
    (hStep : ∀ (s : Sys) (op : Op), P op → s.Synced → s.db.NpOk →
      AllFramesSynced (s.step op).out ∧ (s.step op).Synced ∧ (s.step op).db.NpOk) :
    ∀ (ops : List Op), (∀ op ∈ ops, P op) → ∀ (s : Sys), s.Synced → s.db.NpOk →
      AllFramesSynced (Sys.run s ops).2 ∧ (Sys.run s ops).1.Synced ∧ (Sys.run s ops).1.db.NpOk := by
  intro ops
  induction ops with
  | nil =>
    intro _ s hS hN
    exact ⟨by intro e he; simp [Sys.run] at he, hS, hN⟩
  | cons op rest ih =>
    intro hP s hS hN
    obtain ⟨a, b, c⟩ := hStep s op (hP op (by simp)) hS hN
    obtain ⟨a', b', c'⟩ := ih (fun o ho => hP o (by simp [ho])) (s.step op) b c
    simp only [Sys.run]
    exact ⟨a.append a', b', c'⟩

/-- **C09, crash-free histories.**  From any state with nothing uncommitted and the nameplate
    tables in order, for every list of operations none of which is a crash: every frame of the
    trace has `synced = true`, and the final state has nothing uncommitted. -/
theorem C09_frames_synced (s : Sys) (ops : List Op) (hops : ∀ op ∈ ops, op.isCrash = false)
    (hS : s.Synced) (hN : s.db.NpOk) :
    AllFramesSynced (Sys.run s ops).2 ∧ (Sys.run s ops).1.Synced ∧ (Sys.run s ops).1.db.NpOk := by
  refine frames_synced_aux (fun op => op.isCrash = false) ?_ ops hops s hS hN
  intro s op hop hS hN
  have h := Ok.step hS hN hop
  exact ⟨h.frames, h.synced, h.np⟩

theorem init_synced (cfg : Cfg) (rb : Time) : ({ cfg := cfg, rebooted := rb } : Sys).Synced := ⟨rfl, rfl⟩

theorem init_npOk (cfg : Cfg) (rb : Time) : ({ cfg := cfg, rebooted := rb } : Sys).db.NpOk := by
  refine ⟨⟨?_, ?_⟩, List.Pairwise.nil, ?_⟩
  · intro n hn; simp at hn
  · intro r hr; simp at hr
  · intro n hn; simp at hn

/-- **C09 from the initial state**, any configuration (usage database or not, blur, list
    allowed or not), any start time, any crash-free history. -/
theorem C09_frames_synced_init (cfg : Cfg) (rb : Time) (ops : List Op)
    (hops : ∀ op ∈ ops, op.isCrash = false) :
    AllFramesSynced (Sys.run ({ cfg := cfg, rebooted := rb } : Sys) ops).2 ∧
      (Sys.run ({ cfg := cfg, rebooted := rb } : Sys) ops).1.Synced :=
  let h := C09_frames_synced _ ops hops (init_synced cfg rb) (init_npOk cfg rb)
  ⟨h.1, h.2.1⟩

/-- **C09, all histories, crashes included — conditional.**  The one missing piece is `hCrash`:
    the nameplate tables are in order in the state left by a crash (they are, in every committed
    snapshot; that is `CInv` at commit points and is not proved in this file).

    Full statement wanted (DESIGN.md §6 C09): this theorem without `hCrash`. -/
theorem C09_frames_synced_crash_partial
    (hCrash : ∀ (s : Sys) (k : Nat) (op : Op), s.Synced → s.db.NpOk → (s.step (.crashIn k op)).db.NpOk)
    (s : Sys) (ops : List Op) (hS : s.Synced) (hN : s.db.NpOk) :
    AllFramesSynced (Sys.run s ops).2 ∧ (Sys.run s ops).1.Synced ∧ (Sys.run s ops).1.db.NpOk := by
  refine frames_synced_aux (fun _ => True) ?_ ops (fun _ _ => trivial) s hS hN
  intro s op _ hS hN
  rcases op.isCrash_cases with hc | ⟨k, op', rfl⟩
  · have h := Ok.step hS hN hc
    exact ⟨h.frames, h.synced, h.np⟩
  · exact ⟨step_crash_framesOk hS hN k op', step_crash_synced s k op', hCrash s k op' hS hN⟩

/-! ### Non-vacuity -/

namespace C09Example

def flags (tr : List Event) : List Bool :=
  tr.filterMap (fun e => match e with | .frame _ _ b => some b | _ => none)

/-- one client: connect, bind, claim (new nameplate + mailbox), open, add, close — with a usage
    database, so that both `db.commit()` and `usage_db.commit()` are exercised -/
def hist : List Op :=
  [ .connect 1,
    .recv 1 10 (.int 1) (.bind (some "app") (some "s1") (some "impl") (some "v")),
    .recv 1 11 (.int 2) (.claim (some "4") "mb1"),
    .recv 1 12 (.int 3) (.open_ (some "mb1")),
    .recv 1 13 (.int 4) (.add (some (.str "pake")) (some (.str "body"))),
    .recv 1 14 (.int 5) (.close (some "mb1") (some "happy")) ]

def start : Sys := { cfg := { usage := true }, rebooted := 0 }

/-- the hypotheses of `C09_frames_synced` are satisfiable and the history is crash-free -/
example : start.Synced ∧ start.db.NpOk ∧ ∀ op ∈ hist, op.isCrash = false :=
  ⟨init_synced _ _, init_npOk _ _, by decide⟩

/-- nine frames are emitted (welcome; ack; ack, claimed; ack; ack, message; ack, closed), each
    with `synced = true`; evaluated, not derived from the theorem -/
example : flags (Sys.run start hist).2 = [true, true, true, true, true, true, true, true, true] := by
  decide +kernel

/-- eight effective commits happen in it (bind: usage; claim: chan, chan; open: chan; add: chan;
    close: chan, usage, chan) -/
example : ((Sys.run start hist).2.filter (fun e => match e with | .commit _ => true | _ => false)).length = 8 := by
  decide +kernel

/-- the frames really are there: the `claimed` and `closed` answers and the broadcast -/
example : Event.frame 1 (.claimed "mb1") true ∈ (Sys.run start hist).2 ∧
    Event.frame 1 (.message "s1" (.str "pake") (.str "body") 13 (.int 4)) true ∈ (Sys.run start hist).2 ∧
    Event.frame 1 .closed true ∈ (Sys.run start hist).2 := by
  decide +kernel

/-- the flag is not constantly `true`: `_add_message` WITHOUT its `db.commit()` followed by the
    broadcast emits `synced = false` — such a model would violate `C09_step_synced` -/
example :
    flags ((((start.modDb (·.insMessage ⟨"app", "mb1", "s1", .str "pake", .str "body", 13, .int 4⟩)).modDb
      (·.touch "mb1" 13)).send 1 (.message "s1" (.str "pake") (.str "body") 13 (.int 4))).out) = [false] := by
  decide +kernel

/-- ... and with a pending usage write only -/
example :
    flags (((start.modUdb (fun d => { d with clients := d.clients ++ [⟨"app", "s1", 10, none, none⟩] })).send 1
      (.ack .null)).out) = [false] := by
  decide +kernel

end C09Example

end Wormhole

#print axioms Wormhole.C09_step_synced
#print axioms Wormhole.C09_step_crash
#print axioms Wormhole.C09_frames_synced
#print axioms Wormhole.C09_frames_synced_init
#print axioms Wormhole.C09_frames_synced_crash_partial
