/-
  C01 — "Opening a mailbox replays every stored message, and nothing else".

  Step-local refinement (all for EVERY state satisfying the invariant `GSys.GInv`, any number of
  connections / apps / mailboxes, crashes at any commit included):
  * `C01_add_appends`      an accepted `add` appends exactly its row to `messagesOf a m`;
  * `C01_frame_messages`   every other step leaves `messagesOf a m` alone, unless the mailbox row
                           `(a, m)` is absent afterwards, and then `messagesOf a m = []`;
  * `C01_open_replays`     an accepted `open` answered ok outputs ack, commits, and one `message`
                           frame per stored row of `(a, m)` ordered by `rx` -- nothing else;
  history level:
  * `liveLog`              the ghost log of `(a, m)`; `C01_live_invariant`, `C01_replay_exact`;
  * `C01_int_id_counterexample` (K-id-coercion), `C01_fresh_incarnation_empty`, `C01_no_foreign`.
-/
import Wormhole.Inv.Main
import Wormhole.Inv.MsgOpen

namespace Wormhole
open Sys

namespace Chan

theorem PInv.msgKeys {d : Chan} (h : d.PInv) : ∀ r ∈ d.messages, (r.app, r.mailbox) ∈ d.mbKeys := by
  intro r hr
  obtain ⟨m, hm, h1, h2⟩ := h.msgFk r hr
  exact mem_mbKeys.2 ⟨m, hm, h2, h1⟩

theorem messagesOf_eq_nil_of_absent {d : Chan} (hfk : ∀ r ∈ d.messages, (r.app, r.mailbox) ∈ d.mbKeys)
    {a m : String} (h : (a, m) ∉ d.mbKeys) : d.messagesOf a m = [] := by
  simp only [messagesOf, List.filter_eq_nil_iff, decide_eq_true_eq]
  rintro r hr ⟨rfl, rfl⟩
  exact h (hfk r hr)

theorem ShrinkBy.messagesOf {dead : List String} {d d' : Chan} (h : ShrinkBy dead d d') (a m : String) :
    d'.messagesOf a m = if m ∈ dead then [] else d.messagesOf a m := by
  simp only [Chan.messagesOf, h.msgs, List.filter_filter]
  split
  · rename_i hm
    simp only [List.filter_eq_nil_iff, Bool.and_eq_true, decide_eq_true_eq, not_and]
    rintro r _ ⟨_, rfl⟩
    simpa using hm
  · rename_i hm
    apply List.filter_congr
    intro r _
    by_cases h1 : r.app = a ∧ r.mailbox = m
    · simp [h1, hm]
    · simp [h1]

theorem Tr.messagesOf {ok} {d d' : Chan} (h : Tr ok d d')
    (hfk : ∀ r ∈ d.messages, (r.app, r.mailbox) ∈ d.mbKeys) (a m : String) :
    ((a, m) ∈ d'.mbKeys → d'.messagesOf a m = d.messagesOf a m) ∧
    ((a, m) ∉ d'.mbKeys → d'.messagesOf a m = []) := by
  obtain ⟨d1, g, dead, sh, _⟩ := h
  have e1 : d1.messagesOf a m = d.messagesOf a m := by simp [Chan.messagesOf, g.msgs]
  have e := sh.messagesOf a m
  rw [e1] at e
  constructor
  · intro hk
    rw [sh.keys, List.mem_filter] at hk
    have : m ∉ dead := by simpa using hk.2
    rw [e, if_neg this]
  · intro hk
    by_cases hd : m ∈ dead
    · rw [e, if_pos hd]
    · rw [e, if_neg hd]
      apply messagesOf_eq_nil_of_absent hfk
      intro hk0
      apply hk
      rw [sh.keys, List.mem_filter]
      obtain ⟨extra, he⟩ := g.keys
      exact ⟨by rw [he]; exact List.mem_append_left _ hk0, by simpa using hd⟩

theorem messagesOf_add (d : Chan) (r : Message) (a m : String) :
    ((d.insMessage r).touch r.mailbox r.rx).messagesOf a m =
      d.messagesOf a m ++ (if r.app = a ∧ r.mailbox = m then [r] else []) := by
  simp only [Chan.messagesOf, Chan.touch, Chan.insMessage, List.filter_append, List.filter_cons,
    List.filter_nil]
  congr 1
  split <;> simp_all

theorem mbKeys_add (d : Chan) (r : Message) : ((d.insMessage r).touch r.mailbox r.rx).mbKeys = d.mbKeys := by
  have := congrArg Prod.snd (mpart_touch (d.insMessage r) r.mailbox r.rx)
  simpa [mpart] using this

theorem add_spec (d : Chan) (r : Message) :
    ((d.insMessage r).touch r.mailbox r.rx).messagesOf r.app r.mailbox = d.messagesOf r.app r.mailbox ++ [r] ∧
    (∀ a' m', ¬ (a' = r.app ∧ m' = r.mailbox) →
      ((d.insMessage r).touch r.mailbox r.rx).messagesOf a' m' = d.messagesOf a' m') ∧
    ((d.insMessage r).touch r.mailbox r.rx).mbKeys = d.mbKeys := by
  refine ⟨by simp [messagesOf_add], fun a' m' hne => ?_, mbKeys_add d r⟩
  rw [messagesOf_add, if_neg (fun h => hne ⟨h.1.symm, h.2.symm⟩), List.append_nil]

end Chan

/-- `op` (or the operation it wraps, for a crash) is an `add` carrying phase and body, received on a
    connection that is bound to app `a` and holds the handle of mailbox `m`, i.e. an `add` that
    validation does not reject -/
def Sys.AddsTo (s : Sys) (op : Op) (a m : String) : Prop :=
  ∃ r, s.addRowOf op.plain = some r ∧ r.app = a ∧ r.mailbox = m

theorem addRowOf_recv_add {s : Sys} {c : Nat} {x : Conn} {a σ m : String} (t : Time) (id ph bd : Val)
    (hx : s.findConn c = some x) (ha : x.app = some a) (hσ : x.side = some σ) (hm : x.mailbox = some m) :
    s.addRowOf (.recv c t id (.add (some ph) (some bd))) =
      some ⟨a, m, σ, ph.toText, bd.toText, t, id.toText⟩ ∧
    rejectText x (.add (some ph) (some bd)) = none := by
  simp [Sys.addRowOf, hx, ha, hσ, hm, rejectText, needBind]

theorem addRowOf_of_accepted {s : Sys} {c : Nat} {x : Conn} (t : Time) (id : Val) (ph bd : Option Val)
    (hx : s.findConn c = some x) (hr : rejectText x (.add ph bd) = none) :
    ∃ a m p b, x.app = some a ∧ x.mailbox = some m ∧ ph = some p ∧ bd = some b ∧
      s.addRowOf (.recv c t id (.add ph bd)) =
        some ⟨a, m, x.side.getD "", p.toText, b.toText, t, id.toText⟩ := by
  obtain ⟨⟨a, ha⟩, h⟩ := Sys.needBind_eq_none hr
  cases hm : x.mailbox with
  | none => simp [hm] at h
  | some m =>
    cases ph with
    | none => simp [hm] at h
    | some p =>
      cases bd with
      | none => simp [hm] at h
      | some b => exact ⟨a, m, p, b, ha, rfl, rfl, rfl, by simp [Sys.addRowOf, hx, ha, hm]⟩

/-- **C01 (1)**: a non-rejected `add` by connection `c` (bound to `(a, σ)`, holding the handle of
    `m`): afterwards `messagesOf a m` is what it was plus exactly one row, whose `side` is the
    side of the connection's `bind` (the command has no say), whose phase/body/id are the
    submitted ones seen through TEXT affinity (`Val.toText`), and whose `rx` is the time of the
    step; the messages of every other `(app, mailbox)` and the set of mailbox rows are unchanged. -/
theorem C01_add_appends {g : GSys} (hI : g.GInv) {c : Nat} {x : Conn} {a σ m : String} (t : Time)
    (id ph bd : Val) (hx : g.sys.findConn c = some x) (ha : x.app = some a) (hσ : x.side = some σ)
    (hm : x.mailbox = some m) :
    let d' := (g.step (.recv c t id (.add (some ph) (some bd)))).sys.db
    d'.messagesOf a m = g.sys.db.messagesOf a m ++ [⟨a, m, σ, ph.toText, bd.toText, t, id.toText⟩] ∧
    (∀ a' m', ¬ (a' = a ∧ m' = m) → d'.messagesOf a' m' = g.sys.db.messagesOf a' m') ∧
    d'.mbKeys = g.sys.db.mbKeys := by
  intro d'
  have hr := (addRowOf_recv_add t id ph bd hx ha hσ hm).1
  rcases Sys.step_add hI.synced (.recv c t id (.add (some ph) (some bd))) (r := _) hr with ⟨⟨_, h⟩, _⟩ | ⟨_, h⟩
  · cases h
  · rw [show d' = _ from h]
    exact Chan.add_spec g.sys.db ⟨a, m, σ, ph.toText, bd.toText, t, id.toText⟩

/-- the same when the process is killed during the step: a crash before the (only) commit leaves
    the table as it was, a crash at or after it leaves the row stored -/
theorem C01_add_appends_crash {g : GSys} (hI : g.GInv) {c : Nat} {x : Conn} {a σ m : String} (k : Nat)
    (t : Time) (id ph bd : Val) (hx : g.sys.findConn c = some x) (ha : x.app = some a)
    (hσ : x.side = some σ) (hm : x.mailbox = some m) :
    let d' := (g.step (.crashIn k (.recv c t id (.add (some ph) (some bd))))).sys.db
    (k = 0 → d' = g.sys.db) ∧
    (k ≠ 0 → d'.messagesOf a m =
        g.sys.db.messagesOf a m ++ [⟨a, m, σ, ph.toText, bd.toText, t, id.toText⟩] ∧
      (∀ a' m', ¬ (a' = a ∧ m' = m) → d'.messagesOf a' m' = g.sys.db.messagesOf a' m') ∧
      d'.mbKeys = g.sys.db.mbKeys) := by
  intro d'
  have hr := (addRowOf_recv_add t id ph bd hx ha hσ hm).1
  rcases Sys.step_add hI.synced (.crashIn k (.recv c t id (.add (some ph) (some bd)))) (r := _) hr with
    ⟨⟨op', h0⟩, h⟩ | ⟨h0, h⟩
  · cases h0
    exact ⟨fun _ => h, fun hk => absurd rfl hk⟩
  · have hk : k ≠ 0 := fun hk => h0 ⟨_, by rw [hk]⟩
    refine ⟨fun h => absurd h hk, fun _ => ?_⟩
    rw [show d' = _ from h]
    exact Chan.add_spec g.sys.db ⟨a, m, σ, ph.toText, bd.toText, t, id.toText⟩

/-- **C01 (2)**: every step that is not an accepted `add` on `(a, m)` -- any command of any
    connection (accepted `add`s on other mailboxes included), connects, drops, sweeps, restarts,
    and crashes of any of these at any commit -- leaves `messagesOf a m` unchanged if the mailbox
    row `(a, m)` exists afterwards, and leaves `messagesOf a m = []` if it does not.
    (The second half is where "no message without its mailbox row", `PInv.msgFk`, is used -- on
    the PRE-state; the post-state need not be known to satisfy the invariant.) -/
theorem C01_frame_messages {g : GSys} (hI : g.GInv) (op : Op) (a m : String)
    (hna : ¬ g.sys.AddsTo op a m) :
    let d' := (g.step op).sys.db
    ((d'.findMailbox a m).isSome → d'.messagesOf a m = g.sys.db.messagesOf a m) ∧
    (d'.findMailbox a m = none → d'.messagesOf a m = []) := by
  intro d'
  rw [Chan.findMailbox_isSome_iff, Chan.findMailbox_eq_none_iff]
  have hfk := hI.cinv.toPInv.msgKeys
  cases hr : g.sys.addRowOf op.plain with
  | none =>
    exact (Sys.step_tr hI.synced hI.cinv.toPInv.uniqIds op hr).messagesOf hfk a m
  | some r =>
    have hne : ¬ (r.app = a ∧ r.mailbox = m) := fun h => hna ⟨r, hr, h.1, h.2⟩
    rcases Sys.step_add hI.synced op hr with ⟨_, h⟩ | ⟨_, h⟩
    · have hd : d' = g.sys.db := h
      rw [hd]
      exact ⟨fun _ => rfl, fun h => Chan.messagesOf_eq_nil_of_absent hfk h⟩
    · have hd : d' = _ := h
      rw [hd, Chan.messagesOf_add, Chan.mbKeys_add, if_neg hne, List.append_nil]
      exact ⟨fun _ => rfl, fun h => Chan.messagesOf_eq_nil_of_absent hfk h⟩

/-- the same in one line: unchanged, or emptied together with the mailbox row -/
theorem C01_frame_messages' {g : GSys} (hI : g.GInv) (op : Op) (a m : String)
    (hna : ¬ g.sys.AddsTo op a m) :
    (g.step op).sys.db.messagesOf a m = g.sys.db.messagesOf a m ∨
    ((g.step op).sys.db.messagesOf a m = [] ∧ (g.step op).sys.db.findMailbox a m = none) := by
  obtain ⟨h1, h2⟩ := C01_frame_messages hI op a m hna
  cases h : (g.step op).sys.db.findMailbox a m with
  | none => exact .inr ⟨h2 h, rfl⟩
  | some r => exact .inl (h1 (by simp [h]))

def Event.isMessage : Event → Bool
  | .frame _ (.message _ _ _ _ _) _ => true
  | _ => false

theorem isMessage_of_isCommit {e : Event} (h : IsCommit e) : e.isMessage = false := by
  obtain ⟨w, rfl⟩ := h; rfl

/-- **C01 (3)**: a non-rejected `open` of `m` by connection `c` bound to `(a, σ)` which
    `open_mailbox` answers ok (no id clash with another app, at most two sides afterwards:
    `Chan.openRes`) outputs exactly: the ack, then commit events, then one `message` frame per row
    of the PRE-state's `messagesOf a m`, ordered by `rx` (stable) -- all addressed to `c`, each sent
    with nothing uncommitted; and the step does not change `messagesOf a m`. -/
theorem C01_open_replays {g : GSys} (hI : g.GInv) {c : Nat} {x : Conn} {a σ m : String} (t : Time)
    (id : Val) (hx : g.sys.findConn c = some x) (ha : x.app = some a) (hσ : x.side = some σ)
    (hm : x.mailbox = none) (hok : g.sys.db.openRes a m σ = .ok) :
    let s' := (g.step (.recv c t id (.open_ (some m)))).sys
    (∃ commits, (∀ e ∈ commits, IsCommit e) ∧
      s'.out = [.frame c (.ack id) true] ++ commits ++ (g.sys.db.replayRows a m).map (replayFrame c)) ∧
    s'.db.messagesOf a m = g.sys.db.messagesOf a m := by
  intro s'
  have hs0 : ({ g.sys with out := [], snaps := [] } : Sys).Synced := hI.synced
  obtain ⟨⟨l, hl, ho⟩, _, hg⟩ := Sys.onMessage_open_spec (t := t) (id := id) (m := m) hs0
    (show ({ g.sys with out := [], snaps := [] } : Sys).findConn c = some x from hx) ha hm
    (by rw [hσ]; exact hok)
  refine ⟨⟨l, hl, ?_⟩, ?_⟩
  · have : s'.out = _ := ho
    rw [this]; simp
  · have : s'.db.messages = g.sys.db.messages := hg.msgs
    simp [Chan.messagesOf, this]

/-- (3) as a multiset statement: the `message` frames of the step are, up to order, one per
    stored row of `(a, m)` -/
theorem C01_open_replays_perm {g : GSys} (hI : g.GInv) {c : Nat} {x : Conn} {a σ m : String} (t : Time)
    (id : Val) (hx : g.sys.findConn c = some x) (ha : x.app = some a) (hσ : x.side = some σ)
    (hm : x.mailbox = none) (hok : g.sys.db.openRes a m σ = .ok) :
    ((g.step (.recv c t id (.open_ (some m)))).sys.out.filter Event.isMessage).Perm
      ((g.sys.db.messagesOf a m).map (replayFrame c)) := by
  obtain ⟨⟨l, hl, ho⟩, _⟩ := C01_open_replays hI t id hx ha hσ hm hok
  rw [ho]
  simp only [List.filter_append, List.filter_cons, List.filter_nil, Event.isMessage]
  have h1 : l.filter Event.isMessage = [] := by
    simp only [List.filter_eq_nil_iff]
    intro e he
    simp [isMessage_of_isCommit (hl e he)]
  have h2 : ((g.sys.db.replayRows a m).map (replayFrame c)).filter Event.isMessage =
      (g.sys.db.replayRows a m).map (replayFrame c) := by
    simp only [List.filter_eq_self, List.mem_map]
    rintro e ⟨r, _, rfl⟩
    rfl
  rw [h1, h2]
  simp only [Bool.false_eq_true, if_false, List.nil_append]
  exact (List.mergeSort_perm _ _).map _

/-- **C01 (no foreign message)**: every `message` frame of an accepted `open` goes to the opener
    and stems from a stored row with THAT app and THAT mailbox id -/
theorem C01_no_foreign {g : GSys} (hI : g.GInv) {c : Nat} {x : Conn} {a σ m : String} (t : Time)
    (id : Val) (hx : g.sys.findConn c = some x) (ha : x.app = some a) (hσ : x.side = some σ)
    (hm : x.mailbox = none) (hok : g.sys.db.openRes a m σ = .ok) {c' : Nat} {sd : String} {ph bd : Val}
    {rx : Time} {mid : Val} {b : Bool}
    (hf : Event.frame c' (.message sd ph bd rx mid) b ∈ (g.step (.recv c t id (.open_ (some m)))).sys.out) :
    c' = c ∧ b = true ∧ ∃ r ∈ g.sys.db.messages, r.app = a ∧ r.mailbox = m ∧
      r.side = sd ∧ r.phase = ph ∧ r.body = bd ∧ r.rx = rx ∧ r.msgId = mid := by
  obtain ⟨⟨l, hl, ho⟩, _⟩ := C01_open_replays hI t id hx ha hσ hm hok
  rw [ho] at hf
  simp only [List.mem_append, List.mem_singleton, List.mem_map] at hf
  rcases hf with (hf | hf) | ⟨r, hr, hf⟩
  · cases hf
  · obtain ⟨w, hw⟩ := hl _ hf; cases hw
  · have hr' : r ∈ g.sys.db.messagesOf a m := (List.mergeSort_perm _ _).mem_iff.1 hr
    simp only [Chan.messagesOf, List.mem_filter, decide_eq_true_eq] at hr'
    simp only [replayFrame, Event.frame.injEq, Frame.message.injEq] at hf
    obtain ⟨rfl, ⟨rfl, rfl, rfl, rfl, rfl⟩, rfl⟩ := hf
    exact ⟨rfl, rfl, r, hr'.1, hr'.2.1, hr'.2.2, rfl, rfl, rfl, rfl, rfl⟩

/-- every frame of an accepted `open` is addressed to the opener: nothing goes to anybody else -/
theorem C01_open_private {g : GSys} (hI : g.GInv) {c : Nat} {x : Conn} {a σ m : String} (t : Time)
    (id : Val) (hx : g.sys.findConn c = some x) (ha : x.app = some a) (hσ : x.side = some σ)
    (hm : x.mailbox = none) (hok : g.sys.db.openRes a m σ = .ok) {c' : Nat} {f : Frame} {b : Bool}
    (hf : Event.frame c' f b ∈ (g.step (.recv c t id (.open_ (some m)))).sys.out) : c' = c := by
  obtain ⟨⟨l, hl, ho⟩, _⟩ := C01_open_replays hI t id hx ha hσ hm hok
  rw [ho] at hf
  simp only [List.mem_append, List.mem_singleton, List.mem_map] at hf
  rcases hf with (hf | hf) | ⟨r, _, hf⟩
  · cases hf; rfl
  · obtain ⟨w, hw⟩ := hl _ hf; cases hw
  · simp only [replayFrame, Event.frame.injEq] at hf
    exact hf.1.symm

/-- **C01 (fresh incarnation)**: opening a mailbox id whose row does not exist (never created, or
    deleted by the last close / by expiry) replays nothing: the output is the ack and commits -/
theorem C01_fresh_incarnation_empty {g : GSys} (hI : g.GInv) {c : Nat} {x : Conn} {a σ m : String}
    (t : Time) (id : Val) (hx : g.sys.findConn c = some x) (ha : x.app = some a) (hσ : x.side = some σ)
    (hm : x.mailbox = none) (hok : g.sys.db.openRes a m σ = .ok)
    (habs : g.sys.db.findMailbox a m = none) :
    ∃ commits, (∀ e ∈ commits, IsCommit e) ∧
      (g.step (.recv c t id (.open_ (some m)))).sys.out = [.frame c (.ack id) true] ++ commits := by
  obtain ⟨⟨l, hl, ho⟩, _⟩ := C01_open_replays hI t id hx ha hσ hm hok
  have : g.sys.db.messagesOf a m = [] :=
    Chan.messagesOf_eq_nil_of_absent hI.cinv.toPInv.msgKeys (Chan.findMailbox_eq_none_iff.1 habs)
  refine ⟨l, hl, ?_⟩
  rw [ho]
  simp [Chan.replayRows, this]

/-- one accepted `add`, as submitted: the adder's bound side, the phase / body / id of the command
    (before TEXT affinity), the server time of the step -/
structure Entry where
  side : String
  phase : Val
  body : Val
  id : Val
  rx : Time
  deriving DecidableEq, Repr

/-- the row `_add_message` stores for it -/
def Entry.row (a m : String) (e : Entry) : Message :=
  ⟨a, m, e.side, e.phase.toText, e.body.toText, e.rx, e.id.toText⟩

/-- the `add` a plain operation submits, if validation accepts it: app, mailbox, entry -/
def Sys.addEntryOf (s : Sys) : Op → Option (String × String × Entry)
  | .recv c t id (.add (some ph) (some bd)) =>
    match s.findConn c with
    | some x =>
      match x.app, x.mailbox with
      | some a, some m => some (a, m, ⟨x.side.getD "", ph, bd, id, t⟩)
      | _, _ => none
    | none => none
  | _ => none

theorem addRowOf_eq (s : Sys) (op : Op) :
    s.addRowOf op = (s.addEntryOf op).map (fun p => p.2.2.row p.1 p.2.1) := by
  unfold Sys.addRowOf Sys.addEntryOf
  split
  · dsimp only
    cases s.findConn _ with
    | none => rfl
    | some x => rcases h1 : x.app with _ | a <;> rcases h2 : x.mailbox with _ | m <;> simp [Entry.row, h1, h2]
  · rename_i h
    split
    · exact absurd rfl (h _ _ _ _ _)
    · rfl

/-- does the first commit of the operation reach the disk?  (`crashIn 0` kills the process before it) -/
def Op.lands : Op → Bool
  | .crashIn 0 _ => false
  | _ => true

theorem Op.lands_eq_false_iff (op : Op) : op.lands = false ↔ ∃ op', op = .crashIn 0 op' := by
  cases op with
  | crashIn k op' => cases k <;> simp [Op.lands]
  | _ => simp [Op.lands]

/-- one step of the ghost log of `(a, m)`: emptied whenever the mailbox row `(a, m)` is absent after
    the step; extended by the submitted entry at every accepted `add` on `(a, m)` that is committed -/
def liveStep (a m : String) (s : Sys) (op : Op) (live : List Entry) : List Entry :=
  if (s.step op).db.findMailbox a m = none then []
  else match s.addEntryOf op.plain with
    | some (a', m', e) => if a' = a ∧ m' = m ∧ op.lands = true then live ++ [e] else live
    | none => live

def liveRun (a m : String) : Sys → List Op → List Entry → List Entry
  | _, [], l => l
  | s, op :: rest, l => liveRun a m (s.step op) rest (liveStep a m s op l)

/-- the ghost log of `(a, m)` after the history `ops` from the initial state: the accepted `add`s on
    `(a, m)` since the mailbox row `(a, m)` was last absent, in order -/
def liveLog (a m : String) (cfg : Cfg) (rb : Time) (ops : List Op) : List Entry :=
  liveRun a m (GSys.init cfg rb).sys ops []

theorem Op.time_of_plain_recv {op : Op} {c : Nat} {t : Time} {id : Val} {cmd : Cmd}
    (h : op.plain = .recv c t id cmd) (hp : ∀ k op', op = .crashIn k op' → op'.isCrash = false) :
    op.time? = some t := by
  cases op with
  | crashIn k op' =>
    simp only [Op.plain] at h
    subst h
    rfl
  | recv c' t' id' cmd' => simp only [Op.plain] at h; cases h; rfl
  | _ => simp [Op.plain] at h

theorem addEntryOf_eq_some {s : Sys} {op : Op} {a m : String} {e : Entry}
    (h : s.addEntryOf op = some (a, m, e)) :
    ∃ c x, op = .recv c e.rx e.id (.add (some e.phase) (some e.body)) ∧ s.findConn c = some x ∧
      x.app = some a ∧ x.mailbox = some m ∧ e.side = x.side.getD "" := by
  unfold Sys.addEntryOf at h
  split at h
  · split at h
    · rename_i x hx
      split at h
      · rename_i ha hm
        cases h
        exact ⟨_, x, rfl, hx, ha, hm, rfl⟩
      · cases h
    · cases h
  · cases h

/-- the mailbox an accepted `add` goes to exists (the handle is only held while the row exists) -/
theorem addEntryOf_present {g : GSys} (hI : g.GInv) {op : Op} {a m : String} {e : Entry}
    (h : g.sys.addEntryOf op = some (a, m, e)) : (a, m) ∈ g.sys.db.mbKeys := by
  obtain ⟨c, x, _, hx, ha, hm, _⟩ := addEntryOf_eq_some h
  obtain ⟨_, a', ha', r, hr, h1, h2⟩ := hI.conn.handle x (findConn_mem hx) _ hm
  rw [ha] at ha'
  cases ha'
  exact Chan.mem_mbKeys.2 ⟨r, hr, h2, h1⟩

/-- one step keeps "table = ghost" -/
theorem liveStep_inv {g : GSys} (hI : g.GInv) (op : Op) (a m : String) (live : List Entry)
    (h : g.sys.db.messagesOf a m = live.map (Entry.row a m)) :
    (g.step op).sys.db.messagesOf a m = (liveStep a m g.sys op live).map (Entry.row a m) := by
  have hrow := addRowOf_eq g.sys op.plain
  -- a step that is not an accepted `add` on `(a, m)`
  have frame : ¬ g.sys.AddsTo op a m → (g.sys.step op).db.messagesOf a m =
      (if (g.sys.step op).db.findMailbox a m = none then [] else live).map (Entry.row a m) := by
    intro hna
    obtain ⟨f1, f2⟩ := C01_frame_messages hI op a m hna
    split
    · rename_i hn; exact f2 hn
    · rename_i hn; rw [← h]; exact f1 (Option.isSome_iff_ne_none.2 hn)
  show (g.sys.step op).db.messagesOf a m = _
  unfold liveStep
  cases he : g.sys.addEntryOf op.plain with
  | none =>
    rw [he] at hrow
    exact frame (by rintro ⟨r, hr, _⟩; rw [hrow] at hr; cases hr)
  | some p =>
    obtain ⟨a', m', e⟩ := p
    rw [he] at hrow
    by_cases hto : a' = a ∧ m' = m
    · obtain ⟨rfl, rfl⟩ := hto
      have hpres := addEntryOf_present hI he
      rcases Sys.step_add hI.synced op hrow with ⟨h0, hd⟩ | ⟨h0, hd⟩
      · rw [hd, if_neg (by rw [Chan.findMailbox_eq_none_iff]; exact fun hc => hc hpres)]
        simp [(Op.lands_eq_false_iff op).2 h0, h]
      · have hl : op.lands = true := by
          cases hl : op.lands
          · exact absurd ((Op.lands_eq_false_iff op).1 hl) h0
          · rfl
        rw [hd, if_neg (by rw [Chan.findMailbox_eq_none_iff, Chan.mbKeys_add]; exact fun hc => hc hpres),
          Chan.messagesOf_add]
        simp [hl, h, Entry.row]
    · simp only [show ¬ (a' = a ∧ m' = m ∧ op.lands = true) from fun hc => hto ⟨hc.1, hc.2.1⟩, if_false]
      apply frame
      rintro ⟨r, hr, h1, h2⟩
      rw [hrow] at hr
      cases hr
      exact hto ⟨h1, h2⟩

theorem liveStep_time {g : GSys} (op : Op) (hw : g.WFOp op) (a m : String) (live : List Entry)
    (h1 : ∀ e ∈ live, e.rx ≤ g.clock) (h2 : live.Pairwise (fun e e' => e.rx ≤ e'.rx)) :
    (∀ e ∈ liveStep a m g.sys op live, e.rx ≤ (g.step op).clock) ∧
    (liveStep a m g.sys op live).Pairwise (fun e e' => e.rx ≤ e'.rx) := by
  have hmono : g.clock ≤ (g.step op).clock := by
    simp only [GSys.step]
    cases ht : op.time? with
    | none => exact Int.le_refl _
    | some t => exact hw.mono t ht
  have hold : ∀ e ∈ live, e.rx ≤ (g.step op).clock := fun e he => Int.le_trans (h1 e he) hmono
  unfold liveStep
  split
  · exact ⟨by simp, List.Pairwise.nil⟩
  · split
    · rename_i a' m' e he
      split
      · obtain ⟨c, _, hop, _⟩ := addEntryOf_eq_some he
        have ht := Op.time_of_plain_recv hop (fun k op' h => (hw.crashPlain k op' h).1)
        have hc : (g.step op).clock = e.rx := by simp [GSys.step, ht]
        refine ⟨?_, ?_⟩
        · intro e' he'
          rcases List.mem_append.1 he' with h | h
          · exact hold e' h
          · simp only [List.mem_singleton] at h; subst h; rw [hc]; exact Int.le_refl _
        · rw [List.pairwise_append]
          refine ⟨h2, List.pairwise_singleton _ _, ?_⟩
          intro x hx y hy
          simp only [List.mem_singleton] at hy
          subst hy
          rw [← hc]; exact hold x hx
      · exact ⟨hold, h2⟩
    · exact ⟨hold, h2⟩

/-- **C01 (4), the invariant**: along every well-formed history from a reachable state,
    "the `messages` rows of `(a, m)` are the ghost log seen through TEXT affinity" is preserved,
    and the log stays sorted by time.  `hreach` is `GSys.Reach.ginv`. -/
theorem C01_live_invariant (hreach : ∀ g : GSys, g.Reach → g.GInv) (a m : String) (ops : List Op) :
    ∀ {g : GSys}, g.Reach → g.WF ops → ∀ (live : List Entry),
      g.sys.db.messagesOf a m = live.map (Entry.row a m) →
      (∀ e ∈ live, e.rx ≤ g.clock) → live.Pairwise (fun e e' => e.rx ≤ e'.rx) →
      (g.run ops).sys.db.messagesOf a m = (liveRun a m g.sys ops live).map (Entry.row a m) ∧
      (∀ e ∈ liveRun a m g.sys ops live, e.rx ≤ (g.run ops).clock) ∧
      (liveRun a m g.sys ops live).Pairwise (fun e e' => e.rx ≤ e'.rx) := by
  induction ops with
  | nil => intro g _ _ live h0 h1 h2; exact ⟨h0, h1, h2⟩
  | cons op rest ih =>
    intro g hg hwf live h0 h1 h2
    obtain ⟨t1, t2⟩ := liveStep_time op hwf.1 a m live h1 h2
    exact ih (g := g.step op) (.step op hg hwf.1) hwf.2 _ (liveStep_inv (hreach g hg) op a m live h0) t1 t2

/-- **C01 (4)**: in every state reached by a well-formed history from the initial state, the
    stored messages of `(a, m)` are exactly the ghost log, mapped through `toText` on phase / body / id -/
theorem C01_table_is_live (hreach : ∀ g : GSys, g.Reach → g.GInv) (cfg : Cfg) (rb : Time) (ops : List Op)
    (hwf : (GSys.init cfg rb).WF ops) (a m : String) :
    ((GSys.init cfg rb).run ops).sys.db.messagesOf a m = (liveLog a m cfg rb ops).map (Entry.row a m) ∧
    (liveLog a m cfg rb ops).Pairwise (fun e e' => e.rx ≤ e'.rx) := by
  obtain ⟨h1, _, h3⟩ := C01_live_invariant hreach a m ops (.init cfg rb) hwf [] rfl (by simp) List.Pairwise.nil
  exact ⟨h1, h3⟩

/-- the frame that replays a ghost entry (what TEXT affinity makes of it) -/
def Entry.replay (c : Nat) (e : Entry) : Event :=
  .frame c (.message e.side e.phase.toText e.body.toText e.rx e.id.toText) true

/-- the frame that carries a ghost entry exactly as submitted -/
def Entry.asSubmitted (c : Nat) (e : Entry) : Event :=
  .frame c (.message e.side e.phase e.body e.rx e.id) true

/-- **C01, history form**: after any well-formed history from the initial state, an accepted `open`
    of `m` under app `a` answered ok outputs exactly: ack, commits, and the ghost log of `(a, m)`
    -- one frame per entry, in the order of the `add`s, fields through `toText` -/
theorem C01_replay_live (hreach : ∀ g : GSys, g.Reach → g.GInv) (cfg : Cfg) (rb : Time) (ops : List Op)
    (hwf : (GSys.init cfg rb).WF ops) {c : Nat} {x : Conn} {a σ m : String} (t : Time) (id : Val)
    (hx : ((GSys.init cfg rb).run ops).sys.findConn c = some x) (ha : x.app = some a)
    (hσ : x.side = some σ) (hm : x.mailbox = none)
    (hok : ((GSys.init cfg rb).run ops).sys.db.openRes a m σ = .ok) :
    ∃ commits, (∀ e ∈ commits, IsCommit e) ∧
      (((GSys.init cfg rb).run ops).step (.recv c t id (.open_ (some m)))).sys.out =
        [.frame c (.ack id) true] ++ commits ++ (liveLog a m cfg rb ops).map (Entry.replay c) := by
  have hI := hreach _ (GSys.reach_run (.init cfg rb) ops hwf)
  obtain ⟨⟨l, hl, ho⟩, _⟩ := C01_open_replays hI t id hx ha hσ hm hok
  obtain ⟨h1, h3⟩ := C01_table_is_live hreach cfg rb ops hwf a m
  refine ⟨l, hl, ?_⟩
  rw [ho]
  congr 1
  unfold Chan.replayRows
  rw [h1, List.mergeSort_of_pairwise]
  · simp only [List.map_map]
    apply List.map_congr_left
    intro e _
    rfl
  · rw [List.pairwise_map]
    refine h3.imp ?_
    intro e e' h
    exact decide_eq_true h

def Val.isInt : Val → Bool
  | .int _ => true
  | _ => false

theorem Val.toText_of_not_int {v : Val} (h : v.isInt = false) : v.toText = v := by
  cases v <;> simp_all [Val.isInt, Val.toText]

/-- the `add`s of the operation carry no JSON number as id, phase or body -/
def Op.Textual (op : Op) : Prop :=
  match op.plain with
  | .recv _ _ id (.add ph bd) =>
    id.isInt = false ∧ (∀ v, ph = some v → v.isInt = false) ∧ (∀ v, bd = some v → v.isInt = false)
  | _ => True

def Entry.Textual (e : Entry) : Prop := e.phase.isInt = false ∧ e.body.isInt = false ∧ e.id.isInt = false

theorem Entry.replay_eq_asSubmitted {e : Entry} (h : e.Textual) (c : Nat) : e.replay c = e.asSubmitted c := by
  simp [Entry.replay, Entry.asSubmitted, Val.toText_of_not_int h.1, Val.toText_of_not_int h.2.1,
    Val.toText_of_not_int h.2.2]

theorem addEntryOf_textual {s : Sys} {op : Op} {a m : String} {e : Entry}
    (h : s.addEntryOf op.plain = some (a, m, e)) (ht : op.Textual) : e.Textual := by
  obtain ⟨c, _, hop, _⟩ := addEntryOf_eq_some h
  unfold Op.Textual at ht
  rw [hop] at ht
  exact ⟨ht.2.1 _ rfl, ht.2.2 _ rfl, ht.1⟩

theorem liveRun_forall (Q : Entry → Prop) (a m : String) (ops : List Op)
    (hops : ∀ op ∈ ops, ∀ (s : Sys) a' m' e, s.addEntryOf op.plain = some (a', m', e) → Q e) :
    ∀ (s : Sys) (live : List Entry), (∀ e ∈ live, Q e) → ∀ e ∈ liveRun a m s ops live, Q e := by
  induction ops with
  | nil => intro s live h; exact h
  | cons op rest ih =>
    intro s live h
    apply ih (fun op' h' => hops op' (List.mem_cons_of_mem _ h'))
    intro e he
    unfold liveStep at he
    split at he
    · simp at he
    · split at he
      · rename_i a' m' e' hadd
        split at he
        · rcases List.mem_append.1 he with h' | h'
          · exact h e h'
          · simp only [List.mem_singleton] at h'
            subst h'
            exact hops op (List.mem_cons_self ..) s a' m' e hadd
        · exact h e he
      · exact h e he

/-- the replay carries the entries exactly as submitted as soon as the entries of the LIVE LOG of
    `(a, m)` carry no JSON number -/
theorem C01_replay_asSubmitted (hreach : ∀ g : GSys, g.Reach → g.GInv) (cfg : Cfg) (rb : Time) (ops : List Op)
    (hwf : (GSys.init cfg rb).WF ops) {c : Nat} {x : Conn} {a σ m : String}
    (htext : ∀ e ∈ liveLog a m cfg rb ops, e.Textual) (t : Time) (id : Val)
    (hx : ((GSys.init cfg rb).run ops).sys.findConn c = some x) (ha : x.app = some a)
    (hσ : x.side = some σ) (hm : x.mailbox = none)
    (hok : ((GSys.init cfg rb).run ops).sys.db.openRes a m σ = .ok) :
    ∃ commits, (∀ e ∈ commits, IsCommit e) ∧
      (((GSys.init cfg rb).run ops).step (.recv c t id (.open_ (some m)))).sys.out =
        [.frame c (.ack id) true] ++ commits ++ (liveLog a m cfg rb ops).map (Entry.asSubmitted c) := by
  obtain ⟨l, hl, ho⟩ := C01_replay_live hreach cfg rb ops hwf t id hx ha hσ hm hok
  refine ⟨l, hl, ?_⟩
  rw [ho]
  congr 1
  exact List.map_congr_left fun e he => Entry.replay_eq_asSubmitted (htext e he) c

/-- **C01 (replay exact)**: if no `add` of the history carries a JSON number as id, phase or body
    (real clients send strings; see `C01_int_id_counterexample` for the rest), then after any
    well-formed history every accepted `open` of `(a, m)` answered ok is sent exactly the accepted
    `add`s on `(a, m)` since that mailbox row last did not exist -- each once, in order, with the
    adder's bound side and phase, body, id EXACTLY AS SUBMITTED -- and no other `message` frame. -/
theorem C01_replay_exact (hreach : ∀ g : GSys, g.Reach → g.GInv) (cfg : Cfg) (rb : Time) (ops : List Op)
    (hwf : (GSys.init cfg rb).WF ops) (htext : ∀ op ∈ ops, op.Textual)
    {c : Nat} {x : Conn} {a σ m : String} (t : Time) (id : Val)
    (hx : ((GSys.init cfg rb).run ops).sys.findConn c = some x) (ha : x.app = some a)
    (hσ : x.side = some σ) (hm : x.mailbox = none)
    (hok : ((GSys.init cfg rb).run ops).sys.db.openRes a m σ = .ok) :
    ∃ commits, (∀ e ∈ commits, IsCommit e) ∧
      (((GSys.init cfg rb).run ops).step (.recv c t id (.open_ (some m)))).sys.out =
        [.frame c (.ack id) true] ++ commits ++ (liveLog a m cfg rb ops).map (Entry.asSubmitted c) :=
  C01_replay_asSubmitted hreach cfg rb ops hwf
    (liveRun_forall Entry.Textual a m ops (fun op hop _ _ _ _ h => addEntryOf_textual h (htext op hop)) _ []
      (by simp)) t id hx ha hσ hm hok

/-! ## non-vacuity: a concrete state satisfying the invariant

  Two apps whose mailboxes have identical mailbox-relative contents (same sides, phases, bodies,
  ids, times); app "A" has three subscribers on "mA" (two of them with the same side), one more
  connection bound but not subscribed, one unbound. -/

namespace C01Ex

def db : Chan :=
  { mailboxes := [⟨"A", "mA", 10, false⟩, ⟨"B", "mB", 10, false⟩],
    mbSides := [⟨"mA", true, "s1", 5, none⟩, ⟨"mA", true, "s2", 6, none⟩, ⟨"mB", true, "s1", 5, none⟩],
    messages := [⟨"A", "mA", "s1", .str "pake", .str "b1", 7, .str "i1"⟩,
                 ⟨"B", "mB", "s1", .str "pake", .str "b1", 7, .str "i1"⟩,
                 ⟨"A", "mA", "s2", .str "0", .str "b2", 9, .null⟩] }

def x1 : Conn :=
  { id := 1, app := some "A", side := some "s1", listening := true, mailbox := some "mA", mailboxId := some "mA" }
def x4 : Conn :=
  { id := 4, app := some "B", side := some "s1", listening := true, mailbox := some "mB", mailboxId := some "mB" }
def x5 : Conn := { id := 5, app := some "A", side := some "s2" }

def sys : Sys :=
  { db := db, disk := db,
    conns := [x1,
      { id := 2, app := some "A", side := some "s2", listening := true, mailbox := some "mA", mailboxId := some "mA" },
      { id := 3, app := some "A", side := some "s1", listening := true, mailbox := some "mA", mailboxId := some "mA" },
      x4, x5, { id := 6 }] }

def g : GSys := ⟨sys, 10, ["mA", "mB"]⟩

theorem ginv : g.GInv := by
  refine ⟨⟨⟨?_, ?_, ⟨?_, ?_⟩, ?_, ?_, ?_, ?_, ?_, ?_, ?_⟩, ?_⟩, ⟨?_, ?_, ?_, ?_⟩, ⟨rfl, rfl⟩, ?_, ?_, ?_⟩
  all_goals first | decide | skip
  all_goals simp [g, sys, db, x1, x4, x5]

/-- (1): connection 1 adds to ("A","mA") -/
example := C01_add_appends ginv (c := 1) (x := x1) (a := "A") (σ := "s1") (m := "mA") 20 (.str "id")
  (.str "ph") (.str "bd") (by decide) rfl rfl rfl
example : (g.step (.recv 1 20 (.str "id") (.add (some (.str "ph")) (some (.str "bd"))))).sys.db.messagesOf "A" "mA" =
    db.messagesOf "A" "mA" ++ [⟨"A", "mA", "s1", .str "ph", .str "bd", 20, .str "id"⟩] ∧
    (g.step (.recv 1 20 (.str "id") (.add (some (.str "ph")) (some (.str "bd"))))).sys.db.messagesOf "B" "mB" =
    db.messagesOf "B" "mB" := by decide +kernel
example := C01_add_appends_crash ginv (c := 1) (x := x1) (a := "A") (σ := "s1") (m := "mA") 1 20 (.str "id")
  (.str "ph") (.str "bd") (by decide) rfl rfl rfl

/-- (2): connection 4 (the only opened side of "mB") closes: the mailbox row and its messages go
    together; the identical contents of ("A","mA") stay -/
example : ¬ g.sys.AddsTo (.recv 4 20 .null (.close none (some "happy"))) "B" "mB" := by
  rintro ⟨r, hr, _⟩; simp [Sys.addRowOf, Op.plain] at hr
example := C01_frame_messages ginv (.recv 4 20 .null (.close none (some "happy"))) "B" "mB"
  (by rintro ⟨r, hr, _⟩; simp [Sys.addRowOf, Op.plain] at hr)
example : (g.step (.recv 4 20 .null (.close none (some "happy")))).sys.db.findMailbox "B" "mB" = none ∧
    (g.step (.recv 4 20 .null (.close none (some "happy")))).sys.db.messagesOf "B" "mB" = [] ∧
    (g.step (.recv 4 20 .null (.close none (some "happy")))).sys.db.messagesOf "A" "mA" = db.messagesOf "A" "mA" ∧
    db.messagesOf "B" "mB" ≠ [] := by decide +kernel
/-- a sweep (here: late enough to expire every untouched mailbox) is covered by (2) as well -/
example := C01_frame_messages' ginv (.sweep 100000 false) "B" "mB"
  (by rintro ⟨r, hr, _⟩; simp [Sys.addRowOf, Op.plain] at hr)

/-- (3): connection 5 (bound to ("A","s2"), no handle) opens "mA" -/
example : g.sys.db.openRes "A" "mA" "s2" = .ok := by decide
example := C01_open_replays ginv (c := 5) (x := x5) (a := "A") (σ := "s2") (m := "mA") 20 (.str "o")
  (by decide) rfl rfl rfl (by decide)
example : ∃ commits, (∀ e ∈ commits, IsCommit e) ∧
    (g.step (.recv 5 20 (.str "o") (.open_ (some "mA")))).sys.out =
      [.frame 5 (.ack (.str "o")) true] ++ commits ++
      [.frame 5 (.message "s1" (.str "pake") (.str "b1") 7 (.str "i1")) true,
       .frame 5 (.message "s2" (.str "0") (.str "b2") 9 .null) true] := by
  obtain ⟨⟨l, hl, ho⟩, _⟩ := C01_open_replays ginv (c := 5) (x := x5) (a := "A") (σ := "s2") (m := "mA") 20
    (.str "o") (by decide) rfl rfl rfl (by decide)
  refine ⟨l, hl, ?_⟩
  rw [ho]
  congr 1
  unfold Chan.replayRows
  rw [show g.sys.db.messagesOf "A" "mA" =
    [⟨"A", "mA", "s1", .str "pake", .str "b1", 7, .str "i1"⟩, ⟨"A", "mA", "s2", .str "0", .str "b2", 9, .null⟩]
    by decide, List.mergeSort_of_pairwise (by decide)]
  rfl

end C01Ex

/-! ## K-id-coercion: the live frame and the replayed frame differ for a numeric id -/

/-- a well-formed history from the initial state: connection 1 binds, opens "m" and adds with the
    JSON number 5 as id; connection 2 binds (and then opens "m") -/
def C01Ex.hist : List Op :=
  [.connect 1, .recv 1 1 .null (.bind (some "A") (some "s1") none none),
   .recv 1 2 .null (.open_ (some "m")),
   .recv 1 3 (.int 5) (.add (some (.str "ph")) (some (.str "bd"))),
   .connect 2, .recv 2 4 .null (.bind (some "A") (some "s2") none none)]

/-- **K-id-coercion**: `add` with `id := 5` (a JSON number) is broadcast live with id `5` but every
    later `open` replays it with id `"5"`: for integer ids (phases, bodies) "exactly as submitted"
    fails, which is why `C01_replay_exact` carries the hypothesis `Op.Textual`. -/
theorem C01_int_id_counterexample :
    Event.frame 1 (.message "s1" (.str "ph") (.str "bd") 3 (.int 5)) true ∈
      (({ } : Sys).run C01Ex.hist).2 ∧
    Event.frame 2 (.message "s1" (.str "ph") (.str "bd") 3 (.str "5")) true ∈
      ((({ } : Sys).run C01Ex.hist).1.step (.recv 2 5 .null (.open_ (some "m")))).out ∧
    Event.frame 2 (.message "s1" (.str "ph") (.str "bd") 3 (.int 5)) true ∉
      ((({ } : Sys).run C01Ex.hist).1.step (.recv 2 5 .null (.open_ (some "m")))).out ∧
    ¬ (Op.recv 1 3 (.int 5) (.add (some (.str "ph")) (some (.str "bd")))).Textual := by
  refine ⟨by decide +kernel, by decide +kernel, by decide +kernel, ?_⟩
  simp [Op.Textual, Op.plain, Val.isInt]

/-- the ghost log of that history records the entry as submitted (id `5`) -/
example : liveLog "A" "m" {} 0 C01Ex.hist = [⟨"s1", .str "ph", .str "bd", .int 5, 3⟩] := by
  decide +kernel

/-! ## the history theorems with `GSys.Reach.ginv` plugged in -/

theorem C01_table_is_live' (cfg : Cfg) (rb : Time) (ops : List Op) (hwf : (GSys.init cfg rb).WF ops)
    (a m : String) :
    ((GSys.init cfg rb).run ops).sys.db.messagesOf a m = (liveLog a m cfg rb ops).map (Entry.row a m) ∧
    (liveLog a m cfg rb ops).Pairwise (fun e e' => e.rx ≤ e'.rx) :=
  C01_table_is_live (fun _ h => h.ginv) cfg rb ops hwf a m

theorem C01_replay_exact' (cfg : Cfg) (rb : Time) (ops : List Op)
    (hwf : (GSys.init cfg rb).WF ops) (htext : ∀ op ∈ ops, op.Textual)
    {c : Nat} {x : Conn} {a σ m : String} (t : Time) (id : Val)
    (hx : ((GSys.init cfg rb).run ops).sys.findConn c = some x) (ha : x.app = some a)
    (hσ : x.side = some σ) (hm : x.mailbox = none)
    (hok : ((GSys.init cfg rb).run ops).sys.db.openRes a m σ = .ok) :
    ∃ commits, (∀ e ∈ commits, IsCommit e) ∧
      (((GSys.init cfg rb).run ops).step (.recv c t id (.open_ (some m)))).sys.out =
        [.frame c (.ack id) true] ++ commits ++ (liveLog a m cfg rb ops).map (Entry.asSubmitted c) :=
  C01_replay_exact (fun _ h => h.ginv) cfg rb ops hwf htext t id hx ha hσ hm hok

#print axioms C01_add_appends
#print axioms C01_add_appends_crash
#print axioms C01_frame_messages
#print axioms C01_frame_messages'
#print axioms C01_open_replays
#print axioms C01_open_replays_perm
#print axioms C01_no_foreign
#print axioms C01_open_private
#print axioms C01_fresh_incarnation_empty
#print axioms C01_live_invariant
#print axioms C01_table_is_live
#print axioms C01_replay_live
#print axioms C01_replay_exact
#print axioms C01_int_id_counterexample
#print axioms C01_table_is_live'
#print axioms C01_replay_exact'

end Wormhole
