/-
  C16 (history half) — "Blurred usage timestamps never reveal exact client times".

  Props/C16.lean proves the arithmetic (`C16_blurTime`) and that each of the three writing primitives
  stores a blurred time (`C16_paths_blurred`).  This file proves the statements about HISTORIES:

  * `Sys.step_cfg` / `GSys.run_cfg` (Inv/UsageTrack.lean, restated here as `C16_cfg_constant`): the
    configuration -- in particular `--blur-usage` -- never changes along a history, crashes and
    restarts included;
  * `C16_all_rows_blurred`: INVARIANT of every state reachable by a well-formed history (crashes at
    every commit boundary included: usage commits are separate from channel commits, so every
    snapshot's usage database is covered): with `cfg.blur = some b`, `1 ≤ b`, `B = b · ticksPerSecond`,
    every row of usage `nameplates` / `mailboxes` has `B ∣ started` and every row of
    `client_versions` has `B ∣ connect_time` -- for the live usage database and for the committed one;
  * `C16_records_close_to_truth` (step level, with Props/C15b.lean): the record appended for a retired
    nameplate has `started ≤ (smallest added of its side rows) < started + B`; the same for a retired
    mailbox (smallest `added` of its side rows at deletion; the deletion time itself if it has no side
    row, which happens only after a crash); the `client_versions` row of an accepted `bind` has
    `time ≤ t < time + B` for the receive time `t` of the bind.
-/
import Wormhole.Props.C15b

namespace Wormhole
open Sys C16

/-- every stored client-activity time of the usage database is a multiple of `B` -/
structure Usage.AllBlurred (B : Int) (u : Usage) : Prop where
  nameplates : ∀ r ∈ u.nameplates, B ∣ r.started
  mailboxes : ∀ r ∈ u.mailboxes, B ∣ r.started
  clients : ∀ r ∈ u.clients, B ∣ r.time

theorem Usage.AllBlurred.empty (B : Int) : Usage.AllBlurred B {} :=
  ⟨by simp, by simp, by simp⟩

/-- the configuration never changes (crashes and restarts included) -/
theorem C16_cfg_constant (g : GSys) (ops : List Op) : (g.run ops).sys.cfg = g.sys.cfg := GSys.run_cfg g ops

theorem npRecord_started (blur : Time → Time) (app : String) {added : List Time} (t : Time) (pruned : Bool)
    (h : added ≠ []) : ∃ m, IsMin added m ∧ (npRecord blur app added t pruned).started = blur m := by
  cases hm : added.min? with
  | none => exact absurd ((C15.min?_none added).1 hm) h
  | some m => exact ⟨m, (isMin_iff_min? added m).2 hm, by simp [npRecord, C15.nameplateSpec, hm]⟩

theorem allBlurred_writes {c0 : Cfg} {b : Nat} (hb : c0.blur = some b) (hb1 : 1 ≤ b) :
    UWrites c0.blurTime (Usage.AllBlurred ((b : Int) * (Generated.ticksPerSecond : Int))) := by
  have hblur : ∀ t, (b : Int) * (Generated.ticksPerSecond : Int) ∣ c0.blurTime t := fun t =>
    (C16_blurTime_cfg ({ cfg := c0 } : Sys) b hb hb1 t).2.1
  refine ⟨fun u app added t p hne h => ⟨?_, h.mailboxes, h.clients⟩,
    fun u app f sides t p h => ⟨h.nameplates, ?_, h.clients⟩,
    fun u a sd t i v h => ⟨h.nameplates, h.mailboxes, ?_⟩,
    fun u rows h => ⟨h.nameplates, h.mailboxes, h.clients⟩⟩
  · obtain ⟨m, _, hst⟩ := npRecord_started c0.blurTime app t p hne
    exact List.forall_mem_append.2 ⟨h.nameplates, List.forall_mem_singleton.2 (hst ▸ hblur m)⟩
  · exact List.forall_mem_append.2 ⟨h.mailboxes, List.forall_mem_singleton.2 (hblur _)⟩
  · exact List.forall_mem_append.2 ⟨h.clients, List.forall_mem_singleton.2 (hblur t)⟩

/-- **C16_all_rows_blurred**: in every state reachable by a well-formed history (crashes included)
    every stored client-activity time is a multiple of the blur interval, in the live usage database
    and in the committed one -/
theorem C16_all_rows_blurred {g : GSys} (hg : g.Reach) {b : Nat} (hb : g.sys.cfg.blur = some b) (hb1 : 1 ≤ b) :
    Usage.AllBlurred ((b : Int) * (Generated.ticksPerSecond : Int)) g.sys.udb ∧
    Usage.AllBlurred ((b : Int) * (Generated.ticksPerSecond : Int)) g.sys.udisk := by
  induction hg with
  | init cfg rb => exact ⟨Usage.AllBlurred.empty _, Usage.AllBlurred.empty _⟩
  | @step g0 op _ _ ih =>
    have hb0 : g0.sys.cfg.blur = some b := (congrArg Cfg.blur (step_cfg g0.sys op)).symm.trans hb
    obtain ⟨i1, i2⟩ := ih hb0
    exact UAll.step (fun _ => allBlurred_writes hb0 hb1) i1 i2 op

/-- the same from any state (not necessarily reachable) whose usage databases are blurred, along any
    history at all -/
theorem C16_all_rows_blurred_run {s : Sys} {b : Nat} (hb : s.cfg.blur = some b) (hb1 : 1 ≤ b)
    (h1 : Usage.AllBlurred ((b : Int) * (Generated.ticksPerSecond : Int)) s.udb)
    (h2 : Usage.AllBlurred ((b : Int) * (Generated.ticksPerSecond : Int)) s.udisk) (ops : List Op) :
    Usage.AllBlurred ((b : Int) * (Generated.ticksPerSecond : Int)) (s.run ops).1.udb := by
  induction ops generalizing s with
  | nil => exact h1
  | cons op rest ih =>
    obtain ⟨j1, j2⟩ := UAll.step (fun _ => allBlurred_writes hb hb1) h1 h2 op
    simp only [Sys.run]
    exact ih (by rw [step_cfg]; exact hb) j1 j2

/-! ### the step-level statement -/

/-- **C16_records_close_to_truth**: the rows a non-crash step appends carry a time that is a multiple
    of the interval, not after the true time and less than one interval before it -/
theorem C16_records_close_to_truth {g : GSys} (hI : g.GInv) (hu : g.sys.cfg.usage = true) {b : Nat}
    (hb : g.sys.cfg.blur = some b) (hb1 : 1 ≤ b) (op : Op) (hop : op.isCrash = false) :
    let B : Int := (b : Int) * (Generated.ticksPerSecond : Int)
    let ok (stored true_ : Time) : Prop := B ∣ stored ∧ stored ≤ true_ ∧ true_ < stored + B
    -- nameplate records
    (∃ recs, (g.step op).sys.udb.nameplates = g.sys.udb.nameplates ++ recs ∧
      ∀ r ∈ recs, ∃ n ∈ (g.sys.usageBase op).retiredNp (g.step op).sys.db,
        ∃ m, IsMin ((g.sys.db.npSidesOf n.id).map (·.added)) m ∧ ok r.started m) ∧
    -- mailbox records
    (∃ recs, (g.step op).sys.udb.mailboxes = g.sys.udb.mailboxes ++ recs ∧
      ∀ r ∈ recs, ∃ mb ∈ (g.sys.usageBase op).retiredMb (g.step op).sys.db,
        ok r.started ((((g.sys.usageBase op).mbSidesOf mb.id).map (·.added)).min?.getD (g.opTime op))) ∧
    -- client rows
    (∀ c t id a sd i v, op = .recv c t id (.bind a sd i v) →
      ∃ rows, (g.step op).sys.udb.clients = g.sys.udb.clients ++ rows ∧ ∀ r ∈ rows, ok r.time t) := by
  intro B ok
  have hblur : ∀ t, ok (g.sys.blurTime t) t := fun t => (C16_blurTime_cfg g.sys b hb hb1 t).2
  have h := C15_one_record_each hI hu op hop
  refine ⟨?_, ?_, ?_⟩
  · obtain ⟨recs, e1, p1⟩ := h.nameplates
    refine ⟨recs, e1, ?_⟩
    intro r hr
    obtain ⟨n, hn, rfl⟩ := List.mem_map.1 (p1.subset hr)
    refine ⟨n, hn, ?_⟩
    obtain ⟨m, hm, hst⟩ :=
      npRecord_started g.sys.blurTime n.app (g.opTime op) op.isSweep (hI.retiredNp_pre hn).2
    refine ⟨m, hm, ?_⟩
    unfold Chan.npRec
    rw [Sys.usageBase_npSidesOf, hst]
    exact hblur m
  · obtain ⟨recs, e1, p1⟩ := h.mailboxes
    refine ⟨recs, e1, ?_⟩
    intro r hr
    obtain ⟨mb, hmb, rfl⟩ := List.mem_map.1 (p1.subset hr)
    exact ⟨mb, hmb, hblur _⟩
  · intro c t id a sd i v e
    subst e
    refine ⟨_, h.clients, fun r hr => ?_⟩
    have : r.time = g.sys.blurTime t := by
      simp only [newClients, cmdClients, bindRows] at hr
      split at hr
      · split at hr
        · split at hr
          · rw [List.mem_singleton.1 hr]
          · cases hr
        · cases hr
      · cases hr
    rw [this]; exact hblur t

/-! ### Non-vacuity -/

namespace C16bExample

def cfg : Cfg := { usage := true, blur := some 7 }
def bind (c : Nat) (t : Time) (σ : String) : Op := .recv c t (.int 1) (.bind (some "app") (some σ) none none)

/-- a history with a crash in the middle of a claim, a restart, a re-claim and an expiry sweep -/
def H : List Op :=
  [ .connect 1, bind 1 1001 "s1", .crashIn 1 (.recv 1 1003 (.int 2) (.claim (some "4") "mb1")),
    .restart 1010, .connect 2, bind 2 1013 "s1", .recv 2 1017 (.int 2) (.claim (some "4") "mb2"), .drop 2,
    .sweep 200001 false ]
def g : GSys := (GSys.init cfg 0).run H
theorem g_reach : g.Reach := GSys.reach_of_wfB _ _ _ (by decide +kernel)

/-- the hypotheses of `C16_all_rows_blurred` hold for `g` (blur 7 s = 56 ticks) … -/
example : g.sys.cfg.blur = some 7 ∧ (1 ≤ 7) := ⟨by decide +kernel, by decide⟩
/-- … its usage database is not empty and the true times were not multiples of the interval -/
example : g.sys.udb.clients.map (·.time) = [952, 1008] ∧ g.sys.udb.nameplates.map (·.started) = [952] ∧
    g.sys.udb.mailboxes.map (·.started) = [1008] := by decide +kernel
example : Usage.AllBlurred 56 g.sys.udb := (C16_all_rows_blurred g_reach (b := 7) (by decide +kernel) (by decide)).1

/-- the step-level statement applies to the final sweep -/
def gPre : GSys := (GSys.init cfg 0).run (H.take 8)
theorem gPre_reach : gPre.Reach := GSys.reach_of_wfB _ _ _ (by decide +kernel)
example : gPre.GInv ∧ gPre.sys.cfg.usage = true ∧ gPre.sys.cfg.blur = some 7 :=
  ⟨gPre_reach.ginv, by decide +kernel, by decide +kernel⟩
/-- … and says: the nameplate record written by the sweep (started 952) lies less than 56 ticks before
    the true time 1003 of its only side row, the mailbox record (1008) before 1017 -/
example : ∃ recs, (gPre.step (.sweep 200001 false)).sys.udb.nameplates = gPre.sys.udb.nameplates ++ recs ∧
    ∀ r ∈ recs, ∃ n ∈ (gPre.sys.usageBase (.sweep 200001 false)).retiredNp (gPre.step (.sweep 200001 false)).sys.db,
      ∃ m, IsMin ((gPre.sys.db.npSidesOf n.id).map (·.added)) m ∧
        ((7 : Nat) : Int) * (Generated.ticksPerSecond : Int) ∣ r.started ∧ r.started ≤ m ∧
          m < r.started + ((7 : Nat) : Int) * (Generated.ticksPerSecond : Int) :=
  (C16_records_close_to_truth gPre_reach.ginv (by decide +kernel) (b := 7) (by decide +kernel) (by decide)
    (.sweep 200001 false) rfl).1
example : (gPre.sys.db.npSides.map (·.added), gPre.sys.db.mbSides.map (·.added)) = ([1003], [1017]) := by
  decide +kernel

end C16bExample
end Wormhole

#print axioms Wormhole.C16_cfg_constant
#print axioms Wormhole.C16_all_rows_blurred
#print axioms Wormhole.C16_all_rows_blurred_run
#print axioms Wormhole.C16_records_close_to_truth
