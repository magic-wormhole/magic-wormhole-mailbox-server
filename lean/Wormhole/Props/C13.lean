/-
  C13 — idle channels are swept completely and the store returns to empty: of an old, unsubscribed mailbox
  a sweep leaves nothing; quiescence — no connection, rows stamped `≤ T`: a good firing at
  `now ≥ T + expirationTicks` empties all five tables, whatever firings (good or faulted) come before it;
  a faulted firing changes nothing and the loop goes on; the `current` row of the usage database (for C15).
-/
import Wormhole.Props.C12
import Wormhole.Inv.WFDec

namespace Wormhole
open Generated

/-- **C13_sweep_complete.**  After `sweep now` (not faulted) from a state satisfying the invariant:
    of a mailbox row — of ANY app — that was not updated after `now - expirationTicks` and has no
    subscriber, nothing remains: no mailbox row with its id, none of its messages, none of its
    side rows, no nameplate pointing at it, no side row of such a nameplate. -/
theorem C13_sweep_complete {g : GSys} (hI : g.GInv) (now : Time) {m : MailboxRow}
    (hm : m ∈ g.sys.db.mailboxes) (hold : m.updated ≤ now - expirationTicks) (hns : ¬ g.sys.Subscribed m) :
    (∀ m' ∈ (g.step (.sweep now false)).sys.db.mailboxes, m'.id ≠ m.id) ∧
    (∀ r ∈ (g.step (.sweep now false)).sys.db.messages, r.mailbox ≠ m.id) ∧
    (∀ r ∈ (g.step (.sweep now false)).sys.db.mbSides, r.mailbox ≠ m.id) ∧
    (∀ n ∈ (g.step (.sweep now false)).sys.db.nameplates, n.mailbox ≠ m.id) ∧
    (∀ n ∈ g.sys.db.nameplates, n.mailbox = m.id →
      ∀ r ∈ (g.step (.sweep now false)).sys.db.npSides, r.npid ≠ n.id) := by
  rw [show (g.step (.sweep now false)).sys.db = _ from (Sys.step_sweep_spec hI.cinv now).1]
  exact Chan.sweepP_complete hm (Sys.old_iff.1 ⟨hm, hold, hns⟩).2

/-- the five channel tables are empty -/
def Chan.Empty (d : Chan) : Prop :=
  d.nameplates = [] ∧ d.npSides = [] ∧ d.mailboxes = [] ∧ d.mbSides = [] ∧ d.messages = []

instance (d : Chan) : Decidable d.Empty := by unfold Chan.Empty; infer_instance

theorem le_cutoff {T now u : Int} (h1 : u ≤ T) (h2 : T + expirationTicks ≤ now) : u ≤ now - expirationTicks := by
  omega

theorem Sys.quiesce {s : Sys} (h : s.db.CInv) (hc : s.conns = []) {T : Time}
    (hT : ∀ m ∈ s.db.mailboxes, m.updated ≤ T) {now : Time} (hnow : T + expirationTicks ≤ now) :
    (s.step (.sweep now false)).db.Empty ∧ (s.step (.sweep now false)).db.nextNp = s.db.nextNp ∧
    (s.step (.sweep now false)).conns = [] := by
  obtain ⟨hd, hf⟩ := Sys.step_sweep_spec h now
  rw [hd, hf.conns]
  refine ⟨Chan.sweepP_empty h.toPInv ?_, rfl, hc⟩
  intro m hm
  refine (Sys.old_iff.1 ⟨hm, le_cutoff (hT m hm) hnow, ?_⟩).2
  rintro ⟨x, hx, _⟩
  rw [hc] at hx; cases hx

/-- **C13_quiesce.**  From EVERY state satisfying the invariant — whatever history led to it, crashes
    included — in which no client is connected and every mailbox row carries a stamp `≤ T`: one
    non-faulted sweep at a time `now ≥ T + expirationTicks` leaves all five channel tables empty
    (the AUTOINCREMENT counter is the only thing that remembers the past). -/
theorem C13_quiesce {g : GSys} (hI : g.GInv) (hc : g.sys.conns = []) {T : Time}
    (hT : ∀ m ∈ g.sys.db.mailboxes, m.updated ≤ T) {now : Time} (hnow : T + expirationTicks ≤ now) :
    (g.step (.sweep now false)).sys.db.Empty ∧
    (g.step (.sweep now false)).sys.db.nextNp = g.sys.db.nextNp ∧
    (g.step (.sweep now false)).sys.conns = [] :=
  Sys.quiesce hI.cinv hc hT hnow

/-- with the clock of the ghost state as `T` (no row is stamped later than the clock) -/
theorem C13_quiesce_clock {g : GSys} (hI : g.GInv) (hc : g.sys.conns = []) {now : Time}
    (hnow : g.clock + expirationTicks ≤ now) : (g.step (.sweep now false)).sys.db.Empty :=
  (C13_quiesce hI hc hI.clockMb hnow).1

/-- **C13_loop_survives.**  A firing whose first database access raises (`sweep now true`):
    * the channel database, the connections, the configuration are untouched;
    * the events are exactly `fired`, one `internal none "OperationalError"` (the logged failure —
      nothing escapes) and the usage commit of `dump_stats` if that changed the usage file;
    * the state still satisfies what a sweep needs (`SwInv`), and the whole invariant `GInv` if the
      firing time is not before the clock (`WFOp`) — so the next firing is an ordinary sweep, to which
      `C12_*`, `C13_sweep_complete`, `C13_quiesce` apply. -/
theorem C13_loop_survives {g : GSys} (hI : g.GInv) (now : Time) :
    (g.step (.sweep now true)).sys.db = g.sys.db ∧
    (g.step (.sweep now true)).sys.conns = g.sys.conns ∧
    (g.step (.sweep now true)).sys.cfg = g.sys.cfg ∧
    (g.step (.sweep now true)).sys.out =
      [.fired now (now - expirationTicks), .internal none "OperationalError"] ++
        (if g.sys.cfg.usage = true ∧
            ({ g.sys.udb with current :=
                [⟨g.sys.rebooted, now, g.sys.cfg.blur, (g.sys.conns.filter (·.listening)).length⟩] } : Usage)
              ≠ g.sys.udisk
         then [.commit .usage] else []) ∧
    (g.step (.sweep now true)).sys.SwInv ∧
    (g.WFOp (.sweep now true) → (g.step (.sweep now true)).GInv) := by
  obtain ⟨hd, hf⟩ := Sys.step_sweep_fault g.sys now
  exact ⟨hd, hf.conns, hf.cfg, Sys.step_sweep_fault_out g.sys now, hI.swInv.step_sweep now true,
    fun hw => hI.step_sweep hw⟩

/-- a non-faulted firing from a state satisfying the invariant raises nothing: its events are
    `fired` followed by commits only (no `internal` event) and it keeps the invariant -/
theorem C13_sweep_no_failure {g : GSys} (hI : g.GInv) (now : Time) :
    (∃ l, (g.step (.sweep now false)).sys.out = .fired now (now - expirationTicks) :: l ∧
      ∀ e ∈ l, Sys.IsCommit e) ∧
    (g.step (.sweep now false)).sys.SwInv ∧
    (g.WFOp (.sweep now false) → (g.step (.sweep now false)).GInv) :=
  ⟨Sys.step_sweep_out hI.cinv now, hI.swInv.step_sweep now false, fun hw => hI.step_sweep hw⟩

def Op.isFaultedFiring : Op → Bool
  | .sweep _ true => true
  | _ => false

theorem Op.isFiring_of_faulted {op : Op} (h : op.isFaultedFiring = true) : op.isFiring = true := by
  cases op with
  | sweep _ _ => rfl
  | _ => cases h

namespace Sys

/-- a firing, faulted or not, at any time, from a state with no connection and every mailbox row stamped
    `≤ T` leaves such a state: a sweep re-stamps subscribed rows only, and nobody is subscribed -/
theorem sweep_keeps_bound {s : Sys} (h : s.db.CInv) (hc : s.conns = []) {T : Time}
    (hT : ∀ m ∈ s.db.mailboxes, m.updated ≤ T) (now : Time) (fault : Bool) :
    (s.step (.sweep now fault)).conns = [] ∧ ∀ m ∈ (s.step (.sweep now fault)).db.mailboxes, m.updated ≤ T := by
  obtain ⟨hd, hf⟩ := step_sweep_db h now fault
  rw [hd, hf.conns]
  refine ⟨hc, fun m' hm' => ?_⟩
  obtain ⟨m, hm, _, rfl⟩ := Chan.mem_sweepP_mailboxes.1 hm'
  rw [Chan.stamp_eq_self (Bool.eq_false_iff.2 fun hl => ?_)]
  · exact hT m hm
  · obtain ⟨x, hx, _⟩ := listened_iff.1 hl
    rw [hc] at hx; cases hx

theorem empty_after_quiet_firings {s : Sys} (h : s.SwInv) (hc : s.conns = []) {T : Time}
    (hT : ∀ m ∈ s.db.mailboxes, m.updated ≤ T) (ops : List Op) (hops : ∀ op ∈ ops, op.isFiring = true)
    {now : Time} (hnow : T + expirationTicks ≤ now) :
    (s.run (ops ++ [.sweep now false])).1.db.Empty ∧ (s.run (ops ++ [.sweep now false])).1.conns = [] := by
  obtain ⟨h1, h2, h3⟩ := run_firings (P := fun s => s.conns = [] ∧ ∀ m ∈ s.db.mailboxes, m.updated ≤ T) ops hops
    (fun s now fault _ h hp => sweep_keeps_bound h.cinv hp.1 hp.2 now fault) h ⟨hc, hT⟩
  rw [run_append]
  show ((s.run ops).1.step (.sweep now false)).db.Empty ∧ ((s.run ops).1.step (.sweep now false)).conns = []
  exact ⟨(quiesce h1.cinv h2 h3 hnow).1, (quiesce h1.cinv h2 h3 hnow).2.2⟩

end Sys

/-- **C13_empty_after_quiet_firings.**  From every state satisfying the invariant in which no client is
    connected and every mailbox row is stamped `≤ T`: ANY list of firings of the sweep — each of them faulted
    or not, at arbitrary times — followed by one non-faulted firing at a time `now ≥ T + expirationTicks`
    leaves all five channel tables empty.  The bound is measured from `T`, not from the previous firing. -/
theorem C13_empty_after_quiet_firings {g : GSys} (hI : g.GInv) (hc : g.sys.conns = []) {T : Time}
    (hT : ∀ m ∈ g.sys.db.mailboxes, m.updated ≤ T) (ops : List Op) (hops : ∀ op ∈ ops, op.isFiring = true)
    {now : Time} (hnow : T + expirationTicks ≤ now) :
    (g.run (ops ++ [.sweep now false])).sys.db.Empty := by
  rw [GSys.run_sys]
  exact (Sys.empty_after_quiet_firings hI.swInv hc hT ops hops hnow).1

/-- **C13_quiesce_after_faults.**  Quiescent state as in `C13_quiesce`; any number of faulted firings
    (at any times) followed by one good firing at `now ≥ T + expirationTicks`: the store is empty. -/
theorem C13_quiesce_after_faults {g : GSys} (hI : g.GInv) (hc : g.sys.conns = []) {T : Time}
    (hT : ∀ m ∈ g.sys.db.mailboxes, m.updated ≤ T) (faults : List Op)
    (hf : ∀ op ∈ faults, op.isFaultedFiring = true) {now : Time} (hnow : T + expirationTicks ≤ now) :
    (g.run (faults ++ [.sweep now false])).sys.db.Empty :=
  C13_empty_after_quiet_firings hI hc hT faults (fun op ho => Op.isFiring_of_faulted (hf op ho)) hnow

theorem firing_time_succ (f : Int) (k : Nat) :
    f + periodTicks + (k : Int) * periodTicks = f + ((k + 1 : Nat) : Int) * periodTicks := by
  rw [Int.natCast_succ, Int.add_mul, Int.one_mul]; omega

theorem firing_time_ge {T f : Int} (k : Nat) (hf : T + expirationTicks ≤ f) :
    T + expirationTicks ≤ f + (k : Int) * periodTicks := by
  have : (0 : Int) ≤ k * periodTicks := Int.mul_nonneg (Int.natCast_nonneg k) (Int.le_of_lt sweep_periodTicks_pos)
  omega

/-- the firings of the service timer from `f` on: one every `periodTicks`; the first `k` fail, the
    next one does not -/
def timerFirings (f : Time) : Nat → List Op
  | 0 => [.sweep f false]
  | k + 1 => .sweep f true :: timerFirings (f + periodTicks) k

theorem timerFirings_eq (f : Time) (k : Nat) :
    ∃ faults, timerFirings f k = faults ++ [.sweep (f + k * periodTicks) false] ∧
      ∀ op ∈ faults, op.isFaultedFiring = true := by
  induction k generalizing f with
  | zero => exact ⟨[], by simp [timerFirings], by simp⟩
  | succ k ih =>
    obtain ⟨l, e, hl⟩ := ih (f + periodTicks)
    refine ⟨.sweep f true :: l, ?_, ?_⟩
    · simp only [timerFirings, e, List.cons_append, List.cons.injEq, true_and, List.append_cancel_left_eq,
        Op.sweep.injEq, and_true]
      exact firing_time_succ f k
    · intro op ho
      rcases List.mem_cons.1 ho with rfl | ho
      · rfl
      · exact hl op ho

/-- the deadline: if `f` is the first firing at or after `T + expirationTicks` (so
    `f < T + expirationTicks + periodTicks`), the firing after `k` failures happens before
    `T + expirationTicks + periodTicks * (1 + k)` -/
theorem C13_deadline_arith {T f : Int} (k : Nat) (h : f < T + expirationTicks + periodTicks) :
    f + k * periodTicks < T + expirationTicks + periodTicks * (1 + k) := by
  rw [Int.mul_add, Int.mul_one, Int.mul_comm periodTicks k]
  omega

/-- **C13_empty_by_deadline.**  No client connected, every row stamped `≤ T`; the timer fires at
    `f, f + P, f + 2P, …` with `T + E ≤ f` (`P = periodTicks`, `E = expirationTicks`); the first `k`
    of these firings fail, the next does not.  Then the store is empty after that firing, which takes
    place at `f + k·P` — before `T + E + P·(1 + k)` when `f` is the first firing not before `T + E`. -/
theorem C13_empty_by_deadline {g : GSys} (hI : g.GInv) (hc : g.sys.conns = []) {T : Time}
    (hT : ∀ m ∈ g.sys.db.mailboxes, m.updated ≤ T) {f : Time} (hf : T + expirationTicks ≤ f) (k : Nat) :
    (g.run (timerFirings f k)).sys.db.Empty ∧
    (f < T + expirationTicks + periodTicks →
      f + k * periodTicks < T + expirationTicks + periodTicks * (1 + k)) := by
  obtain ⟨faults, e, hl⟩ := timerFirings_eq f k
  rw [e]
  exact ⟨C13_quiesce_after_faults hI hc hT faults hl (firing_time_ge k hf), C13_deadline_arith k⟩


/-- **C13_quiesce_reach.**  The same for every REACHABLE state (`GSys.Reach.ginv`, Inv/Main.lean): after
    any well-formed history — crashes, restarts, crowding, errors, anything — once no client is connected,
    a sweep at or after `clock + expirationTicks` (the clock is the time of the last operation) leaves the
    channel database empty. -/
theorem C13_quiesce_reach {g : GSys} (hg : g.Reach) (hc : g.sys.conns = []) {now : Time}
    (hnow : g.clock + expirationTicks ≤ now) : (g.step (.sweep now false)).sys.db.Empty :=
  C13_quiesce_clock hg.ginv hc hnow

/-- ... and with `k` failed firings before the good one, `periodTicks` apart -/
theorem C13_empty_by_deadline_reach {g : GSys} (hg : g.Reach) (hc : g.sys.conns = []) {f : Time}
    (hf : g.clock + expirationTicks ≤ f) (k : Nat) : (g.run (timerFirings f k)).sys.db.Empty :=
  (C13_empty_by_deadline hg.ginv hc hg.ginv.clockMb hf k).1

/-- **C13_status_row.**  After any sweep with a usage database, `current` holds exactly one row:
    boot time, the time of this firing, the configured blur, the number of subscribed connections. -/
theorem C13_status_row {g : GSys} (hI : g.GInv) (hu : g.sys.cfg.usage = true) (now : Time) (fault : Bool) :
    (g.step (.sweep now fault)).sys.udb.current =
      [⟨g.sys.rebooted, now, g.sys.cfg.blur, (g.sys.conns.filter (·.listening)).length⟩] := by
  show (g.sys.step (.sweep now fault)).udb.current = _
  rw [Sys.step_sweep]
  cases fault with
  | true =>
    rw [Sys.expire_fault]
    exact Sys.dumpStats_current _ _ hu
  | false =>
    obtain ⟨_, _, s1, hp, he⟩ := Sys.expire_db (s := { g.sys with out := [], snaps := [] }) hI.cinv now
    obtain ⟨_, hf⟩ := Sys.pruneApps_db _ hp
    rw [he, Sys.dumpStats_current _ _ (by rw [hf.cfg]; exact hu), hf.rebooted, hf.cfg, hf.conns]
    rfl

/-! ## Non-vacuity (the example state of Props/C12.lean: two apps, old / new / subscribed / idle) -/

namespace SweepExample

/-- `C13_sweep_complete`: "old" (app A) and "idle" (app B) satisfy the hypotheses -/
example : rOld ∈ g.sys.db.mailboxes ∧ rOld.updated ≤ now - expirationTicks ∧ ¬ g.sys.Subscribed rOld := by
  decide
example := C13_sweep_complete g_ginv now (m := rOld) (by decide) (by decide) (by decide)
example := C13_sweep_complete g_ginv now (m := rIdle) (by decide) (by decide) (by decide)

/-- the same database after all clients have gone -/
def g0 : GSys := ⟨{ sys with conns := [] }, E + 100, ["old", "new", "sub", "idle"]⟩

theorem g0_ginv : g0.GInv where
  cinv := g_ginv.cinv
  conn := { ids := by decide, handle := by decide, listen := by decide, bound := by decide }
  synced := ⟨rfl, rfl⟩
  used := g_ginv.used
  usedConn := by decide
  clockMb := g_ginv.clockMb

/-- `C13_quiesce`: no connection, every row stamped `≤ E + 100`, firing at `2E + 100` -/
example : g0.sys.conns = [] ∧ (∀ m ∈ g0.sys.db.mailboxes, m.updated ≤ E + 100) ∧
    E + 100 + expirationTicks ≤ 2 * E + 100 ∧ ¬ g0.sys.db.Empty := by decide
example := C13_quiesce g0_ginv rfl (T := E + 100) (by decide) (now := 2 * E + 100) (by decide)
-- the model itself, executed: empty after that sweep, not empty after one a tick earlier
#guard decide ((g0.step (.sweep (2 * E + 100) false)).sys.db.Empty)
#guard decide (¬ (g0.step (.sweep (2 * E + 99) false)).sys.db.Empty)
-- and with the subscriber still connected the store does not become empty
#guard decide (¬ (g.step (.sweep (2 * E + 100) false)).sys.db.Empty)

/-- `C13_loop_survives`: with the usage database of the example the faulted firing emits three events -/
example := C13_loop_survives g_ginv now
example : g.WFOp (.sweep now true) where
  connFresh := by intro c h; cases h
  mono := by intro t h; cases h; decide
  idFresh := by intro f h; cases h
  crashPlain := by intro k o h; cases h
#guard decide ((g.step (.sweep now true)).sys.out =
  [.fired now (now - expirationTicks), .internal none "OperationalError", .commit .usage])

example := C13_sweep_no_failure g_ginv now

/-- `C13_quiesce_after_faults` / `C13_empty_by_deadline`: two failures, then a good firing -/
example : ∀ op ∈ [Op.sweep (2 * E + 100) true, Op.sweep (2 * E + 100 + P) true], op.isFaultedFiring = true := by
  decide
example := C13_quiesce_after_faults g0_ginv rfl (T := E + 100) (by decide)
  [.sweep (2 * E + 100) true, .sweep (2 * E + 100 + P) true] (by decide) (now := 2 * E + 100 + 2 * P) (by decide)
example := C13_empty_by_deadline g0_ginv rfl (T := E + 100) (by decide) (f := 2 * E + 100) (by decide) 2
#guard decide ((g0.run (timerFirings (2 * E + 100) 2)).sys.db.Empty)


/-- `C13_quiesce_reach`: a history from the initial state — two sides meet on a nameplate, exchange a
    message, one closes, the process crashes inside the other's `add`, comes back, a client reconnects
    and leaves — then nobody is connected; the history is well-formed, the final state is not empty,
    and the sweep `expirationTicks` after the last operation empties it -/
def hist : List Op :=
  [.connect 1, .recv 1 10 (.int 1) (.bind (some "A") (some "s1") none none),
   .recv 1 11 (.int 2) (.claim (some "4") "m1"), .recv 1 12 (.int 3) (.open_ (some "m1")),
   .connect 2, .recv 2 13 (.int 1) (.bind (some "A") (some "s2") none none),
   .recv 2 14 (.int 2) (.claim (some "4") "m2"), .recv 2 15 (.int 3) (.open_ (some "m1")),
   .recv 1 16 (.int 4) (.add (some (.str "pake")) (some (.str "x"))),
   .recv 1 17 (.int 5) (.close none (some "happy")),
   .crashIn 1 (.recv 2 18 (.int 4) (.add (some (.str "pake")) (some (.str "y")))),
   .restart 20, .connect 3, .recv 3 21 (.int 1) (.bind (some "B") (some "s1") none none),
   .recv 3 22 (.int 2) (.open_ (some "zz")), .drop 3]
def gH : GSys := (GSys.init { usage := true } 0).run hist
theorem gH_reach : gH.Reach := GSys.reach_of_wfB _ _ hist (by decide +kernel)
#guard decide (gH.sys.conns = [] ∧ ¬ gH.sys.db.Empty ∧ gH.clock = 22)
example : gH.sys.conns = [] := by decide +kernel
example : (gH.step (.sweep (22 + expirationTicks) false)).sys.db.Empty :=
  C13_quiesce_reach gH_reach (by decide +kernel) (by
    have : gH.clock = 22 := by decide +kernel
    rw [this]; exact Int.le_refl _)
#guard decide ((gH.step (.sweep (22 + expirationTicks) false)).sys.db.Empty)

/-- `C13_status_row`: the example has a usage database; one subscribed connection -/
example : g.sys.cfg.usage = true := rfl
example : (g.step (.sweep now false)).sys.udb.current = [⟨0, now, none, 1⟩] :=
  C13_status_row g_ginv rfl now false

end SweepExample

end Wormhole

#print axioms Wormhole.C13_sweep_complete
#print axioms Wormhole.C13_quiesce
#print axioms Wormhole.C13_quiesce_clock
#print axioms Wormhole.C13_loop_survives
#print axioms Wormhole.C13_sweep_no_failure
#print axioms Wormhole.C13_empty_after_quiet_firings
#print axioms Wormhole.C13_quiesce_after_faults
#print axioms Wormhole.C13_deadline_arith
#print axioms Wormhole.C13_empty_by_deadline
#print axioms Wormhole.C13_quiesce_reach
#print axioms Wormhole.C13_empty_by_deadline_reach
#print axioms Wormhole.C13_status_row
