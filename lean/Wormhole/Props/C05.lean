/-
  C05 — "No third party: at most two sides ever share a nameplate or a mailbox".

  Step theorems hold for EVERY state satisfying `GSys.GInv`; the history-level theorems take
  `(hreach : ∀ g, g.Reach → g.GInv)` (`GSys.Reach.ginv`, Inv/Main.lean) as a parameter, and their
  `_reach` versions have it plugged in.

  Mailboxes: a third side is refused by `open`, handle-less `close` and `claim` (`C05_third_excluded_*`),
  and a refusal disturbs nobody (`C05_keep_partial*`, with the counterexample K-crowded-rejoin); side rows
  live as long as the mailbox row, so `first2` is frozen once full (`C05_sides_only_grow` …); handles are
  granted only to first-two sides, and every subscriber and every recipient of a `message` frame is one
  (`handle_origin`, `C05_subscribers_first2`, `C05_message_to_first2`).
  Nameplates: the sides answered `claimed` for one row id lie in one list of at most two
  (`C05_claimed_sides`, `C05_nameplate_two`; `two_sides_along` is the induction over the history).
-/
import Wormhole.Inv.MbClaim
import Wormhole.Inv.NpFacts
import Wormhole.Inv.Main
import Wormhole.Inv.WFDec

namespace Wormhole
namespace C05
open Sys

def NoMessage (l : List Event) : Prop :=
  ∀ e ∈ l, ∀ c sd ph bd rx i b, e ≠ Event.frame c (.message sd ph bd rx i) b

theorem noMessage_answer {c : Nat} {id : Val} {commits : List Event} (hc : ∀ e ∈ commits, IsCommit e)
    {f : Frame} (hf : ∀ sd ph bd rx i, f ≠ .message sd ph bd rx i) :
    NoMessage (.frame c (.ack id) true :: (commits ++ [.frame c f true])) := by
  intro e he c' sd ph bd rx i b heq
  subst heq
  simp only [List.mem_cons, List.mem_append, List.not_mem_nil, or_false] at he
  rcases he with he | he | he
  · cases he
  · obtain ⟨w, hw⟩ := hc _ he; cases hw
  · cases he; exact hf sd ph bd rx i rfl

/-- the third-party situation for side `side` at mailbox `mb`: the mailbox already has two side
    rows and none is the caller's — or it has more than two rows already (a retry, or anybody at
    all: K-crowded-rejoin) -/
def Third (d : Chan) (mb side : String) : Prop :=
  (2 ≤ (d.mbSidesOf mb).length ∧ side ∉ d.sidesOf mb) ∨ 2 < (d.mbSidesOf mb).length

theorem Third.crowds {d : Chan} {mb side : String} (h : Third d mb side) (app : String) (t : Time) :
    ((d.openDb app mb side t).mbSidesOf mb).length > 2 := by
  rw [Chan.openDb_mbSidesOf]
  rcases h with ⟨h1, h2⟩ | h
  · have : d.findMbSide mb side = none :=
      Chan.findMbSide_eq_none.2 fun r hr hk => h2 (Chan.mem_sidesOf.2 ⟨r, hr, hk⟩)
    simp [this]; omega
  · simp only [List.length_append]; omega

theorem third_after {d : Chan} {mb side : String} (app : String) (t : Time)
    (h : ((d.openDb app mb side t).mbSidesOf mb).length > 2) (side' : String) :
    Third (d.openDb app mb side t) mb side' := Or.inr h

/-- **C05 (third party, `open`).**  An `open` of a mailbox of the caller's app that passes
    validation, in the third-party situation: the output is exactly `ack, commits, error "crowded"`;
    no `message` frame; the caller's connection has no handle and is not listening afterwards (it
    only remembers the name); every other connection record is unchanged; the database is `openDb`
    (the caller's side row now exists; every other row as before), so the situation persists. -/
theorem C05_third_excluded_open {g : GSys} (hI : g.GInv) {c : Nat} {x : Conn} {mb app : String}
    (hx : g.sys.findConn c = some x) (hr : rejectText x (.open_ (some mb)) = none)
    (happ : x.app = some app) (hrow : g.sys.db.HasBox app mb)
    (h3 : Third g.sys.db mb (x.side.getD "")) (t : Time) (id : Val) :
    (∃ commits, (∀ e ∈ commits, IsCommit e) ∧ (g.sys.step (.recv c t id (.open_ (some mb)))).out =
      .frame c (.ack id) true :: (commits ++ [.frame c (.error "crowded") true])) ∧
    NoMessage (g.sys.step (.recv c t id (.open_ (some mb)))).out ∧
    (g.sys.step (.recv c t id (.open_ (some mb)))).findConn c = some { x with mailboxId := some mb } ∧
    x.mailbox = none ∧ x.listening = false ∧
    (∀ y ∈ g.sys.conns, y.id ≠ c → y ∈ (g.sys.step (.recv c t id (.open_ (some mb)))).conns) ∧
    (g.sys.step (.recv c t id (.open_ (some mb)))).db = g.sys.db.openDb app mb (x.side.getD "") t ∧
    (∀ side', Third (g.sys.step (.recv c t id (.open_ (some mb)))).db mb side') := by
  have hP := hI.cinv.toPInv
  obtain ⟨_, hcr, _⟩ := open_step hP hI.synced hx hr happ t id
  have hlen := h3.crowds app t
  obtain ⟨⟨commits, hc, hout⟩, hdb, _, _, _, _, hconns⟩ := hcr (fun hcl => hcl.2 hrow) hlen
  obtain ⟨_, hnone, _⟩ := open_accepted hr
  have hlis : x.listening = false := by
    cases hl : x.listening with
    | false => rfl
    | true =>
      have := hI.conn.listen x (findConn_mem hx) hl
      rw [hnone] at this; cases this
  refine ⟨⟨commits, hc, hout⟩, ?_, ?_, hnone, hlis, ?_, hdb, ?_⟩
  · rw [hout]; exact noMessage_answer hc (by intro _ _ _ _ _ h; cases h)
  · unfold Sys.findConn
    rw [hconns, find?_map_id (by intro y; split <;> rfl)]
    have : g.sys.conns.find? (fun y => y.id = c) = some x := hx
    rw [this]
    simp [findConn_id hx]
  · intro y hy hne
    rw [hconns]
    exact List.mem_map.2 ⟨y, hy, by simp [hne]⟩
  · intro side'
    rw [hdb]; exact third_after app t hlen side'

/-- **C05 (third party, `close`).**  A `close` on a connection that holds no handle (so
    `open_mailbox` runs first), in the third-party situation: exactly `ack, commits, error "crowded"`;
    no `message` frame; no connection record changes at all (the caller's included: no handle, no
    `didClose`); the database is `openDb`; the situation persists. -/
theorem C05_third_excluded_close {g : GSys} (hI : g.GInv) {c : Nat} {x : Conn} {m mood : Option String}
    {mb app : String} (hx : g.sys.findConn c = some x) (hr : rejectText x (.close m mood) = none)
    (happ : x.app = some app) (hnone : x.mailbox = none) (htg : x.closeTarget m = some mb)
    (hrow : g.sys.db.HasBox app mb) (h3 : Third g.sys.db mb (x.side.getD "")) (t : Time) (id : Val) :
    (∃ commits, (∀ e ∈ commits, IsCommit e) ∧ (g.sys.step (.recv c t id (.close m mood))).out =
      .frame c (.ack id) true :: (commits ++ [.frame c (.error "crowded") true])) ∧
    NoMessage (g.sys.step (.recv c t id (.close m mood))).out ∧
    (g.sys.step (.recv c t id (.close m mood))).conns = g.sys.conns ∧
    (g.sys.step (.recv c t id (.close m mood))).db = g.sys.db.openDb app mb (x.side.getD "") t ∧
    (∀ side', Third (g.sys.step (.recv c t id (.close m mood))).db mb side') := by
  have hP := hI.cinv.toPInv
  obtain ⟨_, hcr, _⟩ := close_step hP hI.cinv.npHasSide hI.synced hx hr happ htg t id
  have hpre := closePre_of_none g.sys app mb t hnone
  have hlen := h3.crowds app t
  obtain ⟨⟨commits, hc, hout⟩, hdb, _, hrest⟩ := hcr hnone (fun hcl => hcl.2 hrow) (by rw [hpre]; exact hlen)
  rw [hpre] at hdb
  refine ⟨⟨commits, hc, hout⟩, ?_, hrest.conns, hdb, ?_⟩
  · rw [hout]; exact noMessage_answer hc (by intro _ _ _ _ _ h; cases h)
  · intro side'
    rw [hdb]; exact third_after app t hlen side'

/-- **C05 (third party, `claim`).**  A `claim` of an existing nameplate whose mailbox is in the
    third-party situation for the caller: exactly `ack, commits, error "crowded"` — or
    `error "reclaimed"`, with nothing changed, if this side had released this nameplate before —;
    no `message` and no `claimed` frame (the mailbox id is not disclosed); no connection gains or
    loses a handle or a subscription; the mailbox's side rows afterwards are those of `openDb`, so
    the situation persists. -/
theorem C05_third_excluded_claim {g : GSys} (hI : g.GInv) {c : Nat} {x : Conn} {name fresh app : String}
    {row : Nameplate} (hx : g.sys.findConn c = some x) (hr : rejectText x (.claim (some name) fresh) = none)
    (happ : x.app = some app) (hrow : g.sys.db.findNameplate app name = some row)
    (h3 : Third g.sys.db row.mailbox (x.side.getD "")) (t : Time) (id : Val) :
    (∃ commits, (∀ e ∈ commits, IsCommit e) ∧ (g.sys.step (.recv c t id (.claim (some name) fresh))).out =
      .frame c (.ack id) true :: (commits ++ [.frame c (.error
        (if ∃ r0, g.sys.db.findNpSide row.id (x.side.getD "") = some r0 ∧ r0.claimed = false
          then "reclaimed" else "crowded")) true])) ∧
    NoMessage (g.sys.step (.recv c t id (.claim (some name) fresh))).out ∧
    (g.sys.step (.recv c t id (.claim (some name) fresh))).conns =
      g.sys.conns.map (fun y => if y.id = c then { y with didClaim := true, nameplateId := some name } else y) ∧
    ((∃ r0, g.sys.db.findNpSide row.id (x.side.getD "") = some r0 ∧ r0.claimed = false) →
      (g.sys.step (.recv c t id (.claim (some name) fresh))).db = g.sys.db) ∧
    ((¬ ∃ r0, g.sys.db.findNpSide row.id (x.side.getD "") = some r0 ∧ r0.claimed = false) →
      (g.sys.step (.recv c t id (.claim (some name) fresh))).db.mbSides =
        (g.sys.db.openDb app row.mailbox (x.side.getD "") t).mbSides ∧
      (g.sys.step (.recv c t id (.claim (some name) fresh))).db.messages = g.sys.db.messages ∧
      ∀ side', Third (g.sys.step (.recv c t id (.claim (some name) fresh))).db row.mailbox side') := by
  have hP := hI.cinv.toPInv
  obtain ⟨s1, r, hcl, ⟨commits, hc, hout⟩, hdb, _, hconns⟩ := claim_step hP hI.synced hx hr happ t id
  have hrowmem : row ∈ g.sys.db.nameplates := List.mem_of_find?_eq_some hrow
  have hk := List.find?_some hrow
  simp only [decide_eq_true_eq] at hk
  have hmb : g.sys.db.HasBox app row.mailbox := by
    obtain ⟨m0, hm0, hi, ha⟩ := hP.npMb row hrowmem
    exact ⟨m0, hm0, ha.trans hk.1, hi⟩
  have hlen := h3.crowds app t
  obtain ⟨hrecl, hcrowd⟩ := claimNameplate_crowded (s := ((({ g.sys with out := [], snaps := [] } : Sys).send c (.ack id)).updConn c
      (fun y => { y with didClaim := true, nameplateId := some name }))) hP.mbIds hrow hmb hlen hcl
  by_cases hu : ∃ r0, g.sys.db.findNpSide row.id (x.side.getD "") = some r0 ∧ r0.claimed = false
  · obtain ⟨rfl, hs1⟩ := hrecl hu
    rw [if_pos hu]
    refine ⟨⟨commits, hc, hout⟩, ?_, ?_, fun _ => ?_, fun hno => absurd hu hno⟩
    · rw [hout]; exact noMessage_answer hc (by intro _ _ _ _ _ h; cases h)
    · rw [hconns, hs1]; rfl
    · rw [hdb, hs1]; rfl
  · obtain ⟨rfl, hcs, hdb1⟩ := hcrowd hu
    rw [hdb1] at hdb
    rw [if_neg hu]
    refine ⟨⟨commits, hc, hout⟩, ?_, by rw [hconns, hcs]; rfl, fun hyes => absurd hyes hu, fun _ => ?_⟩
    · rw [hout]; exact noMessage_answer hc (by intro _ _ _ _ _ h; cases h)
    · rw [hdb]
      exact ⟨rfl, rfl, fun _ => Or.inr hlen⟩

/-- every handle in `s` was already held (same connection id, same binding) in `cs0` -/
def HSub (cs0 : List Conn) (s : Sys) : Prop :=
  ∀ x' ∈ s.conns, ∀ mb, x'.mailbox = some mb →
    ∃ x ∈ cs0, x.id = x'.id ∧ x.mailbox = some mb ∧ x.side = x'.side ∧ x.app = x'.app

theorem HSub.of_conns {cs0 : List Conn} {s s' : Sys} (h : HSub cs0 s) (e : s'.conns = s.conns) : HSub cs0 s' := by
  intro x' hx'; rw [e] at hx'; exact h x' hx'

theorem HSub.map {cs0 : List Conn} {s s' : Sys} (h : HSub cs0 s) (F : Conn → Conn)
    (e : s'.conns = s.conns.map F)
    (hF : ∀ y ∈ s.conns, (F y).id = y.id ∧
      ∀ mb, (F y).mailbox = some mb → y.mailbox = some mb ∧ (F y).side = y.side ∧ (F y).app = y.app) :
    HSub cs0 s' := by
  intro x' hx' mb hm
  rw [e] at hx'
  obtain ⟨y, hy, rfl⟩ := List.mem_map.1 hx'
  obtain ⟨h1, h2⟩ := hF y hy
  obtain ⟨h3, h4, h5⟩ := h2 mb hm
  obtain ⟨x, hx, e1, e2, e3, e4⟩ := h y hy mb h3
  exact ⟨x, hx, e1.trans h1.symm, e2, e3.trans h4.symm, e4.trans h5.symm⟩

theorem HSub.updConn {cs0 : List Conn} {s : Sys} (h : HSub cs0 s) (c : Nat) (f : Conn → Conn)
    (hf : ∀ y ∈ s.conns, y.id = c → (f y).id = y.id ∧
      ∀ mb, (f y).mailbox = some mb → y.mailbox = some mb ∧ (f y).side = y.side ∧ (f y).app = y.app) :
    HSub cs0 (s.updConn c f) := by
  refine h.map (fun y => if y.id = c then f y else y) rfl (fun y hy => ?_)
  split
  · exact hf y hy ‹_›
  · exact ⟨rfl, fun _ hm => ⟨hm, rfl, rfl⟩⟩

theorem HSub.closed (cs0 : List Conn) : Closed (HSub cs0) where
  emit := fun _ _ _ h => h
  modUdb := fun _ _ h => h
  commit := fun s h => h.of_conns (commit_conns s)
  ucommit := fun s h => h.of_conns (ucommit_conns s)
  grow := fun _ _ _ h => h
  flag := fun _ c f hf h => h.updConn c f (fun y _ _ =>
    ⟨(hf y).1, fun _ hm => ⟨(hf y).2.2.2.1 ▸ hm, (hf y).2.2.1, (hf y).2.1⟩⟩)

theorem HSub.closedDel (cs0 : List Conn) : ClosedDel (HSub cs0) where
  emit := fun _ _ _ h => h
  modUdb := fun _ _ h => h
  commit := fun s h => h.of_conns (commit_conns s)
  ucommit := fun s h => h.of_conns (ucommit_conns s)
  del := fun _ _ _ h => h

theorem HSub.refl (s : Sys) : HSub s.conns s := fun x' hx' _ hm => ⟨x', hx', rfl, hm, rfl, rfl⟩

/-- a handle after the step is the handle of an `open` that was just granted -/
def Granted (s : Sys) (op : Op) (x' : Conn) (mb : String) : Prop :=
  ∃ c t id x app, op = .recv c t id (.open_ (some mb)) ∧ s.findConn c = some x ∧
    rejectText x (.open_ (some mb)) = none ∧ x.app = some app ∧ ¬ s.db.Clash app mb ∧
    ¬ ((s.db.openDb app mb (x.side.getD "") t).mbSidesOf mb).length > 2 ∧
    (s.step op).db = s.db.openDb app mb (x.side.getD "") t ∧
    x'.side = x.side ∧ x'.app = x.app ∧ x'.id = c

theorem crash_conns (s : Sys) (k : Nat) (op : Op) : (s.step (.crashIn k op)).conns = [] := by
  show (match k, (({ s with out := [], snaps := [] } : Sys).stepPlain op).snaps[k - 1]? with
    | 0, _ => _
    | _, some p => _
    | _, none => _ : Sys).conns = []
  split <;> rfl

/-- **where handles come from**: a connection that holds a handle after an operation held the
    same handle (same id, side, app) before it, or the operation is the `open` that granted it.
    `close`, `open` by their exact step lemmas; `bind` changes the binding of a record without handle;
    everything else keeps `HSub` statement by statement. -/
theorem handle_origin {g : GSys} (hI : g.GInv) (op : Op) {x' : Conn}
    (hx' : x' ∈ (g.sys.step op).conns) {mb : String} (hm : x'.mailbox = some mb) :
    (∃ x ∈ g.sys.conns, x.id = x'.id ∧ x.mailbox = some mb ∧ x.side = x'.side ∧ x.app = x'.app) ∨
    Granted g.sys op x' mb := by
  have hP := hI.cinv.toPInv
  have h0 : HSub g.sys.conns ({ g.sys with out := [], snaps := [] } : Sys) := HSub.refl g.sys
  -- the left alternative is `HSub` of the state after the step
  have hsub : HSub g.sys.conns (g.sys.step op) →
      ((∃ x ∈ g.sys.conns, x.id = x'.id ∧ x.mailbox = some mb ∧ x.side = x'.side ∧ x.app = x'.app) ∨
        Granted g.sys op x' mb) := fun h => Or.inl (h x' hx' mb hm)
  cases op with
  | connect c =>
    refine hsub (fun y hy mb' hm' => ?_)
    rcases List.mem_append.1 (show y ∈ g.sys.conns ++ [({ id := c } : Conn)] from hy) with hy | hy
    · exact ⟨y, hy, rfl, hm', rfl, rfl⟩
    · rw [List.mem_singleton.1 hy] at hm'; cases hm'
  | drop c =>
    exact hsub (fun y hy mb' hm' =>
      ⟨y, (List.mem_filter.1 (show y ∈ g.sys.conns.filter (fun y => ¬ y.id = c) from hy)).1, rfl, hm', rfl, rfl⟩)
  | restart t => cases (show x' ∈ ([] : List Conn) from hx')
  | crashIn k op' => rw [crash_conns] at hx'; cases hx'
  | sweep now fault => exact hsub ((HSub.closedDel g.sys.conns).expire h0 now fault)
  | recv c t id cmd =>
    cases hx : g.sys.findConn c with
    | none =>
      refine hsub ?_
      rw [step_recv]
      unfold Sys.onMessage
      rw [show ({ g.sys with out := [], snaps := [] } : Sys).findConn c = none from hx]
      exact h0
    | some x =>
      cases hr : rejectText x cmd with
      | some text =>
        exact hsub ((HSub.refl g.sys).of_conns (C17_validation_error t id hx (rejected_of_rejectText hr)).2.conns)
      | none =>
        -- every command but `bind`, `open`, `close` keeps `HSub` statement by statement
        have hgen : (∀ a sd i v, cmd ≠ .bind a sd i v) → (∀ m, cmd ≠ .open_ m) → (∀ m mood, cmd ≠ .close m mood) →
            HSub g.sys.conns (g.sys.step (.recv c t id cmd)) := fun hb ho hc => by
          rw [step_recv]
          exact (HSub.closed g.sys.conns).onMessage h0 c t id (fun _ _ _ _ h => h) hb ho hc
        cases cmd with
        | bind a sd i v =>
          -- the connection was unbound, hence held no handle
          have hxa : x.app = none := by
            cases ha : x.app with
            | none => rfl
            | some a' => simp [rejectText, ha] at hr
          have hxm : x.mailbox = none := by
            cases hh : x.mailbox with
            | none => rfl
            | some h =>
              obtain ⟨_, a', ha', _⟩ := hI.conn.handle x (findConn_mem hx) h hh
              rw [hxa] at ha'; cases ha'
          refine hsub ?_
          rw [step_recv]
          unfold Sys.onMessage
          simp only [show ({ g.sys with out := [], snaps := [] } : Sys).findConn c = some x from hx]
          have ha : HSub g.sys.conns (({ g.sys with out := [], snaps := [] } : Sys).send c (.ack id)) := h0
          unfold Sys.handleBind
          split
          · exact ha
          · split
            · exact ha
            · split
              · exact ha
              · refine (ha.updConn x.id _ (fun y hy hid => ?_)).of_conns (logClientVersion_conns _ _ _ _ _ _)
                obtain rfl : y = x := Chan.eq_of_pairwise_ne (f := Conn.id) hI.conn.ids hy (findConn_mem hx) hid
                exact ⟨rfl, fun _ hm' => by rw [show y.mailbox = none from hxm] at hm'; cases hm'⟩
        | open_ m =>
          obtain ⟨⟨app, happ⟩, hnone, mb0, rfl⟩ := open_accepted hr
          obtain ⟨h1, h2, h3⟩ := open_step hP hI.synced hx hr happ t id
          -- refused: only the name is remembered
          have hkeep : (g.sys.step (.recv c t id (.open_ (some mb0)))).conns =
              g.sys.conns.map (fun y => if y.id = c then { y with mailboxId := some mb0 } else y) →
              HSub g.sys.conns (g.sys.step (.recv c t id (.open_ (some mb0)))) := fun hcs =>
            ((HSub.refl g.sys).updConn c (fun y => { y with mailboxId := some mb0 })
              (fun _ _ _ => ⟨rfl, fun _ h => ⟨h, rfl, rfl⟩⟩)).of_conns hcs
          by_cases hcl : g.sys.db.Clash app mb0
          · exact hsub (hkeep (h1 hcl).2.2)
          · by_cases hlen : ((g.sys.db.openDb app mb0 (x.side.getD "") t).mbSidesOf mb0).length > 2
            · exact hsub (hkeep (h2 hcl hlen).2.2.2.2.2.2)
            · obtain ⟨_, hdb, _, _, _, _, hcs⟩ := h3 hcl hlen
              rw [hcs] at hx'
              obtain ⟨y, hy, rfl⟩ := List.mem_map.1 hx'
              by_cases hc : y.id = c
              · right
                obtain rfl : y = x := Chan.eq_of_pairwise_ne (f := Conn.id) hI.conn.ids hy (findConn_mem hx)
                  (hc.trans (findConn_id hx).symm)
                simp only [hc, if_true] at hm ⊢
                cases hm
                exact ⟨c, t, id, y, app, rfl, hx, hr, happ, hcl, hlen, hdb, rfl, rfl, rfl⟩
              · left
                simp only [hc, if_false] at hm ⊢
                exact ⟨y, hy, rfl, hm, rfl, rfl⟩
        | close m mood =>
          -- handles are only dropped
          obtain ⟨⟨app, happ⟩, _, ⟨mbn, hn⟩, _⟩ := close_accepted hr
          obtain ⟨tgt, htg⟩ : ∃ tgt, x.closeTarget m = some tgt := by
            unfold Conn.closeTarget
            cases x.mailbox with
            | some h => exact ⟨h, rfl⟩
            | none => exact ⟨mbn, hn⟩
          obtain ⟨h1, h2, h3⟩ := close_step hP hI.cinv.npHasSide hI.synced hx hr happ htg t id
          refine hsub ?_
          by_cases hgo : x.mailbox = none ∧
              (g.sys.db.Clash app tgt ∨ ((closePre g.sys x app tgt t).mbSidesOf tgt).length > 2)
          · obtain ⟨hn0, hk⟩ := hgo
            by_cases hcl : g.sys.db.Clash app tgt
            · exact (HSub.refl g.sys).of_conns (h1 hn0 hcl).2.conns
            · exact (HSub.refl g.sys).of_conns (h2 hn0 hcl (hk.resolve_left hcl)).2.2.2.conns
          · obtain ⟨_, _, _, _, _, hsurv, hdel⟩ := h3 hgo
            by_cases hd : (closePre g.sys x app tgt t).HasBox app tgt ∧
                (closePre g.sys x app tgt t).findMbSide tgt (x.side.getD "") ≠ none ∧
                ¬ (closePre g.sys x app tgt t).OtherOpen tgt (x.side.getD "")
            · refine (HSub.refl g.sys).map _ (hdel hd.1 hd.2.1 hd.2.2).1 (fun y _ => ?_)
              split
              · exact ⟨rfl, nofun⟩
              · split
                · exact ⟨rfl, nofun⟩
                · exact ⟨rfl, fun _ h => ⟨h, rfl, rfl⟩⟩
            · exact (HSub.refl g.sys).updConn c closerUpd (fun _ _ _ => ⟨rfl, nofun⟩) |>.of_conns (hsurv hd).1
        | _ => exact hsub (hgen (fun _ _ _ _ h => nomatch h) (fun _ h => nomatch h) (fun _ _ h => nomatch h))

/-- **C05 (side rows of a mailbox are only deleted together with the mailbox row).**  Over EVERY
    operation — sweeps and crashes at any commit point included — if a mailbox row with id `mb`
    is there afterwards, the list of sides of `mb` (in table order) is the old one, possibly
    extended at the end. -/
theorem C05_sides_only_grow {g : GSys} (hI : g.GInv) (op : Op) {mb : String}
    (hid : (g.sys.step op).db.HasId mb) :
    g.sys.db.sidesOf mb <+: (g.sys.step op).db.sidesOf mb :=
  (step_MD g.sys hI.synced.1 op).sides hid

/-- every side row survives (possibly with `opened` / `mood` changed) while the mailbox row does -/
theorem C05_side_rows_kept {g : GSys} (hI : g.GInv) (op : Op) {mb : String}
    (hid : (g.sys.step op).db.HasId mb) {r : MbSide} (hr : r ∈ g.sys.db.mbSides) (hm : r.mailbox = mb) :
    ∃ r' ∈ (g.sys.step op).db.mbSides, r'.mailbox = mb ∧ r'.side = r.side := by
  exact Chan.mem_sidesOf.1 ((C05_sides_only_grow hI op hid).mem (Chan.mem_sidesOf.2 ⟨r, hr, hm, rfl⟩))

/-- **once more than two side rows, always more than two** until the mailbox row is deleted -/
theorem C05_crowded_stays {g : GSys} (hI : g.GInv) (op : Op) {mb : String}
    (hid : (g.sys.step op).db.HasId mb) (h : 2 < (g.sys.db.mbSidesOf mb).length) :
    2 < ((g.sys.step op).db.mbSidesOf mb).length := by
  have := (C05_sides_only_grow hI op hid).length_le
  rw [Chan.length_sidesOf, Chan.length_sidesOf] at this
  omega

/-- ... so the third-party situation persists over every operation that keeps the mailbox row -/
theorem C05_third_stays {g : GSys} (hI : g.GInv) (op : Op) {mb : String}
    (hid : (g.sys.step op).db.HasId mb) (h : 2 < (g.sys.db.mbSidesOf mb).length) (side : String) :
    Third (g.sys.step op).db mb side := Or.inr (C05_crowded_stays hI op hid h)

/-- **`first2` never changes once it has two elements** while the mailbox row exists (and before
    that it only grows at the end) -/
theorem C05_first2_stable {g : GSys} (hI : g.GInv) (op : Op) {mb : String}
    (hid : (g.sys.step op).db.HasId mb) :
    g.sys.db.first2 mb <+: (g.sys.step op).db.first2 mb ∧
    ((g.sys.db.first2 mb).length = 2 → (g.sys.step op).db.first2 mb = g.sys.db.first2 mb) := by
  have hp : g.sys.db.first2 mb <+: (g.sys.step op).db.first2 mb := by
    rw [Chan.first2_eq, Chan.first2_eq]
    exact Chan.prefix_take (C05_sides_only_grow hI op hid) 2
  refine ⟨hp, fun h2 => (hp.eq_of_length ?_).symm⟩
  have := Chan.length_first2_le (g.sys.step op).db mb
  have := hp.length_le
  omega

/-- every connection that holds a handle (= is subscribed, `ConnInv.handle`) is bound to one of
    the first two sides of that mailbox -/
def SubFirst2 (s : Sys) : Prop :=
  ∀ x ∈ s.conns, ∀ mb, x.mailbox = some mb → x.side.getD "" ∈ s.db.first2 mb

theorem SubFirst2.handleRow {s : Sys} (h : SubFirst2 s) : s.HandleRow := by
  intro x hx mb hm
  have := h x hx mb hm
  rw [Chan.first2_eq] at this
  exact Chan.mem_sidesOf.1 ((List.take_prefix 2 _).mem this)

theorem granted_first2 {s : Sys} {op : Op} {x' : Conn} {mb : String} (hG : Granted s op x' mb) :
    x'.side.getD "" ∈ (s.step op).db.first2 mb ∧ ((s.step op).db.mbSidesOf mb).length ≤ 2 := by
  obtain ⟨c, t, id, x, app, _, _, _, _, _, hlen, hdb, hs, _, _⟩ := hG
  rw [hdb, hs]
  refine ⟨?_, by omega⟩
  rw [Chan.first2_eq, List.take_of_length_le (by rw [Chan.length_sidesOf]; omega), Chan.mem_sidesOf]
  obtain ⟨r, hf⟩ := Option.ne_none_iff_exists'.1 (Chan.openDb_findMbSide_ne_none s.db app mb (x.side.getD "") t)
  exact ⟨r, Chan.findMbSide_some hf⟩

/-- **C05 (`open` grants a handle only to a first-two side).**  After an `open` that passes
    validation, if the caller's connection holds a handle then its side is in `first2` of the
    mailbox and the mailbox has at most two side rows. -/
theorem C05_open_grants_first2 {g : GSys} (hI : g.GInv) {c : Nat} {x : Conn} {mb : String}
    (hx : g.sys.findConn c = some x) (hr : rejectText x (.open_ (some mb)) = none) (t : Time) (id : Val)
    {x' : Conn} (hx' : x' ∈ (g.sys.step (.recv c t id (.open_ (some mb)))).conns) (hid : x'.id = c)
    {mb' : String} (hm : x'.mailbox = some mb') :
    mb' = mb ∧ x'.side.getD "" ∈ (g.sys.step (.recv c t id (.open_ (some mb)))).db.first2 mb ∧
    ((g.sys.step (.recv c t id (.open_ (some mb)))).db.mbSidesOf mb).length ≤ 2 := by
  rcases handle_origin hI _ hx' hm with ⟨y, hy, h1, h2, _, _⟩ | hG
  · exfalso
    have : y = x := Chan.eq_of_pairwise_ne (f := Conn.id) hI.conn.ids hy (findConn_mem hx)
      (h1.trans (hid.trans (findConn_id hx).symm))
    subst this
    obtain ⟨_, hnone, _⟩ := open_accepted hr
    rw [hnone] at h2; cases h2
  · have hmb : mb' = mb := by
      obtain ⟨_, _, _, _, _, hop, _⟩ := hG
      cases hop; rfl
    subst hmb
    exact ⟨rfl, granted_first2 hG⟩

/-- **C05 (subscription form, one step).**  "Every subscriber is bound to one of the first two
    sides of its mailbox" is preserved by every operation (from a state with `GInv` to a state
    with `GInv`). -/
theorem C05_subscribers_first2_step {g : GSys} (hI : g.GInv) (hF : SubFirst2 g.sys) (op : Op)
    (hI' : (g.step op).GInv) : SubFirst2 (g.step op).sys := by
  intro x' hx' mb hm
  show x'.side.getD "" ∈ (g.sys.step op).db.first2 mb
  rcases handle_origin hI op hx' hm with ⟨x, hx, _, h2, h3, _⟩ | hG
  · have hin := hF x hx mb h2
    rw [h3] at hin
    obtain ⟨_, _, _, m0, hm0, hi, _⟩ := hI'.conn.handle x' hx' mb hm
    exact (C05_first2_stable hI op (mb := mb) ⟨m0, hm0, hi⟩).1.mem hin
  · exact (granted_first2 hG).1

/-- **C05 (subscription form).**  In every reachable state every subscriber is bound to one of
    the first two sides (by insertion order) of the mailbox it is subscribed to. -/
theorem C05_subscribers_first2 (hreach : ∀ g : GSys, g.Reach → g.GInv) {g : GSys} (hg : g.Reach) :
    SubFirst2 g.sys := by
  induction hg with
  | init cfg rb => intro x hx; cases hx
  | step op hg0 hw ih => exact C05_subscribers_first2_step (hreach _ hg0) ih op (hreach _ (.step op hg0 hw))

theorem handleRow_reach {g : GSys} (hg : g.Reach) : g.sys.HandleRow :=
  (C05_subscribers_first2 (fun _ h => h.ginv) hg).handleRow

theorem handleRow_step {g : GSys} (hI : g.GInv) (hF : SubFirst2 g.sys) (op : Op)
    (hI' : (g.step op).GInv) : (g.step op).sys.HandleRow :=
  (C05_subscribers_first2_step hI hF op hI').handleRow

theorem run_append (g : GSys) (a b : List Op) : g.run (a ++ b) = (g.run a).run b := GSys.run_append g a b


theorem first2_mono_run (hreach : ∀ g : GSys, g.Reach → g.GInv) (mb : String) :
    ∀ (ops : List Op) {g : GSys}, g.Reach → g.WF ops →
      (∀ p1 p2, ops = p1 ++ p2 → p1 ≠ [] → (g.run p1).sys.db.HasId mb) →
      g.sys.db.first2 mb <+: (g.run ops).sys.db.first2 mb := by
  intro ops
  induction ops with
  | nil => intro g _ _ _; exact List.prefix_refl _
  | cons op rest ih =>
    intro g hg hwf halive
    have h1 : (g.step op).sys.db.HasId mb := halive [op] rest rfl (by simp)
    have hstep := (C05_first2_stable (hreach g hg) op (mb := mb) h1).1
    refine hstep.trans (ih (.step op hg hwf.1) hwf.2 ?_)
    intro p1 p2 e hne
    have := halive (op :: p1) p2 (by rw [e]; rfl) (by simp)
    exact this

/-- **C05 (at most two sides are ever subscribed to one incarnation of a mailbox).**  Along a
    well-formed history from a reachable state, split as `pre ++ post`: if a mailbox row with id
    `mb` exists after every operation of `post` (one incarnation), then every connection that is
    subscribed to `mb` at the split point is bound to a side in `first2` of `mb` AT THE END — a list
    of at most two sides that serves all split points at once. -/
theorem C05_ever_subscribed (hreach : ∀ g : GSys, g.Reach → g.GInv) {g : GSys} (hg : g.Reach)
    (pre post : List Op) (hwf : g.WF (pre ++ post)) (mb : String)
    (halive : ∀ p1 p2, post = p1 ++ p2 → p1 ≠ [] → ((g.run pre).run p1).sys.db.HasId mb)
    {x : Conn} (hx : x ∈ (g.run pre).sys.conns) (hm : x.mailbox = some mb) :
    x.side.getD "" ∈ (g.run (pre ++ post)).sys.db.first2 mb ∧
    ((g.run (pre ++ post)).sys.db.first2 mb).length ≤ 2 := by
  obtain ⟨hw1, hw2⟩ := GSys.WF_append.1 hwf
  have hg1 : (g.run pre).Reach := GSys.reach_run hg pre hw1
  have h1 := C05_subscribers_first2 hreach hg1 x hx mb hm
  rw [run_append]
  exact ⟨(first2_mono_run hreach mb post hg1 hw2 halive).mem h1, Chan.length_first2_le _ _⟩

def NoMsgOut (s : Sys) : Prop := ∀ e ∈ s.out, e.isMsg = false

theorem noMessage_of_noMsg {l : List Event} (h : ∀ e ∈ l, e.isMsg = false) : NoMessage l := by
  intro e he c sd ph bd rx i b heq
  have := h e he
  rw [heq] at this
  cases this

theorem NoMsgOut.of_out {s s' : Sys} (h : NoMsgOut s) (e : s'.out = s.out) : NoMsgOut s' := by
  intro ev hev; rw [e] at hev; exact h ev hev

theorem NoMsgOut.closedC : ClosedC NoMsgOut where
  emit := by
    intro s e he h ev hev
    simp only [emit_out, List.mem_append, List.mem_singleton] at hev
    rcases hev with hev | rfl
    · exact h ev hev
    · exact he
  modUdb := fun _ _ h => h
  commit := by
    intro s h
    unfold Sys.commit
    split
    · exact h
    · intro ev hev
      simp only [List.mem_append, List.mem_singleton] at hev
      rcases hev with hev | rfl
      · exact h ev hev
      · rfl
  ucommit := by
    intro s h
    unfold Sys.ucommit
    split
    · exact h
    · intro ev hev
      simp only [List.mem_append, List.mem_singleton] at hev
      rcases hev with hev | rfl
      · exact h ev hev
      · rfl
  grow := fun _ _ _ h => h
  flag := fun _ _ _ _ h => h
  anyConns := fun _ _ h => h

theorem NoMsgOut.closedDel : ClosedDel NoMsgOut where
  toClosedBase := NoMsgOut.closedC.toClosedBase
  del := fun _ _ _ h => h

/-- the operation is an `add` or an `open` (the only commands that send `message` frames) -/
def Op.isAddOrOpen : Op → Bool
  | .recv _ _ _ (.add _ _) => true
  | .recv _ _ _ (.open_ _) => true
  | _ => false

theorem stepPlain_noMsg {s : Sys} (h : NoMsgOut s) (op : Op) (hop : Op.isAddOrOpen op = false) :
    NoMsgOut (s.stepPlain op) := by
  cases op with
  | connect c =>
    exact NoMsgOut.closedC.toClosedBase.send (s := { s with conns := s.conns ++ [({ id := c } : Conn)] }) h _ _
  | recv c t id cmd =>
    refine onMessage_track NoMsgOut.closedC NoMsgOut.closedC.toClosedBase (fun _ _ h => h) (fun _ h => h)
      c t id cmd ?_ (fun _ _ _ _ _ _ _ _ _ _ h _ => h) (fun _ _ _ _ _ _ _ _ _ _ h _ => h) h
    rintro (⟨ph, bd, rfl⟩ | ⟨m, rfl⟩) <;> simp [Op.isAddOrOpen] at hop
  | drop c => exact h
  | sweep now fault => exact NoMsgOut.closedDel.expire h now fault
  | restart t => exact h
  | crashIn k op => exact h

/-- **`message` frames are sent only by `add` and `open`** (any state, any operation, crashes and
    sweeps included) -/
theorem C05_no_message_unless_add_open (s : Sys) (op : Op) (hop : Op.isAddOrOpen op.core = false) :
    NoMessage (s.step op).out := by
  apply noMessage_of_noMsg
  have h0 : NoMsgOut ({ s with out := [], snaps := [] } : Sys) := by intro e he; cases he
  rcases op.isCrash_cases with hnc | ⟨k, op', rfl⟩
  · rw [step_eq_of_not_crash s hnc]
    rw [Op.core_eq_self hnc] at hop
    exact stepPlain_noMsg h0 op hop
  · intro e he
    exact stepPlain_noMsg h0 op' hop e (step_crash_out_subset s k op' he)

theorem add_accepted {x : Conn} {ph bd : Option Val} (hr : rejectText x (.add ph bd) = none) :
    (∃ app, x.app = some app) ∧ (∃ mb, x.mailbox = some mb) ∧ (∃ p, ph = some p) ∧ ∃ b, bd = some b := by
  obtain ⟨happ, h⟩ := needBind_eq_none hr
  refine ⟨happ, ?_⟩
  cases hm : x.mailbox with
  | none => simp [hm] at h
  | some mb =>
    cases ph with
    | none => simp [hm] at h
    | some p =>
      cases bd with
      | none => simp [hm] at h
      | some b => exact ⟨⟨mb, rfl⟩, ⟨p, rfl⟩, ⟨b, rfl⟩⟩

/-- **C05 (who is sent a message).**  Every `message` frame emitted by any operation (sweeps and
    crashes included) goes to a connection that was subscribed before the operation (live delivery
    by `add`) or to the connection whose `open` is being granted in it (replay). -/
theorem C05_message_recipients {g : GSys} (hI : g.GInv) (op : Op) {c' : Nat} {sd : String} {ph bd : Val}
    {rx : Time} {i : Val} {b : Bool}
    (h : Event.frame c' (.message sd ph bd rx i) b ∈ (g.sys.step op).out) :
    (∃ y ∈ g.sys.conns, y.id = c' ∧ y.listening = true ∧ ∃ mb, y.mailbox = some mb) ∨
    (∃ x' ∈ (g.sys.step op.core).conns, ∃ mb, x'.id = c' ∧ x'.mailbox = some mb ∧
      Granted g.sys op.core x' mb) := by
  -- reduce to the wrapped operation
  have h' : Event.frame c' (.message sd ph bd rx i) b ∈ (g.sys.step op.core).out ∧ op.core.isCrash = false := by
    rcases op.isCrash_cases with hnc | ⟨k, op', rfl⟩
    · rw [Op.core_eq_self hnc]
      exact ⟨h, hnc⟩
    · have h1 := step_crash_out_subset g.sys k op' h
      show _ ∈ (g.sys.step op').out ∧ op'.isCrash = false
      rcases op'.isCrash_cases with hc | ⟨k', op'', rfl⟩
      · rw [step_eq_of_not_crash g.sys hc]; exact ⟨h1, hc⟩
      · cases h1
  obtain ⟨h1, hnc⟩ := h'
  generalize op.core = op0 at h1 hnc ⊢
  have hcore0 : op0.core = op0 := Op.core_eq_self hnc
  by_cases hao : Op.isAddOrOpen op0 = true
  · cases op0 with
    | recv c t id cmd =>
      cases hx : g.sys.findConn c with
      | none => rw [recv_no_conn t id cmd hx] at h1; cases h1
      | some x =>
        cases hr : rejectText x cmd with
        | some text =>
          rw [(C17_validation_error t id hx (rejected_of_rejectText hr)).1] at h1
          exfalso
          split at h1 <;> simp at h1
        | none =>
          cases cmd with
          | add ph' bd' =>
            left
            obtain ⟨⟨app, happ⟩, ⟨mb, hm⟩, ⟨p, rfl⟩, ⟨b', rfl⟩⟩ := add_accepted hr
            rw [step_recv, onMessage_add_eq (s := { g.sys with out := [], snaps := [] }) hI.synced hx happ hm] at h1
            -- of `ack, commit, message to each listener` only the last can be the frame
            simp [Sys.listeners] at h1
            obtain ⟨y, ⟨hy, hl, _, hym⟩, hid, _⟩ := h1
            exact ⟨y, hy, hid, hl, mb, hym⟩
          | open_ m =>
            right
            obtain ⟨⟨app, happ⟩, hnone, mb, rfl⟩ := open_accepted hr
            obtain ⟨k1, k2, k3⟩ := open_step hI.cinv.toPInv hI.synced hx hr happ t id
            by_cases hcl : g.sys.db.Clash app mb
            · rw [(k1 hcl).1] at h1; simp at h1
            · by_cases hlen : ((g.sys.db.openDb app mb (x.side.getD "") t).mbSidesOf mb).length > 2
              · obtain ⟨⟨commits, hc, hout⟩, _⟩ := k2 hcl hlen
                rw [hout] at h1
                exact absurd rfl (noMessage_answer hc (by intro _ _ _ _ _ h; cases h) _ h1 c' sd ph bd rx i b)
              · obtain ⟨⟨commits, hc, hout⟩, hdb, _, _, _, _, hconns⟩ := k3 hcl hlen
                rw [hout] at h1
                simp only [List.mem_cons, List.mem_append, replayFrames, List.mem_map] at h1
                have hc' : c' = c := by
                  rcases h1 with h1 | h1 | ⟨m0, _, h1⟩
                  · cases h1
                  · obtain ⟨w, hw⟩ := hc _ h1; cases hw
                  · cases h1; rfl
                subst hc'
                have hidx : x.id = c' := findConn_id hx
                refine ⟨{ x with mailboxId := some mb, mailbox := some mb, listening := true }, ?_, mb,
                  hidx, rfl, ?_⟩
                · rw [hconns]
                  exact List.mem_map.2 ⟨x, findConn_mem hx, by simp [findConn_id hx]⟩
                · exact ⟨c', t, id, x, app, rfl, hx, hr, happ, hcl, hlen, hdb, rfl, rfl, hidx⟩
          | _ => simp [Op.isAddOrOpen] at hao
    | _ => simp [Op.isAddOrOpen] at hao
  · exfalso
    have := C05_no_message_unless_add_open g.sys op0 (by rw [hcore0]; simpa using hao)
    exact this _ h1 c' sd ph bd rx i b rfl

/-- **C05 (no third party is sent a message).**  With "subscribers are first-two" before the
    operation (`C05_subscribers_first2`), every `message` frame goes to a connection bound to one
    of the first two sides of the mailbox it is subscribed to (before the operation, or — for the
    replay of a granted `open` — after it). -/
theorem C05_message_to_first2 {g : GSys} (hI : g.GInv) (hF : SubFirst2 g.sys) (op : Op) {c' : Nat} {sd : String}
    {ph bd : Val} {rx : Time} {i : Val} {b : Bool}
    (h : Event.frame c' (.message sd ph bd rx i) b ∈ (g.sys.step op).out) :
    ∃ y mb, y.id = c' ∧ y.mailbox = some mb ∧
      ((y ∈ g.sys.conns ∧ y.side.getD "" ∈ g.sys.db.first2 mb) ∨
       (y ∈ (g.sys.step op.core).conns ∧ y.side.getD "" ∈ (g.sys.step op.core).db.first2 mb)) := by
  rcases C05_message_recipients hI op h with ⟨y, hy, hid, _, mb, hm⟩ | ⟨x', hx', mb, hid, hm, hG⟩
  · exact ⟨y, mb, hid, hm, Or.inl ⟨hy, hF y hy mb hm⟩⟩
  · exact ⟨x', mb, hid, hm, Or.inr ⟨hx', (granted_first2 hG).1⟩⟩

/-- what a refused attempt leaves alone -/
structure Keeps (s s' : Sys) (mb : String) : Prop where
  /-- every side row of every mailbox is literally still there -/
  rows : ∀ r ∈ s.db.mbSides, r ∈ s'.db.mbSides
  /-- the first two sides of the mailbox are the same -/
  first2 : s'.db.first2 mb = s.db.first2 mb
  /-- other mailboxes have exactly their side rows -/
  others : ∀ mb', mb' ≠ mb → s'.db.mbSidesOf mb' = s.db.mbSidesOf mb'
  /-- no message is added, removed or changed -/
  messages : s'.db.messages = s.db.messages
  /-- every connection keeps its binding, its handle and its subscription -/
  subs : ∀ y ∈ s.conns, ∃ y' ∈ s'.conns, y'.id = y.id ∧ y'.mailbox = y.mailbox ∧
    y'.listening = y.listening ∧ y'.app = y.app ∧ y'.side = y.side

theorem Third.two_le {d : Chan} {mb side : String} (h : Third d mb side) : 2 ≤ (d.mbSidesOf mb).length := by
  rcases h with ⟨h, _⟩ | h <;> omega

theorem keeps_of_openDb {d d' : Chan} {app mb side : String} {t : Time}
    (h1 : d'.mbSides = (d.openDb app mb side t).mbSides) (hlen : 2 ≤ (d.mbSidesOf mb).length) :
    (∀ r ∈ d.mbSides, r ∈ d'.mbSides) ∧ d'.first2 mb = d.first2 mb ∧
    (∀ mb', mb' ≠ mb → d'.mbSidesOf mb' = d.mbSidesOf mb') := by
  have hof : ∀ mb', d'.mbSidesOf mb' = (d.openDb app mb side t).mbSidesOf mb' := by
    intro mb'; unfold Chan.mbSidesOf; rw [h1]
  refine ⟨?_, ?_, ?_⟩
  · intro r hr
    rw [h1]
    exact (Chan.mem_openDb_mbSides d app mb side t).2 (Or.inl hr)
  · unfold Chan.first2
    rw [hof, Chan.openDb_mbSidesOf, List.take_append_of_le_length hlen]
  · intro mb' hne
    rw [hof, Chan.openDb_mbSidesOf]
    simp [hne]

theorem subs_of_map {cs : List Conn} {c : Nat} {f : Conn → Conn}
    (hf : ∀ y, (f y).id = y.id ∧ (f y).mailbox = y.mailbox ∧ (f y).listening = y.listening ∧
      (f y).app = y.app ∧ (f y).side = y.side) :
    ∀ y ∈ cs, ∃ y' ∈ cs.map (fun y => if y.id = c then f y else y), y'.id = y.id ∧ y'.mailbox = y.mailbox ∧
      y'.listening = y.listening ∧ y'.app = y.app ∧ y'.side = y.side := by
  intro y hy
  refine ⟨if y.id = c then f y else y, List.mem_map.2 ⟨y, hy, rfl⟩, ?_⟩
  split
  · exact hf y
  · exact ⟨rfl, rfl, rfl, rfl, rfl⟩

/-- **C05 (the first two keep what they have) — PARTIAL, finding K-crowded-rejoin.**  Full
    statement (FALSE for the model and the code, `C05_rejoin_counterexample`): "the first two sides
    keep their access".  What holds: a refused `open` removes or alters no side row, no message and
    nobody's subscription, and `first2` of the mailbox is unchanged — the access the first two sides
    HAVE (their live subscriptions, their stored rows and messages) stays; what is lost is their
    ability to subscribe from a NEW connection. -/
theorem C05_keep_partial {g : GSys} (hI : g.GInv) {c : Nat} {x : Conn} {mb app : String}
    (hx : g.sys.findConn c = some x) (hr : rejectText x (.open_ (some mb)) = none)
    (happ : x.app = some app) (hrow : g.sys.db.HasBox app mb)
    (h3 : Third g.sys.db mb (x.side.getD "")) (t : Time) (id : Val) :
    Keeps g.sys (g.sys.step (.recv c t id (.open_ (some mb)))) mb := by
  have hP := hI.cinv.toPInv
  obtain ⟨_, hcr, _⟩ := open_step hP hI.synced hx hr happ t id
  obtain ⟨_, hdb, _, _, _, _, hconns⟩ := hcr (fun hcl => hcl.2 hrow) (h3.crowds app t)
  obtain ⟨k1, k2, k3⟩ := keeps_of_openDb (d := g.sys.db) (d' := (g.sys.step (.recv c t id (.open_ (some mb)))).db)
    (app := app) (mb := mb) (side := x.side.getD "") (t := t) (by rw [hdb]) h3.two_le
  refine ⟨k1, k2, k3, by rw [hdb]; rfl, ?_⟩
  rw [hconns]
  exact subs_of_map (fun y => ⟨rfl, rfl, rfl, rfl, rfl⟩)

/-- the same for a refused handle-less `close` -/
theorem C05_keep_partial_close {g : GSys} (hI : g.GInv) {c : Nat} {x : Conn} {m mood : Option String}
    {mb app : String} (hx : g.sys.findConn c = some x) (hr : rejectText x (.close m mood) = none)
    (happ : x.app = some app) (hnone : x.mailbox = none) (htg : x.closeTarget m = some mb)
    (hrow : g.sys.db.HasBox app mb) (h3 : Third g.sys.db mb (x.side.getD "")) (t : Time) (id : Val) :
    Keeps g.sys (g.sys.step (.recv c t id (.close m mood))) mb := by
  obtain ⟨_, _, hconns, hdb, _⟩ := C05_third_excluded_close hI hx hr happ hnone htg hrow h3 t id
  obtain ⟨k1, k2, k3⟩ := keeps_of_openDb (d := g.sys.db) (d' := (g.sys.step (.recv c t id (.close m mood))).db)
    (app := app) (mb := mb) (side := x.side.getD "") (t := t) (by rw [hdb]) h3.two_le
  refine ⟨k1, k2, k3, by rw [hdb]; rfl, ?_⟩
  rw [hconns]
  intro y hy
  exact ⟨y, hy, rfl, rfl, rfl, rfl, rfl⟩

/-- the same for a refused `claim` -/
theorem C05_keep_partial_claim {g : GSys} (hI : g.GInv) {c : Nat} {x : Conn} {name fresh app : String}
    {row : Nameplate} (hx : g.sys.findConn c = some x) (hr : rejectText x (.claim (some name) fresh) = none)
    (happ : x.app = some app) (hrow : g.sys.db.findNameplate app name = some row)
    (h3 : Third g.sys.db row.mailbox (x.side.getD "")) (t : Time) (id : Val) :
    Keeps g.sys (g.sys.step (.recv c t id (.claim (some name) fresh))) row.mailbox := by
  obtain ⟨_, _, hconns, hre, hcr⟩ := C05_third_excluded_claim hI hx hr happ hrow h3 t id
  have hsubs : ∀ y ∈ g.sys.conns, ∃ y' ∈ (g.sys.step (.recv c t id (.claim (some name) fresh))).conns,
      y'.id = y.id ∧ y'.mailbox = y.mailbox ∧ y'.listening = y.listening ∧ y'.app = y.app ∧ y'.side = y.side := by
    rw [hconns]
    exact subs_of_map (fun y => ⟨rfl, rfl, rfl, rfl, rfl⟩)
  by_cases hu : ∃ r0, g.sys.db.findNpSide row.id (x.side.getD "") = some r0 ∧ r0.claimed = false
  · have hdb := hre hu
    exact ⟨by rw [hdb]; exact fun r hr => hr, by rw [hdb], by rw [hdb]; exact fun _ _ => rfl, by rw [hdb], hsubs⟩
  · obtain ⟨hsd, hmsg, _⟩ := hcr hu
    obtain ⟨k1, k2, k3⟩ := keeps_of_openDb hsd h3.two_le
    exact ⟨k1, k2, k3, hmsg, hsubs⟩

/-- **C05 (what `claimed` tells).**  If a `claim` is answered `claimed mb'`, then afterwards the
    nameplate row (app, name) exists and points at `mb'`, the caller's side is among its at most
    two side rows, and among the at most two side rows of `mb'` (`Chan.ClaimedFacts`). -/
theorem C05_claimed_sides {g : GSys} (hI : g.GInv) {c : Nat} {x : Conn} {name fresh app : String}
    (hx : g.sys.findConn c = some x) (hr : rejectText x (.claim (some name) fresh) = none)
    (happ : x.app = some app) (t : Time) (id : Val) {c' : Nat} {mb' : String} {b : Bool}
    (hfr : Event.frame c' (.claimed mb') b ∈ (g.sys.step (.recv c t id (.claim (some name) fresh))).out) :
    (g.sys.step (.recv c t id (.claim (some name) fresh))).db.ClaimedFacts app name (x.side.getD "") mb' := by
  obtain ⟨s1, r, hcl, ⟨commits, hc, hout⟩, hdb, _, _⟩ := claim_step hI.cinv.toPInv hI.synced hx hr happ t id
  rw [hout] at hfr
  simp only [List.mem_cons, List.mem_append, List.not_mem_nil, or_false] at hfr
  rcases hfr with hfr | hfr | hfr
  · cases hfr
  · obtain ⟨w, hw⟩ := hc _ hfr; cases hw
  · cases r with
    | ok mb =>
      simp only [claimAnswer, Event.frame.injEq, Frame.claimed.injEq] at hfr
      obtain ⟨_, rfl, _⟩ := hfr
      rw [hdb]
      exact claimNameplate_ok hcl
    | crowded => simp [claimAnswer] at hfr
    | reclaimed => simp [claimAnswer] at hfr
    | integrity => simp [claimAnswer] at hfr

/-- **C05 (side rows of a nameplate are never deleted while the nameplate row lives).**  Over
    EVERY operation: a nameplate row that is there afterwards and whose id is below the old counter
    was there before, and its list of sides has only grown at the end. -/
theorem C05_np_sides_only_grow {g : GSys} (hI : g.GInv) (op : Op) :
    Chan.NpGrow g.sys.db (g.sys.step op).db :=
  step_NpGrow g.sys hI.synced.1 hI.cinv.npIds op

/-- operation `op` answers `claimed` to side `σ` for the nameplate row with id `n` -/
def ClaimedNow (g : GSys) (op : Op) (n : Nat) (σ : String) : Prop :=
  ∃ c t id name fresh x app mb b, op = .recv c t id (.claim (some name) fresh) ∧
    g.sys.findConn c = some x ∧ x.app = some app ∧ x.side.getD "" = σ ∧
    Event.frame c (.claimed mb) b ∈ (g.sys.step op).out ∧
    ∃ row ∈ (g.sys.step op).db.nameplates, row.id = n ∧ row.app = app ∧ row.name = name

/-- some operation of the history answers `claimed` to side `σ` for nameplate row id `n` -/
def ClaimedIn : GSys → List Op → Nat → String → Prop
  | _, [], _, _ => False
  | g, op :: rest, n, σ => ClaimedNow g op n σ ∨ ClaimedIn (g.step op) rest n σ

theorem claim_valid_of_claimed {s : Sys} {c c' : Nat} {x : Conn} {name fresh mb : String} {t : Time} {id : Val}
    {b : Bool} (hx : s.findConn c = some x)
    (hfr : Event.frame c' (.claimed mb) b ∈ (s.step (.recv c t id (.claim (some name) fresh))).out) :
    rejectText x (.claim (some name) fresh) = none := by
  cases hrj : rejectText x (.claim (some name) fresh) with
  | none => rfl
  | some text =>
    rw [(C17_validation_error t id hx (rejected_of_rejectText hrj)).1] at hfr
    simp at hfr

theorem facts_of_claimedFacts {d : Chan} (hP : d.PInv) {app name σ mb : String}
    (hcf : d.ClaimedFacts app name σ mb) {row : Nameplate} (hrow : row ∈ d.nameplates) {n : Nat}
    (hid : row.id = n) (hra : row.app = app) (hrn : row.name = name) :
    (∃ row ∈ d.nameplates, row.id = n) ∧ σ ∈ d.npSideNames n ∧ (d.npSideNames n).length ≤ 2 := by
  obtain ⟨n0, hn0, ha, hnm, _, hside, hlen, _⟩ := hcf
  obtain rfl : n0 = row := hP.np_eq_of_key hn0 hrow (ha.trans hra.symm) (hnm.trans hrn.symm)
  subst hid
  exact ⟨⟨n0, hrow, rfl⟩, hside, by simpa [Chan.npSideNames] using hlen⟩

theorem claimedNow_facts {g : GSys} (hI : g.GInv) {op : Op} (hI' : (g.step op).GInv) {n : Nat} {σ : String}
    (h : ClaimedNow g op n σ) :
    (∃ row ∈ (g.sys.step op).db.nameplates, row.id = n) ∧ σ ∈ (g.sys.step op).db.npSideNames n ∧
    ((g.sys.step op).db.npSideNames n).length ≤ 2 := by
  obtain ⟨c, t, id, name, fresh, x, app, mb, b, rfl, hx, happ, rfl, hfr, row, hrow, hid, hra, hrn⟩ := h
  exact facts_of_claimedFacts hI'.cinv.toPInv
    (C05_claimed_sides hI hx (claim_valid_of_claimed hx hfr) happ t id hfr) hrow hid hra hrn

/-- The induction behind `C05_nameplate_two` (and `C05_nameplate_two_all` of Props/C05b.lean).
    `Now g op n σ` is a notion of "step `op` answers `claimed` to σ for row id `n`" that guarantees
    `facts`; `In` collects it along a history.  Invariant, for the set `S` of sides answered so far:
    `n` is below the id counter, `S` lies inside the side list of row `n` while that row exists,
    and `S` lies in some list of at most two.  It is kept because ids are not re-used and the side
    list of a living row only grows at the end (`NpGrow`); an answer makes the row's own list,
    which then has at most two elements, the witness. -/
theorem two_sides_along {Now : GSys → Op → Nat → String → Prop} {In : GSys → List Op → Nat → String → Prop}
    (hreach : ∀ g : GSys, g.Reach → g.GInv) (n : Nat) (hnil : ∀ g σ, ¬ In g [] n σ)
    (hcons : ∀ g op rest σ, In g (op :: rest) n σ → Now g op n σ ∨ In (g.step op) rest n σ)
    (facts : ∀ {g : GSys} {op : Op} {σ : String}, g.GInv → (g.step op).GInv → Now g op n σ →
      (∃ row ∈ (g.sys.step op).db.nameplates, row.id = n) ∧ σ ∈ (g.sys.step op).db.npSideNames n ∧
      ((g.sys.step op).db.npSideNames n).length ≤ 2)
    {g : GSys} (hg : g.Reach) (ops : List Op) (hwf : g.WF ops) :
    ∃ l : List String, l.length ≤ 2 ∧ ∀ σ, In g ops n σ → σ ∈ l := by
  suffices aux : ∀ (ops : List Op) {g : GSys}, g.Reach → g.WF ops → ∀ (S : String → Prop),
      (∀ σ, S σ → n < g.sys.db.nextNp) →
      (∀ row ∈ g.sys.db.nameplates, row.id = n → ∀ σ, S σ → σ ∈ g.sys.db.npSideNames n) →
      (∃ l : List String, l.length ≤ 2 ∧ ∀ σ, S σ → σ ∈ l) →
      ∃ l : List String, l.length ≤ 2 ∧ ∀ σ, (S σ ∨ In g ops n σ) → σ ∈ l by
    obtain ⟨l, hl, h⟩ := aux ops hg hwf (fun _ => False) (fun _ h => h.elim) (fun _ _ _ _ h => h.elim)
      ⟨[], by simp, fun _ h => h.elim⟩
    exact ⟨l, hl, fun σ hσ => h σ (Or.inr hσ)⟩
  intro ops
  induction ops with
  | nil =>
    intro g _ _ S _ _ ⟨l, hl, hS⟩
    exact ⟨l, hl, fun σ h => h.elim (hS σ) (fun h => (hnil g σ h).elim)⟩
  | cons op rest ih =>
    intro g hg hwf S hlt hin hl
    have hI := hreach g hg
    have hg' : (g.step op).Reach := .step op hg hwf.1
    have hI' := hreach _ hg'
    have hgrow : Chan.NpGrow g.sys.db (g.sys.step op).db := C05_np_sides_only_grow hI op
    have hb : ∀ row ∈ (g.sys.step op).db.nameplates, row.id = n → ∀ σ, (S σ ∨ Now g op n σ) →
        σ ∈ (g.sys.step op).db.npSideNames n := by
      rintro row hrow rfl σ (hσ | hσ)
      · exact (hgrow.sides row hrow (hlt σ hσ)).mem (hin row (hgrow.rows row hrow (hlt σ hσ)) rfl σ hσ)
      · exact (facts hI hI' hσ).2.1
    obtain ⟨l', hl', hS'⟩ := ih (g := g.step op) hg' hwf.2 (fun σ => S σ ∨ Now g op n σ)
      (by
        rintro σ (hσ | hσ)
        · exact Nat.lt_of_lt_of_le (hlt σ hσ) hgrow.next
        · obtain ⟨⟨row, hrow, rfl⟩, _, _⟩ := facts hI hI' hσ
          exact hI'.cinv.bounded.1 row hrow)
      hb
      (by
        by_cases hex : ∃ σ, Now g op n σ
        · obtain ⟨σ0, hσ0⟩ := hex
          obtain ⟨⟨row, hrow, hid⟩, _, hlen⟩ := facts hI hI' hσ0
          exact ⟨_, hlen, hb row hrow hid⟩
        · obtain ⟨l, hl1, hl2⟩ := hl
          exact ⟨l, hl1, fun σ hσ => hσ.elim (hl2 σ) (fun h => absurd ⟨σ, h⟩ hex)⟩)
    refine ⟨l', hl', fun σ hσ => hS' σ ?_⟩
    rcases hσ with hσ | hσ
    · exact Or.inl (Or.inl hσ)
    · exact (hcons g op rest σ hσ).elim (fun h => Or.inl (Or.inr h)) Or.inr

/-- **C05 (at most two sides are told the mailbox of one nameplate incarnation).**  Along every
    well-formed history from a reachable state, for every nameplate row id `n` (ids are never
    re-used, so an id IS an incarnation) the sides that are answered `claimed` for `n` all lie in one
    list of at most two sides. -/
theorem C05_nameplate_two (hreach : ∀ g : GSys, g.Reach → g.GInv) {g : GSys} (hg : g.Reach)
    (ops : List Op) (hwf : g.WF ops) (n : Nat) :
    ∃ l : List String, l.length ≤ 2 ∧ ∀ σ, ClaimedIn g ops n σ → σ ∈ l :=
  two_sides_along hreach n (fun _ _ h => h) (fun _ _ _ _ h => h) (fun hI hI' => claimedNow_facts hI hI') hg ops hwf

theorem C05_subscribers_first2_reach {g : GSys} (hg : g.Reach) : SubFirst2 g.sys :=
  C05_subscribers_first2 (fun _ h => h.ginv) hg

theorem C05_nameplate_two_reach {g : GSys} (hg : g.Reach) (ops : List Op) (hwf : g.WF ops) (n : Nat) :
    ∃ l : List String, l.length ≤ 2 ∧ ∀ σ, ClaimedIn g ops n σ → σ ∈ l :=
  C05_nameplate_two (fun _ h => h.ginv) hg ops hwf n

theorem C05_ever_subscribed_reach {g : GSys} (hg : g.Reach)
    (pre post : List Op) (hwf : g.WF (pre ++ post)) (mb : String)
    (halive : ∀ p1 p2, post = p1 ++ p2 → p1 ≠ [] → ((g.run pre).run p1).sys.db.HasId mb)
    {x : Conn} (hx : x ∈ (g.run pre).sys.conns) (hm : x.mailbox = some mb) :
    x.side.getD "" ∈ (g.run (pre ++ post)).sys.db.first2 mb ∧
    ((g.run (pre ++ post)).sys.db.first2 mb).length ≤ 2 :=
  C05_ever_subscribed (fun _ h => h.ginv) hg pre post hwf mb halive hx hm

namespace Ex

instance (d : Chan) : Decidable d.IdsBounded := by unfold Chan.IdsBounded; infer_instance
instance (d : Chan) (mb side : String) : Decidable (Third d mb side) := by unfold Third; infer_instance

/-- sides s1 and s2 share mailbox "m" (nameplate "7" still points at it, held by s1) and are both
    subscribed; connection 3 is bound to a third side s3 and has done nothing yet -/
def db0 : Chan :=
  { nameplates := [⟨1, "app", "7", "m"⟩],
    npSides := [⟨1, true, "s1", 90⟩],
    mailboxes := [⟨"app", "m", 100, true⟩],
    mbSides := [⟨"m", true, "s1", 100, none⟩, ⟨"m", true, "s2", 100, none⟩],
    messages := [⟨"app", "m", "s1", .str "pake", .str "b", 100, .str "i"⟩],
    nextNp := 2 }

def conn1 : Conn :=
  { id := 1, app := some "app", side := some "s1", mailbox := some "m", mailboxId := some "m", listening := true }
def conn2 : Conn :=
  { id := 2, app := some "app", side := some "s2", mailbox := some "m", mailboxId := some "m", listening := true }
def conn3 : Conn := { id := 3, app := some "app", side := some "s3" }

def sys0 : Sys := { db := db0, disk := db0, conns := [conn1, conn2, conn3] }
def g0 : GSys := ⟨sys0, 100, ["m"]⟩

theorem g0_ginv : g0.GInv where
  cinv := ⟨by constructor <;> decide, by decide⟩
  conn := by constructor <;> decide
  synced := ⟨rfl, rfl⟩
  used := by decide
  usedConn := by decide
  clockMb := by decide

/-- the hypotheses of `C05_third_excluded_open` / `C05_keep_partial` hold for connection 3 -/
example : g0.sys.findConn 3 = some conn3 ∧ rejectText conn3 (.open_ (some "m")) = none ∧
    conn3.app = some "app" ∧ g0.sys.db.HasBox "app" "m" ∧ Third g0.sys.db "m" (conn3.side.getD "") := by
  decide

/-- ... those of `C05_third_excluded_close` ... -/
example : rejectText conn3 (.close (some "m") none) = none ∧ conn3.mailbox = none ∧
    conn3.closeTarget (some "m") = some "m" := by decide

/-- ... and those of `C05_third_excluded_claim` -/
example : rejectText conn3 (.claim (some "7") "f") = none ∧
    g0.sys.db.findNameplate "app" "7" = some ⟨1, "app", "7", "m"⟩ ∧
    Third g0.sys.db "m" (conn3.side.getD "") := by decide

/-- evaluated: the three refusals -/
example :
    (g0.sys.step (.recv 3 200 (.int 1) (.open_ (some "m")))).out =
      [.frame 3 (.ack (.int 1)) true, .commit .chan, .frame 3 (.error "crowded") true] ∧
    (g0.sys.step (.recv 3 200 (.int 1) (.close (some "m") none))).out =
      [.frame 3 (.ack (.int 1)) true, .commit .chan, .frame 3 (.error "crowded") true] ∧
    (g0.sys.step (.recv 3 200 (.int 1) (.claim (some "7") "f"))).out =
      [.frame 3 (.ack (.int 1)) true, .commit .chan, .commit .chan, .frame 3 (.error "crowded") true] := by
  decide +kernel

/-- `C05_message_recipients` / `C05_message_to_first2`: "subscribers are first-two" holds in `g0`,
    and an `add` by connection 1 does send `message` frames — to the subscribers 1 and 2 only -/
theorem g0_subFirst2 : SubFirst2 g0.sys := by
  intro y hy mb hm
  simp only [g0, sys0, List.mem_cons, List.not_mem_nil, or_false] at hy
  rcases hy with rfl | rfl | rfl
  · cases hm; decide
  · cases hm; decide
  · cases hm

example : (g0.sys.step (.recv 1 200 (.int 1) (.add (some (.str "p")) (some (.str "b"))))).out =
    [.frame 1 (.ack (.int 1)) true, .commit .chan,
     .frame 1 (.message "s1" (.str "p") (.str "b") 200 (.int 1)) true,
     .frame 2 (.message "s1" (.str "p") (.str "b") 200 (.int 1)) true] := by
  decide +kernel

/-- a history: s1 and s2 open "m"; a third side s3 tries (refused); then s1 comes back on a NEW
    connection (4) -/
def hist : List Op :=
  [ .connect 1, .recv 1 10 .null (.bind (some "app") (some "s1") none none), .recv 1 11 .null (.open_ (some "m")),
    .connect 2, .recv 2 12 .null (.bind (some "app") (some "s2") none none), .recv 2 13 .null (.open_ (some "m")),
    .connect 3, .recv 3 14 .null (.bind (some "app") (some "s3") none none), .recv 3 15 .null (.open_ (some "m")),
    .connect 4, .recv 4 16 .null (.bind (some "app") (some "s1") none none) ]

def gR : GSys := (GSys.init {} 0).run hist

theorem gR_reach : gR.Reach := GSys.reach_of_wfB {} 0 hist (by decide +kernel)

/-- **K-crowded-rejoin.**  In the REACHABLE state `gR` side s1 is one of the first two sides of
    mailbox "m" and connection 1 of s1 is still subscribed; nevertheless an `open` of "m" on s1's new
    connection 4 is answered `crowded`: the first two do NOT keep the ability to (re)subscribe. -/
theorem C05_rejoin_counterexample :
    gR.sys.db.first2 "m" = ["s1", "s2"] ∧
    (gR.sys.findConn 4).map (fun y => (y.app, y.side, y.mailbox)) = some (some "app", some "s1", none) ∧
    (gR.sys.findConn 1).map (fun y => (y.side, y.mailbox, y.listening)) = some (some "s1", some "m", true) ∧
    (gR.sys.step (.recv 4 17 (.int 9) (.open_ (some "m")))).out =
      [.frame 4 (.ack (.int 9)) true, .commit .chan, .frame 4 (.error "crowded") true] := by
  decide +kernel

/-- `C05_subscribers_first2` is not vacuous: in `gR` two connections are subscribed, both first-two -/
example : SubFirst2 gR.sys := C05_subscribers_first2_reach gR_reach
example : (gR.sys.conns.filter (fun y => y.mailbox.isSome)).map (fun y => y.side) = [some "s1", some "s2"] := by
  decide +kernel

/-- `C05_ever_subscribed`: in `hist` the row of "m" exists from the third operation on -/
example : ∀ p1 p2, hist.drop 3 = p1 ++ p2 → p1 ≠ [] →
    (((GSys.init {} 0).run (hist.take 3)).run p1).sys.db.HasId "m" := by
  intro p1 p2 h hne
  have hk : ∀ k, k < 9 → 1 ≤ k →
      (((GSys.init {} 0).run (hist.take 3)).run ((hist.drop 3).take k)).sys.db.HasId "m" := by
    decide +kernel
  have h1 : p1 = (hist.drop 3).take p1.length := by rw [h]; simp
  have h2 : p1.length + p2.length = 8 := by
    have := congrArg List.length h
    simp only [List.length_append] at this
    rw [← this]; rfl
  have h3 : 1 ≤ p1.length := by
    cases p1 with
    | nil => exact absurd rfl hne
    | cons a l => simp
  rw [h1]
  exact hk p1.length (by omega) h3

/-- a history in which nameplate row 1 is claimed by two sides (both answered `claimed`) and then
    by a third (refused) -/
def histN : List Op :=
  [ .connect 1, .recv 1 10 .null (.bind (some "app") (some "s1") none none), .recv 1 11 .null (.claim (some "7") "mb"),
    .connect 2, .recv 2 12 .null (.bind (some "app") (some "s2") none none), .recv 2 13 .null (.claim (some "7") "f2"),
    .connect 3, .recv 3 14 .null (.bind (some "app") (some "s3") none none), .recv 3 15 .null (.claim (some "7") "f3") ]

example : (GSys.init {} 0).WF histN := GSys.wfB_sound (by decide +kernel)

/-- `ClaimedIn` is inhabited: the third operation answers `claimed` to s1 for row 1 ... -/
example : ClaimedIn (GSys.init {} 0) histN 1 "s1" := by
  refine Or.inr (Or.inr (Or.inl ⟨1, 11, .null, "7", "mb", { id := 1, app := some "app", side := some "s1" },
    "app", "mb", true, rfl, by decide +kernel, rfl, rfl, by decide +kernel, ⟨1, "app", "7", "mb"⟩,
    by decide +kernel, rfl, rfl, rfl⟩))

/-- ... and the frames of the whole history: two `claimed`, then `crowded` -/
example : ((Sys.run { rebooted := 0 } histN).2.filterMap
    (fun e => match e with | .frame c (.claimed m) _ => some (c, m) | .frame c (.error t) _ => some (c, t) | _ => none)) =
    [(1, "mb"), (2, "mb"), (3, "crowded")] := by
  decide +kernel

end Ex

end C05
end Wormhole

#print axioms Wormhole.C05.C05_third_excluded_open
#print axioms Wormhole.C05.C05_third_excluded_close
#print axioms Wormhole.C05.C05_third_excluded_claim
#print axioms Wormhole.C05.handle_origin
#print axioms Wormhole.C05.C05_sides_only_grow
#print axioms Wormhole.C05.C05_side_rows_kept
#print axioms Wormhole.C05.C05_crowded_stays
#print axioms Wormhole.C05.C05_first2_stable
#print axioms Wormhole.C05.C05_open_grants_first2
#print axioms Wormhole.C05.C05_subscribers_first2_step
#print axioms Wormhole.C05.C05_subscribers_first2
#print axioms Wormhole.C05.C05_ever_subscribed
#print axioms Wormhole.C05.C05_keep_partial
#print axioms Wormhole.C05.C05_keep_partial_close
#print axioms Wormhole.C05.C05_keep_partial_claim
#print axioms Wormhole.C05.C05_claimed_sides
#print axioms Wormhole.C05.C05_np_sides_only_grow
#print axioms Wormhole.C05.C05_nameplate_two
#print axioms Wormhole.C05.C05_subscribers_first2_reach
#print axioms Wormhole.C05.C05_nameplate_two_reach
#print axioms Wormhole.C05.Ex.C05_rejoin_counterexample
#print axioms Wormhole.C05.C05_no_message_unless_add_open
#print axioms Wormhole.C05.C05_message_recipients
#print axioms Wormhole.C05.C05_message_to_first2
#print axioms Wormhole.C05.C05_ever_subscribed_reach
