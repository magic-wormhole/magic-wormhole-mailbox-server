/-
  C16 — blurred usage timestamps never reveal exact client times (pure part): the arithmetic of
  `B * (t / B)`, what `Sys.blurTicks` / `Sys.blurTime` compute, `sortTimes l` as a sorted permutation of `l`
  whose head is `l.min?`, and the three writing primitives: the usage database afterwards is the one
  before with exactly one row appended, whose `started` / `time` column is `s.blurTime` of the smallest
  `added` / of the receive time.

  The tick rate only enters through `Generated.ticksPerSecond`; the only fact about it that is used
  is `0 < Generated.ticksPerSecond` (`ticksPerSecond_pos`, by `decide` on the name, re-checked when
  the translator regenerates the constant).
-/
import Wormhole.Core

namespace Wormhole
namespace C16

theorem blur_floor (B t : Int) (hB : 0 < B) :
    B ∣ B * (t / B) ∧ B * (t / B) ≤ t ∧ t < B * (t / B) + B :=
  ⟨Int.dvd_mul_right B (t / B), Int.mul_ediv_self_le (Int.ne_of_gt hB), Int.lt_mul_ediv_self_add hB⟩

/-- The blurred value is the *only* multiple of `B` in the window `(t - B, t]`: the three facts of
    `blur_floor` determine it. -/
theorem blur_floor_unique (B t x : Int) (hB : 0 < B) (hd : B ∣ x) (hle : x ≤ t) (hlt : t < x + B) :
    x = B * (t / B) := by
  obtain ⟨q, rfl⟩ := hd
  rw [Int.mul_comm] at hle hlt
  rw [(Int.ediv_eq_iff_of_pos hB).2 ⟨hle, hlt⟩]

/-- Generic in the interval `b ≥ 1` (seconds) and in the tick rate `q ≥ 1` (ticks per second):
    DESIGN.md `C16_blur_floor`. -/
theorem blur_floor_rate (b q : Nat) (hb : 1 ≤ b) (hq : 1 ≤ q) (t : Int) :
    let B : Int := (b : Int) * (q : Int)
    0 < B ∧ B ∣ B * (t / B) ∧ B * (t / B) ≤ t ∧ t < B * (t / B) + B := by
  intro B
  have hB : 0 < B := Int.mul_pos (by omega) (by omega)
  exact ⟨hB, blur_floor B t hB⟩

example : (20 * 8 : Int) ∣ (20 * 8) * (1234567 / (20 * 8)) ∧ (20 * 8 : Int) * (1234567 / (20 * 8)) = 1234560 := by
  decide
example : (7 : Int) * (-3 / 7) = -7 := by decide   -- floor, not truncation, for negative times

theorem ticksPerSecond_pos : 0 < Generated.ticksPerSecond := by decide

/-- Blurring is in effect exactly when `--blur-usage b` was given with `b ≥ 1`, and then the
    interval is `b` seconds expressed in ticks. -/
theorem blurTicks_eq_some_iff (s : Sys) (B : Int) :
    s.blurTicks = some B ↔
      ∃ b : Nat, s.cfg.blur = some b ∧ 1 ≤ b ∧ B = (b : Int) * (Generated.ticksPerSecond : Int) := by
  unfold Sys.blurTicks
  cases h : s.cfg.blur with
  | none => simp
  | some b =>
    by_cases hb : b = 0
    · subst hb; simp
    · simp only [hb, if_false, Option.some.injEq]
      constructor
      · intro e; exact ⟨b, rfl, by omega, e.symm⟩
      · rintro ⟨b', e, _, rfl⟩; cases e; rfl

theorem blurTicks_eq_none_iff (s : Sys) :
    s.blurTicks = none ↔ s.cfg.blur = none ∨ s.cfg.blur = some 0 := by
  unfold Sys.blurTicks
  cases h : s.cfg.blur with
  | none => simp
  | some b => by_cases hb : b = 0 <;> simp [hb]

/-- `C16_blurTime`: what `blurTime` computes, for every state and every time.  With a blur interval
    in effect the stored time is a multiple of the interval, not after the true time and less than
    one interval before it; without, the time is stored as is. -/
theorem C16_blurTime (s : Sys) (t : Time) :
    (∀ B, s.blurTicks = some B →
        (∃ b : Nat, s.cfg.blur = some b ∧ 1 ≤ b ∧ B = (b : Int) * (Generated.ticksPerSecond : Int)) ∧
        0 < B ∧ s.blurTime t = B * (t / B) ∧
        B ∣ s.blurTime t ∧ s.blurTime t ≤ t ∧ t < s.blurTime t + B) ∧
    (s.blurTicks = none → s.blurTime t = t) := by
  constructor
  · intro B hB
    have hcfg := (blurTicks_eq_some_iff s B).1 hB
    obtain ⟨b, hb, hb1, rfl⟩ := hcfg
    have hq : 1 ≤ Generated.ticksPerSecond := ticksPerSecond_pos
    have hr := blur_floor_rate b Generated.ticksPerSecond hb1 hq t
    have hbt : s.blurTime t
        = ((b : Int) * (Generated.ticksPerSecond : Int)) * (t / ((b : Int) * (Generated.ticksPerSecond : Int))) := by
      unfold Sys.blurTime; rw [hB]
    refine ⟨⟨b, hb, hb1, rfl⟩, hr.1, hbt, ?_⟩
    rw [hbt]; exact hr.2
  · intro hN
    unfold Sys.blurTime; rw [hN]

/-- The same in terms of the configuration only (no mention of `blurTicks`). -/
theorem C16_blurTime_cfg (s : Sys) (b : Nat) (hb : s.cfg.blur = some b) (hb1 : 1 ≤ b) (t : Time) :
    let B : Int := (b : Int) * (Generated.ticksPerSecond : Int)
    0 < B ∧ B ∣ s.blurTime t ∧ s.blurTime t ≤ t ∧ t < s.blurTime t + B := by
  intro B
  have hB : s.blurTicks = some B := (blurTicks_eq_some_iff s B).2 ⟨b, hb, hb1, rfl⟩
  have h := (C16_blurTime s t).1 B hB
  exact ⟨h.2.1, h.2.2.2⟩

theorem blurTime_of_no_blur (s : Sys) (h : s.cfg.blur = none ∨ s.cfg.blur = some 0) (t : Time) :
    s.blurTime t = t :=
  (C16_blurTime s t).2 ((blurTicks_eq_none_iff s).2 h)

-- non-vacuity: an interval that does not divide a minute, a time that is not a multiple
example : ({ cfg := { blur := some 7 } } : Sys).blurTicks = some (7 * (Generated.ticksPerSecond : Int)) := by
  decide
example : ({ cfg := { blur := some 7 } } : Sys).blurTime 1000 = 952 := by decide
example : ({ cfg := { blur := some 0 } } : Sys).blurTime 1001 = 1001 := by decide
example : ({ cfg := { blur := none } } : Sys).blurTime 1001 = 1001 := by decide

theorem sortTimes_perm (l : List Time) : (sortTimes l).Perm l :=
  List.mergeSort_perm l _

theorem mem_sortTimes {l : List Time} {x : Time} : x ∈ sortTimes l ↔ x ∈ l :=
  (sortTimes_perm l).mem_iff

@[simp] theorem length_sortTimes (l : List Time) : (sortTimes l).length = l.length :=
  (sortTimes_perm l).length_eq

theorem sortTimes_sorted (l : List Time) : (sortTimes l).Pairwise (· ≤ ·) := by
  have h := List.pairwise_mergeSort (le := fun a b : Time => decide (a ≤ b))
    (by intro a b c; simp only [decide_eq_true_eq]; exact Int.le_trans)
    (by intro a b; simp only [Bool.or_eq_true, decide_eq_true_eq]; exact Int.le_total a b) l
  unfold sortTimes
  exact h.imp (by intro a b; simp)

theorem sortTimes_eq_nil_iff (l : List Time) : sortTimes l = [] ↔ l = [] := by
  rw [← List.length_eq_zero_iff, length_sortTimes, List.length_eq_zero_iff]

theorem sortTimes_of_sorted {l : List Time} (h : l.Pairwise (· ≤ ·)) : sortTimes l = l :=
  List.mergeSort_of_pairwise (h.imp (by intro a b; simp))

/-- `m` is a least element of `l`. -/
def IsMin (l : List Time) (m : Time) : Prop := m ∈ l ∧ ∀ x ∈ l, m ≤ x

theorem isMin_iff_min? (l : List Time) (m : Time) : IsMin l m ↔ l.min? = some m := by
  unfold IsMin
  rw [List.min?_eq_some_iff]

theorem IsMin.unique {l : List Time} {a b : Time} (ha : IsMin l a) (hb : IsMin l b) : a = b := by
  exact Int.le_antisymm (ha.2 b hb.1) (hb.2 a ha.1)

theorem isMin_of_perm_sorted {l : List Time} {a : Time} {r : List Time} (hp : (a :: r).Perm l)
    (hs : (a :: r).Pairwise (· ≤ ·)) : IsMin l a := by
  refine ⟨hp.mem_iff.1 List.mem_cons_self, fun x hx => ?_⟩
  rcases List.mem_cons.1 (hp.mem_iff.2 hx) with rfl | hx'
  · exact Int.le_refl _
  · exact (List.pairwise_cons.1 hs).1 x hx'

theorem sortTimes_head_isMin {l : List Time} {t0 : Time} {rest : List Time}
    (h : sortTimes l = t0 :: rest) : IsMin l t0 :=
  isMin_of_perm_sorted (h ▸ sortTimes_perm l) (h ▸ sortTimes_sorted l)

theorem sortTimes_second_isMin {l : List Time} {t0 t1 : Time} {rest : List Time}
    (h : sortTimes l = t0 :: t1 :: rest) : IsMin (l.erase t0) t1 := by
  have hp : (t0 :: t1 :: rest).Perm l := h ▸ sortTimes_perm l
  have hs : (t0 :: t1 :: rest).Pairwise (· ≤ ·) := h ▸ sortTimes_sorted l
  exact isMin_of_perm_sorted (by simpa using hp.erase t0) (List.pairwise_cons.1 hs).2

theorem sortTimes_head? (l : List Time) : (sortTimes l).head? = l.min? := by
  cases h : sortTimes l with
  | nil =>
    have := (sortTimes_eq_nil_iff l).1 h
    subst this; rfl
  | cons t0 rest =>
    exact ((isMin_iff_min? l t0).1 (sortTimes_head_isMin h)).symm

example : sortTimes [5, 3, 9, 3] = [3, 3, 5, 9] := by simp [sortTimes, List.mergeSort]
example : IsMin [5, 3, 9, 3] 3 := by unfold IsMin; decide
example : IsMin ([5, 3, 9, 3].erase 3) 3 := by unfold IsMin; decide

theorem summarizeNameplate_eq_none_iff (blur : Time → Time) (added : List Time) (dt : Time) (pruned : Bool) :
    summarizeNameplate blur added dt pruned = none ↔ added = [] := by
  unfold summarizeNameplate
  cases h : sortTimes added with
  | nil => simpa using (sortTimes_eq_nil_iff added).1 h
  | cons t0 rest =>
    have : added ≠ [] := fun e => by rw [e] at h; simp [sortTimes] at h
    simpa using this

theorem summarizeNameplate_started {blur : Time → Time} {added : List Time} {dt : Time} {pruned : Bool}
    {u : Summary} (h : summarizeNameplate blur added dt pruned = some u) :
    ∃ m, added.min? = some m ∧ IsMin added m ∧ u.started = blur m := by
  unfold summarizeNameplate at h
  cases hs : sortTimes added with
  | nil => rw [hs] at h; simp at h
  | cons t0 rest =>
    rw [hs] at h
    simp only [Option.some.injEq] at h
    have hm := sortTimes_head_isMin hs
    exact ⟨t0, (isMin_iff_min? _ _).1 hm, hm, by rw [← h]⟩

theorem summarizeMailbox_started (blur : Time → Time) (sides : List MbSide) (dt : Time) (pruned : Bool) :
    (summarizeMailbox blur sides dt pruned).started = blur ((sides.map (·.added)).min?.getD dt) := by
  unfold summarizeMailbox
  simp only
  rw [← sortTimes_head?]
  cases sortTimes (sides.map (·.added)) <;> rfl

/-- `_summarize_nameplate_and_store`: with no side row nothing is written (`IndexError`);
    otherwise the usage db is the old one with exactly one `nameplates` row appended whose
    `started` is `s.blurTime` of the smallest `added`; nothing else in the state changes. -/
theorem C16_storeNameplateUsage (s : Sys) (app : String) (sides : List NpSide) (t : Time) (pruned : Bool) :
    (sides = [] ∧ s.storeNameplateUsage app sides t pruned = (s, false)) ∨
    (∃ m u, (sides.map (·.added)).min? = some m ∧ IsMin (sides.map (·.added)) m ∧
        summarizeNameplate s.blurTime (sides.map (·.added)) t pruned = some u ∧
        u.started = s.blurTime m ∧
        s.storeNameplateUsage app sides t pruned =
          ({ s with udb := { s.udb with nameplates := s.udb.nameplates ++
              [⟨app, s.blurTime m, u.waiting, u.total, u.result⟩] } }, true)) := by
  unfold Sys.storeNameplateUsage
  cases h : summarizeNameplate s.blurTime (sides.map (·.added)) t pruned with
  | none =>
    left
    have := (summarizeNameplate_eq_none_iff _ _ _ _).1 h
    exact ⟨by simpa using this, rfl⟩
  | some u =>
    right
    obtain ⟨m, hm, hmin, hst⟩ := summarizeNameplate_started h
    exact ⟨m, u, hm, hmin, rfl, hst, by simp [Sys.modUdb, hst]⟩

/-- `_summarize_mailbox_and_store`: exactly one `mailboxes` row appended, `started` =
    `s.blurTime` of the smallest `added` (of the deletion time if there is no side row);
    nothing else in the state changes. -/
theorem C16_storeMailboxUsage (s : Sys) (app : String) (forNp : Bool) (sides : List MbSide) (t : Time)
    (pruned : Bool) :
    let u := summarizeMailbox s.blurTime sides t pruned
    u.started = s.blurTime ((sides.map (·.added)).min?.getD t) ∧
    s.storeMailboxUsage app forNp sides t pruned =
      { s with udb := { s.udb with mailboxes := s.udb.mailboxes ++
          [⟨app, forNp, s.blurTime ((sides.map (·.added)).min?.getD t), u.total, u.waiting, u.result⟩] } } := by
  intro u
  have hst := summarizeMailbox_started s.blurTime sides t pruned
  refine ⟨hst, ?_⟩
  unfold Sys.storeMailboxUsage
  simp only [Sys.modUdb]
  rw [hst]

theorem ucommit_udb (s : Sys) : s.ucommit.udb = s.udb := by
  unfold Sys.ucommit; split <;> rfl

theorem ucommit_udisk (s : Sys) : s.ucommit.udisk = s.udb := by
  unfold Sys.ucommit; split
  · next h => exact h.symm
  · rfl

/-- `log_client_version`: with a usage db exactly one `client_versions` row is appended, whose
    `connect_time` is `s.blurTime` of the receive time, and it is committed; without, nothing. -/
theorem C16_logClientVersion (s : Sys) (app side : String) (t : Time) (impl version : Option String) :
    (s.cfg.usage = true →
      (s.logClientVersion app side t impl version).udb =
        { s.udb with clients := s.udb.clients ++ [⟨app, side, s.blurTime t, impl, version⟩] } ∧
      (s.logClientVersion app side t impl version).udisk =
        (s.logClientVersion app side t impl version).udb) ∧
    (s.cfg.usage = false → s.logClientVersion app side t impl version = s) := by
  unfold Sys.logClientVersion
  constructor
  · intro h
    simp only [h, if_true]
    rw [ucommit_udb, ucommit_udisk]
    exact ⟨rfl, rfl⟩
  · intro h; simp [h]

/-- The three paths together with the arithmetic: with `--blur-usage b`, `b ≥ 1`, the time column
    of the row written by each path is a multiple of the interval `B = b * ticksPerSecond`, is not
    after the true time (smallest `added` / receive time) and is less than `B` before it. -/
theorem C16_paths_blurred (s : Sys) (b : Nat) (hb : s.cfg.blur = some b) (hb1 : 1 ≤ b) :
    let B : Int := (b : Int) * (Generated.ticksPerSecond : Int)
    let ok (stored true_ : Time) : Prop := B ∣ stored ∧ stored ≤ true_ ∧ true_ < stored + B
    0 < B ∧
    -- nameplate record
    (∀ app sides t pruned s', s.storeNameplateUsage app sides t pruned = (s', true) →
      ∃ m row, IsMin (sides.map (·.added)) m ∧ s'.udb.nameplates = s.udb.nameplates ++ [row] ∧
        ok row.started m) ∧
    -- mailbox record
    (∀ app forNp sides t pruned,
      ∃ row, (s.storeMailboxUsage app forNp sides t pruned).udb.mailboxes = s.udb.mailboxes ++ [row] ∧
        ok row.started ((sides.map (·.added)).min?.getD t)) ∧
    -- client-version record
    (∀ app side t impl version, s.cfg.usage = true →
      ∃ row, (s.logClientVersion app side t impl version).udb.clients = s.udb.clients ++ [row] ∧
        ok row.time t) := by
  intro B ok
  have hblur : ∀ t, ok (s.blurTime t) t := fun t => (C16_blurTime_cfg s b hb hb1 t).2
  refine ⟨(C16_blurTime_cfg s b hb hb1 0).1, ?_, ?_, ?_⟩
  · intro app sides t pruned s' h
    rcases C16_storeNameplateUsage s app sides t pruned with ⟨_, h0⟩ | ⟨m, u, _, hmin, _, _, h1⟩
    · rw [h0] at h; cases h
    · rw [h1] at h
      cases h
      exact ⟨m, _, hmin, rfl, hblur m⟩
  · intro app forNp sides t pruned
    have h := (C16_storeMailboxUsage s app forNp sides t pruned).2
    rw [h]
    exact ⟨_, rfl, hblur _⟩
  · intro app side t impl version hu
    have h := ((C16_logClientVersion s app side t impl version).1 hu).1
    rw [h]
    exact ⟨_, rfl, hblur t⟩

-- non-vacuity: a state with blur 7 s and a usage db; two sides added at 1001 and 1000
example :
    let s : Sys := { cfg := { blur := some 7, usage := true } }
    (s.storeNameplateUsage "a" [⟨1, true, "x", 1001⟩, ⟨1, false, "y", 1000⟩] 2000 false).1.udb.nameplates
      = [⟨"a", 952, some 1, 1000, "happy"⟩] := by
  simp [Sys.storeNameplateUsage, summarizeNameplate, sortTimes, List.mergeSort, Sys.modUdb, Sys.blurTime,
    Sys.blurTicks, Generated.ticksPerSecond]
example :
    let s : Sys := { cfg := { blur := some 7, usage := true } }
    (s.logClientVersion "a" "x" 1001 none none).udb.clients = [⟨"a", "x", 952, none, none⟩] := by
  decide

#print axioms blur_floor
#print axioms blur_floor_unique
#print axioms blur_floor_rate
#print axioms C16_blurTime
#print axioms sortTimes_head_isMin
#print axioms sortTimes_second_isMin
#print axioms sortTimes_head?
#print axioms C16_storeNameplateUsage
#print axioms C16_storeMailboxUsage
#print axioms C16_logClientVersion
#print axioms C16_paths_blurred

end C16
end Wormhole
