/-
  Theorems about the decoder (`Wormhole/Decode.lean`): the classification of a received JSON object
  into the model's `Cmd`, and the welcome map.  `decodeCmd` depends only on the look-ups of the keys in
  `keysRead o` (`decode_congr`), hence extra keys are ignored and the order of distinct keys does not
  matter; its EXACT domain is `InDomain` (`decodeCmd_isSome_iff`), which contains every well-typed
  object; an `add` carrying a "side" key is the same `Cmd.add` (with `C02_unmodified`: the broadcast
  carries the BINDER's side); `connect` sends `renderWelcome (mkWelcome motd adv err)`, also after any
  history; which keys the welcome map has, and that its rendering is pure ASCII (`ensure_ascii=True`).
-/
import Wormhole.Decode
import Wormhole.Props.C02
import Wormhole.Props.C17
import Wormhole.Inv.UsageTrack

namespace Wormhole

/-! ## look-ups -/

theorem jget_append (o₁ o₂ : JObj) (k : String) :
    jget (o₁ ++ o₂) k = match jget o₂ k with | some w => some w | none => jget o₁ k := by
  induction o₁ with
  | nil => simp only [List.nil_append, jget]; cases jget o₂ k <;> rfl
  | cons p rest ih =>
    obtain ⟨k', v⟩ := p
    simp only [List.cons_append, jget, ih]
    cases jget o₂ k <;> rfl

theorem jget_singleton (k' : String) (v : JVal) (k : String) :
    jget [(k', v)] k = if k' = k then some v else none := rfl

/-- `msg[k] = v` then `msg.get(k')` -/
theorem jget_set (o : JObj) (k : String) (v : JVal) (k' : String) :
    jget (o.set k v) k' = if k = k' then some v else jget o k' := by
  unfold JObj.set
  rw [jget_append, jget_singleton]
  by_cases h : k = k' <;> simp [h]

theorem jget_insert (o₁ o₂ : JObj) {k k' : String} (v : JVal) (h : k ≠ k') :
    jget (o₁ ++ (k, v) :: o₂) k' = jget (o₁ ++ o₂) k' := by
  rw [jget_append, jget_append]
  simp only [jget, if_neg h]
  cases jget o₂ k' <;> rfl

theorem jget_erase (o : JObj) {k k' : String} (h : k ≠ k') :
    jget (o.filter (fun p => ¬ p.1 = k)) k' = jget o k' := by
  induction o with
  | nil => rfl
  | cons p rest ih =>
    obtain ⟨k₀, v⟩ := p
    rw [List.filter_cons]
    by_cases hk : k₀ = k
    · subst hk
      rw [if_neg (by simp), ih]
      simp only [jget, if_neg h]
      cases jget rest k' <;> rfl
    · rw [if_pos (by simpa using hk)]
      simp only [jget, ih]

theorem jget_mem {o : JObj} {k : String} {v : JVal} (h : jget o k = some v) : (k, v) ∈ o := by
  induction o with
  | nil => cases h
  | cons p rest ih =>
    obtain ⟨k', v'⟩ := p
    simp only [jget] at h
    cases hr : jget rest k with
    | some w =>
      rw [hr] at h
      simp only [Option.some.injEq] at h
      subst h
      exact List.mem_cons_of_mem _ (ih hr)
    | none =>
      rw [hr] at h
      by_cases e : k' = k
      · simp only [if_pos e, Option.some.injEq] at h
        subst h; subst e
        exact List.mem_cons_self
      · simp only [if_neg e] at h
        cases h

/-- with distinct keys (what `json.dumps` of a dict produces) a look-up finds the pair of the key -/
theorem jget_eq_some_iff {o : JObj} (hd : o.Pairwise (fun a b => a.1 ≠ b.1)) (k : String) (v : JVal) :
    jget o k = some v ↔ (k, v) ∈ o := by
  refine ⟨jget_mem, ?_⟩
  induction o with
  | nil => intro h; cases h
  | cons p rest ih =>
    obtain ⟨k', v'⟩ := p
    rw [List.pairwise_cons] at hd
    intro h
    simp only [jget]
    rcases List.mem_cons.1 h with e | h'
    · cases e
      cases hr : jget rest k with
      | none => simp
      | some w => exact absurd rfl (hd.1 (k, w) (jget_mem hr))
    · rw [ih hd.2 h']

theorem jget_perm {o o' : JObj} (hp : o.Perm o') (hd : o.Pairwise (fun a b => a.1 ≠ b.1)) (k : String) :
    jget o k = jget o' k := by
  have hd' : o'.Pairwise (fun a b => a.1 ≠ b.1) := (hp.pairwise_iff (fun h => Ne.symm h)).1 hd
  apply Option.ext
  intro v
  rw [jget_eq_some_iff hd, jget_eq_some_iff hd']
  exact hp.mem_iff

/-! ## the decoder reads only the keys of `keysRead` -/

theorem type_mem_keysOf (g : String → Option JVal) : "type" ∈ keysOf g := by
  unfold keysOf; split <;> simp

theorem keysOf_congr {g g' : String → Option JVal} (h : g "type" = g' "type") : keysOf g = keysOf g' := by
  unfold keysOf; rw [h]

theorem decodeOf_congr {g g' : String → Option JVal} (h : ∀ k ∈ keysOf g, g k = g' k) (p : Nat)
    (d : List Nat) (f : String) : decodeOf g p d f = decodeOf g' p d f := by
  unfold keysOf at h
  unfold decodeOf
  cases hty : g "type" with
  | none =>
    rw [hty] at h
    rw [← h "type" (by simp), hty]
  | some ty =>
    -- `h` becomes one equation per key that the handler of this type reads
    rw [hty] at h
    cases hm : mtypeOf ty <;> simp only [hm, List.forall_mem_cons] at h <;>
      simp only [← h.1, hty, hm, h.2]

/-- **the decoder depends only on the look-ups of the keys it reads** -/
theorem decode_congr {o o' : JObj} (h : ∀ k ∈ keysRead o, jget o k = jget o' k) (p : Nat) (d : List Nat)
    (f : String) : decodeCmd o p d f = decodeCmd o' p d f ∧ keysRead o = keysRead o' :=
  ⟨decodeOf_congr h p d f, keysOf_congr (h "type" (type_mem_keysOf _))⟩

theorem decodeId_congr {o o' : JObj} (h : jget o "id" = jget o' "id") : decodeId o = decodeId o' := by
  unfold decodeId; rw [h]

/-- **extra keys are ignored.**  For every object `o₁ ++ o₂`, every key `k` that the handler of the
    object's type does not read, and every value `v`: the object with the pair `k: v` inserted at any
    position decodes to the same command; so does `msg[k] = v` (`JObj.set`, which also overwrites) and
    the object with every pair of `k` deleted.  Unless `k` is "id" the id is the same too. -/
theorem decode_ignores_extra_keys (o₁ o₂ : JObj) (k : String) (v : JVal) (hk : k ∉ keysRead (o₁ ++ o₂))
    (p : Nat) (d : List Nat) (f : String) :
    decodeCmd (o₁ ++ (k, v) :: o₂) p d f = decodeCmd (o₁ ++ o₂) p d f ∧
    (k ≠ "id" → decodeId (o₁ ++ (k, v) :: o₂) = decodeId (o₁ ++ o₂)) := by
  refine ⟨((decode_congr (o := o₁ ++ o₂) (o' := o₁ ++ (k, v) :: o₂) ?_ p d f).1).symm, ?_⟩
  · intro k' hk'
    exact (jget_insert o₁ o₂ v (fun e => hk (by rw [e]; exact hk'))).symm
  · intro hid
    exact decodeId_congr (jget_insert o₁ o₂ v hid)

theorem decode_ignores_set (o : JObj) (k : String) (v : JVal) (hk : k ∉ keysRead o)
    (p : Nat) (d : List Nat) (f : String) :
    decodeCmd (o.set k v) p d f = decodeCmd o p d f ∧ (k ≠ "id" → decodeId (o.set k v) = decodeId o) := by
  have := decode_ignores_extra_keys o [] k v (by simpa using hk) p d f
  simpa [JObj.set] using this

theorem decode_ignores_erase (o : JObj) (k : String) (hk : k ∉ keysRead o) (p : Nat) (d : List Nat) (f : String) :
    decodeCmd (o.filter (fun q => ¬ q.1 = k)) p d f = decodeCmd o p d f ∧
    (k ≠ "id" → decodeId (o.filter (fun q => ¬ q.1 = k)) = decodeId o) := by
  refine ⟨((decode_congr (o := o) (o' := o.filter (fun q => ¬ q.1 = k)) ?_ p d f).1).symm, ?_⟩
  · intro k' hk'
    exact (jget_erase o (fun e => hk (by rw [e]; exact hk'))).symm
  · intro hid
    exact decodeId_congr (jget_erase o hid)

/-- **the order of the keys does not matter** (objects with distinct keys, as every `json.dumps` of a
    dict is) -/
theorem decode_order_independent {o o' : JObj} (hp : o.Perm o') (hd : o.Pairwise (fun a b => a.1 ≠ b.1))
    (p : Nat) (d : List Nat) (f : String) :
    decodeCmd o p d f = decodeCmd o' p d f ∧ decodeId o = decodeId o' :=
  ⟨(decode_congr (fun k _ => jget_perm hp hd k) p d f).1, decodeId_congr (jget_perm hp hd "id")⟩

/-- non-vacuity: an `add` with an extra array-valued key and a spoofed side, in two orders -/
example :
    let o : JObj := [("type", .str "add"), ("phase", .str "pake"), ("body", .str "00"), ("id", .num 7)]
    "zzz" ∉ keysRead o ∧ "side" ∉ keysRead o ∧
    decodeCmd (("zzz", .other) :: o) 0 [] "" = some (.add (some (.str "pake")) (some (.str "00"))) ∧
    decodeCmd (o.set "side" (.str "spoofed")) 0 [] "" = some (.add (some (.str "pake")) (some (.str "00"))) ∧
    decodeCmd o.reverse 0 [] "" = some (.add (some (.str "pake")) (some (.str "00"))) ∧
    decodeId o.reverse = .int 7 := by decide
/-- … whereas a key that IS read matters (the statement is not vacuous in `hk`), and a repeated key is
    resolved like `json.loads` does (last occurrence) -/
example : decodeCmd [("type", .str "add"), ("phase", .str "p")] 0 [] "" = some (.add (some (.str "p")) none) ∧
    decodeCmd [("type", .str "add"), ("phase", .str "p"), ("body", .null)] 0 [] "" =
      some (.add (some (.str "p")) (some .null)) ∧
    decodeCmd [("type", .str "add"), ("type", .str "list")] 0 [] "" = some .list := by decide

/-! ## the exact domain -/

theorem fieldVal_isSome (x : Option JVal) : (fieldVal x).isSome = absentOr JVal.isScalar x := by
  cases x with
  | none => rfl
  | some v => cases v <;> rfl

theorem fieldId_isSome (x : Option JVal) : (fieldId x).isSome = absentOr JVal.isScalar x := by
  cases x with
  | none => rfl
  | some v => cases v <;> rfl

theorem fieldStr_isSome (x : Option JVal) : (fieldStr x).isSome = absentOr JVal.isStr x := by
  cases x with
  | none => rfl
  | some v => cases v <;> rfl

theorem fieldMood_isSome (x : Option JVal) : (fieldMood x).isSome = absentOr JVal.isStrOrNull x := by
  cases x with
  | none => rfl
  | some v => cases v <;> rfl

theorem fieldCv_isSome (x : Option JVal) : (fieldCv x).isSome = absentOr JVal.isCv x := by
  cases x with
  | none => rfl
  | some v =>
    cases v with
    | pair a b => cases a <;> cases b <;> rfl
    | _ => rfl

/-- **the exact domain of the decoder**: `decodeCmd` answers on `o` iff `InDomain o` (spelled out in
    Decode.lean; the random choices play no role) -/
theorem decodeCmd_isSome_iff (o : JObj) (p : Nat) (d : List Nat) (f : String) :
    (decodeCmd o p d f).isSome = true ↔ InDomain o := by
  unfold decodeCmd decodeOf InDomain
  cases jget o "type" with
  | none => simp
  | some ty =>
    simp only []
    rw [← fieldId_isSome]
    cases hid : fieldId (jget o "id") with
    | none => simp
    | some i =>
      simp only [Option.isSome_some, true_and]
      cases mtypeOf ty <;> simp only []
      · rw [← fieldVal_isSome]; simp
      · rw [← fieldStr_isSome, ← fieldStr_isSome, ← fieldCv_isSome]
        cases fieldStr (jget o "appid") <;> cases fieldStr (jget o "side") <;>
          cases fieldCv (jget o "client_version") <;> simp
      · simp
      · simp
      · rw [← fieldStr_isSome]; simp
      · rw [← fieldStr_isSome]; simp
      · rw [← fieldStr_isSome]; simp
      · rw [← fieldVal_isSome, ← fieldVal_isSome]
        cases fieldVal (jget o "phase") <;> cases fieldVal (jget o "body") <;> simp [and_assoc]
      · rw [← fieldStr_isSome, ← fieldMood_isSome]
        cases fieldStr (jget o "mailbox") <;> cases fieldMood (jget o "mood") <;> simp
      · simp

theorem decodeCmd_eq_none_iff (o : JObj) (p : Nat) (d : List Nat) (f : String) :
    decodeCmd o p d f = none ↔ ¬ InDomain o := by
  rw [← decodeCmd_isSome_iff o p d f]
  cases decodeCmd o p d f <;> simp

/-- the typing discipline of the protocol: identifier fields are strings, scalar fields are null, a string
    or an integer, `mood` is null or a string, `client_version` is indexable with null / string items -/
structure WellTyped (o : JObj) : Prop where
  ident : ∀ k ∈ ["appid", "side", "nameplate", "mailbox"], ∀ v, jget o k = some v → v.isStr = true
  scalar : ∀ k ∈ ["id", "ping", "phase", "body"], ∀ v, jget o k = some v → v.isScalar = true
  mood : ∀ v, jget o "mood" = some v → v.isStrOrNull = true
  cv : ∀ v, jget o "client_version" = some v → v.isCv = true
  /-- the integers among the stored scalars are signed 64-bit integers (what SQLite can hold; K-int64-overflow) -/
  int64 : ∀ k ∈ ["id", "phase", "body"], ∀ v, jget o k = some v → v.fitsInt64 = true

theorem absentOr_of {p : JVal → Bool} {x : Option JVal} (h : ∀ v, x = some v → p v = true) :
    absentOr p x = true := by
  cases x with
  | none => rfl
  | some v => exact h v rfl

theorem WellTyped.inDomain {o : JObj} (h : WellTyped o) : InDomain o := by
  unfold InDomain
  split
  · trivial
  · refine ⟨absentOr_of (h.scalar "id" (by simp)), ?_⟩
    split
    · exact absentOr_of (h.scalar "ping" (by simp))
    · exact ⟨absentOr_of (h.ident "appid" (by simp)), absentOr_of (h.ident "side" (by simp)), absentOr_of h.cv⟩
    · exact absentOr_of (h.ident "nameplate" (by simp))
    · exact absentOr_of (h.ident "nameplate" (by simp))
    · exact absentOr_of (h.ident "mailbox" (by simp))
    · exact ⟨absentOr_of (h.scalar "phase" (by simp)), absentOr_of (h.scalar "body" (by simp)),
        absentOr_of (h.int64 "phase" (by simp)), absentOr_of (h.int64 "body" (by simp)), absentOr_of (h.int64 "id" (by simp))⟩
    · exact ⟨absentOr_of (h.ident "mailbox" (by simp)), absentOr_of h.mood⟩
    · trivial

/-- **the decoder is total on the protocol's domain**: whatever the "type" (a known string, an unknown
    string, not a string at all, or missing), whatever other keys there are -/
theorem decode_total_on_domain {o : JObj} (h : WellTyped o) (p : Nat) (d : List Nat) (f : String) :
    ∃ cmd, decodeCmd o p d f = some cmd :=
  Option.isSome_iff_exists.1 ((decodeCmd_isSome_iff o p d f).2 h.inDomain)

/-- non-vacuity: a well-typed `bind` with nested junk under an unread key; and the refused shapes -/
example : WellTyped [("type", .str "bind"), ("appid", .str "a"), ("side", .str "s"),
    ("client_version", .pair (.str "python") .null), ("junk", .other)] := by
  refine ⟨?_, ?_, ?_, ?_, ?_⟩ <;> decide
/-- an `add` whose id is 2^63 is outside the domain (the code raises OverflowError: K-int64-overflow); 2^63 - 1 is inside -/
example : decodeCmd [("type", .str "add"), ("phase", .str "p"), ("body", .str "b"), ("id", .num 9223372036854775808)] 0 [] "" = none ∧
    decodeCmd [("type", .str "add"), ("phase", .str "p"), ("body", .str "b"), ("id", .num 9223372036854775807)] 0 [] "" =
      some (.add (some (.str "p")) (some (.str "b"))) := by decide
example : decodeCmd [("type", .str "bind"), ("appid", .str "a"), ("side", .str "s"),
    ("client_version", .pair (.str "python") .null), ("junk", .other)] 0 [] "" =
      some (.bind (some "a") (some "s") (some "python") none) := by decide
example : decodeCmd [("type", .str "ping"), ("ping", .bool true)] 0 [] "" = none ∧
    decodeCmd [("type", .str "claim"), ("nameplate", .num 4)] 0 [] "" = none ∧
    decodeCmd [("type", .str "claim"), ("nameplate", .null)] 0 [] "" = none ∧
    decodeCmd [("type", .str "close"), ("mood", .num 1)] 0 [] "" = none ∧
    decodeCmd [("type", .str "list"), ("id", .other)] 0 [] "" = none ∧
    decodeCmd [("type", .str "bind"), ("client_version", .null)] 0 [] "" = none ∧
    decodeCmd [("nameplate", .num 4), ("id", .other)] 0 [] "" = some .noType ∧
    decodeCmd [("type", .num 4)] 0 [] "" = some .unknown ∧
    decodeCmd [("type", .str "PING")] 0 [] "" = some .unknown := by decide

/-! ## C17: a spoofed side -/

/-- **C17 (a `side` key inside `add` is ignored).**  For every object whose type is "add" and every
    value `v`: setting `"side": v` changes neither the decoded command nor the id.  Hence
    (`C02_unmodified`) for every state satisfying the global invariant, if the object with the spoofed
    side decodes to an `add` with phase and body and the adding connection `c` is bound to `(a, σ)` and
    holds the handle of `m`, every `message` frame of the step carries side `σ` -- the side `c` BOUND
    to -- and phase, body, id exactly as in the object. -/
theorem C17_spoofed_side_ignored (o : JObj) (v : JVal) (hty : jget o "type" = some (.str "add"))
    (p : Nat) (d : List Nat) (f : String) :
    decodeCmd (o.set "side" v) p d f = decodeCmd o p d f ∧ decodeId (o.set "side" v) = decodeId o ∧
    ∀ {g : GSys}, g.GInv → ∀ {c : Nat} {x : Conn} {a σ m : String} (t : Time) {ph bd : Val},
      decodeCmd (o.set "side" v) p d f = some (.add (some ph) (some bd)) →
      g.sys.findConn c = some x → x.app = some a → x.side = some σ → x.mailbox = some m →
      ∀ {c' : Nat} {sd : String} {ph' bd' : Val} {rx : Time} {id' : Val} {b : Bool},
        Event.frame c' (.message sd ph' bd' rx id') b ∈
          (g.step (.recv c t (decodeId (o.set "side" v)) (.add (some ph) (some bd)))).sys.out →
        sd = σ ∧ ph' = ph ∧ bd' = bd ∧ rx = t ∧ id' = decodeId o ∧ c' ∈ g.sys.listeners a m := by
  have hk : "side" ∉ keysRead o := by
    unfold keysRead keysOf
    rw [hty]
    decide
  obtain ⟨h1, h2⟩ := decode_ignores_set o "side" v hk p d f
  have h2 := h2 (by decide)
  refine ⟨h1, h2, ?_⟩
  intro g hI c x a σ m t ph bd _ hx ha hσ hm c' sd ph' bd' rx id' b he
  obtain ⟨e1, e2, e3, e4, e5, _, e7⟩ := C02_unmodified hI t _ ph bd hx ha hσ hm he
  exact ⟨e1, e2, e3, e4, e5.trans h2, e7⟩

/-- non-vacuity: the `add` the generator's "spoofed side" profile sends -/
example : jget [("type", .str "add"), ("phase", .str "pake"), ("body", .str "00")] "type" = some (.str "add") ∧
    decodeCmd (JObj.set [("type", .str "add"), ("phase", .str "pake"), ("body", .str "00")] "side" (.str "spoofed"))
      0 [] "" = some (.add (some (.str "pake")) (some (.str "00"))) := by decide

/-! ## the welcome map -/

theorem truthy_eq_some {x : Option String} {s : String} : truthy x = some s ↔ x = some s ∧ s ≠ "" := by
  cases x <;> grind [truthy]

theorem mem_optItem (key : String) (o : Option String) {k v : String} :
    (k, v) ∈ (match o with | some m => [(key, m)] | none => []) ↔ k = key ∧ o = some v := by
  cases o <;> simp [eq_comm]

theorem mem_mkWelcome {motd adv err : Option String} {k v : String} :
    (k, v) ∈ mkWelcome motd adv err ↔
      (k = "motd" ∧ motd = some v) ∨ (k = "current_cli_version" ∧ adv = some v ∧ v ≠ "") ∨
      (k = "error" ∧ err = some v ∧ v ≠ "") := by
  unfold mkWelcome
  rw [List.mem_append, List.mem_append, or_assoc]
  -- `exact`, not `rw`: the `match` of `mem_optItem` is equal to those of `mkWelcome` only up to unfolding
  exact or_congr (mem_optItem _ motd)
    (or_congr ((mem_optItem _ _).trans (and_congr_right fun _ => truthy_eq_some))
      ((mem_optItem _ _).trans (and_congr_right fun _ => truthy_eq_some)))

/-- `motd` is a key of the welcome map iff `--motd` was given (even empty), with that text -/
theorem mkWelcome_motd (motd adv err : Option String) (v : String) :
    ("motd", v) ∈ mkWelcome motd adv err ↔ motd = some v := by
  rw [mem_mkWelcome]; simp

theorem mkWelcome_motd_key (motd adv err : Option String) :
    "motd" ∈ (mkWelcome motd adv err).map (·.1) ↔ motd.isSome = true := by
  simp only [List.mem_map, Prod.exists, exists_and_right, exists_eq_right, mkWelcome_motd]
  cases motd <;> simp

/-- `current_cli_version` iff `--advertise-version` was given and is not empty -/
theorem mkWelcome_version (motd adv err : Option String) (v : String) :
    ("current_cli_version", v) ∈ mkWelcome motd adv err ↔ adv = some v ∧ v ≠ "" := by
  rw [mem_mkWelcome]; simp

/-- `error` iff `--signal-error` was given and is not empty -/
theorem mkWelcome_error (motd adv err : Option String) (v : String) :
    ("error", v) ∈ mkWelcome motd adv err ↔ err = some v ∧ v ≠ "" := by
  rw [mem_mkWelcome]; simp

/-- no other key, and no key twice -/
theorem mkWelcome_keys (motd adv err : Option String) :
    (∀ p ∈ mkWelcome motd adv err, p.1 = "motd" ∨ p.1 = "current_cli_version" ∨ p.1 = "error") ∧
    (mkWelcome motd adv err).Pairwise (fun a b => a.1 ≠ b.1) := by
  constructor
  · rintro ⟨k, v⟩ h
    rcases mem_mkWelcome.1 h with h | h | h
    · exact Or.inl h.1
    · exact Or.inr (Or.inl h.1)
    · exact Or.inr (Or.inr h.1)
  · unfold mkWelcome
    cases motd <;> cases truthy adv <;> cases truthy err <;> simp

/-- **C17 (welcome, configured)**: on a server whose configuration was made from the options
    `--motd`, `--advertise-version`, `--signal-error` (`mkCfg`), `connect` emits exactly one frame: the
    welcome carrying `json.dumps` of the map `make_server` builds from them. -/
theorem C17_welcome_configured (s : Sys) (c : Nat) {al us : Bool} {blur : Option Nat}
    {motd adv err : Option String} (hcfg : s.cfg = mkCfg al us blur motd adv err) :
    (s.step (.connect c)).out = [.frame c (.welcome (renderWelcome (mkWelcome motd adv err))) s.synced] := by
  rw [(C17_welcome s c).1, hcfg]
  rfl

/-- the same after any history (crashes and restarts included) of a server started with these options -/
theorem C17_welcome_configured_run (al us : Bool) (blur : Option Nat) (motd adv err : Option String)
    (rb : Time) (ops : List Op) (c : Nat) :
    (((GSys.init (mkCfg al us blur motd adv err) rb).run ops).sys.step (.connect c)).out =
      [.frame c (.welcome (renderWelcome (mkWelcome motd adv err)))
        ((GSys.init (mkCfg al us blur motd adv err) rb).run ops).sys.synced] := by
  apply C17_welcome_configured
  generalize hg : GSys.init (mkCfg al us blur motd adv err) rb = g
  have hc : g.sys.cfg = mkCfg al us blur motd adv err := by rw [← hg]; rfl
  clear hg
  induction ops generalizing g with
  | nil => exact hc
  | cons op rest ih => exact ih (g.step op) ((Sys.step_cfg _ op).trans hc)

/-! ### the rendering is ASCII (`ensure_ascii=True`) -/

theorem hexDigitLower_ascii : ∀ n, n < 16 → (hexDigitLower n).toNat < 128 := by decide

theorem uEscape_ascii (n : Nat) : ∀ c ∈ uEscape n, c.toNat < 128 := by
  have hd (m : Nat) : (hexDigitLower (m % 16)).toNat < 128 := hexDigitLower_ascii _ (Nat.mod_lt _ (by decide))
  simp only [uEscape, List.forall_mem_cons]
  exact ⟨by decide, by decide, hd _, hd _, hd _, hd _, nofun⟩

theorem forall_mem_ite {α : Type _} {P : α → Prop} {c : Prop} [Decidable c] {a b : List α}
    (ha : c → ∀ x ∈ a, P x) (hb : ¬ c → ∀ x ∈ b, P x) : ∀ x ∈ (if c then a else b), P x := by
  split
  · exact ha ‹_›
  · exact hb ‹_›

theorem jsonEscapeChar_ascii (c : Char) : ∀ x ∈ jsonEscapeChar c, x.toNat < 128 := by
  unfold jsonEscapeChar
  -- the seven two-character escapes
  iterate 7 refine forall_mem_ite (fun _ => by decide) fun _ => ?_
  -- printable ASCII as is
  refine forall_mem_ite (fun h x hx => ?_) fun _ => ?_
  · rw [List.mem_singleton.1 hx]; omega
  -- `\uXXXX`, or a surrogate pair of them
  exact forall_mem_ite (fun _ => uEscape_ascii _) fun _ =>
    List.forall_mem_append.2 ⟨uEscape_ascii _, uEscape_ascii _⟩

theorem jsonString_ascii (s : String) : ∀ x ∈ jsonString s, x.toNat < 128 := by
  simp only [jsonString, List.forall_mem_cons, List.forall_mem_append, List.mem_flatMap]
  exact ⟨by decide, fun x ⟨c, _, h⟩ => jsonEscapeChar_ascii c x h, by decide⟩

theorem jsonItems_ascii : ∀ (l : List (String × String)), ∀ x ∈ jsonItems l, x.toNat < 128
  | [] => by simp [jsonItems]
  | [(k, v)] => by
    simp only [jsonItems, List.forall_mem_append]
    exact ⟨⟨jsonString_ascii k, by decide⟩, jsonString_ascii v⟩
  | (k, v) :: p :: rest => by
    simp only [jsonItems, List.forall_mem_append]
    exact ⟨⟨⟨⟨jsonString_ascii k, by decide⟩, jsonString_ascii v⟩, by decide⟩, jsonItems_ascii (p :: rest)⟩

/-- `ensure_ascii`: the rendering is pure ASCII whatever the options contain -/
theorem renderWelcome_ascii (d : List (String × String)) : ∀ x ∈ (renderWelcome d).toList, x.toNat < 128 := by
  rw [renderWelcome, String.toList_ofList]
  simp only [renderWelcomeChars, List.forall_mem_cons, List.forall_mem_append]
  exact ⟨by decide, jsonItems_ascii _, by decide⟩
/-- non-vacuity, and the rendering on the options the C17 profile `general` uses (non-ASCII motd) -/
example : renderWelcome (mkWelcome (some "mötd") (some "1.2.3") (some "go away")) =
    "{\"current_cli_version\": \"1.2.3\", \"error\": \"go away\", \"motd\": \"m\\u00f6td\"}" := by
  rw [renderWelcome, ← String.toList_inj, String.toList_ofList]; decide +kernel
example : renderWelcome (mkWelcome none (some "") none) = "{}" := by
  rw [renderWelcome, ← String.toList_inj, String.toList_ofList]; decide +kernel
/-- quote, backslash, newline, DEL, a control character and a character outside the BMP -/
example : renderWelcome (mkWelcome (some "a\"b\\c\nd\x7f\x01😀") none none) =
    "{\"motd\": \"a\\\"b\\\\c\\nd\\u007f\\u0001\\ud83d\\ude00\"}" := by
  rw [renderWelcome, ← String.toList_inj, String.toList_ofList]; decide +kernel
example : ((GSys.init (mkCfg true false none (some "hello") none none) 0).sys.step (.connect 1)).out =
    [.frame 1 (.welcome (renderWelcome (mkWelcome (some "hello") none none))) true] :=
  C17_welcome_configured _ 1 rfl

end Wormhole

#print axioms Wormhole.decode_congr
#print axioms Wormhole.decode_ignores_extra_keys
#print axioms Wormhole.decode_ignores_set
#print axioms Wormhole.decode_ignores_erase
#print axioms Wormhole.decode_order_independent
#print axioms Wormhole.decodeCmd_isSome_iff
#print axioms Wormhole.decodeCmd_eq_none_iff
#print axioms Wormhole.decode_total_on_domain
#print axioms Wormhole.C17_spoofed_side_ignored
#print axioms Wormhole.mkWelcome_motd
#print axioms Wormhole.mkWelcome_motd_key
#print axioms Wormhole.mkWelcome_version
#print axioms Wormhole.mkWelcome_error
#print axioms Wormhole.mkWelcome_keys
#print axioms Wormhole.renderWelcome_ascii
#print axioms Wormhole.C17_welcome_configured
#print axioms Wormhole.C17_welcome_configured_run
