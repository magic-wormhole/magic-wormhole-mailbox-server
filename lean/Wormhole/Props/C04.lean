/-
  C04 — `findAvailable claimed pick draws` (model of `_find_available_nameplate_id`), pure part: for
  every `claimed : List String` (numeric or not, with duplicates, in any order), every `pick` (the
  outcome of `random.choice`) and every `draws` (the outcomes of `random.randrange`).
  What an answer is (`C04_findAvailable_some`, `C04_findAvailable_valid`), when there is none
  (`C04_exhausted`), that only membership in `claimed` matters (`C04_congr`), and the converses (the
  first free draw IS returned; every free value of the shortest free length is returned for some `pick`).

  `k ≥ 1` is false for arbitrary `draws`: if all of 1..999 are taken and the first free draw is `0`, the
  model returns "0" (see the `example` at the end).  `randrange(allocLo, allocHi)` never returns 0, so
  `k ≥ 1` is stated under `DrawsInRange` (`C04_findAvailable_valid`), or whenever a short value is free.

  The generated constants enter through `sizes_eq` (allocSizeLo = 1, allocSizeHi = 4), `allocLo_eq`,
  `allocHi_eq` and `pad_in_range` (the padding of `drawAt` stays in range), all by `decide` on the NAMES,
  so they are re-checked when harness/translate.py regenerates Generated.lean.
-/
import Wormhole.Core
import Std.Data.String.ToNat

namespace Wormhole
namespace C04
open Generated Sys

theorem sizes_eq : List.range' allocSizeLo (allocSizeHi - allocSizeLo) = [1, 2, 3] := by decide
theorem allocLo_eq : allocLo = 10 ^ 3 := by decide
theorem allocHi_eq : allocHi = 10 ^ 6 := by decide
theorem pad_in_range : allocLo + allocTries ≤ allocHi := by decide

/-! ### Decimal rendering (`toString : Nat → String`, Python's `"%d" % k`) -/

theorem toString_inj {a b : Nat} : toString a = toString b ↔ a = b := by
  simp only [Nat.toString_eq_repr, Nat.repr_inj]

theorem head_toDigits_ne_zero : ∀ (k : Nat), 1 ≤ k → (Nat.toDigits 10 k).head? ≠ some '0' := by
  intro k
  induction k using Nat.strongRecOn with
  | ind k ih =>
    intro hk
    rw [Nat.toDigits_eq_if (by decide)]
    split
    · simp only [List.head?_cons, ne_eq, Option.some.injEq, Nat.digitChar_eq_zero]
      omega
    · have h1 : 1 ≤ k / 10 := by omega
      have := ih (k / 10) (by omega) h1
      rw [List.head?_append]
      cases h : (Nat.toDigits 10 (k / 10)).head? with
      | none => simp [List.head?_eq_none_iff] at h
      | some c => rw [h] at this; simpa using this

theorem length_toString_le {k d : Nat} (hd : 0 < d) : (toString k).length ≤ d ↔ k < 10 ^ d := by
  rw [Nat.toString_eq_repr]; exact Nat.length_repr_le_iff hd

theorem length_toString {k d : Nat} (hd : 0 < d) (hlo : 10 ^ (d - 1) ≤ k) (hhi : k < 10 ^ d) :
    (toString k).length = d := by
  have h1 := (length_toString_le hd).2 hhi
  by_cases hd1 : d - 1 = 0
  · have : 0 < (toString k).length := by rw [Nat.toString_eq_repr]; exact Nat.length_repr_pos
    omega
  · have := mt (length_toString_le (k := k) (d := d - 1) (by omega)).1 (by omega)
    omega

/-- `s` is the canonical decimal rendering of `k`: only digits, reads back as `k`, and no leading
    zero unless `k = 0` (whose rendering is "0"). -/
structure Canonical (s : String) (k : Nat) : Prop where
  eq : s = toString k
  digits : ∀ c ∈ s.toList, c.isDigit = true
  readback : s.toNat? = some k
  nonempty : s ≠ ""
  noLeadingZero : 1 ≤ k → s.toList.head? ≠ some '0'
  /-- no other number is rendered as `s` -/
  unique : ∀ m : Nat, toString m = s → m = k

theorem canonical_toString (k : Nat) : Canonical (toString k) k where
  eq := rfl
  digits := by
    intro c hc
    rw [Nat.toString_eq_repr, Nat.toList_repr] at hc
    exact Nat.isDigit_of_mem_toDigits (by decide) (by decide) hc
  readback := by rw [Nat.toString_eq_repr]; exact Nat.toNat?_repr k
  nonempty := by rw [Nat.toString_eq_repr]; exact Nat.repr_ne_empty
  noLeadingZero := by
    intro hk
    rw [Nat.toString_eq_repr, Nat.toList_repr]
    exact head_toDigits_ne_zero k hk
  unique := fun m h => toString_inj.1 h

example : Canonical "907" 907 := canonical_toString 907
example : ("007".toList.head? = some '0') := by decide

/-- some value with exactly `d` digits is not in `claimed` -/
def Free (claimed : List String) (d : Nat) : Prop :=
  ∃ k, 10 ^ (d - 1) ≤ k ∧ k < 10 ^ d ∧ toString k ∉ claimed

theorem mem_availableOfSize {claimed : List String} {size k : Nat} :
    k ∈ availableOfSize claimed size ↔ 10 ^ (size - 1) ≤ k ∧ k < 10 ^ size ∧ toString k ∉ claimed := by
  unfold availableOfSize
  have hle : 10 ^ (size - 1) ≤ 10 ^ size := Nat.pow_le_pow_right (by decide) (by omega)
  simp only [List.mem_filter, List.mem_range'_1, decide_eq_true_eq]
  constructor
  · rintro ⟨⟨h1, h2⟩, h3⟩; exact ⟨h1, by omega, h3⟩
  · rintro ⟨h1, h2, h3⟩; exact ⟨⟨h1, by omega⟩, h3⟩

theorem availableOfSize_eq_nil_iff {claimed : List String} {size : Nat} :
    availableOfSize claimed size = [] ↔ ¬ Free claimed size := by
  rw [List.eq_nil_iff_forall_not_mem]
  unfold Free
  simp only [mem_availableOfSize, not_exists]

/-- `random.choice` on a list, resolved by `pick`: fails exactly on the empty list -/
theorem pick_eq_none_iff {α} (av : List α) (pick : Nat) : av[pick % av.length]? = none ↔ av = [] := by
  constructor
  · intro h
    rw [List.getElem?_eq_none_iff] at h
    cases av with
    | nil => rfl
    | cons a t =>
      have : pick % (a :: t).length < (a :: t).length := Nat.mod_lt _ (by simp)
      omega
  · intro h; subst h; rfl

theorem findShort_cons_full {claimed : List String} {pick d : Nat} {rest : List Nat}
    (h : ¬ Free claimed d) : findShort claimed pick (d :: rest) = findShort claimed pick rest := by
  simp only [findShort, availableOfSize_eq_nil_iff.2 h, List.length_nil, Nat.mod_zero, List.getElem?_nil]

theorem findShort_cons_free {claimed : List String} {pick d : Nat} {rest : List Nat}
    (h : Free claimed d) :
    ∃ k, (availableOfSize claimed d)[pick % (availableOfSize claimed d).length]? = some k ∧
      findShort claimed pick (d :: rest) = some k := by
  cases hp : (availableOfSize claimed d)[pick % (availableOfSize claimed d).length]? with
  | none => exact absurd h (availableOfSize_eq_nil_iff.1 ((pick_eq_none_iff _ pick).1 hp))
  | some k => exact ⟨k, rfl, by simp only [findShort, hp]⟩

theorem findShort_eq_none_iff {claimed : List String} {pick : Nat} {sizes : List Nat} :
    findShort claimed pick sizes = none ↔ ∀ d ∈ sizes, ¬ Free claimed d := by
  induction sizes with
  | nil => simp [findShort]
  | cons d rest ih =>
    by_cases h : Free claimed d
    · obtain ⟨k, _, e⟩ := findShort_cons_free (pick := pick) (rest := rest) h
      simp [e, h]
    · simp [findShort_cons_full h, ih, h]

theorem findShort_eq_some {claimed : List String} {pick : Nat} {sizes : List Nat} {k : Nat}
    (h : findShort claimed pick sizes = some k) :
    ∃ pre d post, sizes = pre ++ d :: post ∧ (∀ e ∈ pre, ¬ Free claimed e) ∧ Free claimed d ∧
      (availableOfSize claimed d)[pick % (availableOfSize claimed d).length]? = some k ∧
      10 ^ (d - 1) ≤ k ∧ k < 10 ^ d ∧ toString k ∉ claimed := by
  induction sizes with
  | nil => cases h
  | cons d rest ih =>
    by_cases hd : Free claimed d
    · obtain ⟨k', hk', e⟩ := findShort_cons_free (pick := pick) (rest := rest) hd
      cases e.symm.trans h
      exact ⟨[], d, rest, rfl, nofun, hd, hk', mem_availableOfSize.1 (List.mem_of_getElem? hk')⟩
    · rw [findShort_cons_full hd] at h
      obtain ⟨pre, d', post, e, hpre, hrest⟩ := ih h
      exact ⟨d :: pre, d', post, by rw [e]; rfl, List.forall_mem_cons.2 ⟨hd, hpre⟩, hrest⟩

theorem findShort_of_first_free {claimed : List String} {pick : Nat} {pre post : List Nat} {d : Nat}
    (hpre : ∀ e ∈ pre, ¬ Free claimed e) (hd : Free claimed d) :
    ∃ k, (availableOfSize claimed d)[pick % (availableOfSize claimed d).length]? = some k ∧
      findShort claimed pick (pre ++ d :: post) = some k := by
  induction pre with
  | nil => exact findShort_cons_free hd
  | cons e pre ih =>
    rw [List.cons_append, findShort_cons_full (hpre e List.mem_cons_self)]
    exact ih (fun x hx => hpre x (List.mem_cons_of_mem _ hx))

theorem drawAt_of_lt {draws : List Nat} {i : Nat} (h : i < draws.length) : drawAt draws i = draws[i] := by
  unfold drawAt; simp [List.getD_eq_getElem?_getD, h]

theorem drawAt_of_ge {draws : List Nat} {i : Nat} (h : draws.length ≤ i) : drawAt draws i = allocLo + i := by
  unfold drawAt; simp [List.getD_eq_getElem?_getD, h]

/-- what `randrange(allocLo, allocHi)` guarantees: every padded draw that is looked at is in range -/
def DrawsInRange (draws : List Nat) : Prop :=
  ∀ i, i < allocTries → allocLo ≤ drawAt draws i ∧ drawAt draws i < allocHi

theorem drawsInRange_of_forall {draws : List Nat} (h : ∀ x ∈ draws, allocLo ≤ x ∧ x < allocHi) :
    DrawsInRange draws := by
  intro i hi
  by_cases hl : i < draws.length
  · rw [drawAt_of_lt hl]; exact h _ (List.getElem_mem hl)
  · rw [drawAt_of_ge (by omega)]
    have := pad_in_range
    omega

theorem tries_eq_some_iff {claimed : List String} {draws : List Nat} {k : Nat} :
    ((List.range allocTries).map (drawAt draws)).find? (fun k => ¬ toString k ∈ claimed) = some k ↔
      toString k ∉ claimed ∧ ∃ i, i < allocTries ∧ drawAt draws i = k ∧
        ∀ j, j < i → toString (drawAt draws j) ∈ claimed := by
  rw [List.find?_eq_some_iff_getElem]
  simp only [decide_eq_true_eq, List.length_map, List.length_range, List.getElem_map,
    List.getElem_range, Bool.not_eq_true', decide_eq_false_iff_not, Decidable.not_not]
  constructor
  · rintro ⟨h1, i, hi, rfl, hj⟩
    exact ⟨h1, i, hi, rfl, fun j hji => hj j hji⟩
  · rintro ⟨h1, i, hi, rfl, hj⟩
    exact ⟨h1, i, hi, rfl, fun j hji => hj j hji⟩

theorem tries_eq_none_iff {claimed : List String} {draws : List Nat} :
    ((List.range allocTries).map (drawAt draws)).find? (fun k => ¬ toString k ∈ claimed) = none ↔
      ∀ i, i < allocTries → toString (drawAt draws i) ∈ claimed := by
  simp only [List.find?_eq_none, List.mem_map, List.mem_range, decide_eq_true_eq, Decidable.not_not,
    forall_exists_index, and_imp]
  constructor
  · intro h i hi; exact h _ i hi rfl
  · rintro h _ i hi rfl; exact h i hi

/-- `k` is the value returned by the random tries: the first free padded draw -/
def FirstFreeDraw (claimed : List String) (draws : List Nat) (k : Nat) : Prop :=
  ∃ i, i < allocTries ∧ k = drawAt draws i ∧ ∀ j, j < i → toString (drawAt draws j) ∈ claimed

theorem short_free_iff {claimed : List String} :
    (∀ d ∈ List.range' allocSizeLo (allocSizeHi - allocSizeLo), ¬ Free claimed d) ↔
      ¬ Free claimed 1 ∧ ¬ Free claimed 2 ∧ ¬ Free claimed 3 := by
  rw [sizes_eq]; simp

theorem short_full_iff {claimed : List String} :
    (¬ Free claimed 1 ∧ ¬ Free claimed 2 ∧ ¬ Free claimed 3) ↔
      ∀ k, 1 ≤ k → k ≤ 999 → toString k ∈ claimed := by
  unfold Free
  constructor
  · rintro ⟨h1, h2, h3⟩ k hk1 hk2
    apply Decidable.byContradiction
    intro hn
    by_cases a : k < 10
    · exact h1 ⟨k, by simpa using hk1, by simpa using a, hn⟩
    · by_cases b : k < 100
      · exact h2 ⟨k, by simp; omega, by simpa using b, hn⟩
      · exact h3 ⟨k, by simp; omega, by simp; omega, hn⟩
  · intro h
    refine ⟨?_, ?_, ?_⟩ <;> rintro ⟨k, hlo, hhi, hn⟩ <;> simp at hlo hhi <;> exact hn (h k (by omega) (by omega))

/-- **C04, main statement.**  For every `claimed`, `pick`, `draws`: an answer `n` is the decimal
    rendering of some `k`, is not in `claimed`, and `k` has the smallest number of digits among
    1, 2, 3 for which a free value exists; only when all of 1..999 are taken is it a draw, namely
    the first free one of the `allocTries` padded draws (and then in `[allocLo, allocHi)` if the
    draws are). -/
theorem C04_findAvailable_some {claimed : List String} {pick : Nat} {draws : List Nat} {n : String}
    (h : findAvailable claimed pick draws = some n) :
    ∃ k : Nat, n = toString k ∧ n ∉ claimed ∧ Canonical n k ∧
      (Free claimed 1 → 1 ≤ k ∧ k ≤ 9) ∧
      (¬ Free claimed 1 → Free claimed 2 → 10 ≤ k ∧ k ≤ 99) ∧
      (¬ Free claimed 1 → ¬ Free claimed 2 → Free claimed 3 → 100 ≤ k ∧ k ≤ 999) ∧
      (¬ Free claimed 1 → ¬ Free claimed 2 → ¬ Free claimed 3 →
          FirstFreeDraw claimed draws k ∧ (DrawsInRange draws → allocLo ≤ k ∧ k < allocHi)) ∧
      ((Free claimed 1 ∨ Free claimed 2 ∨ Free claimed 3 ∨ DrawsInRange draws) → 1 ≤ k) := by
  unfold findAvailable at h
  cases hs : findShort claimed pick (List.range' allocSizeLo (allocSizeHi - allocSizeLo)) with
  | some k =>
    rw [hs] at h
    simp only [Option.some.injEq] at h
    subst h
    obtain ⟨pre, d, post, e, hpre, hd, _, hlo, hhi, hfree⟩ := findShort_eq_some hs
    rw [sizes_eq] at e
    refine ⟨k, rfl, hfree, canonical_toString k, ?_⟩
    -- the three possible positions of `d` in [1, 2, 3]
    have hcases : (pre = [] ∧ d = 1) ∨ (pre = [1] ∧ d = 2) ∨ (pre = [1, 2] ∧ d = 3) := by
      match pre, e with
      | [], e => simp at e; exact Or.inl ⟨rfl, e.1.symm⟩
      | [a], e => simp at e; exact Or.inr (Or.inl ⟨by rw [e.1], e.2.1.symm⟩)
      | [a, b], e => simp at e; exact Or.inr (Or.inr ⟨by rw [e.1, e.2.1], e.2.2.1.symm⟩)
      | a :: b :: c :: t, e => simp at e
    rcases hcases with ⟨rfl, rfl⟩ | ⟨rfl, rfl⟩ | ⟨rfl, rfl⟩
    · simp at hlo hhi
      exact ⟨fun _ => ⟨hlo, by omega⟩, fun h => absurd hd h, fun h => absurd hd h,
        fun h => absurd hd h, fun _ => hlo⟩
    · have h1 : ¬ Free claimed 1 := hpre 1 (by simp)
      simp at hlo hhi
      exact ⟨fun h => absurd h h1, fun _ _ => ⟨hlo, by omega⟩, fun _ h => absurd hd h,
        fun _ h => absurd hd h, fun _ => by omega⟩
    · have h1 : ¬ Free claimed 1 := hpre 1 (by simp)
      have h2 : ¬ Free claimed 2 := hpre 2 (by simp)
      simp at hlo hhi
      exact ⟨fun h => absurd h h1, fun _ h => absurd h h2, fun _ _ _ => ⟨hlo, by omega⟩,
        fun _ _ h => absurd hd h, fun _ => by omega⟩
  | none =>
    rw [hs] at h
    simp only at h
    obtain ⟨h1, h2, h3⟩ := short_free_iff.1 (findShort_eq_none_iff.1 hs)
    cases ht : ((List.range allocTries).map (drawAt draws)).find? (fun k => ¬ toString k ∈ claimed) with
    | none => rw [ht] at h; cases h
    | some k =>
      rw [ht] at h
      simp only [Option.some.injEq] at h
      subst h
      obtain ⟨hfree, i, hi, hki, hprev⟩ := tries_eq_some_iff.1 ht
      have hr : DrawsInRange draws → allocLo ≤ k ∧ k < allocHi := fun hd => hki ▸ hd i hi
      refine ⟨k, rfl, hfree, canonical_toString k, fun h => absurd h h1, fun _ h => absurd h h2,
        fun _ _ h => absurd h h3, fun _ _ _ => ⟨⟨i, hi, hki.symm, hprev⟩, hr⟩, ?_⟩
      rintro (h | h | h | h)
      · exact absurd h h1
      · exact absurd h h2
      · exact absurd h h3
      · have := (hr h).1
        rw [allocLo_eq] at this
        omega

/-- **C04 with in-range draws** (what the implementation's `randrange` guarantees): the answer is
    a positive decimal without leading zero, not in `claimed`, of the smallest length in 1, 2, 3
    that has a free value, and of length 4..6 only when all of 1..999 are taken. -/
theorem C04_findAvailable_valid {claimed : List String} {pick : Nat} {draws : List Nat} {n : String}
    (hdraws : DrawsInRange draws) (h : findAvailable claimed pick draws = some n) :
    ∃ k : Nat, n = toString k ∧ 1 ≤ k ∧ n ∉ claimed ∧ n.toNat? = some k ∧
      n.toList.head? ≠ some '0' ∧ (∀ c ∈ n.toList, c.isDigit = true) ∧
      (Free claimed 1 → 1 ≤ k ∧ k ≤ 9 ∧ n.length = 1) ∧
      (¬ Free claimed 1 → Free claimed 2 → 10 ≤ k ∧ k ≤ 99 ∧ n.length = 2) ∧
      (¬ Free claimed 1 → ¬ Free claimed 2 → Free claimed 3 → 100 ≤ k ∧ k ≤ 999 ∧ n.length = 3) ∧
      (¬ Free claimed 1 → ¬ Free claimed 2 → ¬ Free claimed 3 →
          FirstFreeDraw claimed draws k ∧ allocLo ≤ k ∧ k < allocHi ∧ 4 ≤ n.length ∧ n.length ≤ 6) := by
  obtain ⟨k, rfl, hfree, hcan, c1, c2, c3, c4, hpos⟩ := C04_findAvailable_some h
  have hk : 1 ≤ k := hpos (Or.inr (Or.inr (Or.inr hdraws)))
  refine ⟨k, rfl, hk, hfree, hcan.readback, hcan.noLeadingZero hk, hcan.digits, ?_, ?_, ?_, ?_⟩
  · intro f1
    have := c1 f1
    exact ⟨this.1, this.2, length_toString (d := 1) (by decide) (by simpa using this.1) (by simp; omega)⟩
  · intro f1 f2
    have := c2 f1 f2
    exact ⟨this.1, this.2, length_toString (d := 2) (by decide) (by simpa using this.1) (by simp; omega)⟩
  · intro f1 f2 f3
    have := c3 f1 f2 f3
    exact ⟨this.1, this.2, length_toString (d := 3) (by decide) (by simpa using this.1) (by simp; omega)⟩
  · intro f1 f2 f3
    obtain ⟨hd, hr⟩ := c4 f1 f2 f3
    obtain ⟨hlo, hhi⟩ := hr hdraws
    refine ⟨hd, hlo, hhi, ?_, ?_⟩
    · rw [allocLo_eq] at hlo
      have := mt (length_toString_le (k := k) (d := 3) (by decide)).1 (by omega)
      omega
    · rw [allocHi_eq] at hhi
      exact (length_toString_le (by decide)).2 hhi

/-- **C04_exhausted.**  `none` (`ValueError`) exactly when every value 1..999 is taken and every
    one of the `allocTries` padded draws is taken. -/
theorem C04_exhausted (claimed : List String) (pick : Nat) (draws : List Nat) :
    findAvailable claimed pick draws = none ↔
      (∀ k, 1 ≤ k → k ≤ 999 → toString k ∈ claimed) ∧
      (∀ i, i < allocTries → toString (drawAt draws i) ∈ claimed) := by
  unfold findAvailable
  rw [← short_full_iff, ← short_free_iff, ← findShort_eq_none_iff (pick := pick), ← tries_eq_none_iff]
  cases findShort claimed pick (List.range' allocSizeLo (allocSizeHi - allocSizeLo)) with
  | some k => simp
  | none =>
    cases ((List.range allocTries).map (drawAt draws)).find? (fun k => ¬ toString k ∈ claimed) <;> simp

/-- converse of the last clause: with 1..999 taken, the FIRST free padded draw is the answer
    (whatever `pick`). -/
theorem findAvailable_of_short_full {claimed : List String} {pick : Nat} {draws : List Nat} {i : Nat}
    (hfull : ∀ k, 1 ≤ k → k ≤ 999 → toString k ∈ claimed) (hi : i < allocTries)
    (hfree : toString (drawAt draws i) ∉ claimed)
    (hprev : ∀ j, j < i → toString (drawAt draws j) ∈ claimed) :
    findAvailable claimed pick draws = some (toString (drawAt draws i)) := by
  unfold findAvailable
  have hs : findShort claimed pick (List.range' allocSizeLo (allocSizeHi - allocSizeLo)) = none :=
    findShort_eq_none_iff.2 (short_free_iff.2 (short_full_iff.2 hfull))
  rw [hs]
  have ht := (tries_eq_some_iff (claimed := claimed) (draws := draws) (k := drawAt draws i)).2
    ⟨hfree, i, hi, rfl, hprev⟩
  simp only [ht]

/-- every outcome of `random.choice`: each free value of the shortest free length is the answer
    for some `pick` (so the theorem above quantifies over all the choices the code can make). -/
theorem C04_every_choice_reachable {claimed : List String} {draws : List Nat} {d k : Nat}
    (hd : d = 1 ∨ d = 2 ∨ d = 3) (hshorter : ∀ e, 1 ≤ e → e < d → ¬ Free claimed e)
    (hlo : 10 ^ (d - 1) ≤ k) (hhi : k < 10 ^ d) (hfree : toString k ∉ claimed) :
    ∃ pick, findAvailable claimed pick draws = some (toString k) := by
  have hmem : k ∈ availableOfSize claimed d := mem_availableOfSize.2 ⟨hlo, hhi, hfree⟩
  obtain ⟨i, hi, hik⟩ := List.mem_iff_getElem.1 hmem
  have hF : Free claimed d := ⟨k, hlo, hhi, hfree⟩
  have key : ∀ pre post, [1, 2, 3] = pre ++ d :: post → (∀ e ∈ pre, 1 ≤ e ∧ e < d) →
      findAvailable claimed i draws = some (toString k) := by
    intro pre post e hpre
    obtain ⟨k', hk', hf⟩ := findShort_of_first_free (pick := i) (post := post)
      (fun e he => hshorter e (hpre e he).1 (hpre e he).2) hF
    rw [Nat.mod_eq_of_lt hi, List.getElem?_eq_getElem hi, hik] at hk'
    simp only [Option.some.injEq] at hk'
    subst hk'
    unfold findAvailable
    rw [sizes_eq, e, hf]
  refine ⟨i, ?_⟩
  rcases hd with rfl | rfl | rfl
  · exact key [] [2, 3] rfl (by simp)
  · exact key [1] [3] rfl (by simp)
  · exact key [1, 2] [] rfl (by simp)

theorem availableOfSize_congr {c1 c2 : List String} (h : ∀ x, x ∈ c1 ↔ x ∈ c2) (size : Nat) :
    availableOfSize c1 size = availableOfSize c2 size := by
  unfold availableOfSize
  apply List.filter_congr
  intro k _
  simp only [h]

theorem findShort_congr {c1 c2 : List String} (h : ∀ x, x ∈ c1 ↔ x ∈ c2) (pick : Nat) (sizes : List Nat) :
    findShort c1 pick sizes = findShort c2 pick sizes := by
  induction sizes with
  | nil => rfl
  | cons d rest ih => simp only [findShort, availableOfSize_congr h, ih]

/-- **Order / duplicates do not matter**: two `claimed` lists with the same members give the same
    answer (for the same random outcomes). -/
theorem C04_congr {c1 c2 : List String} (h : ∀ x, x ∈ c1 ↔ x ∈ c2) (pick : Nat) (draws : List Nat) :
    findAvailable c1 pick draws = findAvailable c2 pick draws := by
  unfold findAvailable
  rw [findShort_congr h]
  have : (fun k : Nat => decide (¬ toString k ∈ c1)) = (fun k : Nat => decide (¬ toString k ∈ c2)) := by
    funext k; simp only [h]
  rw [this]

theorem C04_perm {c1 c2 : List String} (h : c1.Perm c2) (pick : Nat) (draws : List Nat) :
    findAvailable c1 pick draws = findAvailable c2 pick draws :=
  C04_congr (fun _ => h.mem_iff) pick draws

theorem C04_eraseDups (claimed : List String) (pick : Nat) (draws : List Nat) :
    findAvailable claimed.eraseDups pick draws = findAvailable claimed pick draws :=
  C04_congr (fun _ => List.mem_eraseDups) pick draws

theorem C04_append_self (claimed : List String) (pick : Nat) (draws : List Nat) :
    findAvailable (claimed ++ claimed.reverse) pick draws = findAvailable claimed pick draws :=
  C04_congr (fun x => by simp) pick draws

-- empty table, first choice
example : findAvailable [] 0 [] = some "1" := by decide
-- a hole is reused; non-numeric and non-canonical names ("03", "٣") do not block "3"
example : findAvailable ["1", "2", "03", "٣", "4", "abc"] 0 [] = some "3" := by decide
-- `pick` selects among the free one-digit values (free = 2,3,5,6,7,8,9; index 9 % 7 = 2)
example : findAvailable ["4", "1", "1"] 9 [] = some "5" := by decide
-- one-digit values exhausted: two digits
example : findAvailable ["1", "2", "3", "4", "5", "6", "7", "8", "9"] 3 [] = some "13" := by
  decide +kernel

/-- 1..999 all taken -/
private def full999 : List String := (List.range' 1 999).map toString

private theorem full999_full : ∀ k, 1 ≤ k → k ≤ 999 → toString k ∈ full999 := by
  intro k h1 h2
  exact List.mem_map_of_mem (List.mem_range'_1.2 ⟨h1, by omega⟩)

private theorem not_mem_full999 {k : Nat} (h : k = 0 ∨ 1000 ≤ k) : toString k ∉ full999 := by
  intro hm
  obtain ⟨j, hj, e⟩ := List.mem_map.1 hm
  have := toString_inj.1 e
  have := List.mem_range'_1.1 hj
  omega

-- the random-tries branch is reachable, and returns the first free draw (here the second one)
example : findAvailable ("4711" :: full999) 5 [4711, 123456] = some "123456" := by
  have h := findAvailable_of_short_full (claimed := "4711" :: full999) (pick := 5)
    (draws := [4711, 123456]) (i := 1)
    (fun k h1 h2 => List.mem_cons_of_mem _ (full999_full k h1 h2)) (by decide)
    (by
      show toString 123456 ∉ "4711" :: full999
      rw [List.mem_cons]
      rintro (h | h)
      · exact absurd h (by decide)
      · exact not_mem_full999 (k := 123456) (Or.inr (by decide)) h)
    (by
      intro j hj
      have : j = 0 := by omega
      subst this
      exact List.mem_cons_self)
  exact h

-- the caveat on `k ≥ 1`: an out-of-range draw `0` is returned as "0" when 1..999 are taken
example : findAvailable full999 0 [0] = some "0" :=
  findAvailable_of_short_full (claimed := full999) (pick := 0) (draws := [0]) (i := 0)
    full999_full (by decide) (not_mem_full999 (k := 0) (Or.inl rfl)) (by intro j hj; omega)

-- exhaustion is reachable: 1..1999 taken, padded draws are 1000..1999
example : findAvailable ((List.range' 1 1999).map toString) 0 [] = none := by
  rw [C04_exhausted]
  constructor
  · intro k h1 h2
    exact List.mem_map_of_mem (List.mem_range'_1.2 ⟨h1, by omega⟩)
  · intro i hi
    have hi' : i < 1000 := hi
    rw [drawAt_of_ge (by simp)]
    have : allocLo = 1000 := rfl
    exact List.mem_map_of_mem (List.mem_range'_1.2 ⟨by omega, by omega⟩)

-- `DrawsInRange` is satisfiable
example : DrawsInRange [4711, 123456] := drawsInRange_of_forall (by decide)
example : DrawsInRange [] := drawsInRange_of_forall (by simp)

#print axioms canonical_toString
#print axioms findShort_eq_some
#print axioms findShort_eq_none_iff
#print axioms C04_findAvailable_some
#print axioms C04_findAvailable_valid
#print axioms C04_exhausted
#print axioms findAvailable_of_short_full
#print axioms C04_every_choice_reachable
#print axioms C04_congr
#print axioms C04_perm
#print axioms C04_eraseDups

end C04
end Wormhole
