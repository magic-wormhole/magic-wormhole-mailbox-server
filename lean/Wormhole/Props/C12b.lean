/-
  C12, second part — REFUSED commands are activity too.

  `C12_activity_stamps_{claim,allocate,open,add}` (Props/C12.lean) are about commands answered without an
  `error` frame.  But `AppNamespace.open_mailbox` stamps the mailbox row (`_add_mailbox` / `Mailbox.open` →
  `_touch`) BEFORE it raises `CrowdedError`, so an `open`, a `claim` or a `close` that is answered `crowded`
  has set `updated = t` all the same (model: `Sys.openMailbox` returns the stamped state with `.crowded`;
  code: `updated = 50` after a crowded open at 50).  And a `close` sent on a connection that does not hold
  the mailbox first opens it (`handle_close`: `if not self._mailbox: self._mailbox = open_mailbox(...)`) and
  thereby stamps it — finding K-close-touch, seen from C12.  All of these count as activity for
  `C12_recent_activity_survives` / `C12_activity_survives`.
-/
import Wormhole.Props.C12

namespace Wormhole
open Generated

namespace Sys

/-- not the frame `f` (to anybody) -/
def NotF (f : Frame) (e : Event) : Prop := ∀ c b, e ≠ .frame c f b

theorem CExt.notF {f : Frame} {s s' : Sys} (h : CExt s s') : OutExt (NotF f) s s' :=
  OutExt.mono (fun _ ⟨_, e⟩ c b hh => by rw [e] at hh; cases hh) h

/-- `open_mailbox`, `claim_nameplate` and `Mailbox.close` emit commits only -/
theorem openMailbox_notF {f : Frame} {s s1 : Sys} {app mb side t r} (h : s.openMailbox app mb side t = (s1, r)) :
    OutExt (NotF f) s s1 := by
  have := (CExt.openMailbox (app := app) (mb := mb) (side := side) (t := t) (OutExt.refl (s := s))).notF (f := f)
  rwa [h] at this

theorem claimNameplate_notF {f : Frame} {s s1 : Sys} {app name side t fresh r}
    (h : s.claimNameplate app name side t fresh = (s1, r)) : OutExt (NotF f) s s1 := by
  have := (CExt.claimNameplate (app := app) (name := name) (side := side) (t := t) (fresh := fresh)
    (OutExt.refl (s := s))).notF (f := f)
  rwa [h] at this

theorem mailboxClose_notF {f : Frame} {s s1 : Sys} {app mb side mood t b}
    (h : s.mailboxClose app mb side mood t = (s1, b)) : OutExt (NotF f) s s1 := by
  have := (CExt.mailboxClose (app := app) (mb := mb) (side := side) (mood := mood) (t := t)
    (OutExt.refl (s := s))).notF (f := f)
  rwa [h] at this

/-- what `Mailbox.close` does to the table `mailboxes`: nothing, or `DELETE FROM mailboxes WHERE id=mb` -/
theorem mailboxClose_mailboxes (s : Sys) (app mb side : String) (mood : Option String) (t : Time) :
    (s.mailboxClose app mb side mood t).1.db.mailboxes = s.db.mailboxes ∨
    (s.mailboxClose app mb side mood t).1.db.mailboxes = s.db.mailboxes.filter (fun r => ¬ r.id = mb) ∨
    (s.mailboxClose app mb side mood t).2 = false := by
  refine mailboxClose_cases s app mb side mood t ?_ ?_ ?_ ?_
  · exact fun _ => .inl rfl
  · rintro _ _ _ rfl _
    left; simp [Chan.closeSide]
  · exact fun _ _ _ _ _ _ _ => .inr (.inr rfl)
  · -- the usage records of the nameplates leave the channel database alone (`closeStore_spec`)
    rintro _ _ s₂ _ _ rfl _ hE rfl
    obtain ⟨u, -, -⟩ := closeStore_spec hE
    right; left
    split <;> simp [u.db, Chan.delMailbox, Chan.delMbSidesOf, Chan.delMessagesOf,
      Chan.delNameplatesOfMailbox, Chan.delNpSidesOfMailbox, Chan.closeSide, storeMailboxUsage]

end Sys

open Sys

private theorem ack_notF {f : Frame} (hf : ∀ i, Frame.ack i ≠ f) (s : Sys) (c : Nat) (id : Val) :
    ∀ e ∈ (({ s with out := [], snaps := [] } : Sys).send c (.ack id)).out, NotF f e := by
  intro e he
  simp [send, emit] at he
  subst he
  intro c' b hh
  simp only [Event.frame.injEq] at hh
  exact hf _ hh.2.1

private theorem no_answer {f : Frame} {s s' : Sys} {c : Nat} (h0 : ∀ e ∈ s.out, NotF f e)
    (h : OutExt (NotF f) s s') (hcr : ∃ b, Event.frame c f b ∈ s'.out) : False := by
  obtain ⟨l, e, p⟩ := h
  obtain ⟨b, hb⟩ := hcr
  rw [e] at hb
  rcases List.mem_append.1 hb with h1 | h1
  · exact h0 _ h1 c b rfl
  · exact p _ h1 c b rfl

private theorem frame_notF {f f' : Frame} {c : Nat} (h : f' ≠ f) (b : Bool) : NotF f (.frame c f' b) := by
  intro c' b' hh
  simp only [Event.frame.injEq] at hh
  exact h hh.2.1

private theorem internal_notF {f : Frame} (c : Option Nat) (cls : String) : NotF f (.internal c cls) := by
  intro c' b' hh; cases hh

/-- **C12_activity_stamps (open, refused).**  An `open` at time `t` on a bound connection that is answered by
    the frame `error "crowded"`: it named a mailbox, and the row of that mailbox under the connection's app
    exists with `updated = t` (every row with that id has `updated = t`) — `open_mailbox` stamps before it
    raises. -/
theorem C12_activity_stamps_open_crowded {s : Sys} {c : Nat} {x : Conn} {app : String}
    (hx : s.findConn c = some x) (happ : x.app = some app) (t : Time) (id : Val) (m : Option String)
    (hcr : ∃ b, Event.frame c (.error "crowded") b ∈ (s.step (.recv c t id (.open_ m))).out) :
    ∃ mb, m = some mb ∧ (s.step (.recv c t id (.open_ m))).Stamped app mb t := by
  have hx0 : ({ s with out := [], snaps := [] } : Sys).findConn c = some x := hx
  have h0 := ack_notF (f := .error "crowded") (fun _ h => by cases h) s c id
  rw [step_recv] at hcr ⊢
  simp only [onMessage, hx0, happ, handleOpen] at hcr ⊢
  split at hcr
  · exact (no_answer h0 (OutExt.refl.send (fun b => frame_notF (by decide) b)) hcr).elim
  · rename_i hmo
    rw [if_neg hmo]
    cases m with
    | none =>
      exact (no_answer h0 (OutExt.refl.send (fun b => frame_notF (by decide) b)) hcr).elim
    | some mb =>
      refine ⟨mb, rfl, ?_⟩
      dsimp only at hcr ⊢
      generalize hE : Sys.openMailbox _ app mb _ t = p at hcr ⊢
      obtain ⟨s1, res⟩ := p
      have hce := openMailbox_notF (f := .error "crowded") hE
      cases res <;> dsimp only at hcr ⊢
      · -- ok: ack, commits, replayed `message` frames
        refine (no_answer h0 ?_ hcr).elim
        unfold replay
        exact OutExt.foldl_send _ _ _ (OutExt.updConn hce) (fun a _ b c' b' hh => by cases hh)
      · have := openMailbox_stamped hE (by simp)
        simpa [Sys.Stamped] using this
      · exact (no_answer h0 (hce.emit (internal_notF _ _)) hcr).elim

/-- **C12_activity_stamps (claim, refused).**  A `claim` at time `t` answered by the frame `error "crowded"`:
    it named a nameplate, that nameplate exists under the connection's app afterwards, and the row of its
    mailbox has `updated = t`. -/
theorem C12_activity_stamps_claim_crowded {s : Sys} {c : Nat} {x : Conn} {app : String}
    (hx : s.findConn c = some x) (happ : x.app = some app) (t : Time) (id : Val) (n : Option String)
    (fresh : String)
    (hcr : ∃ b, Event.frame c (.error "crowded") b ∈ (s.step (.recv c t id (.claim n fresh))).out) :
    ∃ name, n = some name ∧ ∃ np ∈ (s.step (.recv c t id (.claim n fresh))).db.nameplates,
      np.app = app ∧ np.name = name ∧ (s.step (.recv c t id (.claim n fresh))).Stamped app np.mailbox t := by
  have hx0 : ({ s with out := [], snaps := [] } : Sys).findConn c = some x := hx
  have h0 := ack_notF (f := .error "crowded") (fun _ h => by cases h) s c id
  rw [step_recv] at hcr ⊢
  simp only [onMessage, hx0, happ, handleClaim] at hcr ⊢
  cases n with
  | none =>
    exact (no_answer h0 (OutExt.refl.send (fun b => frame_notF (by decide) b)) hcr).elim
  | some name =>
    refine ⟨name, rfl, ?_⟩
    dsimp only at hcr ⊢
    split at hcr
    · exact (no_answer h0 (OutExt.refl.send (fun b => frame_notF (by decide) b)) hcr).elim
    · rename_i hdc
      rw [if_neg hdc]
      generalize hE : Sys.claimNameplate _ app name _ t fresh = p at hcr ⊢
      obtain ⟨s1, res⟩ := p
      have hce := claimNameplate_notF (f := .error "crowded") hE
      cases res <;> dsimp only at hcr ⊢
      · refine (no_answer h0 (hce.send ?_) hcr).elim
        intro b c' b' hh; cases hh
      · obtain ⟨np, hnp, f1, f2, f3, _⟩ := claimNameplate_stamped hE (by simp) (by simp)
        exact ⟨np, hnp, f1, f2, by simpa [Sys.Stamped] using f3⟩
      · exact (no_answer h0 (hce.send (fun b => frame_notF (by decide) b)) hcr).elim
      · exact (no_answer h0 (hce.emit (internal_notF _ _)) hcr).elim


/-- `Mailbox.close` and the answer: commits, then `closed` or the logged `IndexError` -/
private theorem closeFinish_ok_notF {f : Frame} (hf : Frame.closed ≠ f) (s1 : Sys) (x : Conn) (app side : String)
    (t : Time) (mood : Option String) (hd : String) :
    OutExt (NotF f) s1 (closeFinish x app side t mood (s1, .ok, hd)) := by
  dsimp only [closeFinish]
  generalize hE : Sys.mailboxClose _ app hd side mood t = p
  obtain ⟨s3, ok⟩ := p
  have hce : OutExt (NotF f) s1 s3 := (mailboxClose_notF hE : OutExt (NotF f) (s1.updConn _ _) s3)
  cases ok <;> dsimp only
  · exact hce.emit (internal_notF _ _)
  · exact (OutExt.updConn hce).send (fun b => frame_notF hf b)

/-- **C12_activity_stamps (close, refused).**  A `close` at time `t` answered by the frame `error "crowded"`:
    the connection held no handle (the close went through the implicit `open_mailbox`), the close resolved
    to a mailbox name `mb` (the `mailbox` key, else the remembered id), and the row of `mb` under the
    connection's app exists with `updated = t`. -/
theorem C12_activity_stamps_close_crowded {s : Sys} {c : Nat} {x : Conn} {app : String}
    (hx : s.findConn c = some x) (happ : x.app = some app) (t : Time) (id : Val) (m mood : Option String)
    (hcr : ∃ b, Event.frame c (.error "crowded") b ∈ (s.step (.recv c t id (.close m mood))).out) :
    x.mailbox = none ∧ ∃ mb, x.closeName m = some mb ∧ (s.step (.recv c t id (.close m mood))).Stamped app mb t := by
  have hx0 : ({ s with out := [], snaps := [] } : Sys).findConn c = some x := hx
  have h0 := ack_notF (f := .error "crowded") (fun _ h => by cases h) s c id
  rw [step_recv, onMessage_dispatch] at hcr ⊢
  simp only [hx0, happ, handleBound] at hcr ⊢
  rcases handleClose_cases _ x app (x.side.getD "") t m mood with ⟨⟨text, hmem, e⟩, _⟩ | ⟨mb, hn, e⟩ <;>
    rw [e] at hcr ⊢
  · have hne : text ≠ "crowded" := by rintro rfl; simp at hmem
    exact (no_answer h0 (OutExt.refl.send fun b => frame_notF (by intro h; cases h; exact hne rfl) b) hcr).elim
  · unfold closeOpened at hcr ⊢
    cases hm : x.mailbox with
    | some h =>
      simp only [hm] at hcr
      exact (no_answer h0 (closeFinish_ok_notF (by decide) ..) hcr).elim
    | none =>
      refine ⟨rfl, mb, hn, ?_⟩
      simp only [hm] at hcr ⊢
      generalize hE : Sys.openMailbox _ app mb _ t = p at hcr ⊢
      obtain ⟨s1, res⟩ := p
      have hce := openMailbox_notF (f := .error "crowded") hE
      cases res
      · exact (no_answer h0 ((OutExt.updConn hce).trans (closeFinish_ok_notF (by decide) ..)) hcr).elim
      · simpa [Sys.Stamped, closeFinish] using openMailbox_stamped hE (by simp)
      · exact (no_answer h0 ((OutExt.updConn hce).emit (internal_notF _ _)) hcr).elim

/-- **C12_activity_stamps_refused.**  An `open`, `claim` or `close` at time `t` that the server refuses with
    `error "crowded"` has nevertheless stamped the mailbox: a row of the connection's app with `updated = t`
    exists afterwards (for `open`: the named mailbox; `claim`: the mailbox of the named nameplate; `close`:
    the mailbox the close resolved to).  `open_mailbox` is called — and commits — before the exception. -/
theorem C12_activity_stamps_refused {s : Sys} {c : Nat} {x : Conn} {app : String}
    (hx : s.findConn c = some x) (happ : x.app = some app) (t : Time) (id : Val) (cmd : Cmd)
    (hcmd : (∃ m, cmd = .open_ m) ∨ (∃ n f, cmd = .claim n f) ∨ (∃ m mood, cmd = .close m mood))
    (hcr : ∃ b, Event.frame c (.error "crowded") b ∈ (s.step (.recv c t id cmd)).out) :
    ∃ mb, (s.step (.recv c t id cmd)).Stamped app mb t ∧
      (∀ m, cmd = .open_ m → m = some mb) ∧
      (∀ n f, cmd = .claim n f → ∃ name, n = some name ∧
        ∃ np ∈ (s.step (.recv c t id cmd)).db.nameplates, np.app = app ∧ np.name = name ∧ np.mailbox = mb) ∧
      (∀ m mood, cmd = .close m mood → x.mailbox = none ∧ x.closeName m = some mb) := by
  rcases hcmd with ⟨m, rfl⟩ | ⟨n, f, rfl⟩ | ⟨m, mood, rfl⟩
  · obtain ⟨mb, e, hst⟩ := C12_activity_stamps_open_crowded hx happ t id m hcr
    refine ⟨mb, hst, ?_, ?_, ?_⟩
    · intro m' h; cases h; exact e
    · intro _ _ h; cases h
    · intro _ _ h; cases h
  · obtain ⟨name, e, np, hnp, f1, f2, hst⟩ := C12_activity_stamps_claim_crowded hx happ t id n f hcr
    refine ⟨np.mailbox, hst, ?_, ?_, ?_⟩
    · intro _ h; cases h
    · intro n' f' h; cases h; exact ⟨name, e, np, hnp, f1, f2, rfl⟩
    · intro _ _ h; cases h
  · obtain ⟨hm, mb, hn, hst⟩ := C12_activity_stamps_close_crowded hx happ t id m mood hcr
    refine ⟨mb, hst, ?_, ?_, ?_⟩
    · intro _ h; cases h
    · intro _ _ h; cases h
    · intro m' mood' h; cases h; exact ⟨hm, hn⟩

/-- **C12_activity_stamps_close_reopen (K-close-touch, seen from C12).**  A `close` at time `t` on a connection
    that does NOT hold a mailbox handle (never opened, or the mailbox was closed under it), answered
    `closed`: the close resolved to a mailbox name `mb`; `handle_close` opened that mailbox first, so
    afterwards EVERY mailbox row with id `mb` has `updated = t`; if the mailbox survived the close (another
    side still has it open, or the table still has the row for any reason) its row under the connection's app
    is `Stamped … t`; otherwise no row with id `mb` is left.  So a close by a side that is not subscribed
    counts as activity on a surviving mailbox. -/
theorem C12_activity_stamps_close_reopen {s : Sys} {c : Nat} {x : Conn} {app : String}
    (hx : s.findConn c = some x) (happ : x.app = some app) (hnoh : x.mailbox = none) (t : Time) (id : Val)
    (m mood : Option String)
    (hcl : ∃ b, Event.frame c .closed b ∈ (s.step (.recv c t id (.close m mood))).out) :
    ∃ mb, x.closeName m = some mb ∧
      (∀ r ∈ (s.step (.recv c t id (.close m mood))).db.mailboxes, r.id = mb → r.updated = t) ∧
      ((s.step (.recv c t id (.close m mood))).Stamped app mb t ∨
        ∀ r ∈ (s.step (.recv c t id (.close m mood))).db.mailboxes, r.id ≠ mb) := by
  have hx0 : ({ s with out := [], snaps := [] } : Sys).findConn c = some x := hx
  have h0 := ack_notF (f := .closed) (fun _ h => by cases h) s c id
  rw [step_recv, onMessage_dispatch] at hcl ⊢
  simp only [hx0, happ, handleBound] at hcl ⊢
  rcases handleClose_cases _ x app (x.side.getD "") t m mood with ⟨⟨text, _, e⟩, _⟩ | ⟨mb, hn, e⟩ <;> rw [e] at hcl ⊢
  · exact (no_answer h0 (OutExt.refl.send fun b => frame_notF (by intro h; cases h) b) hcl).elim
  · refine ⟨mb, hn, ?_⟩
    unfold closeOpened at hcl ⊢
    simp only [hnoh] at hcl ⊢
    generalize hE : Sys.openMailbox _ app mb _ t = p at hcl ⊢
    obtain ⟨s1, res⟩ := p
    have hce := openMailbox_notF (f := .closed) hE
    cases res <;> dsimp only [closeFinish] at hcl ⊢
    · simp only [if_true] at hcl ⊢
      obtain ⟨⟨r0, hr0, e1, e2, e3⟩, hall⟩ := openMailbox_stamped hE (by simp)
      have hmc := mailboxClose_mailboxes ((s1.updConn x.id (fun y => { y with mailbox := some mb })).updConn x.id
        (fun y => { y with listening := false, didClose := true })) app mb (x.side.getD "") mood t
      generalize hE2 : Sys.mailboxClose _ app mb _ mood t = p2 at hcl hmc ⊢
      obtain ⟨s3, ok⟩ := p2
      have hce2 := mailboxClose_notF (f := .closed) hE2
      have hce1 : OutExt (NotF .closed) ((({ s with out := [], snaps := [] } : Sys).send c (.ack id)))
          s3 := (OutExt.updConn (OutExt.updConn hce)).trans hce2
      cases ok <;> dsimp only at hcl hmc ⊢
      · exact (no_answer h0 (hce1.emit (internal_notF _ _)) hcl).elim
      · show (∀ r ∈ s3.db.mailboxes, r.id = mb → r.updated = t) ∧
          ((∃ r ∈ s3.db.mailboxes, r.id = mb ∧ r.app = app ∧ r.updated = t) ∧
              (∀ r ∈ s3.db.mailboxes, r.id = mb → r.updated = t) ∨
            ∀ r ∈ s3.db.mailboxes, r.id ≠ mb)
        rcases hmc with hmc | hmc | hmc
        · rw [hmc]
          exact ⟨hall, Or.inl ⟨⟨r0, hr0, e1, e2, e3⟩, hall⟩⟩
        · rw [hmc]
          refine ⟨?_, Or.inr ?_⟩
          · intro r hr; simp at hr; intro e; exact absurd e hr.2
          · intro r hr; simp at hr; exact hr.2
        · cases hmc
    · exact (no_answer h0 ((OutExt.updConn hce).send (fun b => frame_notF (by decide) b)) hcl).elim
    · exact (no_answer h0 ((OutExt.updConn hce).emit (internal_notF _ _)) hcl).elim


/-! ## Non-vacuity -/

namespace C12bExample

def bind (c : Nat) (t : Time) (side : String) : Op := .recv c t .null (.bind (some "a") (some side) none none)

/-- sides s1 and s2 have claimed nameplate "4" and opened its mailbox "m" (at 10 … 13); connections 3 (side s3)
    and 4 (side s1 again) are bound and hold nothing -/
def H : List Op :=
  [.connect 1, bind 1 1 "s1", .connect 2, bind 2 2 "s2", .connect 3, bind 3 3 "s3", .connect 4, bind 4 4 "s1",
   .recv 1 10 .null (.claim (some "4") "m"), .recv 2 11 .null (.claim (some "4") "zz"),
   .recv 1 12 .null (.open_ (some "m")), .recv 2 13 .null (.open_ (some "m"))]

def s : Sys := (Sys.run {} H).1
def x3 : Conn := { id := 3, app := some "a", side := some "s3" }
def x4 : Conn := { id := 4, app := some "a", side := some "s1" }

theorem find3 : s.findConn 3 = some x3 := by decide +kernel
theorem find4 : s.findConn 4 = some x4 := by decide +kernel

example : s.db.mailboxes = [⟨"a", "m", 13, true⟩] := by decide +kernel

/-- a third side opens at 50: answered `crowded`, and the row is stamped 50 -/
theorem open_crowded : ∃ b, Event.frame 3 (.error "crowded") b ∈ (s.step (.recv 3 50 .null (.open_ (some "m")))).out :=
  ⟨true, by decide +kernel⟩
example := C12_activity_stamps_open_crowded find3 rfl 50 .null (some "m") open_crowded
example : (s.step (.recv 3 50 .null (.open_ (some "m")))).db.mailboxes = [⟨"a", "m", 50, true⟩] := by decide +kernel

/-- a third side claims at 50: `crowded`, stamped -/
theorem claim_crowded :
    ∃ b, Event.frame 3 (.error "crowded") b ∈ (s.step (.recv 3 50 .null (.claim (some "4") "f"))).out :=
  ⟨true, by decide +kernel⟩
example := C12_activity_stamps_claim_crowded find3 rfl 50 .null (some "4") "f" claim_crowded
example : (s.step (.recv 3 50 .null (.claim (some "4") "f"))).db.mailboxes = [⟨"a", "m", 50, true⟩] := by
  decide +kernel

/-- a third side sends `close` at 50 (no handle: implicit open): `crowded`, stamped -/
theorem close_crowded :
    ∃ b, Event.frame 3 (.error "crowded") b ∈ (s.step (.recv 3 50 .null (.close (some "m") none))).out :=
  ⟨true, by decide +kernel⟩
example := C12_activity_stamps_close_crowded find3 rfl 50 .null (some "m") none close_crowded
example := C12_activity_stamps_refused find3 rfl 50 .null (.close (some "m") none) (Or.inr (Or.inr ⟨_, _, rfl⟩))
  close_crowded
example : (s.step (.recv 3 50 .null (.close (some "m") none))).db.mailboxes = [⟨"a", "m", 50, true⟩] := by
  decide +kernel

/-- connection 4 (side s1, no handle) closes "m" at 60 while s2 still has it open: answered `closed`, the
    mailbox survives and its row is stamped 60 (K-close-touch) -/
theorem close_reopen : ∃ b, Event.frame 4 .closed b ∈ (s.step (.recv 4 60 .null (.close (some "m") (some "happy")))).out :=
  ⟨true, by decide +kernel⟩
example := C12_activity_stamps_close_reopen find4 rfl rfl 60 .null (some "m") (some "happy") close_reopen
example : (s.step (.recv 4 60 .null (.close (some "m") (some "happy")))).Stamped "a" "m" 60 := by decide +kernel

/-- ... and when the closing side is the last one open the mailbox is deleted: the other disjunct.
    (state: only s1 has "m2" open; connection 4 = side s1 again closes it) -/
def H' : List Op :=
  [.connect 1, bind 1 1 "s1", .connect 4, bind 4 4 "s1", .recv 1 12 .null (.open_ (some "m2"))]
def s' : Sys := (Sys.run {} H').1
theorem find4' : s'.findConn 4 = some x4 := by decide +kernel
theorem close_reopen' :
    ∃ b, Event.frame 4 .closed b ∈ (s'.step (.recv 4 60 .null (.close (some "m2") none))).out := ⟨true, by decide +kernel⟩
example := C12_activity_stamps_close_reopen find4' rfl rfl 60 .null (some "m2") none close_reopen'
example : (s'.step (.recv 4 60 .null (.close (some "m2") none))).db.mailboxes = [] := by decide +kernel

end C12bExample

end Wormhole

#print axioms Wormhole.C12_activity_stamps_open_crowded
#print axioms Wormhole.C12_activity_stamps_claim_crowded
#print axioms Wormhole.C12_activity_stamps_close_crowded
#print axioms Wormhole.C12_activity_stamps_refused
#print axioms Wormhole.C12_activity_stamps_close_reopen
