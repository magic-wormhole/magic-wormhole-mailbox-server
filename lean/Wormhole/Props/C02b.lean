/-
  C02, second part.

  (a) `C02_delivery'`   `C02_delivery` with its hypothesis `hreach` discharged by `GSys.Reach.ginv`.
  (b) `C02_no_message_outside_add_open`   "exactly once" over a SUBSCRIPTION, not just per `add` step:
      from every state satisfying the invariant, for every operation (crashes at any commit included),
      every `message` frame of the step is
        (i)  the live delivery of an accepted `add` -- the frame carries the adder's bound side and the
             phase, body, id of THAT command and the time of the step, and goes to a connection that was
             subscribed to the adder's mailbox before the step (`C02_fanout_exact`: the `message` frames
             of such a step are exactly one per listener), or
        (ii) the replay of an accepted `open` answered ok -- addressed to the OPENER and to nobody
             else, carrying a stored row of the opened mailbox (`C01_open_private`, `C01_no_foreign`).
      So no other step -- bind, list, allocate, claim, release, close, ping, refused commands, connect,
      drop, sweep, restart, nor a crash inside any of them -- sends a `message` frame to anybody
      (`C02_silent_step`), and a subscriber is sent a `message` frame only by the `add`s on its mailbox
      (once each: `C02_exactly_once`) and by its own `open`.
      `C02_message_in_trace` lifts the classification to the trace of a well-formed history.
-/
import Wormhole.Props.C01
import Wormhole.Props.C02
import Wormhole.Props.C03
import Wormhole.Props.C05
import Wormhole.Inv.Main

namespace Wormhole
open Sys

/-- **C02, history form** (`C02_delivery` for the reachable states, nothing left to instantiate):
    after any well-formed history from the initial state, an accepted `add` on `(a, m)` is delivered
    -- as the one frame `message σ phase body t id`, with nothing uncommitted -- to exactly the ghost
    subscribers of `(a, m)`, each exactly once, the sender included, and no other `message` frame is
    sent to anybody -/
theorem C02_delivery' (cfg : Cfg) (rb : Time) (ops : List Op)
    (hwf : (GSys.init cfg rb).WF ops) {c : Nat} {x : Conn} {a σ m : String} (t : Time) (id ph bd : Val)
    (hx : ((GSys.init cfg rb).run ops).sys.findConn c = some x) (ha : x.app = some a)
    (hσ : x.side = some σ) (hm : x.mailbox = some m) :
    let out := (((GSys.init cfg rb).run ops).step (.recv c t id (.add (some ph) (some bd)))).sys.out
    (∀ c', c' ∈ subsLog a m cfg rb ops → out.count (Event.frame c' (.message σ ph bd t id) true) = 1) ∧
    (∀ e ∈ out, e.isMessage = true → ∃ c' ∈ subsLog a m cfg rb ops, e = .frame c' (.message σ ph bd t id) true) ∧
    c ∈ subsLog a m cfg rb ops :=
  C02_delivery (fun _ h => h.ginv) cfg rb ops hwf t id ph bd hx ha hσ hm

/-- an accepted `open` that `open_mailbox` does not answer ok sends no `message` frame -/
theorem C02b.open_not_ok_noMessage {s : Sys} {c : Nat} {x : Conn} {a m : String} (hx : s.findConn c = some x)
    (ha : x.app = some a) (hm : x.mailbox = none) (hres : s.db.openRes a m (x.side.getD "") ≠ .ok)
    (hout : s.out = []) (t : Time) (id : Val) :
    C05.NoMessage (s.onMessage c t id (.open_ (some m))).out := by
  rw [onMessage_open_eq hx ha hm]
  generalize hs0 : (s.send c (.ack id)).updConn c (fun y => { y with mailboxId := some m }) = s0
  have hs0db : s0.db = s.db := by subst hs0; rfl
  have hs0out : s0.out = [.frame c (.ack id) s.synced] := by subst hs0; simp [Sys.send, Sys.emit, hout]
  have hr := openMailbox_res s0 a m (x.side.getD "") t
  obtain ⟨l, hl, hlc⟩ := CExt.openMailbox (OutExt.refl (s := s0)) (app := a) (mb := m) (side := x.side.getD "") (t := t)
  cases hom : s0.openMailbox a m (x.side.getD "") t with
  | mk s1 r =>
    rw [hom] at hr hl
    simp only at hr hl
    -- the ack, commits, and one event that is not a `message` frame
    have key : ∀ ev, (∀ c' sd ph bd rx i b, ev ≠ Event.frame c' (.message sd ph bd rx i) b) →
        C05.NoMessage (s1.out ++ [ev]) := by
      intro ev hev e he c' sd ph bd rx i b heq
      subst heq
      rw [hl, hs0out] at he
      simp only [List.mem_append, List.mem_singleton] at he
      rcases he with (he | he) | he
      · cases he
      · obtain ⟨w, hw⟩ := hlc _ he; cases hw
      · exact hev _ _ _ _ _ _ _ he.symm
    cases r with
    | ok => exact absurd (hs0db ▸ hr.symm) hres
    | crowded => exact key _ (by intros; simp)
    | integrity => exact key _ (by intros; simp)

/-- the frame is the live delivery of an accepted `add`: the operation (the wrapped one, for a crash)
    is `add phase body` with id `mid` received at time `rx` on a connection bound to `(a, sd)` that
    holds the handle of `m`, and the addressee `c'` was subscribed to `(a, m)` before the step -/
def Sys.LiveDelivery (s : Sys) (op : Op) (c' : Nat) (sd : String) (ph bd : Val) (rx : Time) (mid : Val) : Prop :=
  ∃ c x a m, op.inner = .recv c rx mid (.add (some ph) (some bd)) ∧ s.findConn c = some x ∧
    x.app = some a ∧ x.side = some sd ∧ x.mailbox = some m ∧ c' ∈ s.listeners a m

/-- the frame is part of the replay of an accepted `open` answered ok: the operation (the wrapped one,
    for a crash) is `open m` received on connection `c'` ITSELF, bound to `(a, σ)` and holding no
    handle; `open_mailbox` answers ok; the frame carries a stored row of `(a, m)` -/
def Sys.OpenReplay (s : Sys) (op : Op) (c' : Nat) (sd : String) (ph bd : Val) (rx : Time) (mid : Val) : Prop :=
  ∃ t oid x a σ m, op.inner = .recv c' t oid (.open_ (some m)) ∧ s.findConn c' = some x ∧
    x.app = some a ∧ x.side = some σ ∧ x.mailbox = none ∧ s.db.openRes a m σ = .ok ∧
    ∃ r ∈ s.db.messages, r.app = a ∧ r.mailbox = m ∧ r.side = sd ∧ r.phase = ph ∧ r.body = bd ∧
      r.rx = rx ∧ r.msgId = mid

/-- **C02 (no `message` frame outside `add` and `open`).**  From every state satisfying the invariant,
    for EVERY operation (sweeps, restarts and `crashIn k` of anything included): a `message` frame in
    the output of the step is sent with nothing uncommitted and is either the live delivery of an
    accepted `add` to a connection subscribed to the adder's mailbox (`Sys.LiveDelivery`; by
    `C02_fanout_exact` the `message` frames of that step are exactly one per listener), or a frame of
    the replay that an accepted `open` answered ok sends to the opener alone (`Sys.OpenReplay`). -/
theorem C02_no_message_outside_add_open {g : GSys} (hI : g.GInv) (op : Op)
    {c' : Nat} {sd : String} {ph bd : Val} {rx : Time} {mid : Val} {b : Bool}
    (h : Event.frame c' (.message sd ph bd rx mid) b ∈ (g.sys.step op).out) :
    b = true ∧ (g.sys.LiveDelivery op c' sd ph bd rx mid ∨ g.sys.OpenReplay op c' sd ph bd rx mid) := by
  -- reduce to the wrapped operation
  have h1 := step_out_sub g.sys op h
  have hnc := Op.inner_not_crash op
  unfold Sys.LiveDelivery Sys.OpenReplay
  generalize op.inner = op0 at h1 hnc ⊢
  have hcore0 : op0.core = op0 := by cases op0 <;> first | rfl | simp [Op.isCrash] at hnc
  by_cases hao : C05.Op.isAddOrOpen op0 = true
  · cases op0 with
    | recv c t id cmd =>
      cases hx : g.sys.findConn c with
      | none => rw [recv_no_conn t id cmd hx] at h1; cases h1
      | some x =>
        cases hr : rejectText x cmd with
        | some text =>
          rw [(C17_validation_error t id hx (rejected_of_rejectText hr)).1] at h1
          exfalso
          split at h1 <;> simp at h1
        | none =>
          cases cmd with
          | add ph' bd' =>
            obtain ⟨⟨a, ha⟩, ⟨m, hm⟩, ⟨p, rfl⟩, ⟨b', rfl⟩⟩ := C05.add_accepted hr
            obtain ⟨σ, hσ⟩ : ∃ σ, x.side = some σ :=
              Option.isSome_iff_exists.1 ((hI.conn.bound x (findConn_mem hx)).1 (by simp [ha]))
            obtain ⟨e1, e2, e3, e4, e5, e6, e7⟩ := C02_unmodified hI t id p b' hx ha hσ hm h1
            subst e1 e2 e3 e4 e5 e6
            exact ⟨rfl, .inl ⟨c, x, a, m, rfl, hx, ha, hσ, hm, e7⟩⟩
          | open_ mo =>
            obtain ⟨⟨a, ha⟩, hnone, m, rfl⟩ := open_accepted hr
            obtain ⟨σ, hσ⟩ : ∃ σ, x.side = some σ :=
              Option.isSome_iff_exists.1 ((hI.conn.bound x (findConn_mem hx)).1 (by simp [ha]))
            by_cases hok : g.sys.db.openRes a m σ = .ok
            · obtain ⟨e1, e2, r, hr', k⟩ := C01_no_foreign hI t id hx ha hσ hnone hok h1
              subst e1 e2
              exact ⟨rfl, .inr ⟨t, id, x, a, σ, m, rfl, hx, ha, hσ, hnone, hok, r, hr', k⟩⟩
            · exfalso
              have := C02b.open_not_ok_noMessage (s := g.cleared) (c := c) (x := x) (a := a) (m := m) hx ha hnone
                (by rw [hσ]; exact hok) rfl t id
              exact this _ h1 _ _ _ _ _ _ _ rfl
          | _ => simp [C05.Op.isAddOrOpen] at hao
    | _ => simp [C05.Op.isAddOrOpen] at hao
  · exfalso
    have := C05.C05_no_message_unless_add_open g.sys op0 (by rw [hcore0]; simpa using hao)
    exact this _ h1 c' sd ph bd rx mid b rfl

/-- **no other step sends a `message` frame to `c'`**: a step that is neither an accepted `add` on a
    mailbox `c'` is subscribed to nor an `open` received on `c'` itself sends `c'` no `message` frame.
    In particular: no `close`, `bind`, `claim`, `release`, `allocate`, `list`, `ping`, no refused
    command, no `connect`, `drop`, sweep or restart, no command of whatever kind on a connection of
    another mailbox, and no crash inside any of these. -/
theorem C02_silent_step {g : GSys} (hI : g.GInv) (op : Op) (c' : Nat)
    (hadd : ∀ c t id ph bd x a m, op.inner = .recv c t id (.add (some ph) (some bd)) →
      g.sys.findConn c = some x → x.app = some a → x.mailbox = some m → c' ∉ g.sys.listeners a m)
    (hopen : ∀ t id m, op.inner ≠ .recv c' t id (.open_ (some m))) :
    ∀ sd ph bd rx mid b, Event.frame c' (.message sd ph bd rx mid) b ∉ (g.sys.step op).out := by
  intro sd ph bd rx mid b h
  rcases (C02_no_message_outside_add_open hI op h).2 with ⟨c, x, a, m, e, hx, ha, _, hm, hl⟩ |
      ⟨t, oid, _, _, _, m, e, _⟩
  · exact hadd c rx mid ph bd x a m e hx ha hm hl
  · exact hopen t oid m e

/-- **along a history**: every `message` frame in the trace of a well-formed history stems from one
    step of it, and in the state that step starts from it is a live delivery to a subscriber or the
    replay to an opener -/
theorem C02_message_in_trace (ops : List Op) :
    ∀ {g : GSys}, g.GInv → g.WF ops → ∀ {c' : Nat} {sd : String} {ph bd : Val} {rx : Time} {mid : Val} {b : Bool},
      Event.frame c' (.message sd ph bd rx mid) b ∈ (g.sys.run ops).2 →
      ∃ p1 op p2, ops = p1 ++ op :: p2 ∧
        Event.frame c' (.message sd ph bd rx mid) b ∈ ((g.run p1).sys.step op).out ∧ b = true ∧
        ((g.run p1).sys.LiveDelivery op c' sd ph bd rx mid ∨ (g.run p1).sys.OpenReplay op c' sd ph bd rx mid) := by
  induction ops with
  | nil => intro g _ _ c' sd ph bd rx mid b h; cases h
  | cons op rest ih =>
    intro g hI hwf c' sd ph bd rx mid b h
    simp only [Sys.run, List.mem_append] at h
    rcases h with h | h
    · obtain ⟨k1, k2⟩ := C02_no_message_outside_add_open hI op h
      exact ⟨[], op, rest, rfl, h, k1, k2⟩
    · obtain ⟨p1, op', p2, e, k0, k1, k2⟩ := ih (g := g.step op) (hI.step op hwf.1) hwf.2 h
      exact ⟨op :: p1, op', p2, by rw [e]; rfl, k0, k1, k2⟩

/-- the same for the histories from the initial state -/
theorem C02_message_in_trace' (cfg : Cfg) (rb : Time) (ops : List Op) (hwf : (GSys.init cfg rb).WF ops)
    {c' : Nat} {sd : String} {ph bd : Val} {rx : Time} {mid : Val} {b : Bool}
    (h : Event.frame c' (.message sd ph bd rx mid) b ∈ ((GSys.init cfg rb).sys.run ops).2) :
    ∃ p1 op p2, ops = p1 ++ op :: p2 ∧
      Event.frame c' (.message sd ph bd rx mid) b ∈ (((GSys.init cfg rb).run p1).sys.step op).out ∧ b = true ∧
      (((GSys.init cfg rb).run p1).sys.LiveDelivery op c' sd ph bd rx mid ∨
        ((GSys.init cfg rb).run p1).sys.OpenReplay op c' sd ph bd rx mid) :=
  C02_message_in_trace ops (GSys.GInv.init cfg rb) hwf h

/-! ## non-vacuity: a reachable state with two subscribers of ("A","m") and a third, bound connection -/

namespace C02bEx

/-- connections 1 (side "s1") and 2 (side "s2") of app "A" are subscribed to "m", which stores one
    message; connection 3 (side "s1" again) is bound and holds no handle -/
def hist : List Op :=
  [.connect 1, .recv 1 1 .null (.bind (some "A") (some "s1") none none),
   .recv 1 2 .null (.open_ (some "m")),
   .recv 1 3 (.str "i1") (.add (some (.str "ph")) (some (.str "bd"))),
   .connect 2, .recv 2 4 .null (.bind (some "A") (some "s2") none none),
   .recv 2 5 .null (.open_ (some "m")),
   .connect 3, .recv 3 6 .null (.bind (some "A") (some "s1") none none)]

theorem hist_wf : (GSys.init {} 0).WF hist := GSys.wfB_sound (by decide +kernel)

def g : GSys := (GSys.init {} 0).run hist

theorem g_reach : g.Reach := GSys.reach_run (.init {} 0) hist hist_wf

def x1 : Conn :=
  { id := 1, app := some "A", side := some "s1", listening := true, mailbox := some "m", mailboxId := some "m" }
def x3 : Conn := { id := 3, app := some "A", side := some "s1" }

/-- (a): the hypotheses of `C02_delivery'` hold for connection 1 adding after `hist`; the ghost
    subscriber set is {1, 2} -/
example := C02_delivery' {} 0 hist hist_wf (c := 1) (x := x1) (a := "A") (σ := "s1") (m := "m") 7 (.int 7)
  (.str "p2") (.str "b2") (by decide +kernel) rfl rfl rfl
example : subsLog "A" "m" {} 0 hist = [1, 2] := by decide +kernel

/-- (b), live delivery: connection 1 adds; the frame sent to connection 2 is classified ... -/
example := C02_no_message_outside_add_open g_reach.ginv
  (.recv 1 7 (.int 7) (.add (some (.str "p2")) (some (.str "b2"))))
  (c' := 2) (sd := "s1") (ph := .str "p2") (bd := .str "b2") (rx := 7) (mid := .int 7) (b := true)
  (by decide +kernel)

/-- ... as `LiveDelivery`, with these witnesses -/
example : g.sys.LiveDelivery (.recv 1 7 (.int 7) (.add (some (.str "p2")) (some (.str "b2")))) 2 "s1"
    (.str "p2") (.str "b2") 7 (.int 7) :=
  ⟨1, x1, "A", "m", rfl, by decide +kernel, rfl, rfl, rfl, by decide +kernel⟩

/-- the same `add` killed after its commit (`crashIn 2`: the step commits once, so the whole output was
    sent): the theorem classifies the wrapped operation; killed AT the commit (`crashIn 1`) no `message`
    frame was sent -/
example := C02_no_message_outside_add_open g_reach.ginv
  (.crashIn 2 (.recv 1 7 (.int 7) (.add (some (.str "p2")) (some (.str "b2")))))
  (c' := 2) (sd := "s1") (ph := .str "p2") (bd := .str "b2") (rx := 7) (mid := .int 7) (b := true)
  (by decide +kernel)
example : (g.sys.step (.crashIn 1 (.recv 1 7 (.int 7) (.add (some (.str "p2")) (some (.str "b2")))))).out =
    [.frame 1 (.ack (.int 7)) true, .commit .chan] := by decide +kernel

/-- (b), replay: connection 3 opens "m" and is replayed the stored message -- nobody else is sent
    anything -/
example := C02_no_message_outside_add_open g_reach.ginv (.recv 3 7 .null (.open_ (some "m")))
  (c' := 3) (sd := "s1") (ph := .str "ph") (bd := .str "bd") (rx := 3) (mid := .str "i1") (b := true)
  (by decide +kernel)

example : g.sys.OpenReplay (.recv 3 7 .null (.open_ (some "m"))) 3 "s1" (.str "ph") (.str "bd") 3 (.str "i1") :=
  ⟨7, .null, x3, "A", "s1", "m", rfl, by decide +kernel, rfl, rfl, rfl, by decide +kernel,
    ⟨"A", "m", "s1", .str "ph", .str "bd", 3, .str "i1"⟩, by decide +kernel, rfl, rfl, rfl, rfl, rfl, rfl, rfl⟩

example : (g.sys.step (.recv 3 7 .null (.open_ (some "m")))).out =
    [.frame 3 (.ack .null) true, .commit .chan,
     .frame 3 (.message "s1" (.str "ph") (.str "bd") 3 (.str "i1")) true] := by decide +kernel

/-- `C02_silent_step`: connection 1's `close` (the other side stays open) sends subscriber 2 no
    `message` frame; neither does a sweep, nor connection 3's `open` -/
example := C02_silent_step g_reach.ginv (.recv 1 7 .null (.close none none)) 2
  (by intro c t id ph bd x a m h; cases h) (by intro t id m h; cases h)
example := C02_silent_step g_reach.ginv (.sweep 100 false) 2
  (by intro c t id ph bd x a m h; cases h) (by intro t id m h; cases h)
example := C02_silent_step g_reach.ginv (.recv 3 7 .null (.open_ (some "m"))) 2
  (by intro c t id ph bd x a m h; cases h) (by intro t id m h; cases h)

/-- `C02_message_in_trace'`: the replay frame sent to connection 2 at its `open` (seventh operation) -/
example := C02_message_in_trace' {} 0 hist hist_wf
  (c' := 2) (sd := "s1") (ph := .str "ph") (bd := .str "bd") (rx := 3) (mid := .str "i1") (b := true)
  (by decide +kernel)

end C02bEx

#print axioms C02_delivery'
#print axioms C02_no_message_outside_add_open
#print axioms C02_silent_step
#print axioms C02_message_in_trace
#print axioms C02_message_in_trace'

end Wormhole
