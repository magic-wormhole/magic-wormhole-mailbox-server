/-
  C14 — "Re-sending an acknowledged command is harmless".

  Property (properties.jsonl): if a claim, release, open or close was processed successfully and the
  client — not having seen the answer — reconnects with the same side and sends it again, it gets the
  same answer, and neither the answers to any later command from anyone nor the stored channel state
  differ from the history without the duplicate.

  THE SETTING.  `op = recv c t id cmd` is an operation of a well-formed history, received on a
  connection `c` bound to `(a, σ)`, and SUCCESSFULLY ANSWERED (`Answered`, Inv/DupOrig.lean, read off
  the events of the step: the frame `claimed m` / `released` / `closed` was sent to `c`; for `open`: `ack`
  was sent and the step produced no `error` frame and no escaped exception).  The duplicate is

      dup c' = [connect c', recv c' t id₁ (bind a σ impl ver), recv c' t id cmd', drop c']

  with `c'` an id no live connection has and `cmd'` the command with its nameplate / mailbox named
  explicitly (`Resend`: `claim n f'` with ANY generated id `f'`; `release n` for the nameplate the
  original resolved; `open m`; `close m mood` for the mailbox the original resolved, same mood).

  THE FULL STATEMENT (DESIGN.md §6 `C14_duplicate_harmless`) — FALSE for the model and the code:

      for all H₁, H₂ and every successfully answered op ∈ {claim, release, open, close}:
      with A = run (H₁ ++ [op] ++ dup ++ H₂) and B = run (H₁ ++ [op] ++ H₂),
      (i) c' receives the answer the original got, (ii) the events of H₂ are equal in A and B,
      (iii) the five tables are equal at the end.

  WHAT IS PROVED: `C14_duplicate_harmless_partial` = the full statement
    * for `claim`, `release`, `open`: with NO guard beyond "successfully answered" (for claim and open
      the guard of K-crowded-rejoin — at most two side rows — is IMPLIED by the answer of the original:
      `Sys.orig_claim`, `Sys.orig_open`; the re-sent claim may carry any generated id);
    * for `close` when the mailbox did not survive the original close: no guard;
    * for `close` when the mailbox survives (another side still has it open): under the guard `CloseGuard`
          (a) the mailbox has at most two side rows          — finding K-crowded-rejoin: otherwise the
              re-sent close is answered `crowded` (`Sys.dup_close_crowded`, `C14_close_crowded_counterexample`);
          (b) the row's `updated` column already equals `t`  — finding K-close-touch: otherwise the
              implicit `open_mailbox` of `handle_close` stamps `updated := t`.
      Without (b): `C14_close_survives_step` — the answer is `closed` again, the connection records,
      the configuration and all five tables and the counter are equal EXCEPT the column `updated` of
      that one mailbox row, which becomes `t` (`Chan.EqUpToUpdated`); `C14_close_touch_counterexample`
      shows a later sweep deleting the mailbox in the run without the duplicate and not in the run
      with it, and a later `open` replaying a message in one run and not in the other.
  The variant of K-crowded-rejoin for a claim re-sent LATER (after a third side touched the mailbox) is
  `C14_claim_crowded_counterexample`.

  Hypotheses of the history theorem: `H₁ ++ [op]` well-formed from the initial state of any
  configuration (crashes in `H₁` allowed); `H₂` any history without `crashIn` (no well-formedness
  needed; a `crashIn k` counts effective commits of BOTH databases and the duplicate leaves extra
  usage rows, so the two runs of a crash are different experiments — cf. Props/C18.lean).

  What may differ between the two runs and is not claimed equal: the usage database (`client_versions`
  row of the duplicate's `bind`; one usage `mailboxes` row when a re-sent close re-creates and
  re-deletes a mailbox) — it is not part of the stored channel state — and hence the effective
  usage commits in the trace (erased by `eraseUsage`, which keeps every frame with addressee,
  content and flag, every channel commit, every `internal` and `fired` event, in order).
-/
import Wormhole.Inv.DupHist
import Wormhole.Inv.WFDec
import Wormhole.Props.C05

namespace Wormhole
open Sys

abbrev start (cfg : Cfg) (rb : Time) : Sys := (GSys.init cfg rb).sys

/-- every table and the counter equal except the column `updated` of the mailbox row(s) with id `m`:
    `d'` is `d` with `UPDATE mailboxes SET updated=u WHERE id=m` applied, for some `u` -/
def Chan.EqUpToUpdated (m : String) (d d' : Chan) : Prop := ∃ u : Time, d' = d.touch m u

theorem Chan.EqUpToUpdated.tables {m : String} {d d' : Chan} (h : Chan.EqUpToUpdated m d d') :
    d'.nameplates = d.nameplates ∧ d'.npSides = d.npSides ∧ d'.mbSides = d.mbSides ∧
    d'.messages = d.messages ∧ d'.nextNp = d.nextNp ∧
    ∃ u : Time, d'.mailboxes = d.mailboxes.map (fun r => if r.id = m then { r with updated := u } else r) := by
  obtain ⟨u, rfl⟩ := h
  exact ⟨rfl, rfl, rfl, rfl, rfl, u, rfl⟩

/-! ## The functions and statements, executed twice (under the property's name) -/

/-- **C14 (claim twice).**  If `claim_nameplate(a, n, σ, t)` just answered `ok m` — leaving a database
    that satisfies the invariant — then on every state with that database a second
    `claim_nameplate(a, n, σ, t)`, with any generated id `f'`, answers `ok m` again and leaves the channel
    database (five tables and the counter) and the connection records unchanged.  The guard of
    K-crowded-rejoin is implied: `ok` means at most two side rows on nameplate and mailbox. -/
theorem C14_claim_idempotent {s s1 s' : Sys} {a n σ : String} {t : Time} {f m : String} (hP1 : s1.db.PInv)
    (h : s.claimNameplate a n σ t f = (s1, .ok m)) (hdb : s'.db = s1.db) (f' : String) :
    (s1.db.mbSidesOf m).length ≤ 2 ∧
    ∃ s2, s'.claimNameplate a n σ t f' = (s2, .ok m) ∧ s2.db = s'.db ∧ s2.conns = s'.conns := by
  have hD := claimNameplate_ok_done hP1 h
  exact ⟨hD.two, claimNameplate_again (by rw [hdb]; exact hP1) (by rw [hdb]; exact hD) f'⟩

/-- **C14 (release twice).**  Whatever `release_nameplate(a, n, σ, t)` did (from a database satisfying
    the invariant), a second call — at any time — on a state with the resulting database returns
    normally (`released` is answered both times) and leaves the database and the connection records
    unchanged: the row is already unclaimed and another side still claims (the UPDATE rewrites the
    same value), or the nameplate is gone, or the side has no row. -/
theorem C14_release_idempotent {s s1 s' : Sys} {a n σ : String} {t t' : Time} {b : Bool} (hP : s.db.PInv)
    (h : s.releaseNameplate a n σ t = (s1, b)) (hdb : s'.db = s1.db) :
    ∃ s2, s'.releaseNameplate a n σ t' = (s2, true) ∧ s2.db = s'.db ∧ s2.conns = s'.conns := by
  cases e : s'.releaseNameplate a n σ t' with
  | mk s2 b2 =>
    obtain ⟨rfl, h1, h2⟩ := releaseNameplate_again e hP h hdb
    exact ⟨s2, rfl, h1, h2⟩

/-- **C14 (open twice).**  If `open_mailbox(a, m, σ, t)` answered `ok`, a second call on a state with the
    resulting database answers `ok` again (at most two side rows: the first call checked) and leaves the
    database, the connection records, the usage database and the configuration unchanged. -/
theorem C14_open_idempotent {s s1 s' : Sys} {a m σ : String} {t : Time} (hP : s.db.PInv)
    (h : s.openMailbox a m σ t = (s1, .ok)) (hdb : s'.db = s1.db) :
    (s1.db.mbSidesOf m).length ≤ 2 ∧
    ∃ s2, s'.openMailbox a m σ t = (s2, .ok) ∧ s2.db = s'.db ∧ s2.disk = s2.db ∧ SameRest s' s2 :=
  (openMailbox_again hP h hdb).2

/-- **C14 (close again, mailbox gone)**, as a statement about the database: `open_mailbox` followed by
    `Mailbox.close` — what `handle_close` does on a connection without a handle — on a database (with the
    invariant) in which no mailbox row has id `m` gives back that database. -/
theorem C14_close_gone_idempotent {d : Chan} (hP : d.PInv) {a m σ : String} {mood : Option String} {t : Time}
    (hgone : ¬ d.HasId m) : (d.openDb a m σ t).closeDb a m σ mood = d :=
  Chan.closeDb_openDb_gone hP hgone

/-- **C14 (close again, mailbox survived) — K-close-touch**, as a statement about the database: the same
    on a database in the state a close by `σ` with mood `mood` left while another side is open gives
    `touch m t` of it (`EqUpToUpdated`), and the database itself when the row already carries `t`. -/
theorem C14_close_survived_touch {d : Chan} (hP : d.PInv) {a m σ : String} {mood : Option String} {t : Time}
    (h : d.CloseSurvived a m σ mood) :
    (d.openDb a m σ t).closeDb a m σ mood = d.touch m t ∧
    Chan.EqUpToUpdated m d ((d.openDb a m σ t).closeDb a m σ mood) ∧
    ((∀ r ∈ d.mailboxes, r.id = m → r.updated = t) → (d.openDb a m σ t).closeDb a m σ mood = d) := by
  have e := Chan.closeDb_openDb_survived hP.mbIds (t := t) h
  exact ⟨e, ⟨t, e⟩, fun hst => by rw [e, Chan.touch_eq_self hst]⟩

/-! ### non-vacuity of their hypotheses -/

namespace C14ExA

/-- a database with two sides on nameplate "4" / mailbox "mb1", and an unrelated mailbox -/
def d0 : Chan :=
  { nameplates := [⟨1, "app", "4", "mb1"⟩], npSides := [⟨1, true, "s1", 11⟩, ⟨1, true, "s2", 13⟩],
    mailboxes := [⟨"app", "mb1", 13, true⟩, ⟨"app", "other", 5, false⟩],
    mbSides := [⟨"mb1", true, "s1", 11, none⟩, ⟨"mb1", true, "s2", 13, none⟩, ⟨"other", true, "s9", 5, none⟩],
    nextNp := 2 }
def s0 : Sys := { db := d0, disk := d0 }

instance (d : Chan) : Decidable d.IdsBounded := by unfold Chan.IdsBounded; infer_instance

theorem d0_pinv : d0.PInv := by constructor <;> decide

/-- `C14_claim_idempotent`: a first claim by a third connection of side s1 answers `ok "mb1"` from `s0`, and the
    database afterwards satisfies the invariant -/
example : (s0.claimNameplate "app" "4" "s1" 20 "f").2 = .ok "mb1" ∧ (s0.claimNameplate "app" "4" "s1" 20 "f").1.db.PInv :=
  ⟨by decide +kernel, by constructor <;> decide +kernel⟩

/-- ... and the conclusion evaluated: the second call (another generated id) answers the same, same database -/
example : ((s0.claimNameplate "app" "4" "s1" 20 "f").1.claimNameplate "app" "4" "s1" 20 "g").2 = .ok "mb1" ∧
    ((s0.claimNameplate "app" "4" "s1" 20 "f").1.claimNameplate "app" "4" "s1" 20 "g").1.db =
      (s0.claimNameplate "app" "4" "s1" 20 "f").1.db := by decide +kernel

/-- `C14_release_idempotent`: hypotheses (the invariant before the first call) and the evaluated conclusion -/
example : s0.db.PInv ∧
    ((s0.releaseNameplate "app" "4" "s1" 20).1.releaseNameplate "app" "4" "s1" 21).2 = true ∧
    ((s0.releaseNameplate "app" "4" "s1" 20).1.releaseNameplate "app" "4" "s1" 21).1.db =
      (s0.releaseNameplate "app" "4" "s1" 20).1.db ∧
    (s0.releaseNameplate "app" "4" "s1" 20).1.db ≠ s0.db :=
  ⟨d0_pinv, by decide +kernel, by decide +kernel, by decide +kernel⟩

/-- `C14_open_idempotent`: the first open answers `ok`; evaluated conclusion -/
example : s0.db.PInv ∧ (s0.openMailbox "app" "mb1" "s1" 20).2 = .ok ∧
    ((s0.openMailbox "app" "mb1" "s1" 20).1.openMailbox "app" "mb1" "s1" 20).2 = .ok ∧
    ((s0.openMailbox "app" "mb1" "s1" 20).1.openMailbox "app" "mb1" "s1" 20).1.db =
      (s0.openMailbox "app" "mb1" "s1" 20).1.db ∧
    (s0.openMailbox "app" "mb1" "s1" 20).1.db ≠ s0.db :=
  ⟨d0_pinv, by decide +kernel, by decide +kernel, by decide +kernel, by decide +kernel⟩

/-- `C14_close_gone_idempotent`: no mailbox "gone" in `d0` -/
example : d0.PInv ∧ ¬ d0.HasId "gone" ∧ (d0.openDb "app" "gone" "s1" 20).closeDb "app" "gone" "s1" (some "happy") = d0 :=
  ⟨d0_pinv, by decide, by decide +kernel⟩

/-- the database after side s1 closed "mb1" with mood happy while s2 has it open -/
def d1 : Chan := d0.closeSide "mb1" "s1" (some "happy")

/-- `C14_close_survived_touch`: hypotheses hold for `d1`; the stamp moves from 13 to 20 -/
example : d1.PInv ∧ d1.CloseSurvived "app" "mb1" "s1" (some "happy") ∧
    (d1.openDb "app" "mb1" "s1" 20).closeDb "app" "mb1" "s1" (some "happy") ≠ d1 ∧
    (d1.openDb "app" "mb1" "s1" 13).closeDb "app" "mb1" "s1" (some "happy") = d1 :=
  ⟨by constructor <;> decide, ⟨by decide, by decide, by decide, by decide⟩, by decide +kernel, by decide +kernel⟩

end C14ExA

/-! ## The history theorem -/

/-- **`Resend` loses no case**: every successfully answered claim / release / open / close resolves to a
    nameplate or mailbox name, i.e. has a re-sent form (`claim` / `open` without a name are refused by
    validation, `release` / `close` without a name resolve to the claimed nameplate / the handle or the
    remembered id). -/
theorem C14_resend_exists {g : GSys} (hI : g.GInv) (hH : g.sys.HandleRow) {c : Nat} {t : Time} {id : Val} {cmd : Cmd}
    (hw : g.WFOp (.recv c t id cmd)) {x : Conn} {a σ : String} (hx : g.sys.findConn c = some x)
    (ha : x.app = some a) (hσ : x.side = some σ)
    (hans : Answered (g.sys.step (.recv c t id cmd)).out c id cmd) : ∃ cmd', Resend x cmd cmd' := by
  cases cmd with
  | claim nm f =>
    obtain ⟨m, b, hA⟩ := hans
    obtain ⟨n, rfl, _⟩ := orig_claim hI hx ha hσ (hI.step _ hw) hA
    exact ⟨_, .claim n f f⟩
  | release nm =>
    obtain ⟨b, hA⟩ := hans
    obtain ⟨n, hn, _⟩ := orig_release hI hx ha hσ hA
    exact ⟨_, .release nm n hn⟩
  | open_ mo =>
    obtain ⟨m, rfl, _⟩ := orig_open hI hx ha hσ hans.2
    exact ⟨_, .open_ m⟩
  | close mo mood =>
    obtain ⟨b, hA⟩ := hans
    obtain ⟨m, hm, _⟩ := orig_close hI hH hx ha hσ hA
    exact ⟨_, .close mo m mood hm⟩
  | _ => exact hans.elim


/-- the setting of the history theorems: `H₁ ++ [op]` is well-formed from the initial state.  Then the state
    before `op` is the system part of a reachable ghost state `g` (invariant; every handle has its side row),
    `op` is well-formed there, the invariant holds after it, and the run splits at `op`. -/
theorem C14_setting {cfg : Cfg} {rb : Time} {H₁ : List Op} {op : Op} (hwf : (GSys.init cfg rb).WF (H₁ ++ [op])) :
    ∃ g : GSys, g.sys = (Sys.run (start cfg rb) H₁).1 ∧ g.GInv ∧ g.sys.HandleRow ∧ g.WFOp op ∧ (g.step op).GInv ∧
      Sys.run (start cfg rb) (H₁ ++ [op]) =
        ((Sys.run (start cfg rb) H₁).1.step op, (Sys.run (start cfg rb) H₁).2 ++ ((Sys.run (start cfg rb) H₁).1.step op).out) := by
  obtain ⟨hwf1, hwf2⟩ := GSys.WF_append.1 hwf
  have hReach := GSys.reach_run (.init cfg rb) H₁ hwf1
  refine ⟨_, GSys.run_sys _ _, hReach.ginv, C05.handleRow_reach hReach, hwf2.1,
    hReach.ginv.step _ hwf2.1, ?_⟩
  rw [Sys.run_append]
  simp [Sys.run]

/-- **C14_duplicate_harmless_partial.**  See the header for the full statement and the guards.
    `A` = the run with the duplicate, `B` = the run without.  Conclusions:
    * the original was answered by exactly `ack id`, commits, `answerOf … c` (for claim: `claimed m`;
      release: `released`; open: the replay of the stored messages; close: `closed`);
    * (i) the events of the duplicate are exactly `dupEvents`: `welcome`, `ack id₁` (+ commits) for the
      bind, then `ack id`, commits and `answerOf … c'` — the SAME answer frames with `c'` for `c`; every
      frame among them is addressed to `c'`;
    * (ii) the events of `H₂` are equal in `A` and `B` once usage commits are erased; in particular the
      frames — to every connection, with content, flag and order — are equal;
    * (iii) at the end the channel database (five tables and the counter), its committed copy, the
      connection records and the configuration are equal. -/
theorem C14_duplicate_harmless_partial (cfg : Cfg) (rb : Time) (H₁ H₂ : List Op) (c : Nat) (t : Time) (id : Val)
    (cmd cmd' : Cmd)
    (hwf : (GSys.init cfg rb).WF (H₁ ++ [Op.recv c t id cmd]))
    (hcf : ∀ op ∈ H₂, op.isCrash = false)
    {x : Conn} {a σ : String}
    (hx : (Sys.run (start cfg rb) H₁).1.findConn c = some x) (ha : x.app = some a) (hσ : x.side = some σ)
    (hre : Resend x cmd cmd')
    (hans : Answered ((Sys.run (start cfg rb) H₁).1.step (.recv c t id cmd)).out c id cmd)
    (hguard : CloseGuard (Sys.run (start cfg rb) (H₁ ++ [Op.recv c t id cmd])).1 t cmd')
    (c' : Nat) (hfresh : ∀ y ∈ (Sys.run (start cfg rb) (H₁ ++ [Op.recv c t id cmd])).1.conns, y.id ≠ c')
    (id₁ : Val) (impl ver : Option String) :
    ∃ (m : String) (commits₀ commits₁ commits tailA tailB : List Event),
      (∀ e ∈ commits₀, IsCommit e) ∧ (∀ e ∈ commits₁, IsCommit e) ∧ (∀ e ∈ commits, IsCommit e) ∧
      (Sys.run (start cfg rb) (H₁ ++ [Op.recv c t id cmd])).2 =
        (Sys.run (start cfg rb) H₁).2 ++
          (.frame c (.ack id) true ::
            (commits₀ ++ answerOf (Sys.run (start cfg rb) (H₁ ++ [Op.recv c t id cmd])).1.db a m cmd' c)) ∧
      (Sys.run (start cfg rb) (H₁ ++ [Op.recv c t id cmd] ++ dup c' t id₁ id a σ impl ver cmd' ++ H₂)).2 =
        (Sys.run (start cfg rb) (H₁ ++ [Op.recv c t id cmd])).2 ++
          dupEvents (Sys.run (start cfg rb) (H₁ ++ [Op.recv c t id cmd])).1.cfg.welcome c' id₁ id commits₁ commits
            (answerOf (Sys.run (start cfg rb) (H₁ ++ [Op.recv c t id cmd])).1.db a m cmd' c') ++ tailA ∧
      (Sys.run (start cfg rb) (H₁ ++ [Op.recv c t id cmd] ++ H₂)).2 =
        (Sys.run (start cfg rb) (H₁ ++ [Op.recv c t id cmd])).2 ++ tailB ∧
      (∀ k f b, Event.frame k f b ∈
          dupEvents (Sys.run (start cfg rb) (H₁ ++ [Op.recv c t id cmd])).1.cfg.welcome c' id₁ id commits₁ commits
            (answerOf (Sys.run (start cfg rb) (H₁ ++ [Op.recv c t id cmd])).1.db a m cmd' c') → k = c') ∧
      tailA.filterMap eraseUsage = tailB.filterMap eraseUsage ∧
      tailA.filter Event.isFrame = tailB.filter Event.isFrame ∧
      (Sys.run (start cfg rb) (H₁ ++ [Op.recv c t id cmd] ++ dup c' t id₁ id a σ impl ver cmd' ++ H₂)).1.db =
        (Sys.run (start cfg rb) (H₁ ++ [Op.recv c t id cmd] ++ H₂)).1.db ∧
      (Sys.run (start cfg rb) (H₁ ++ [Op.recv c t id cmd] ++ dup c' t id₁ id a σ impl ver cmd' ++ H₂)).1.disk =
        (Sys.run (start cfg rb) (H₁ ++ [Op.recv c t id cmd] ++ H₂)).1.disk ∧
      (Sys.run (start cfg rb) (H₁ ++ [Op.recv c t id cmd] ++ dup c' t id₁ id a σ impl ver cmd' ++ H₂)).1.conns =
        (Sys.run (start cfg rb) (H₁ ++ [Op.recv c t id cmd] ++ H₂)).1.conns ∧
      (Sys.run (start cfg rb) (H₁ ++ [Op.recv c t id cmd] ++ dup c' t id₁ id a σ impl ver cmd' ++ H₂)).1.cfg =
        (Sys.run (start cfg rb) (H₁ ++ [Op.recv c t id cmd] ++ H₂)).1.cfg := by
  obtain ⟨g, hsys, hI, hH, hw, hI', e1⟩ := C14_setting hwf
  -- both runs split at the end of `H₁ ++ [op]`; from there on everything is about `g.sys.step op`
  rw [Sys.run_append (start cfg rb) (H₁ ++ [Op.recv c t id cmd] ++ dup c' t id₁ id a σ impl ver cmd') H₂,
    Sys.run_append (start cfg rb) (H₁ ++ [Op.recv c t id cmd]) (dup c' t id₁ id a σ impl ver cmd'),
    Sys.run_append (start cfg rb) (H₁ ++ [Op.recv c t id cmd]) H₂]
  rw [e1] at hguard hfresh ⊢
  rw [← hsys] at hx hans hguard hfresh ⊢
  obtain ⟨m, commits₀, hc0, hout0, h3⟩ := dup_after_op hI hH hw hx ha hσ hre hans hguard c' hfresh
  have hs : (g.sys.step (.recv c t id cmd)).Synced := hI'.synced
  obtain ⟨k1, k2, k3, k4, k5, commits₁, commits, hc1, hc, hev⟩ :=
    dup_run_of_step3 hs hfresh a σ t id₁ id impl ver cmd' h3
  obtain ⟨hfin, htr⟩ := DupSim_run H₂ hcf ⟨⟨k1, k2.trans hs.1, k3⟩, k4, k5, hs, by rw [k1]; exact hI'.cinv.npOk⟩
  exact ⟨m, commits₀, commits₁, commits, _, _, hc0, hc1, hc, by rw [hout0], by rw [hev], rfl,
    dupEvents_private hc1 hc (answerOf_to _ a m cmd' c'), htr, frames_eq_of_eraseUsage_eq htr,
    hfin.chan.1, hfin.chan.2.1, hfin.chan.2.2, hfin.cfg⟩

/-- **C14_close_survives_step (K-close-touch, exactly).**  The re-sent `close` of a mailbox that SURVIVES
    the original close, under the guard "at most two side rows" alone (K-crowded-rejoin), for `H₂ = []`:
    the original and the duplicate are both answered `ack`, commits, `closed`; right after the duplicate
    the connection records, the configuration and the committed copy agree with the database, and
    the channel database equals the one after the original EXCEPT the column `updated` of the mailbox
    row `m`, which is `t` (`touch m t`; `Chan.EqUpToUpdated`).  It is the database itself when that
    column already was `t` (e.g. when the original close was sent on a connection without a handle,
    whose implicit open had stamped it). -/
theorem C14_close_survives_step (cfg : Cfg) (rb : Time) (H₁ : List Op) (c : Nat) (t : Time) (id : Val)
    (mo mood : Option String)
    (hwf : (GSys.init cfg rb).WF (H₁ ++ [Op.recv c t id (.close mo mood)]))
    {x : Conn} {a σ m : String}
    (hx : (Sys.run (start cfg rb) H₁).1.findConn c = some x) (ha : x.app = some a) (hσ : x.side = some σ)
    (htg : x.closeTarget mo = some m)
    (hans : Answered ((Sys.run (start cfg rb) H₁).1.step (.recv c t id (.close mo mood))).out c id (.close mo mood)) :
    let SB := Sys.run (start cfg rb) (H₁ ++ [Op.recv c t id (.close mo mood)])
    SB.1.db.HasId m → (SB.1.db.mbSidesOf m).length ≤ 2 → ∀ c' : Nat, (∀ y ∈ SB.1.conns, y.id ≠ c') →
    ∀ (id₁ : Val) (impl ver : Option String),
    let SA := Sys.run (start cfg rb)
      (H₁ ++ [Op.recv c t id (.close mo mood)] ++ dup c' t id₁ id a σ impl ver (.close (some m) mood))
    ∃ (commits₀ commits₁ commits : List Event),
      (∀ e ∈ commits₀, IsCommit e) ∧ (∀ e ∈ commits₁, IsCommit e) ∧ (∀ e ∈ commits, IsCommit e) ∧
      SB.2 = (Sys.run (start cfg rb) H₁).2 ++ (.frame c (.ack id) true :: (commits₀ ++ [.frame c .closed true])) ∧
      SA.2 = SB.2 ++ dupEvents SB.1.cfg.welcome c' id₁ id commits₁ commits [.frame c' .closed true] ∧
      SA.1.db = SB.1.db.touch m t ∧ Chan.EqUpToUpdated m SB.1.db SA.1.db ∧
      ((∀ r ∈ SB.1.db.mailboxes, r.id = m → r.updated = t) → SA.1.db = SB.1.db) ∧
      SA.1.conns = SB.1.conns ∧ SA.1.cfg = SB.1.cfg ∧ SA.1.Synced := by
  intro SB hid hlen c' hfresh id₁ impl ver SA
  obtain ⟨g, hsys, hI, hH, hw, hI', e1⟩ := C14_setting hwf
  have eA : SA = _ := Sys.run_append (start cfg rb) (H₁ ++ [Op.recv c t id (.close mo mood)])
    (dup c' t id₁ id a σ impl ver (.close (some m) mood))
  rw [eA]
  dsimp only [SB] at hid hlen hfresh ⊢
  rw [e1] at hid hlen hfresh ⊢
  rw [← hsys] at hx hans hid hlen hfresh ⊢
  obtain ⟨_, commits₀, hc0, hout0, h3⟩ := dup_after_close_survived hI hH hw hx ha hσ htg hans hid hlen c' hfresh
  have hs : (g.sys.step (.recv c t id (.close mo mood))).Synced := hI'.synced
  obtain ⟨k1, _, k3, k4, k5, commits₁, commits, hc1, hc, hev⟩ :=
    dup_run_of_step3 hs hfresh a σ t id₁ id impl ver (.close (some m) mood) h3
  exact ⟨commits₀, commits₁, commits, hc0, hc1, hc, by rw [hout0], by rw [hev], k1, ⟨t, k1⟩,
    fun hst => by rw [k1, Chan.touch_eq_self hst], k3, k4, k5⟩

/-! ## Non-vacuity, evaluated duplicates, counterexamples -/

namespace C14Ex

def cfg : Cfg := { usage := true }
def st : Sys := start cfg 0
/-- a configuration without usage database (the kernel evaluates the examples; the usage summaries sort
    with `List.mergeSort`, which it does not unfold on lists of two or more) -/
def cfgN : Cfg := {}
def stN : Sys := start cfgN 0
def bind (c : Nat) (t : Time) (σ : String) : Op := .recv c t (.int 1) (.bind (some "app") (some σ) (some "impl") none)

/-! ### claim -/

def Hc1 : List Op := [ .connect 1, bind 1 10 "s1" ]
def cmdC : Cmd := .claim (some "4") "mb1"
/-- the second side claims the same nameplate, both open the mailbox -/
def Hc2 : List Op :=
  [ .connect 2, bind 2 20 "s2", .recv 2 21 (.int 2) (.claim (some "4") "mb2"),
    .recv 2 22 (.int 3) (.open_ (some "mb1")), .recv 1 23 (.int 3) (.open_ (some "mb1")), .sweep 30 false ]
/-- the duplicate carries ANOTHER generated mailbox id -/
def dupC : List Op := dup 9 11 (.int 7) (.int 2) "app" "s1" none none (.claim (some "4") "zzz")
def xC : Conn := { id := 1, app := some "app", side := some "s1" }

/-- the hypotheses of `C14_duplicate_harmless_partial` hold for the claim scenario -/
example : (GSys.init cfg 0).WF (Hc1 ++ [Op.recv 1 11 (.int 2) cmdC]) ∧ (∀ op ∈ Hc2, op.isCrash = false) ∧
    (Sys.run (start cfg 0) Hc1).1.findConn 1 = some xC ∧ xC.app = some "app" ∧ xC.side = some "s1" ∧
    Resend xC cmdC (.claim (some "4") "zzz") ∧
    Answered ((Sys.run (start cfg 0) Hc1).1.step (.recv 1 11 (.int 2) cmdC)).out 1 (.int 2) cmdC ∧
    CloseGuard (Sys.run (start cfg 0) (Hc1 ++ [Op.recv 1 11 (.int 2) cmdC])).1 11 (.claim (some "4") "zzz") ∧
    (∀ y ∈ (Sys.run (start cfg 0) (Hc1 ++ [Op.recv 1 11 (.int 2) cmdC])).1.conns, y.id ≠ 9) :=
  ⟨GSys.wfB_sound (by decide +kernel), by decide, by decide +kernel, rfl, rfl, .claim _ _ _,
    ⟨"mb1", true, by decide +kernel⟩, (fun _ _ h => by cases h), by decide +kernel⟩

/-- evaluated, not derived: the duplicate gets `ack, claimed "mb1"`; frames of the tail and final databases are equal -/
example :
    ((Sys.run st (Hc1 ++ [Op.recv 1 11 (.int 2) cmdC] ++ dupC)).2.filter Event.isFrame).drop 4 =
      [.frame 9 (.welcome "{}") true, .frame 9 (.ack (.int 7)) true, .frame 9 (.ack (.int 2)) true,
       .frame 9 (.claimed "mb1") true] ∧
    (Sys.run st (Hc1 ++ [Op.recv 1 11 (.int 2) cmdC] ++ dupC ++ Hc2)).1.db =
      (Sys.run st (Hc1 ++ [Op.recv 1 11 (.int 2) cmdC] ++ Hc2)).1.db ∧
    (Sys.run st (Hc1 ++ [Op.recv 1 11 (.int 2) cmdC] ++ Hc2)).1.db.mbSides.length = 2 ∧
    ((Sys.run st (Hc1 ++ [Op.recv 1 11 (.int 2) cmdC] ++ dupC ++ Hc2)).2.filter Event.isFrame).drop 8 =
      ((Sys.run st (Hc1 ++ [Op.recv 1 11 (.int 2) cmdC] ++ Hc2)).2.filter Event.isFrame).drop 4 := by
  decide +kernel

/-! ### release -/

def Hr1 : List Op :=
  [ .connect 1, bind 1 10 "s1", .recv 1 11 (.int 2) (.claim (some "4") "mb1"),
    .connect 2, bind 2 12 "s2", .recv 2 13 (.int 2) (.claim (some "4") "mb2") ]
/-- `release` without a name: resolves to the claimed nameplate "4"; side s2 still claims it -/
def cmdR : Cmd := .release none
def Hr2 : List Op :=
  [ .recv 2 15 (.int 3) (.release (some "4")), .connect 3, bind 3 16 "s3", .recv 3 17 (.int 2) .list ]
def dupR : List Op := dup 9 14 (.int 7) (.int 3) "app" "s1" none none (.release (some "4"))
def xR : Conn := { id := 1, app := some "app", side := some "s1", didClaim := true, nameplateId := some "4" }

example : (GSys.init cfgN 0).WF (Hr1 ++ [Op.recv 1 14 (.int 3) cmdR]) ∧ (∀ op ∈ Hr2, op.isCrash = false) ∧
    (Sys.run (start cfgN 0) Hr1).1.findConn 1 = some xR ∧ xR.app = some "app" ∧ xR.side = some "s1" ∧
    Resend xR cmdR (.release (some "4")) ∧
    Answered ((Sys.run (start cfgN 0) Hr1).1.step (.recv 1 14 (.int 3) cmdR)).out 1 (.int 3) cmdR ∧
    CloseGuard (Sys.run (start cfgN 0) (Hr1 ++ [Op.recv 1 14 (.int 3) cmdR])).1 14 (.release (some "4")) ∧
    (∀ y ∈ (Sys.run (start cfgN 0) (Hr1 ++ [Op.recv 1 14 (.int 3) cmdR])).1.conns, y.id ≠ 9) :=
  ⟨GSys.wfB_sound (by decide +kernel), by decide, by decide +kernel, rfl, rfl, .release _ _ rfl,
    ⟨true, by decide +kernel⟩, (fun _ _ h => by cases h), by decide +kernel⟩

/-- evaluated: the nameplate survives the first release (s2 claims); the duplicate gets `ack, released`;
    final databases equal — also when the original release deleted the nameplate (second conjunct block) -/
example :
    ((Sys.run stN (Hr1 ++ [Op.recv 1 14 (.int 3) cmdR] ++ dupR)).2.filter Event.isFrame).drop 10 =
      [.frame 9 (.welcome "{}") true, .frame 9 (.ack (.int 7)) true, .frame 9 (.ack (.int 3)) true,
       .frame 9 .released true] ∧
    (Sys.run stN (Hr1 ++ [Op.recv 1 14 (.int 3) cmdR])).1.db.nameplates.length = 1 ∧
    (Sys.run stN (Hr1 ++ [Op.recv 1 14 (.int 3) cmdR] ++ dupR)).1.db = (Sys.run stN (Hr1 ++ [Op.recv 1 14 (.int 3) cmdR])).1.db ∧
    (Sys.run stN (Hr1 ++ [Op.recv 1 14 (.int 3) cmdR] ++ dupR ++ Hr2)).1.db =
      (Sys.run stN (Hr1 ++ [Op.recv 1 14 (.int 3) cmdR] ++ Hr2)).1.db ∧
    -- the single-sided variant: the release deletes the nameplate, the duplicate finds none
    (Sys.run stN (Hr1.take 3 ++ [Op.recv 1 14 (.int 3) cmdR])).1.db.nameplates = [] ∧
    (Sys.run stN (Hr1.take 3 ++ [Op.recv 1 14 (.int 3) cmdR] ++ dupR)).1.db =
      (Sys.run stN (Hr1.take 3 ++ [Op.recv 1 14 (.int 3) cmdR])).1.db := by
  decide +kernel

/-! ### open -/

def Ho1 : List Op :=
  [ .connect 1, bind 1 10 "s1", .recv 1 11 (.int 2) (.open_ (some "mb1")),
    .recv 1 12 (.str "m1") (.add (some (.str "pake")) (some (.str "body"))), .connect 2, bind 2 13 "s2" ]
def cmdO : Cmd := .open_ (some "mb1")
def Ho2 : List Op :=
  [ .recv 2 15 (.str "m2") (.add (some (.str "pake")) (some (.str "body2"))), .recv 2 16 (.int 4) (.close none (some "happy")) ]
def dupO : List Op := dup 9 14 (.int 7) (.int 2) "app" "s2" none none (.open_ (some "mb1"))
def xO : Conn := { id := 2, app := some "app", side := some "s2" }

example : (GSys.init cfg 0).WF (Ho1 ++ [Op.recv 2 14 (.int 2) cmdO]) ∧ (∀ op ∈ Ho2, op.isCrash = false) ∧
    (Sys.run (start cfg 0) Ho1).1.findConn 2 = some xO ∧ xO.app = some "app" ∧ xO.side = some "s2" ∧
    Resend xO cmdO (.open_ (some "mb1")) ∧
    Answered ((Sys.run (start cfg 0) Ho1).1.step (.recv 2 14 (.int 2) cmdO)).out 2 (.int 2) cmdO ∧
    CloseGuard (Sys.run (start cfg 0) (Ho1 ++ [Op.recv 2 14 (.int 2) cmdO])).1 14 (.open_ (some "mb1")) ∧
    (∀ y ∈ (Sys.run (start cfg 0) (Ho1 ++ [Op.recv 2 14 (.int 2) cmdO])).1.conns, y.id ≠ 9) :=
  ⟨GSys.wfB_sound (by decide +kernel), by decide, by decide +kernel, rfl, rfl, .open_ _,
    ⟨⟨true, by decide +kernel⟩, by decide +kernel⟩, (fun _ _ h => by cases h), by decide +kernel⟩

/-- evaluated: the original open and the duplicate both get the stored message replayed; equal final databases;
    the live delivery of the later `add` goes to the two real subscribers only -/
example :
    ((Sys.run st (Ho1 ++ [Op.recv 2 14 (.int 2) cmdO] ++ dupO)).2.filter Event.isFrame).drop 7 =
      [.frame 2 (.ack (.int 2)) true,
       .frame 2 (.message "s1" (.str "pake") (.str "body") 12 (.str "m1")) true,
       .frame 9 (.welcome "{}") true, .frame 9 (.ack (.int 7)) true, .frame 9 (.ack (.int 2)) true,
       .frame 9 (.message "s1" (.str "pake") (.str "body") 12 (.str "m1")) true] ∧
    (Sys.run st (Ho1 ++ [Op.recv 2 14 (.int 2) cmdO] ++ dupO ++ Ho2)).1.db =
      (Sys.run st (Ho1 ++ [Op.recv 2 14 (.int 2) cmdO] ++ Ho2)).1.db ∧
    (Sys.run st (Ho1 ++ [Op.recv 2 14 (.int 2) cmdO] ++ Ho2)).1.db.messages.length = 2 ∧
    ((Sys.run st (Ho1 ++ [Op.recv 2 14 (.int 2) cmdO] ++ dupO ++ Ho2)).2.filter Event.isFrame).drop 13 =
      ((Sys.run st (Ho1 ++ [Op.recv 2 14 (.int 2) cmdO] ++ Ho2)).2.filter Event.isFrame).drop 9 := by
  decide +kernel

/-! ### close, the mailbox is deleted by the original -/

def Hg1 : List Op := [ .connect 1, bind 1 10 "s1", .recv 1 11 (.int 2) (.open_ (some "mb1")) ]
/-- `close` without a name on the connection that holds the handle -/
def cmdG : Cmd := .close none (some "happy")
def Hg2 : List Op := [ .connect 2, bind 2 20 "s2", .recv 2 21 (.int 2) (.open_ (some "mb1")), .sweep 30 false ]
def dupG : List Op := dup 9 12 (.int 7) (.int 3) "app" "s1" none none (.close (some "mb1") (some "happy"))
def xG : Conn :=
  { id := 1, app := some "app", side := some "s1", mailbox := some "mb1", mailboxId := some "mb1", listening := true }

example : (GSys.init cfg 0).WF (Hg1 ++ [Op.recv 1 12 (.int 3) cmdG]) ∧ (∀ op ∈ Hg2, op.isCrash = false) ∧
    (Sys.run (start cfg 0) Hg1).1.findConn 1 = some xG ∧ xG.app = some "app" ∧ xG.side = some "s1" ∧
    Resend xG cmdG (.close (some "mb1") (some "happy")) ∧
    Answered ((Sys.run (start cfg 0) Hg1).1.step (.recv 1 12 (.int 3) cmdG)).out 1 (.int 3) cmdG ∧
    CloseGuard (Sys.run (start cfg 0) (Hg1 ++ [Op.recv 1 12 (.int 3) cmdG])).1 12 (.close (some "mb1") (some "happy")) ∧
    (∀ y ∈ (Sys.run (start cfg 0) (Hg1 ++ [Op.recv 1 12 (.int 3) cmdG])).1.conns, y.id ≠ 9) :=
  ⟨GSys.wfB_sound (by decide +kernel), by decide, by decide +kernel, rfl, rfl, .close _ _ _ rfl,
    ⟨true, by decide +kernel⟩, (fun m mood h => by cases h; exact Or.inl (by decide +kernel)), by decide +kernel⟩

/-- evaluated: the duplicate re-creates and re-deletes the mailbox (four commits), is answered `closed`;
    channel databases equal; the usage database has one `mailboxes` row and one `client_versions` row more -/
example :
    (Sys.run st (Hg1 ++ [Op.recv 1 12 (.int 3) cmdG] ++ dupG)).2.drop 10 =
      [.frame 9 (.welcome "{}") true, .frame 9 (.ack (.int 7)) true, .commit .usage,
       .frame 9 (.ack (.int 3)) true, .commit .chan, .commit .chan, .commit .usage, .commit .chan,
       .frame 9 .closed true] ∧
    (Sys.run st (Hg1 ++ [Op.recv 1 12 (.int 3) cmdG] ++ dupG)).1.db = (Sys.run st (Hg1 ++ [Op.recv 1 12 (.int 3) cmdG])).1.db ∧
    (Sys.run st (Hg1 ++ [Op.recv 1 12 (.int 3) cmdG] ++ dupG ++ Hg2)).1.db =
      (Sys.run st (Hg1 ++ [Op.recv 1 12 (.int 3) cmdG] ++ Hg2)).1.db ∧
    (Sys.run st (Hg1 ++ [Op.recv 1 12 (.int 3) cmdG] ++ Hg2)).1.db.mailboxes.length = 1 ∧
    ((Sys.run st (Hg1 ++ [Op.recv 1 12 (.int 3) cmdG] ++ dupG)).1.udb.mailboxes.length,
     (Sys.run st (Hg1 ++ [Op.recv 1 12 (.int 3) cmdG])).1.udb.mailboxes.length) = (2, 1) ∧
    ((Sys.run st (Hg1 ++ [Op.recv 1 12 (.int 3) cmdG] ++ dupG)).1.udb.clients.length,
     (Sys.run st (Hg1 ++ [Op.recv 1 12 (.int 3) cmdG])).1.udb.clients.length) = (2, 1) := by
  decide +kernel

/-! ### close, the mailbox survives; the guard holds (the original close was sent without a handle) -/

def Hs1 : List Op :=
  [ .connect 1, bind 1 10 "s1", .recv 1 11 (.int 2) (.open_ (some "m")), .connect 2, bind 2 12 "s2",
    .recv 2 12 (.int 2) (.open_ (some "m")), .drop 1, .connect 3, bind 3 13 "s1" ]
def cmdS : Cmd := .close (some "m") (some "happy")
def Hs2 : List Op := [ .recv 2 20 (.int 3) (.close none (some "happy")) ]
def dupS : List Op := dup 9 14 (.int 7) (.int 3) "app" "s1" none none cmdS
def xS : Conn := { id := 3, app := some "app", side := some "s1" }

/-- all hypotheses, the guard in its second form: the mailbox survives, two side rows, `updated = t` -/
example : (GSys.init cfg 0).WF (Hs1 ++ [Op.recv 3 14 (.int 3) cmdS]) ∧ (∀ op ∈ Hs2, op.isCrash = false) ∧
    (Sys.run (start cfg 0) Hs1).1.findConn 3 = some xS ∧ xS.app = some "app" ∧ xS.side = some "s1" ∧
    Resend xS cmdS cmdS ∧
    Answered ((Sys.run (start cfg 0) Hs1).1.step (.recv 3 14 (.int 3) cmdS)).out 3 (.int 3) cmdS ∧
    (Sys.run (start cfg 0) (Hs1 ++ [Op.recv 3 14 (.int 3) cmdS])).1.db.HasId "m" ∧
    CloseGuard (Sys.run (start cfg 0) (Hs1 ++ [Op.recv 3 14 (.int 3) cmdS])).1 14 cmdS ∧
    (∀ y ∈ (Sys.run (start cfg 0) (Hs1 ++ [Op.recv 3 14 (.int 3) cmdS])).1.conns, y.id ≠ 9) :=
  ⟨GSys.wfB_sound (by decide +kernel), by decide, by decide +kernel, rfl, rfl, .close _ _ _ rfl,
    ⟨true, by decide +kernel⟩, by decide +kernel,
    (fun m mood h => by cases h; exact Or.inr ⟨by decide +kernel, by decide +kernel⟩), by decide +kernel⟩

example :
    ((Sys.run st (Hs1 ++ [Op.recv 3 14 (.int 3) cmdS] ++ dupS)).2.filter Event.isFrame).drop 10 =
      [.frame 9 (.welcome "{}") true, .frame 9 (.ack (.int 7)) true, .frame 9 (.ack (.int 3)) true,
       .frame 9 .closed true] ∧
    (Sys.run st (Hs1 ++ [Op.recv 3 14 (.int 3) cmdS] ++ dupS)).1.db = (Sys.run st (Hs1 ++ [Op.recv 3 14 (.int 3) cmdS])).1.db ∧
    (Sys.run st (Hs1 ++ [Op.recv 3 14 (.int 3) cmdS])).1.db.mailboxes = [⟨"app", "m", 14, false⟩] ∧
    (Sys.run st (Hs1 ++ [Op.recv 3 14 (.int 3) cmdS] ++ dupS ++ Hs2)).1.db =
      (Sys.run st (Hs1 ++ [Op.recv 3 14 (.int 3) cmdS] ++ Hs2)).1.db := by
  decide +kernel

/-! ### K-close-touch -/

def E : Time := Generated.expirationTicks

/-- s1 and s2 open "m" at t = 100, s2 stores a message -/
def Ht1 : List Op :=
  [ .connect 1, bind 1 90 "s1", .connect 2, bind 2 95 "s2", .recv 1 100 (.int 2) (.open_ (some "m")),
    .recv 2 100 (.int 2) (.open_ (some "m")),
    .recv 2 100 (.str "m1") (.add (some (.str "pake")) (some (.str "body"))) ]
/-- s1 closes at t = 200 on the connection that holds the handle: `updated` stays 100 -/
def cmdT : Cmd := .close none (some "happy")
def dupT : List Op := dup 9 200 (.int 7) (.int 3) "app" "s1" none none (.close (some "m") (some "happy"))
/-- s2's connection is lost; the sweep at `100 + expiration` runs; s2 comes back and opens "m" -/
def Ht2 : List Op :=
  [ .drop 2, .sweep (100 + E) false, .connect 3, bind 3 (101 + E) "s2", .recv 3 (102 + E) (.int 2) (.open_ (some "m")) ]
def xT : Conn :=
  { id := 1, app := some "app", side := some "s1", mailbox := some "m", mailboxId := some "m", listening := true }

/-- the hypotheses of `C14_close_survives_step` hold in the K-close-touch scenario -/
example : (GSys.init cfgN 0).WF (Ht1 ++ [Op.recv 1 200 (.int 3) cmdT]) ∧
    (Sys.run (start cfgN 0) Ht1).1.findConn 1 = some xT ∧ xT.app = some "app" ∧ xT.side = some "s1" ∧
    xT.closeTarget none = some "m" ∧
    Answered ((Sys.run (start cfgN 0) Ht1).1.step (.recv 1 200 (.int 3) cmdT)).out 1 (.int 3) cmdT ∧
    (Sys.run (start cfgN 0) (Ht1 ++ [Op.recv 1 200 (.int 3) cmdT])).1.db.HasId "m" ∧
    ((Sys.run (start cfgN 0) (Ht1 ++ [Op.recv 1 200 (.int 3) cmdT])).1.db.mbSidesOf "m").length ≤ 2 ∧
    (∀ y ∈ (Sys.run (start cfgN 0) (Ht1 ++ [Op.recv 1 200 (.int 3) cmdT])).1.conns, y.id ≠ 9) :=
  ⟨GSys.wfB_sound (by decide +kernel), by decide +kernel, rfl, rfl, by decide, ⟨true, by decide +kernel⟩,
    by decide +kernel, by decide +kernel, by decide +kernel⟩

/-- **C14_close_touch_counterexample** (finding K-close-touch).  Every hypothesis of
    `C14_duplicate_harmless_partial` holds — well-formed history, crash-free tail, the close is answered
    `closed`, fresh connection id, at most two side rows — EXCEPT part (b) of the guard: the surviving
    row's `updated` is 100, not `t = 200`.  The duplicate is answered `closed` like the original, but
    * right after it the channel databases differ in exactly that column (200 vs 100);
    * the sweep at `100 + expirationTicks` deletes the mailbox (and s2's message) in the run WITHOUT
      the duplicate and keeps it in the run WITH it;
    * the later `open` of "m" is answered with the replay of the message in the run with the duplicate
      and with no message in the run without: conclusions (ii) and (iii) of the full statement fail. -/
theorem _root_.Wormhole.C14_close_touch_counterexample :
    (GSys.init cfgN 0).WF (Ht1 ++ [Op.recv 1 200 (.int 3) cmdT]) ∧ (∀ op ∈ Ht2, op.isCrash = false) ∧
    (Sys.run stN Ht1).1.findConn 1 = some xT ∧ Resend xT cmdT (.close (some "m") (some "happy")) ∧
    Answered ((Sys.run stN Ht1).1.step (.recv 1 200 (.int 3) cmdT)).out 1 (.int 3) cmdT ∧
    (∀ y ∈ (Sys.run stN (Ht1 ++ [Op.recv 1 200 (.int 3) cmdT])).1.conns, y.id ≠ 9) ∧
    ((Sys.run stN (Ht1 ++ [Op.recv 1 200 (.int 3) cmdT])).1.db.mbSidesOf "m").length ≤ 2 ∧
    ¬ CloseGuard (Sys.run stN (Ht1 ++ [Op.recv 1 200 (.int 3) cmdT])).1 200 (.close (some "m") (some "happy")) ∧
    -- same answer
    ((Sys.run stN (Ht1 ++ [Op.recv 1 200 (.int 3) cmdT] ++ dupT)).2.filter Event.isFrame).drop 9 =
      [.frame 1 (.ack (.int 3)) true, .frame 1 .closed true,
       .frame 9 (.welcome "{}") true, .frame 9 (.ack (.int 7)) true, .frame 9 (.ack (.int 3)) true,
       .frame 9 .closed true] ∧
    -- the one column
    (Sys.run stN (Ht1 ++ [Op.recv 1 200 (.int 3) cmdT])).1.db.mailboxes = [⟨"app", "m", 100, false⟩] ∧
    (Sys.run stN (Ht1 ++ [Op.recv 1 200 (.int 3) cmdT] ++ dupT)).1.db.mailboxes = [⟨"app", "m", 200, false⟩] ∧
    -- the sweep
    (Sys.run stN (Ht1 ++ [Op.recv 1 200 (.int 3) cmdT] ++ dupT ++ Ht2.take 2)).1.db.mailboxes.length = 1 ∧
    (Sys.run stN (Ht1 ++ [Op.recv 1 200 (.int 3) cmdT] ++ Ht2.take 2)).1.db.mailboxes.length = 0 ∧
    -- the later answer and the final tables
    Event.frame 3 (.message "s2" (.str "pake") (.str "body") 100 (.str "m1")) true ∈
      (Sys.run stN (Ht1 ++ [Op.recv 1 200 (.int 3) cmdT] ++ dupT ++ Ht2)).2 ∧
    Event.frame 3 (.message "s2" (.str "pake") (.str "body") 100 (.str "m1")) true ∉
      (Sys.run stN (Ht1 ++ [Op.recv 1 200 (.int 3) cmdT] ++ Ht2)).2 ∧
    (Sys.run stN (Ht1 ++ [Op.recv 1 200 (.int 3) cmdT] ++ dupT ++ Ht2)).1.db ≠
      (Sys.run stN (Ht1 ++ [Op.recv 1 200 (.int 3) cmdT] ++ Ht2)).1.db :=
  ⟨GSys.wfB_sound (by decide +kernel), by decide, by decide +kernel, .close _ _ _ rfl, ⟨true, by decide +kernel⟩,
    by decide +kernel, by decide +kernel,
    fun h => by
      rcases h "m" (some "happy") rfl with h | ⟨_, h⟩
      · exact h (by decide +kernel)
      · exact absurd (h ⟨"app", "m", 100, false⟩ (by decide +kernel) rfl) (by decide),
    by decide +kernel, by decide +kernel, by decide +kernel, by decide +kernel, by decide +kernel,
    by decide +kernel, by decide +kernel, by decide +kernel⟩

/-! ### K-crowded-rejoin -/

/-- s1 and s2 open "m"; a third side s3 opens it too (answered `crowded`, its side row stays); s1 closes
    on its handle (answered `closed`, the mailbox survives) -/
def Hk1 : List Op :=
  [ .connect 1, bind 1 90 "s1", .connect 2, bind 2 95 "s2", .recv 1 100 (.int 2) (.open_ (some "m")),
    .recv 2 100 (.int 2) (.open_ (some "m")), .connect 3, bind 3 110 "s3", .recv 3 120 (.int 2) (.open_ (some "m")) ]

/-- **C14_close_crowded_counterexample** (finding K-crowded-rejoin).  Part (a) of the guard fails: the
    mailbox has three side rows.  The original close of s1 — one of the first two sides — is answered
    `closed`; the re-sent close is answered `crowded`. -/
theorem _root_.Wormhole.C14_close_crowded_counterexample :
    (GSys.init cfg 0).WF (Hk1 ++ [Op.recv 1 200 (.int 3) cmdT]) ∧
    Answered ((Sys.run st Hk1).1.step (.recv 1 200 (.int 3) cmdT)).out 1 (.int 3) cmdT ∧
    ((Sys.run st (Hk1 ++ [Op.recv 1 200 (.int 3) cmdT])).1.db.mbSidesOf "m").length = 3 ∧
    ((Sys.run st (Hk1 ++ [Op.recv 1 200 (.int 3) cmdT] ++ dupT)).2.filter Event.isFrame).drop 10 =
      [.frame 1 (.ack (.int 3)) true, .frame 1 .closed true,
       .frame 9 (.welcome "{}") true, .frame 9 (.ack (.int 7)) true, .frame 9 (.ack (.int 3)) true,
       .frame 9 (.error "crowded") true] :=
  ⟨GSys.wfB_sound (by decide +kernel), ⟨true, by decide +kernel⟩, by decide +kernel, by decide +kernel⟩

/-- s1 and s2 claim nameplate "4" and open its mailbox; a third side opens the mailbox (`crowded`);
    later s1 reconnects -/
def Hq : List Op :=
  [ .connect 1, bind 1 10 "s1", .recv 1 11 (.int 2) (.claim (some "4") "mb1"), .recv 1 12 (.int 3) (.open_ (some "mb1")),
    .connect 2, bind 2 13 "s2", .recv 2 14 (.int 2) (.claim (some "4") "mb2"), .recv 2 15 (.int 3) (.open_ (some "mb1")),
    .connect 3, bind 3 16 "s3", .recv 3 17 (.int 2) (.open_ (some "mb1")),
    .connect 4, bind 4 18 "s1" ]

/-- **C14_claim_crowded_counterexample** (finding K-crowded-rejoin, the variant for `claim`).  For a claim
    re-sent IMMEDIATELY the guard is implied (`C14_duplicate_harmless_partial` has none).  Re-sent LATER —
    after a third side has touched the mailbox — the claim of s1, one of the first two sides, whose
    original claim was answered `claimed "mb1"`, is answered `crowded`. -/
theorem _root_.Wormhole.C14_claim_crowded_counterexample :
    (GSys.init cfg 0).WF (Hq ++ [Op.recv 4 19 (.int 2) (.claim (some "4") "mb9")]) ∧
    Event.frame 1 (.claimed "mb1") true ∈ (Sys.run st Hq).2 ∧
    Event.frame 3 (.error "crowded") true ∈ (Sys.run st Hq).2 ∧
    ((Sys.run st Hq).1.step (.recv 4 19 (.int 2) (.claim (some "4") "mb9"))).out.filter Event.isFrame =
      [.frame 4 (.ack (.int 2)) true, .frame 4 (.error "crowded") true] :=
  ⟨GSys.wfB_sound (by decide +kernel), by decide +kernel, by decide +kernel, by decide +kernel⟩

end C14Ex

end Wormhole

#print axioms Wormhole.C14_claim_idempotent
#print axioms Wormhole.C14_release_idempotent
#print axioms Wormhole.C14_open_idempotent
#print axioms Wormhole.C14_close_gone_idempotent
#print axioms Wormhole.C14_close_survived_touch
#print axioms Wormhole.C14_resend_exists
#print axioms Wormhole.C14_duplicate_harmless_partial
#print axioms Wormhole.C14_close_survives_step
#print axioms Wormhole.Sys.dup_close_crowded
#print axioms Wormhole.DupSim_step
#print axioms Wormhole.DupSim_run
#print axioms Wormhole.C14_close_touch_counterexample
#print axioms Wormhole.C14_close_crowded_counterexample
#print axioms Wormhole.C14_claim_crowded_counterexample
#print axioms Wormhole.Sys.dup_prefix
#print axioms Wormhole.Sys.dup_claim
#print axioms Wormhole.Sys.dup_release
#print axioms Wormhole.Sys.dup_open
#print axioms Wormhole.Sys.dup_close_gone
#print axioms Wormhole.Sys.dup_close_survived
#print axioms Wormhole.Sys.orig_claim
#print axioms Wormhole.Sys.orig_release
#print axioms Wormhole.Sys.orig_open
#print axioms Wormhole.Sys.orig_close
#print axioms Wormhole.dup_after_op
