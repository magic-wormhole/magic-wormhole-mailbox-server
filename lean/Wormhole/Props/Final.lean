/-
  The history-level theorems of Props/C03.lean, which take a parameter
  `hreach : ∀ g, g.Reach → g.GInv`, instantiated with the proved invariant `GSys.Reach.ginv`.
  Nothing is proved here beyond that instantiation.
-/
import Wormhole.Inv.Main
import Wormhole.Props.C03

namespace Wormhole

/-- the global invariant, in the shape the parametrised theorems expect -/
theorem reach_ginv : ∀ g : GSys, g.Reach → g.GInv := fun _ h => h.ginv

theorem C03_id_never_reused' : type_of% (@C03_id_never_reused reach_ginv) := @C03_id_never_reused reach_ginv
theorem C03_same_mailbox' : type_of% (@C03_same_mailbox reach_ginv) := @C03_same_mailbox reach_ginv
theorem C03_npMbInjective_reach' : type_of% (@C03_npMbInjective_reach reach_ginv) := @C03_npMbInjective_reach reach_ginv
theorem C03_distinct' : type_of% (@C03_distinct reach_ginv) := @C03_distinct reach_ginv
theorem C03_distinct_answers' : type_of% (@C03_distinct_answers reach_ginv) := @C03_distinct_answers reach_ginv

end Wormhole

#print axioms Wormhole.C03_same_mailbox'
#print axioms Wormhole.C03_distinct'
#print axioms Wormhole.C03_distinct_answers'
