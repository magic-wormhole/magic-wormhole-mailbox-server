/-
  C19 — database files are created atomically and never clobbered.

  Theorems about the step model of `database.py` in `Wormhole/DbFile.lean`.  A crash after
  `k` steps leaves `(runN cx k m).dir`; every statement below quantifies over ALL `k`, all
  directories and all contents (no bounds).  The generic theorems (`…_generic`) hold for any
  configuration whose schema script passes `scriptOk`; `C19_…` instantiate them with the two
  configurations built from `Wormhole.Generated` (`channelCfg`, `usageCfg`), whose side
  conditions are re-proved by evaluation whenever the SQL files change.
-/
import Wormhole.DbFile

namespace Wormhole.DbFile

/-! ## Directory lemmas -/

theorem lookupP_eraseP_self (p : Path) (l : List (Path × Content)) :
    lookupP p (eraseP p l) = none := by
  induction l with
  | nil => rfl
  | cons e r ih =>
    obtain ⟨q, c⟩ := e
    by_cases h : q = p <;> simp [eraseP, lookupP, h, ih]

theorem lookupP_eraseP_ne {p q : Path} (h : ¬ q = p) (l : List (Path × Content)) :
    lookupP p (eraseP q l) = lookupP p l := by
  induction l with
  | nil => rfl
  | cons e r ih =>
    obtain ⟨x, c⟩ := e
    by_cases h1 : x = q
    · subst h1
      simp [eraseP, lookupP, h, ih]
    · by_cases h2 : x = p
      · subst h2
        simp [eraseP, lookupP, h1]
      · simp [eraseP, lookupP, h1, h2, ih]

theorem eraseP_eraseP (p : Path) (l : List (Path × Content)) :
    eraseP p (eraseP p l) = eraseP p l := by
  induction l with
  | nil => rfl
  | cons e r ih =>
    obtain ⟨q, c⟩ := e
    by_cases h : q = p <;> simp [eraseP, h, ih]

@[simp] theorem Dir.get_set_self (d : Dir) (p : Path) (c : Content) :
    (d.set p c).get p = some c := by
  simp [Dir.set, Dir.get, lookupP]

theorem Dir.get_set_ne (d : Dir) {p q : Path} (c : Content) (h : ¬ p = q) :
    (d.set p c).get q = d.get q := by
  simp [Dir.set, Dir.get, lookupP, h, lookupP_eraseP_ne h]

@[simp] theorem Dir.get_erase_self (d : Dir) (p : Path) : (d.erase p).get p = none := by
  simp [Dir.erase, Dir.get, lookupP_eraseP_self]

theorem Dir.get_erase_ne (d : Dir) {p q : Path} (h : ¬ p = q) :
    (d.erase p).get q = d.get q := by
  simp [Dir.erase, Dir.get, lookupP_eraseP_ne h]

@[simp] theorem Dir.set_set (d : Dir) (p : Path) (x y : Content) :
    (d.set p x).set p y = d.set p y := by
  simp [Dir.set, eraseP, eraseP_eraseP]

@[simp] theorem Dir.erase_set (d : Dir) (p : Path) (x : Content) :
    (d.set p x).erase p = d.erase p := by
  simp [Dir.set, Dir.erase, eraseP, eraseP_eraseP]

theorem backupPath_ne (f : Path) (i : Int) : ¬ backupPath f i = f := by
  intro h
  have h1 := congrArg String.length h
  simp [backupPath, String.length_append] at h1
  have : ("-backup-v" : String).length = 9 := by decide
  omega

@[simp] theorem asDb_db (v : Db) : (Content.db v).asDb = some v := rfl
@[simp] theorem asDb_empty : (Content.junk []).asDb = some emptyDb := rfl
@[simp] theorem asDb_trunc (v : Db) : (Content.trunc v).asDb = none := rfl

/-! ## Runs -/

theorem runN_succ (cx : Ctx) (k : Nat) (m : M) : runN cx (k + 1) m = runN cx k (step1 cx m) := rfl
@[simp] theorem runN_zero (cx : Ctx) (m : M) : runN cx 0 m = m := rfl

theorem runN_add (cx : Ctx) (a b : Nat) (m : M) :
    runN cx (a + b) m = runN cx b (runN cx a m) := by
  induction a generalizing m with
  | zero => simp
  | succ a ih => rw [Nat.add_right_comm, runN_succ, ih, runN_succ]

theorem step1_halted {cx : Ctx} {m : M} (h : m.status ≠ .running) : step1 cx m = m := by
  unfold step1; split <;> simp_all

theorem runN_halted {cx : Ctx} {m : M} (h : m.status ≠ .running) (k : Nat) :
    runN cx k m = m := by
  induction k with
  | zero => rfl
  | succ k ih => rw [runN_succ, step1_halted h, ih]

theorem runN_ge {cx : Ctx} {m : M} {n : Nat} (hh : (runN cx n m).status ≠ .running)
    {k : Nat} (h : n ≤ k) : runN cx k m = runN cx n m := by
  have : k = n + (k - n) := by omega
  rw [this, runN_add, runN_halted hh]

/-- the run from `m` halts with status `st` and directory `d'` -/
def HaltsWith (cx : Ctx) (m : M) (st : Status) (d' : Dir) : Prop :=
  st ≠ .running ∧ ∃ n, ∀ k, n ≤ k → (runN cx k m).status = st ∧ (runN cx k m).dir = d'

theorem haltsWith_of {cx : Ctx} {m : M} {st : Status} {d' : Dir} (n : Nat)
    (h1 : (runN cx n m).status = st) (hne : st ≠ .running) (h2 : (runN cx n m).dir = d') :
    HaltsWith cx m st d' := by
  refine ⟨hne, n, fun k hk => ?_⟩
  rw [runN_ge (by rw [h1]; exact hne) hk]
  exact ⟨h1, h2⟩

theorem haltsWith_step {cx : Ctx} {m : M} {st : Status} {d' : Dir} :
    HaltsWith cx (step1 cx m) st d' ↔ HaltsWith cx m st d' := by
  refine and_congr_right fun _ =>
    ⟨fun ⟨n, h⟩ => ⟨n + 1, fun k hk => ?_⟩, fun ⟨n, h⟩ => ⟨n, fun k hk => ?_⟩⟩
  · obtain ⟨k, rfl⟩ : ∃ j, k = j + 1 := ⟨k - 1, by omega⟩
    exact h k (by omega)
  · exact h (k + 1) (by omega)

/-- the run from `m` halts with status `st` and directory `d'`, and at every point of it the
    directory — what a crash at that point leaves behind — satisfies `P` -/
def Ends (cx : Ctx) (P : Dir → Prop) (m : M) (st : Status) (d' : Dir) : Prop :=
  (∀ k, P (runN cx k m).dir) ∧ HaltsWith cx m st d'

theorem ends_iff {cx : Ctx} {P : Dir → Prop} {st : Status} {d' : Dir} (m : M) :
    Ends cx P m st d' ↔ P m.dir ∧ Ends cx P (step1 cx m) st d' := by
  unfold Ends
  rw [haltsWith_step, ← and_assoc]
  refine and_congr_left' ⟨fun h => ⟨h 0, fun k => h (k + 1)⟩, fun ⟨h0, h⟩ k => ?_⟩
  cases k with
  | zero => exact h0
  | succ k => exact h k

/-- the form of `ends_iff` that `simp` steps with -/
theorem ends_step {cx : Ctx} {P : Dir → Prop} {st : Status} {d' : Dir} (d : Dir)
    (c : Option Conn) (v : Option VerVal) (s : Step) (t : List Step) :
    Ends cx P ⟨d, c, v, s :: t, .running⟩ st d' ↔
      P d ∧ Ends cx P (exec cx s ⟨d, c, v, t, .running⟩) st d' :=
  ends_iff _

theorem ends_halted {cx : Ctx} {P : Dir → Prop} {st : Status} {d' : Dir} {m : M}
    (h : m.status ≠ .running) : Ends cx P m st d' ↔ P m.dir ∧ m.status = st ∧ m.dir = d' := by
  constructor
  · rintro ⟨hp, _, n, hn⟩
    have := hn n (Nat.le_refl n)
    rw [runN_halted h] at this
    exact ⟨hp 0, this⟩
  · rintro ⟨hp, rfl, rfl⟩
    exact ⟨fun k => by rw [runN_halted h]; exact hp, haltsWith_of 0 rfl h rfl⟩

/-! ## Scripts -/

theorem runScript_cons_ok {s : Stmt} {r : List Stmt} {v vfin : Db}
    (h : runScript (s :: r) v = .ok vfin) :
    ∃ v1, applyStmt s v = .ok v1 ∧ runScript r v1 = .ok vfin := by
  simp only [runScript] at h
  cases h1 : applyStmt s v with
  | error e => rw [h1] at h; cases h
  | ok v1 => rw [h1] at h; exact ⟨v1, rfl, h⟩

theorem hasObj_append (v : Db) (s : Stmt) (n : String) :
    hasObj { v with objects := v.objects ++ [s] } n = (hasObj v n || decide (obj s = n)) := by
  simp [hasObj]

theorem runScript_creates : ∀ (rest : List Stmt) (v : Db),
    (∀ s, s ∈ rest → isCreate s = true) →
    (rest.map obj).Pairwise (fun a b => ¬ a = b) →
    (∀ s, s ∈ rest → hasObj v (obj s) = false) →
    runScript rest v = .ok { v with objects := v.objects ++ rest }
  | [], v, _, _, _ => by simp [runScript]
  | s :: r, v, hc, hp, hf => by
    have h1 : applyStmt s v = .ok { v with objects := v.objects ++ [s] } := by
      simp [applyStmt, hc s (List.mem_cons_self ..), hf s (List.mem_cons_self ..)]
    simp only [runScript, h1]
    rw [runScript_creates r]
    · simp
    · exact fun x hx => hc x (List.mem_cons_of_mem _ hx)
    · exact (List.pairwise_cons.mp hp).2
    · intro x hx
      rw [hasObj_append, hf x (List.mem_cons_of_mem _ hx)]
      have := (List.pairwise_cons.mp hp).1 (obj x) (List.mem_map_of_mem hx)
      simp [this]

theorem scriptOk_iff {sch : List Stmt} (h : scriptOk sch = true) :
    (∀ s, s ∈ sch → isCreate s = true) ∧ (sch.map obj).Pairwise (fun a b => ¬ a = b) ∧
      hasTable { objects := sch, version := [], payload := [], fkBad := false } "version" = true := by
  simp only [scriptOk, Bool.and_eq_true, Bool.decide_and, decide_eq_true_eq, List.all_eq_true,
    List.any_eq_true] at h
  refine ⟨h.1, h.2.1, ?_⟩
  simp only [hasTable, Bool.decide_and, List.any_eq_true, Bool.and_eq_true, decide_eq_true_eq]
  exact h.2.2

/-! ## The procedures of `database.py`, segment by segment

Each lemma follows the machine through some steps in front of an arbitrary rest `tl`: if the run
from the state after them `Ends`, so does the run from the state before them; it asks for `P` of
the directories passed.  With the attributes below `simp` executes steps until the next one is
not known (a script or rest that is a variable, a step list not unfolded). -/

section segments
attribute [local simp] ends_step ends_halted exec M.curDb M.writeDb M.doCommit M.fail Dir.has

variable {cx : Ctx} {P : Dir → Prop} {d d' : Dir} {st : Status} {c : Content} {v : Db}
  {c0 : Option Conn} {v0 : Option VerVal} {tl : List Step}

/-- `os.path.exists(dbfile)` holds in `_get_db` -/
theorem getDb_existing (hd : d.get cx.dbfile = some c) (hP : P d)
    (h : Ends cx P ⟨d, c0, v0, openConn true ++ (getDbTail ++ tl), .running⟩ st d') :
    Ends cx P ⟨d, c0, v0, .existsGetDb :: tl, .running⟩ st d' := by
  simpa [hd, hP] using h

theorem openOnly_existing (hd : d.get cx.dbfile = some c) (hP : P d)
    (h : Ends cx P ⟨d, c0, v0, openConn true ++ (.ret :: tl), .running⟩ st d') :
    Ends cx P ⟨d, c0, v0, .existsOpenOnly :: tl, .running⟩ st d' := by
  simpa [hd, hP] using h

/-- `os.path.exists(dbfile)` fails in `_get_db` -/
theorem getDb_absent (hd : d.get cx.dbfile = none) (hP : P d)
    (h : Ends cx P ⟨d, c0, v0, atomicCreate ++ (getDbTail ++ tl), .running⟩ st d') :
    Ends cx P ⟨d, c0, v0, .existsGetDb :: tl, .running⟩ st d' := by
  simpa [hd, hP] using h

theorem createOnly_absent (hd : d.get cx.dbfile = none) (hP : P d)
    (h : Ends cx P ⟨d, c0, v0, atomicCreate ++ (.ret :: tl), .running⟩ st d') :
    Ends cx P ⟨d, c0, v0, .existsCreateOnly :: tl, .running⟩ st d' := by
  simpa [hd, hP] using h

/-- `create_*_db` on an existing path, whatever it holds: `DBAlreadyExists` -/
theorem createOnly_existing (hd : d.get cx.dbfile = some c) (hP : P d) :
    Ends cx P ⟨d, c0, v0, .existsCreateOnly :: tl, .running⟩ (.failed .alreadyExists) d := by
  simp [hd, hP]

/-- `open_existing_db` on a missing path: `DBDoesntExist` -/
theorem openOnly_absent (hd : d.get cx.dbfile = none) (hP : P d) :
    Ends cx P ⟨d, c0, v0, .existsOpenOnly :: tl, .running⟩ (.failed .doesntExist) d := by
  simp [hd, hP]

/-- `_open_db_connection(dbfile)` -/
theorem open_ok (hd : d.get cx.dbfile = some c) (hc : c.asDb = some v) (hfk : v.fkBad = false)
    (hP : P d) (h : Ends cx P ⟨d, some ⟨cx.dbfile, none⟩, v0, tl, .running⟩ st d') :
    Ends cx P ⟨d, c0, v0, openConn true ++ tl, .running⟩ st d' := by
  simpa [openConn, hd, hc, hfk, hP] using h

/-- `_open_db_connection(dbfile)` on bytes SQLite does not accept (non-empty junk, truncated
    database) or on a database that fails `PRAGMA foreign_key_check`: `DBError` from the first
    statement that reads the file; nothing written -/
theorem open_fail (hd : d.get cx.dbfile = some c) (hc : ∀ v, c.asDb = some v → v.fkBad = true)
    (hP : P d) : Ends cx P ⟨d, c0, v0, openConn true ++ tl, .running⟩ (.failed .dbError) d := by
  cases h : c.asDb with
  | none => simp [openConn, hd, h, hP]
  | some v => simp [openConn, hd, h, hc v h, hP]

theorem getDbTail_keep {rest : List VerVal} (hd : d.get cx.dbfile = some c)
    (hc : c.asDb = some v) (ht : hasTable v "version" = true)
    (hv : v.version = .int cx.cfg.target :: rest) (hP : P d) :
    Ends cx P ⟨d, some ⟨cx.dbfile, none⟩, v0, getDbTail ++ tl, .running⟩ .ok d := by
  simp [getDbTail, hd, hc, ht, hv, hP]

theorem keep_getDb {rest : List VerVal} (hd : d.get cx.dbfile = some c) (hc : c.asDb = some v)
    (hfk : v.fkBad = false) (ht : hasTable v "version" = true)
    (hv : v.version = .int cx.cfg.target :: rest) (hP : P d) : Ends cx P (start .getDb d) .ok d :=
  getDb_existing hd hP <| open_ok hd hc hfk hP <| getDbTail_keep hd hc ht hv hP

theorem keep_openOnly (hd : d.get cx.dbfile = some c) (hc : c.asDb = some v) (hfk : v.fkBad = false)
    (hP : P d) : Ends cx P (start .openOnly d) .ok d :=
  openOnly_existing hd hP <| open_ok hd hc hfk hP <| by simp [hP]

/-- no `version` table (this includes the zero-length file, which SQLite opens as an empty
    database): `sqlite3.OperationalError` escapes `_get_db` -/
theorem getDbTail_no_table (hd : d.get cx.dbfile = some c) (hc : c.asDb = some v)
    (ht : hasTable v "version" = false) (hP : P d) :
    Ends cx P ⟨d, some ⟨cx.dbfile, none⟩, v0, getDbTail ++ tl, .running⟩
      (.failed .operationalError) d := by
  simp [getDbTail, hd, hc, ht, hP]

/-- empty `version` table: `TypeError` (`None["version"]`) -/
theorem getDbTail_no_row (hd : d.get cx.dbfile = some c) (hc : c.asDb = some v)
    (ht : hasTable v "version" = true) (hv : v.version = []) (hP : P d) :
    Ends cx P ⟨d, some ⟨cx.dbfile, none⟩, v0, getDbTail ++ tl, .running⟩ (.failed .typeError) d := by
  simp [getDbTail, hd, hc, ht, hv, hP]

/-- first `version` row NULL or text: `TypeError` at `version < target` -/
theorem getDbTail_nonint {x : VerVal} {rest : List VerVal} (hd : d.get cx.dbfile = some c)
    (hc : c.asDb = some v) (ht : hasTable v "version" = true) (hv : v.version = x :: rest)
    (hx : ∀ i, x ≠ .int i) (hP : P d) :
    Ends cx P ⟨d, some ⟨cx.dbfile, none⟩, v0, getDbTail ++ tl, .running⟩ (.failed .typeError) d := by
  cases x with
  | int i => exact absurd rfl (hx i)
  | null | text s => simp [getDbTail, hd, hc, ht, hv, hP]

/-- version newer than the target: `DBError` from the final test -/
theorem getDbTail_newer {i : Int} {rest : List VerVal} (hd : d.get cx.dbfile = some c)
    (hc : c.asDb = some v) (ht : hasTable v "version" = true) (hv : v.version = .int i :: rest)
    (hi : (cx.cfg.target : Int) < i) (hP : P d) :
    Ends cx P ⟨d, some ⟨cx.dbfile, none⟩, v0, getDbTail ++ tl, .running⟩ (.failed .dbError) d := by
  have h1 : ¬ i < (cx.cfg.target : Int) := by omega
  have h2 : ¬ i = (cx.cfg.target : Int) := by omega
  simp [getDbTail, hd, hc, ht, hv, h1, h2, hP]

/-- `_get_db` on a version older than the target without upgrader for the next version:
    `DBError`, but only after `shutil.copy` has made the backup (created, half written, complete) -/
theorem getDbTail_no_upgrader {i : Int} {rest : List VerVal} (hd : d.get cx.dbfile = some c)
    (hc : c.asDb = some v) (ht : hasTable v "version" = true) (hv : v.version = .int i :: rest)
    (hi : i < (cx.cfg.target : Int)) (hu : cx.cfg.upgrader (i + 1) = none)
    (hP : ∀ x, P (d.set (backupPath cx.dbfile i) x)) (hP0 : P d) :
    Ends cx P ⟨d, some ⟨cx.dbfile, none⟩, v0, getDbTail ++ tl, .running⟩ (.failed .dbError)
      (d.set (backupPath cx.dbfile i) c) := by
  simp [getDbTail, copySteps, hd, hc, ht, hv, hi, hu, hP, hP0,
    Dir.get_set_ne _ _ (backupPath_ne cx.dbfile i)]

/-- autocommit: every statement is durable at once, so the file passes through the results of
    all prefixes of the script -/
theorem loop_auto {p : Path} (hP : ∀ c, P (d.set p c)) :
    ∀ (rest : List Stmt) (c : Content) (v vfin : Db), c.asDb = some v →
      runScript rest v = .ok vfin →
      (∀ c', c'.asDb = some vfin → Ends cx P ⟨d.set p c', some ⟨p, none⟩, v0, tl, .running⟩ st d') →
      Ends cx P ⟨d.set p c, some ⟨p, none⟩, v0, rest.map .stmt ++ tl, .running⟩ st d'
  | [], c, v, vfin, hc, hr, h => by
    cases hr
    exact h c hc
  | s :: r, c, v, vfin, hc, hr, h => by
    obtain ⟨v1, ha, hr1⟩ := runScript_cons_ok hr
    simpa [hc, ha, hP] using loop_auto hP r (.db v1) v1 vfin rfl hr1 h

/-- inside a transaction: the directory does not change, the working copy follows the script -/
theorem loop_tx {p : Path} (hP : P d) :
    ∀ (rest : List Stmt) (v vfin : Db), runScript rest v = .ok vfin →
      Ends cx P ⟨d, some ⟨p, some vfin⟩, v0, tl, .running⟩ st d' →
      Ends cx P ⟨d, some ⟨p, some v⟩, v0, rest.map .stmt ++ tl, .running⟩ st d'
  | [], v, vfin, hr, h => by
    cases hr
    exact h
  | s :: r, v, vfin, hr, h => by
    obtain ⟨v1, ha, hr1⟩ := runScript_cons_ok hr
    simpa [ha, hP] using loop_tx hP r v1 vfin hr1 h

/-- the directory after `_atomic_create_and_initialize_db`: the temporary file renamed to
    `dbfile`, holding the complete database -/
abbrev created (cx : Ctx) (d : Dir) (sch : List Stmt) : Dir :=
  (d.erase cx.tmp).set cx.dbfile (.db (complete cx.cfg sch))

theorem created_get_ne {sch : List Stmt} (ht : d.get cx.tmp = none) {p : Path}
    (hp : ¬ p = cx.dbfile) : (created cx d sch).get p = d.get p := by
  unfold created
  rw [Dir.get_set_ne _ _ (fun h => hp h.symm)]
  by_cases h : p = cx.tmp
  · rw [h, Dir.get_erase_self, ht]
  · rw [Dir.get_erase_ne _ (fun h' => h h'.symm)]

/-- `_atomic_create_and_initialize_db` with a fresh temporary name -/
theorem create_core {sch : List Stmt} (hs : cx.cfg.schema = some sch) (hok : scriptOk sch = true)
    (ht : d.get cx.tmp = none) (hP0 : P d) (hP1 : ∀ c, P (d.set cx.tmp c))
    (hP2 : P (created cx d sch))
    (h : Ends cx P ⟨created cx d sch, some ⟨cx.dbfile, none⟩, none, tl, .running⟩ st d') :
    Ends cx P ⟨d, none, none, atomicCreate ++ tl, .running⟩ st d' := by
  obtain ⟨hcr, hpw, hvt⟩ := scriptOk_iff hok
  simp only [created, complete] at hP2 h
  have hscript : runScript sch emptyDb =
      .ok { objects := sch, version := [], payload := [], fkBad := false } := by
    rw [runScript_creates sch emptyDb hcr hpw (by simp [hasObj, emptyDb])]
    simp [emptyDb]
  -- BEGIN, INSERT version, COMMIT, close, rename, reopen
  have h3 : ∀ c', c'.asDb = some { objects := sch, version := [], payload := [], fkBad := false } →
      Ends cx P ⟨d.set cx.tmp c', some ⟨cx.tmp, none⟩, none,
        [.begin_, .insertVersion, .pyCommit, .closeDb, .rename] ++ (openConn true ++ tl),
        .running⟩ st d' := by
    intro c' hc'
    simpa [openConn, hc', hvt, hP1, hP2] using h
  -- mkstemp, close, connect, two pragmas, get_schema; then the schema script in autocommit mode
  simpa [atomicCreate, openConn, initSchema, ht, emptyDb, hs, hP0, hP1] using
    loop_auto hP1 sch (.junk []) emptyDb _ rfl hscript h3

theorem create_run {sch : List Stmt} (e : Entry) (he : e = .getDb ∨ e = .createOnly)
    (hs : cx.cfg.schema = some sch) (hok : scriptOk sch = true)
    (hd : d.get cx.dbfile = none) (ht : d.get cx.tmp = none)
    (hP0 : P d) (hP1 : ∀ c, P (d.set cx.tmp c)) (hP2 : P (created cx d sch)) :
    Ends cx P (start e d) .ok (created cx d sch) := by
  rcases he with rfl | rfl
  · exact getDb_absent hd hP0 <| create_core hs hok ht hP0 hP1 hP2 <|
      getDbTail_keep (Dir.get_set_self ..) rfl (scriptOk_iff hok).2.2 rfl hP2
  · exact createOnly_absent hd hP0 <| create_core hs hok ht hP0 hP1 hP2 <| by simp [hP2]

end segments

/-- what the creation procedure started on `d` guarantees at every point: the database path is
    absent or complete, and nothing but the database path and the temporary file is touched -/
def CreateOk (cx : Ctx) (d : Dir) (sch : List Stmt) (x : Dir) : Prop :=
  (x.get cx.dbfile = none ∨ x.get cx.dbfile = some (.db (complete cx.cfg sch))) ∧
  ∀ p, ¬ p = cx.dbfile → ¬ p = cx.tmp → x.get p = d.get p

/-- `C19_create_atomic` for any configuration whose schema script passes `scriptOk` -/
theorem create_atomic_generic (cx : Ctx) (d : Dir) (sch : List Stmt) (e : Entry)
    (he : e = .getDb ∨ e = .createOnly)
    (hs : cx.cfg.schema = some sch) (hok : scriptOk sch = true)
    (hd : d.get cx.dbfile = none) (ht : d.get cx.tmp = none) (hne : ¬ cx.tmp = cx.dbfile)
    (k : Nat) :
    let dk := (runN cx k (start e d)).dir
    (dk.get cx.dbfile = none ∨ dk.get cx.dbfile = some (.db (complete cx.cfg sch))) ∧
    (∀ p, ¬ p = cx.dbfile → ¬ p = cx.tmp → dk.get p = d.get p) ∧
    ∀ tmp2, dk.get tmp2 = none → ¬ tmp2 = cx.dbfile →
      ∃ dfin, HaltsWith { cx with tmp := tmp2 } (start .getDb dk) .ok dfin ∧
        dfin.get cx.dbfile = some (.db (complete cx.cfg sch)) ∧
        ∀ p, ¬ p = cx.dbfile → dfin.get p = dk.get p := by
  intro dk
  have a0 : CreateOk cx d sch d := ⟨Or.inl hd, fun _ _ _ => rfl⟩
  have a1 : ∀ c, CreateOk cx d sch (d.set cx.tmp c) := fun c =>
    ⟨Or.inl (by rw [Dir.get_set_ne _ _ hne, hd]),
      fun p _ h2 => Dir.get_set_ne _ _ (fun h => h2 h.symm)⟩
  have a2 : CreateOk cx d sch (created cx d sch) :=
    ⟨Or.inr (Dir.get_set_self ..), fun p h1 _ => created_get_ne ht h1⟩
  have hk : CreateOk cx d sch dk := (create_run e he hs hok hd ht a0 a1 a2).1 k
  refine ⟨hk.1, hk.2, fun tmp2 h2 hne2 => ?_⟩
  rcases hk.1 with habs | hcomp
  · -- nothing at dbfile: the restart creates it
    exact ⟨_, (create_run (cx := { cx with tmp := tmp2 }) (P := fun _ => True) .getDb (Or.inl rfl)
      hs hok habs h2 trivial (fun _ => trivial) trivial).2, Dir.get_set_self ..,
      fun p hp => created_get_ne (cx := { cx with tmp := tmp2 }) h2 hp⟩
  · -- complete database at dbfile: the restart opens it and writes nothing
    exact ⟨dk, (keep_getDb (cx := { cx with tmp := tmp2 }) (P := fun _ => True) hcomp rfl rfl
      (scriptOk_iff hok).2.2 rfl trivial).2, hcomp, fun _ _ => rfl⟩

theorem create_completes_generic (cx : Ctx) (d : Dir) (sch : List Stmt) (e : Entry)
    (he : e = .getDb ∨ e = .createOnly)
    (hs : cx.cfg.schema = some sch) (hok : scriptOk sch = true)
    (hd : d.get cx.dbfile = none) (ht : d.get cx.tmp = none) :
    ∃ dfin, HaltsWith cx (start e d) .ok dfin ∧
      dfin.get cx.dbfile = some (.db (complete cx.cfg sch)) ∧
      ∀ p, ¬ p = cx.dbfile → dfin.get p = d.get p :=
  ⟨_, (create_run (P := fun _ => True) e he hs hok hd ht trivial (fun _ => trivial) trivial).2,
    Dir.get_set_self .., fun _ hp => created_get_ne ht hp⟩

/-! ## The server's configurations (from `Wormhole.Generated`) and the C19 theorems -/

/-- `create_or_upgrade_channel_db`/`create_channel_db` use `channelCfg`,
    `create_or_upgrade_usage_db`/`create_usage_db` use `usageCfg` -/
def IsServerCfg (cfg : Cfg) : Prop := cfg = channelCfg ∨ cfg = usageCfg

/-- re-proved by evaluation against the regenerated SQL scripts on every run:
    `<name>-v<target>.sql` exists, consists of CREATE statements with distinct names and
    creates the `version` table -/
theorem serverCfg_ok {cfg : Cfg} (h : IsServerCfg cfg) :
    ∃ sch, cfg.schema = some sch ∧ scriptOk sch = true := by
  rcases h with rfl | rfl
  · exact ⟨_, rfl, by decide +kernel⟩
  · exact ⟨_, rfl, by decide +kernel⟩

/-- the entry point stops with error `err` and the directory is the same at every point -/
def Rejected (cx : Ctx) (d : Dir) (e : Entry) (err : Err) : Prop :=
  (∀ k, (runN cx k (start e d)).dir = d) ∧ HaltsWith cx (start e d) (.failed err) d

/-- **C19_create_atomic.**  For both server schemas, both creating entry points
    (`create_or_upgrade_*_db` = `Entry.getDb`, `create_*_db` = `Entry.createOnly`), every
    directory without `dbfile`, every fresh temporary name, and EVERY crash point `k`:
    `dbfile` is absent or is the complete database (`complete`: all objects of the generated
    schema script, `version` rows = [target]); only `dbfile` and the temporary file are
    touched — the temporary file MAY REMAIN after a crash, nothing removes it —; and a
    subsequent normal start, with any fresh temporary name, succeeds with the complete
    database at `dbfile` and every other file as the crash left it. -/
theorem C19_create_atomic (cx : Ctx) (hcfg : IsServerCfg cx.cfg) (e : Entry)
    (he : e = .getDb ∨ e = .createOnly) (d : Dir)
    (hd : d.get cx.dbfile = none) (ht : d.get cx.tmp = none) (hne : ¬ cx.tmp = cx.dbfile) :
    ∃ sch, cx.cfg.schema = some sch ∧ ∀ k,
      let dk := (runN cx k (start e d)).dir
      (dk.get cx.dbfile = none ∨ dk.get cx.dbfile = some (.db (complete cx.cfg sch))) ∧
      (∀ p, ¬ p = cx.dbfile → ¬ p = cx.tmp → dk.get p = d.get p) ∧
      ∀ tmp2, dk.get tmp2 = none → ¬ tmp2 = cx.dbfile →
        ∃ dfin, HaltsWith { cx with tmp := tmp2 } (start .getDb dk) .ok dfin ∧
          dfin.get cx.dbfile = some (.db (complete cx.cfg sch)) ∧
          ∀ p, ¬ p = cx.dbfile → dfin.get p = dk.get p := by
  obtain ⟨sch, hs, hok⟩ := serverCfg_ok hcfg
  exact ⟨sch, hs, fun k => create_atomic_generic cx d sch e he hs hok hd ht hne k⟩

/-- the uninterrupted first start succeeds, leaves the complete database and no temp file -/
theorem C19_create_completes (cx : Ctx) (hcfg : IsServerCfg cx.cfg) (e : Entry)
    (he : e = .getDb ∨ e = .createOnly) (d : Dir)
    (hd : d.get cx.dbfile = none) (ht : d.get cx.tmp = none) (hne : ¬ cx.tmp = cx.dbfile) :
    ∃ sch dfin, cx.cfg.schema = some sch ∧ HaltsWith cx (start e d) .ok dfin ∧
      dfin.get cx.dbfile = some (.db (complete cx.cfg sch)) ∧
      ∀ p, ¬ p = cx.dbfile → dfin.get p = d.get p := by
  obtain ⟨sch, hs, hok⟩ := serverCfg_ok hcfg
  obtain ⟨dfin, h⟩ := create_completes_generic cx d sch e he hs hok hd ht
  exact ⟨sch, dfin, hs, h⟩

/-- **C19_keep.**  On an existing database whose `version` table starts with the target
    version (ANY objects, payload rows and further content), every entry point that opens it
    (`create_or_upgrade_*_db`, `open_existing_db`) succeeds and the directory is identical at
    every point of the run — for any configuration. -/
theorem C19_keep (cx : Ctx) (d : Dir) (v : Db) (rest : List VerVal) (e : Entry)
    (he : e = .getDb ∨ e = .openOnly)
    (hd : d.get cx.dbfile = some (.db v)) (ht : hasTable v "version" = true)
    (hv : v.version = .int cx.cfg.target :: rest) (hfk : v.fkBad = false) :
    (∀ k, (runN cx k (start e d)).dir = d) ∧ HaltsWith cx (start e d) .ok d := by
  rcases he with rfl | rfl
  · exact keep_getDb (P := (· = d)) hd rfl hfk ht hv rfl
  · exact keep_openOnly (P := (· = d)) hd rfl hfk rfl

/-- **C19_reject.**  Whatever is at `dbfile` (content `c`), for any configuration:
    1. not a database (non-empty junk, truncated database): `DBError`, both opening entry points;
    2. failing foreign-key check: `DBError`;
    3. no `version` table (includes the zero-length file): `OperationalError`;
    4. empty `version` table: `TypeError`;
    5. first `version` row NULL or text: `TypeError`;
    6. version newer than the target: `DBError`;
    in all of these the directory is unchanged at every point (`Rejected`);
    7. version older than the target and no upgrader for the next version: `DBError`, every
       file except `<dbfile>-backup-v<i>` is unchanged at every point (`dbfile` included, the
       backup name differs from it), and the BACKUP COPY APPEARS and stays. -/
theorem C19_reject (cx : Ctx) (d : Dir) (c : Content) (hd : d.get cx.dbfile = some c) :
    (c.asDb = none → Rejected cx d .getDb .dbError ∧ Rejected cx d .openOnly .dbError) ∧
    (∀ v, c.asDb = some v → v.fkBad = true →
      Rejected cx d .getDb .dbError ∧ Rejected cx d .openOnly .dbError) ∧
    (∀ v, c.asDb = some v → v.fkBad = false → hasTable v "version" = false →
      Rejected cx d .getDb .operationalError) ∧
    (∀ v, c.asDb = some v → v.fkBad = false → hasTable v "version" = true → v.version = [] →
      Rejected cx d .getDb .typeError) ∧
    (∀ v x rest, c.asDb = some v → v.fkBad = false → hasTable v "version" = true →
      v.version = x :: rest → (∀ i, x ≠ .int i) → Rejected cx d .getDb .typeError) ∧
    (∀ v i rest, c.asDb = some v → v.fkBad = false → hasTable v "version" = true →
      v.version = .int i :: rest → (cx.cfg.target : Int) < i → Rejected cx d .getDb .dbError) ∧
    (∀ v i rest, c.asDb = some v → v.fkBad = false → hasTable v "version" = true →
      v.version = .int i :: rest → i < (cx.cfg.target : Int) → cx.cfg.upgrader (i + 1) = none →
      (∀ k p, p ≠ backupPath cx.dbfile i → (runN cx k (start .getDb d)).dir.get p = d.get p) ∧
      backupPath cx.dbfile i ≠ cx.dbfile ∧
      HaltsWith cx (start .getDb d) (.failed .dbError) (d.set (backupPath cx.dbfile i) c)) := by
  -- the file cannot be opened
  have unopened : (∀ v, c.asDb = some v → v.fkBad = true) →
      Rejected cx d .getDb .dbError ∧ Rejected cx d .openOnly .dbError := fun h =>
    ⟨getDb_existing (P := (· = d)) hd rfl (open_fail hd h rfl),
      openOnly_existing (P := (· = d)) hd rfl (open_fail hd h rfl)⟩
  -- it can: the rest of `_get_db` on the open connection decides
  have opened : ∀ {v err}, c.asDb = some v → v.fkBad = false →
      Ends cx (· = d) ⟨d, some ⟨cx.dbfile, none⟩, none, getDbTail ++ [], .running⟩ (.failed err) d →
      Rejected cx d .getDb err :=
    fun hc hfk h => getDb_existing (P := (· = d)) hd rfl (open_ok hd hc hfk rfl h)
  refine ⟨fun hc => unopened (by simp [hc]), fun v hc hfk => unopened (by simp [hc, hfk]),
    fun v hc hfk ht => opened hc hfk (getDbTail_no_table hd hc ht rfl),
    fun v hc hfk ht hv => opened hc hfk (getDbTail_no_row hd hc ht hv rfl),
    fun v x rest hc hfk ht hv hx => opened hc hfk (getDbTail_nonint hd hc ht hv hx rfl),
    fun v i rest hc hfk ht hv hi => opened hc hfk (getDbTail_newer hd hc ht hv hi rfl), ?_⟩
  · intro v i rest hc hfk ht hv hi hu
    have key : ∀ (x : Content) (p : Path), p ≠ backupPath cx.dbfile i →
        (d.set (backupPath cx.dbfile i) x).get p = d.get p :=
      fun x p hp => Dir.get_set_ne d x (fun h => hp h.symm)
    obtain ⟨h1, h2⟩ := getDb_existing (P := fun x => ∀ p, p ≠ backupPath cx.dbfile i →
      x.get p = d.get p) hd (fun _ _ => rfl) <| open_ok hd hc hfk (fun _ _ => rfl) <|
      getDbTail_no_upgrader hd hc ht hv hi hu key (fun _ _ => rfl)
    exact ⟨h1, backupPath_ne cx.dbfile i, h2⟩

/-- **C19_create_only.**  `create_channel_db` / `create_usage_db` on an existing path,
    whatever it holds: `DBAlreadyExists`, directory unchanged at every point. -/
theorem C19_create_only (cx : Ctx) (d : Dir) (c : Content) (hd : d.get cx.dbfile = some c) :
    Rejected cx d .createOnly .alreadyExists :=
  createOnly_existing (P := (· = d)) hd rfl

/-- **C19_open_only.**  `open_existing_db` never creates or changes a file: for every
    directory and every point of the run the directory is what it was; on a missing path it
    raises `DBDoesntExist`. -/
theorem C19_open_only (cx : Ctx) (d : Dir) :
    (∀ k, (runN cx k (start .openOnly d)).dir = d) ∧
    (∀ k p, d.get p = none → (runN cx k (start .openOnly d)).dir.get p = none) ∧
    (d.get cx.dbfile = none → HaltsWith cx (start .openOnly d) (.failed .doesntExist) d) := by
  have absent : d.get cx.dbfile = none → Rejected cx d .openOnly .doesntExist :=
    fun hd => openOnly_absent (P := (· = d)) hd rfl
  have h1 : ∀ k, (runN cx k (start .openOnly d)).dir = d := by
    cases hd : d.get cx.dbfile with
    | none => exact (absent hd).1
    | some c =>
      by_cases hc : ∀ v, c.asDb = some v → v.fkBad = true
      · exact (openOnly_existing (P := (· = d)) hd rfl (open_fail hd hc rfl)).1
      · obtain ⟨v, hv, hfk⟩ : ∃ v, c.asDb = some v ∧ v.fkBad = false := by
          simpa using hc
        exact (keep_openOnly (P := (· = d)) hd hv hfk rfl).1
  exact ⟨h1, fun k p hp => by rw [h1 k]; exact hp, fun hd => (absent hd).2⟩

/-! ## Non-vacuity: concrete instances satisfy the hypotheses and show the claimed behaviour -/

def exCx : Ctx := { cfg := channelCfg, dbfile := "relay.sqlite", tmp := "relay.sqlite.k3x9w_aa" }
def exCxU : Ctx := { cfg := usageCfg, dbfile := "usage.sqlite", tmp := "usage.sqlite.k3x9w_aa" }
def exDir : Dir := ⟨[("notes.txt", .junk [104, 105])]⟩

/-- hypotheses of `C19_create_atomic` hold for a concrete directory -/
example : IsServerCfg exCx.cfg ∧ exDir.get exCx.dbfile = none ∧ exDir.get exCx.tmp = none ∧
    ¬ exCx.tmp = exCx.dbfile := by
  exact ⟨Or.inl rfl, rfl, rfl, by decide⟩

/-- … and the run really passes through states where only the temporary file exists, a crash
    there leaves no `dbfile`, and the full run ends with the complete channel database -/
example :
    (runN exCx 12 (start .getDb exDir)).dir.get "relay.sqlite" = none ∧
    (runN exCx 12 (start .getDb exDir)).dir.has "relay.sqlite.k3x9w_aa" = true ∧
    (runN exCx 12 (start .getDb exDir)).status = .running ∧
    (runN exCx 100 (start .getDb exDir)).status = .ok ∧
    (runN exCx 100 (start .getDb exDir)).dir.get "relay.sqlite" =
      some (.db (complete channelCfg Generated.sql_channel_v1)) ∧
    (runN exCxU 100 (start .createOnly ⟨[]⟩)).dir.get "usage.sqlite" =
      some (.db (complete usageCfg Generated.sql_usage_v2)) := by
  -- both runs have halted by step 40; `rfl` cannot unfold 100 steps within the default
  -- recursion depth
  rw [runN_ge (n := 40) (k := 100) (cx := exCx) (by decide +kernel) (by decide),
    runN_ge (n := 40) (k := 100) (cx := exCxU) (by decide +kernel) (by decide)]
  exact ⟨rfl, rfl, rfl, rfl, rfl, rfl⟩

def exDbRows : Db :=
  { complete channelCfg Generated.sql_channel_v1 with
    payload := [("messages", ["r1", "r2"]), ("mailboxes", ["m"])] }

/-- `C19_keep`: a channel database with rows -/
example : (⟨[("relay.sqlite", .db exDbRows)]⟩ : Dir).get exCx.dbfile = some (.db exDbRows) ∧
    hasTable exDbRows "version" = true ∧
    exDbRows.version = .int exCx.cfg.target :: [] ∧ exDbRows.fkBad = false :=
  ⟨rfl, rfl, rfl, rfl⟩

/-- `C19_reject`: each case has an instance (junk; empty file; version 3; version 0 without
    upgrader, where the backup appears) -/
example :
    (Content.junk [1, 2, 3]).asDb = none ∧
    (∃ v, (Content.junk []).asDb = some v ∧ hasTable v "version" = false) ∧
    (runN exCx 50 (start .getDb ⟨[("relay.sqlite", .junk [])]⟩)).status =
      .failed .operationalError ∧
    (runN exCx 50 (start .getDb ⟨[("relay.sqlite", .db { exDbRows with version := [.int 3] })]⟩)).status
      = .failed .dbError ∧
    channelCfg.upgrader (0 + 1) = none ∧
    (runN exCx 50 (start .getDb ⟨[("relay.sqlite", .db { exDbRows with version := [.int 0] })]⟩)).dir.get
      "relay.sqlite-backup-v0" = some (.db { exDbRows with version := [.int 0] }) ∧
    (runN exCx 50 (start .createOnly ⟨[("relay.sqlite", .junk [])]⟩)).status =
      .failed .alreadyExists ∧
    (runN exCx 50 (start .openOnly ⟨[]⟩)).status = .failed .doesntExist ∧
    (runN exCx 50 (start .openOnly ⟨[]⟩)).dir = ⟨[]⟩ :=
  ⟨rfl, ⟨emptyDb, rfl, rfl⟩, rfl, rfl, rfl, rfl, rfl, rfl, rfl⟩

end Wormhole.DbFile

#print axioms Wormhole.DbFile.C19_create_atomic
#print axioms Wormhole.DbFile.C19_create_completes
#print axioms Wormhole.DbFile.C19_keep
#print axioms Wormhole.DbFile.C19_reject
#print axioms Wormhole.DbFile.C19_create_only
#print axioms Wormhole.DbFile.C19_open_only
