/-
  C17 (last clause) — "no sequence of well-formed commands makes a handler fail internally".

  FULL STATEMENT (DESIGN.md §6 C17): no `Event.internal` occurs in `run H` for well-formed `H`.
  It is FALSE for the model = the code, because of two known findings; what is proved is the exact
  list of causes:

  * `C17_internal_only_known`   in a step from any state satisfying `GInv` (in particular any
        reachable state), for ANY well-formed operation (crash-wrapped ones included), an
        `Event.internal` is emitted ONLY IF `KnownCause` holds:
          (i)   `open`/`close` names a mailbox id that exists under ANOTHER app
                (`IntegrityError`, finding K-global-mailbox-id);
          (ii)  `allocate` with `findAvailable = none` (`ValueError`, finding K-alloc-exhaust);
          (iii) the injected fault of a `sweep _ true`.
        In particular `claim`, `release`, `add`, `list`, `bind`, `ping`, connects, drops, restarts
        and unfaulted sweeps never fail internally: no `IndexError` (every nameplate has a side
        row), no `IntegrityError` on a generated mailbox id (it is fresh), no `CrowdedError` /
        `ReclaimedError` out of `allocate` (the allocated name is free and the mailbox new).
  * `C17_no_internal_partial`   the contrapositive: without a known cause, no internal event.
  * `C17_recv_no_internal`      the same for `recv`, with the two guards spelled out.
  * `C17_no_internal_run_partial`  histories.
  * counter-witnesses: `C17_global_mailbox_id_counterexample` (reachable two-app state, by
        evaluation); `C17_alloc_exhaust_internal` (the cause is sufficient, in every state) and
        `C17_alloc_exhaust_counterexample` (a concrete state satisfying all of `GInv`; it is given
        directly, not as a 6000-operation history).
-/
import Wormhole.Inv.Main
import Wormhole.Inv.WFDec
import Wormhole.Props.C04

namespace Wormhole
open Sys

/-- the known causes of an internal failure -/
def KnownCause (s : Sys) : Op → Prop
  | .recv c _ _ (.allocate pick draws _) =>
      -- K-alloc-exhaust
      ∃ x app, s.findConn c = some x ∧ x.app = some app ∧ findAvailable (s.db.namesOfApp app) pick draws = none
  | .recv c _ _ (.open_ m) =>
      -- K-global-mailbox-id
      ∃ x app mb, s.findConn c = some x ∧ x.app = some app ∧ m = some mb ∧ s.db.ForeignMb app mb
  | .recv c _ _ (.close m _) =>
      -- K-global-mailbox-id (the id named by the command, or remembered from an earlier `open`)
      ∃ x app mb, s.findConn c = some x ∧ x.app = some app ∧
        (m = some mb ∨ (m = none ∧ x.mailboxId = some mb)) ∧ s.db.ForeignMb app mb
  | .sweep _ fault => fault = true
  | .crashIn _ op => KnownCause s op
  | _ => False

/-- with mailbox ids unique, "exists, but not under this app" = "exists under another app" -/
theorem foreignMb_iff {d : Chan} {app mb : String} :
    d.ForeignMb app mb ↔ (∃ m ∈ d.mailboxes, m.id = mb) ∧ ∀ m ∈ d.mailboxes, m.id = mb → m.app ≠ app := by
  constructor
  · rintro ⟨h1, h2⟩
    exact ⟨h2, fun m hm e ea => h1 ⟨m, hm, e, ea⟩⟩
  · rintro ⟨h1, h2⟩
    exact ⟨fun ⟨m, hm, e, ea⟩ => h2 m hm e ea, h1⟩

theorem plain_internal_known {g : GSys} (hI : g.GInv) (op : Op)
    (hmono : ∀ t, op.time? = some t → g.clock ≤ t)
    (hconn : ∀ c, op = .connect c → ∀ x ∈ g.sys.conns, x.id ≠ c)
    (hfresh : ∀ f, op.fresh? = some f → f ∉ g.used) (hop : op.isCrash = false) :
    ∀ e ∈ (g.cleared.stepPlain op).out, e.notInternal = false → KnownCause g.sys op := by
  intro e he hint
  have hc := ((hI.plain_full (S := False) False.elim op hmono hconn).2.forall_out rfl e he).cause hint
  have nofresh : ∀ {f : String}, f ∉ g.used → ¬ ∃ m ∈ g.sys.db.mailboxes, m.id = f := by
    rintro f hf ⟨m, hm, rfl⟩
    exact hf (hI.used m hm)
  cases op with
  | recv c t id cmd =>
    obtain ⟨x, app, hfx, happ, hb⟩ := hc
    cases cmd with
    | allocate pick draws fresh =>
      rcases hb with h | h
      · exact ⟨x, app, hfx, happ, h⟩
      · exact absurd h (nofresh (hfresh fresh rfl))
    | claim n fresh => exact absurd hb.2 (nofresh (hfresh fresh rfl))
    | open_ m =>
      obtain ⟨mb, e, hf⟩ := hb
      exact ⟨x, app, mb, hfx, happ, e, hf⟩
    | close m mood =>
      obtain ⟨mb, e, hf⟩ := hb
      exact ⟨x, app, mb, hfx, happ, e, hf⟩
    | _ => exact hb
  | sweep now fault => exact hc
  | crashIn k op' => simp [Op.isCrash] at hop
  | _ => exact hc

/-- **C17, internal failures have known causes only.**  Any state satisfying the invariant, any
    well-formed operation (crash-wrapped included). -/
theorem C17_internal_only_known {g : GSys} (hI : g.GInv) (op : Op) (hw : g.WFOp op) :
    ∀ e ∈ (g.sys.step op).out, e.notInternal = false → KnownCause g.sys op := by
  rcases op.isCrash_cases with hc | ⟨k, op', rfl⟩
  · rw [Sys.step_eq_of_not_crash g.sys hc]
    exact plain_internal_known hI op hw.mono hw.connFresh hw.idFresh hc
  · obtain ⟨hp, hcf⟩ := hw.crashPlain k op' rfl
    intro e he hint
    exact plain_internal_known hI op' hw.mono hcf hw.idFresh hp e (step_crash_out_subset g.sys k op' he) hint

/-- **C17_no_internal_partial** (one step): from a reachable state, a well-formed operation
    without a known cause emits no internal event. -/
theorem C17_no_internal_partial {g : GSys} (hg : g.Reach) (op : Op) (hw : g.WFOp op)
    (hK : ¬ KnownCause g.sys op) : ∀ e ∈ (g.sys.step op).out, e.notInternal = true := by
  intro e he
  cases h : e.notInternal with
  | true => rfl
  | false => exact absurd (C17_internal_only_known hg.ginv op hw e he h) hK

/-- the two guards, spelled out for a received command: (K-alloc-exhaust) an `allocate` finds a
    free name; (K-global-mailbox-id) the mailbox id an `open`/`close` refers to — named in the
    command, or remembered by the connection from its earlier `open` — does not exist under a
    different app.  Then the step emits no internal event. -/
theorem C17_recv_no_internal {g : GSys} (hg : g.Reach) (c : Nat) (t : Time) (id : Val) (cmd : Cmd)
    (hw : g.WFOp (.recv c t id cmd))
    (hAlloc : ∀ x app pick draws fresh, g.sys.findConn c = some x → x.app = some app →
      cmd = .allocate pick draws fresh → findAvailable (g.sys.db.namesOfApp app) pick draws ≠ none)
    (hMb : ∀ x app mb, g.sys.findConn c = some x → x.app = some app →
      (cmd = .open_ (some mb) ∨ (∃ mood, cmd = .close (some mb) mood) ∨
        (∃ mood, cmd = .close none mood ∧ x.mailboxId = some mb)) →
      ∀ m ∈ g.sys.db.mailboxes, m.id = mb → m.app = app) :
    ∀ e ∈ (g.sys.step (.recv c t id cmd)).out, e.notInternal = true := by
  apply C17_no_internal_partial hg _ hw
  intro hK
  cases cmd with
  | allocate pick draws fresh =>
    obtain ⟨x, app, hfx, happ, h⟩ := hK
    exact hAlloc x app pick draws fresh hfx happ rfl h
  | open_ m =>
    obtain ⟨x, app, mb, hfx, happ, rfl, hf⟩ := hK
    obtain ⟨⟨m0, hm0, e0⟩, hne⟩ := foreignMb_iff.1 hf
    exact hne m0 hm0 e0 (hMb x app mb hfx happ (Or.inl rfl) m0 hm0 e0)
  | close m mood =>
    obtain ⟨x, app, mb, hfx, happ, hm, hf⟩ := hK
    obtain ⟨⟨m0, hm0, e0⟩, hne⟩ := foreignMb_iff.1 hf
    refine hne m0 hm0 e0 (hMb x app mb hfx happ ?_ m0 hm0 e0)
    rcases hm with rfl | ⟨rfl, hid⟩
    · exact Or.inr (Or.inl ⟨mood, rfl⟩)
    · exact Or.inr (Or.inr ⟨mood, rfl, hid⟩)
  | _ => exact hK

/-- no known cause anywhere along a history -/
def NoKnownCause (g : GSys) : List Op → Prop
  | [] => True
  | op :: rest => ¬ KnownCause g.sys op ∧ NoKnownCause (g.step op) rest

/-- **C17_no_internal_partial** (histories): a well-formed history — crashes, restarts, sweeps
    included — in which no operation has a known cause produces a trace without internal events. -/
theorem C17_no_internal_run_partial : ∀ (ops : List Op) {g : GSys}, g.Reach → g.WF ops → NoKnownCause g ops →
    ∀ e ∈ (g.sys.run ops).2, e.notInternal = true := by
  intro ops
  induction ops with
  | nil => intro g _ _ _ e he; simp [Sys.run] at he
  | cons op rest ih =>
    intro g hg hwf hk e he
    simp only [Sys.run, List.mem_append] at he
    rcases he with he | he
    · exact C17_no_internal_partial hg op hwf.1 hk.1 e he
    · exact ih (g := g.step op) (.step op hg hwf.1) hwf.2 hk.2 e he

/-! ### Counter-witness 1: K-global-mailbox-id (a reachable state, by evaluation) -/

namespace C17bExample

/-- app "a" opens mailbox "m"; a connection of app "b" is bound -/
def hist : List Op :=
  [ .connect 1,
    .recv 1 8 (.int 1) (.bind (some "a") (some "s1") none none),
    .recv 1 16 (.int 2) (.open_ (some "m")),
    .connect 2,
    .recv 2 24 (.int 3) (.bind (some "b") (some "s1") none none) ]

def g : GSys := (GSys.init { usage := true } 0).run hist

theorem g_reach : g.Reach := GSys.reach_of_wfB _ _ _ (by decide +kernel)

def openOp : Op := .recv 2 32 (.int 4) (.open_ (some "m"))
def closeOp : Op := .recv 2 32 (.int 4) (.close (some "m") none)
def claimOp : Op := .recv 2 32 (.int 4) (.claim (some "7") "fresh1")

/-- **the full statement is false**: in a reachable two-app state a well-formed `open` (and a
    `close`) of the shared id emits `internal IntegrityError` (and no answer frame besides the ack) -/
theorem C17_global_mailbox_id_counterexample :
    g.Reach ∧ g.WFOp openOp ∧ g.WFOp closeOp ∧
    (g.sys.step openOp).out = [.frame 2 (.ack (.int 4)) true, .internal (some 2) "IntegrityError"] ∧
    (g.sys.step closeOp).out = [.frame 2 (.ack (.int 4)) true, .internal (some 2) "IntegrityError"] :=
  ⟨g_reach, GSys.wfOpB_sound (by decide +kernel), GSys.wfOpB_sound (by decide +kernel),
    by decide +kernel, by decide +kernel⟩

/-- it is the cause (i) of `KnownCause` -/
example : KnownCause g.sys openOp := by
  refine ⟨g.sys.conns[1]!, "b", "m", by decide +kernel, by decide +kernel, rfl, ?_⟩
  rw [foreignMb_iff]
  constructor
  · exact ⟨⟨"a", "m", 16, false⟩, by decide +kernel, rfl⟩
  · intro m hm e
    have : g.sys.db.mailboxes = [⟨"a", "m", 16, false⟩] := by decide +kernel
    rw [this] at hm
    simp at hm
    subst hm
    decide

/-- non-vacuity of `C17_no_internal_partial`: in the same state a `claim` has no known cause, and
    indeed (by evaluation) emits no internal event -/
example : g.WFOp claimOp ∧ ¬ KnownCause g.sys claimOp := ⟨GSys.wfOpB_sound (by decide +kernel), id⟩
example : (g.sys.step claimOp).out.all Event.notInternal = true := by decide +kernel

end C17bExample

/-! ### Counter-witness 2: K-alloc-exhaust -/

/-- **K-alloc-exhaust is a sufficient cause, in every state**: a bound connection that has not
    allocated yet sends `allocate` while `_find_available_nameplate_id` finds nothing → the step
    emits `internal ValueError` (and only the ack before it). -/
theorem C17_alloc_exhaust_internal {s : Sys} {c : Nat} {x : Conn} {app : String} (t : Time) (id : Val)
    (pick : Nat) (draws : List Nat) (fresh : String)
    (hx : s.findConn c = some x) (happ : x.app = some app) (hna : x.didAllocate = false)
    (hfull : findAvailable (s.db.namesOfApp app) pick draws = none) :
    (s.step (.recv c t id (.allocate pick draws fresh))).out =
      [.frame c (.ack id) (decide (s.db = s.disk) && decide (s.udb = s.udisk)), .internal (some c) "ValueError"] := by
  have hid : x.id = c := Sys.findConn_id hx
  show (({ s with out := [], snaps := [] } : Sys).onMessage c t id (.allocate pick draws fresh)).out = _
  unfold Sys.onMessage
  have hx' : ({ s with out := [], snaps := [] } : Sys).findConn c = some x := hx
  rw [hx']
  simp only [happ]
  unfold Sys.handleAllocate
  simp only [hna, Bool.false_eq_true, ↓reduceIte]
  have hfull' : findAvailable ((({ s with out := [], snaps := [] } : Sys).send c (.ack id)).db.namesOfApp app) pick draws
      = none := hfull
  rw [hfull']
  simp [Sys.internalErr, Sys.send, Sys.emit, Sys.synced, hid]

/-- a concrete instance: all of 1..1999 are nameplates of app "a" (the padded draws are
    1000..1999), each claimed by side "s", all pointing at the mailbox "mb"; one bound connection -/
def exhaustedDb : Chan :=
  { nameplates := (List.range' 1 1999).map (fun k => ⟨k, "a", toString k, "mb"⟩),
    npSides := (List.range' 1 1999).map (fun k => ⟨k, true, "s", 0⟩),
    mailboxes := [⟨"a", "mb", 0, true⟩],
    nextNp := 2000 }

def exhaustedSys : Sys :=
  { db := exhaustedDb, disk := exhaustedDb, conns := [{ id := 1, app := some "a", side := some "s" }] }

def exhaustedG : GSys := ⟨exhaustedSys, 0, ["mb"]⟩

theorem exhausted_names : findAvailable (exhaustedDb.namesOfApp "a") 0 [] = none := by
  rw [C04.C04_exhausted]
  have hmem : ∀ k, 1 ≤ k → k ≤ 1999 → toString k ∈ exhaustedDb.namesOfApp "a" := by
    intro k h1 h2
    rw [mem_namesOfApp]
    refine ⟨⟨k, "a", toString k, "mb"⟩, ?_, rfl, rfl⟩
    exact List.mem_map.2 ⟨k, List.mem_range'_1.2 ⟨h1, by omega⟩, rfl⟩
  constructor
  · intro k h1 h2; exact hmem k h1 (by omega)
  · intro i hi
    have hi' : i < 1000 := hi
    rw [C04.drawAt_of_ge (by simp)]
    have : Generated.allocLo = 1000 := rfl
    rw [this]
    exact hmem (1000 + i) (by omega) (by omega)

theorem range_pairwise_ne : (List.range' 1 1999).Pairwise (fun a b => ¬ a = b) :=
  (List.pairwise_lt_range' (s := 1) (n := 1999)).imp (fun h => Nat.ne_of_lt h)

/-- the exhausted state satisfies every clause of the invariant the theorems assume -/
theorem exhaustedG_ginv : exhaustedG.GInv := by
  refine ⟨⟨⟨?npIds, ?npKey, ⟨?b1, ?b2⟩, ?_, ?npMb, ?nsFk, ?nsKey, ?_, ?_, ?_⟩, ?npHasSide⟩, ⟨?_, ?_, ?_, ?_⟩,
    ⟨rfl, rfl⟩, ?_, ?_, ?_⟩
  case npIds =>
    show ((List.range' 1 1999).map (fun k => (⟨k, "a", toString k, "mb"⟩ : Nameplate))).Pairwise _
    rw [List.pairwise_map]
    exact range_pairwise_ne
  case npKey =>
    show ((List.range' 1 1999).map (fun k => (⟨k, "a", toString k, "mb"⟩ : Nameplate))).Pairwise _
    rw [List.pairwise_map]
    exact range_pairwise_ne.imp (fun h ⟨_, e⟩ => h (C04.toString_inj.1 e))
  case b1 =>
    intro n hn
    obtain ⟨k, hk, rfl⟩ := List.mem_map.1 hn
    have := List.mem_range'_1.1 hk
    show k < 2000
    omega
  case b2 =>
    intro r hr
    obtain ⟨k, hk, rfl⟩ := List.mem_map.1 hr
    have := List.mem_range'_1.1 hk
    show k < 2000
    omega
  case npMb =>
    intro n hn
    obtain ⟨k, hk, rfl⟩ := List.mem_map.1 hn
    exact ⟨⟨"a", "mb", 0, true⟩, List.mem_singleton.2 rfl, rfl, rfl⟩
  case nsFk =>
    intro r hr
    obtain ⟨k, hk, rfl⟩ := List.mem_map.1 hr
    exact ⟨⟨k, "a", toString k, "mb"⟩, List.mem_map.2 ⟨k, hk, rfl⟩, rfl⟩
  case nsKey =>
    show ((List.range' 1 1999).map (fun k => (⟨k, true, "s", 0⟩ : NpSide))).Pairwise _
    rw [List.pairwise_map]
    exact range_pairwise_ne.imp (fun h ⟨e, _⟩ => h e)
  case npHasSide =>
    intro n hn
    obtain ⟨k, hk, rfl⟩ := List.mem_map.1 hn
    exact ⟨⟨k, true, "s", 0⟩, List.mem_map.2 ⟨k, hk, rfl⟩, rfl⟩
  -- the one mailbox row, the one connection record, the empty tables
  all_goals simp [exhaustedG, exhaustedSys, exhaustedDb]

def allocOp : Op := .recv 1 5 (.int 1) (.allocate 0 [] "f")

/-- **the full statement is false** also for `allocate`: a state satisfying the complete invariant
    `GInv` (every hypothesis of `C17_internal_only_known`), a well-formed `allocate`, and the step
    emits `internal ValueError`.  (The state is given directly; reaching it takes 1999 claims.
    The harness replays finding K-alloc-exhaust on the real code by forcing the draws.) -/
theorem C17_alloc_exhaust_counterexample :
    exhaustedG.GInv ∧ exhaustedG.WFOp allocOp ∧
    (exhaustedG.sys.step allocOp).out = [.frame 1 (.ack (.int 1)) true, .internal (some 1) "ValueError"] := by
  refine ⟨exhaustedG_ginv, GSys.wfOpB_sound (by decide +kernel), ?_⟩
  have h := C17_alloc_exhaust_internal (s := exhaustedSys) (c := 1)
    (x := { id := 1, app := some "a", side := some "s" }) (app := "a") 5 (.int 1) 0 [] "f" rfl rfl rfl exhausted_names
  show (exhaustedSys.step allocOp).out = _
  unfold allocOp
  rw [h]
  simp [exhaustedSys]

end Wormhole

#print axioms Wormhole.C17_internal_only_known
#print axioms Wormhole.C17_no_internal_partial
#print axioms Wormhole.C17_recv_no_internal
#print axioms Wormhole.C17_no_internal_run_partial
#print axioms Wormhole.C17bExample.C17_global_mailbox_id_counterexample
#print axioms Wormhole.C17_alloc_exhaust_internal
#print axioms Wormhole.exhaustedG_ginv
#print axioms Wormhole.C17_alloc_exhaust_counterexample
