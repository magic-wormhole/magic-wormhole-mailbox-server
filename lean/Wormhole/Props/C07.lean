/-
  C07 -- "A nameplate lives exactly as long as someone holds it".

  `Chan.claims d a n σ`: in database `d`, side `σ` holds a claim on nameplate `n` of app `a`
  (a nameplate row `(a, n)` and a side row of its id with that side and `claimed = 1`).

  Step-level theorems are for ALL states satisfying `GSys.GInv` (resp. `Synced ∧ CInv`, `SInv`
  where said) and ALL operations, crashes included: the post-state of `crashIn k op` is one of
  the commit points of `op` (Inv/NpStep.lean).  `op.inner` is the operation a (possibly crashed)
  step consists of.
-/
import Wormhole.Props.C03
import Wormhole.Props.C04

namespace Wormhole
open Sys Sys.Np

/-- side `σ` holds a claim on nameplate `(a, n)` -/
def Chan.claims (d : Chan) (a n σ : String) : Prop :=
  ∃ np ∈ d.nameplates, np.app = a ∧ np.name = n ∧
    ∃ r ∈ d.npSides, r.npid = np.id ∧ r.claimed = true ∧ r.side = σ

/-- connection record `x` is bound to app `a` as side `σ` -/
def Conn.BoundTo (x : Conn) (a σ : String) : Prop := x.app = some a ∧ x.side = some σ

theorem boundTo_of_getD {s : Sys} (hc : s.ConnInv) {c : Nat} {x : Conn} {a σ : String}
    (hx : s.findConn c = some x) (ha : x.app = some a) (hσ : x.side.getD "" = σ) : x.BoundTo a σ := by
  refine ⟨ha, ?_⟩
  have := (hc.bound x (findConn_mem hx)).1 (by simp [ha])
  obtain ⟨σ', e⟩ := Option.isSome_iff_exists.1 this
  rw [e] at hσ ⊢
  simpa using hσ

/-- **a claim is ADDED only by its owner's claim/allocate.**  If `(a, n, σ)` is a claim after a step
    but not before, the step is (a crash inside) a `claim` of `n`, or an `allocate` that picks
    `n`, received on a connection bound to `(a, σ)`. -/
theorem C07_claim_added {g : GSys} (hI : g.GInv) (op : Op) {a n σ : String}
    (hpost : (g.step op).sys.db.claims a n σ) (hpre : ¬ g.sys.db.claims a n σ) :
    ∃ c t id cmd x, op.inner = .recv c t id cmd ∧ g.sys.findConn c = some x ∧ x.BoundTo a σ ∧
      ((∃ fresh, cmd = .claim (some n) fresh) ∨
       ∃ pick draws fresh, cmd = .allocate pick draws fresh ∧
         findAvailable (g.sys.db.namesOfApp a) pick draws = some n) := by
  have hrel := hI.npRel op
  have hp := hI.cinv.toPInv
  obtain ⟨np, hnp, e1, e2, r, hr, e3, e4, e5⟩ := hpost
  by_cases hr0 : r ∈ g.sys.db.npSides
  · -- an old side row: then the nameplate row is old too (a new one has an id no side row carries)
    exfalso
    rcases hrel.np_mem hnp with h0 | ⟨_, _, _, _, _, _, rfl, _⟩
    · exact hpre ⟨np, h0, e1, e2, r, hr0, e3, e4, e5⟩
    · have := hp.bounded.2 r hr0
      simp at e3; omega
  · obtain ⟨a', nm, fresh, t, hl, np', hnp', j1, j2, j3⟩ := hrel.ns_new hr e4 hr0
    cases hrel.np_id_inj hp hnp' hnp (j1.trans e3)
    rw [e5, ← j2, ← j3, e1, e2] at hl
    obtain ⟨c, id, cmd, x, hop, hx, ha, hs, _, hcmd⟩ := npLbl_spec_of hl
    refine ⟨c, t, id, cmd, x, hop, hx, boundTo_of_getD hI.conn hx ha hs, ?_⟩
    rcases hcmd with rfl | ⟨p, dr, rfl, hf⟩
    · exact Or.inl ⟨fresh, rfl⟩
    · exact Or.inr ⟨p, dr, fresh, rfl, hf⟩

/-- **a claim on a surviving nameplate is REMOVED only by its owner's release.**  If `(a, n, σ)` is a
    claim before a step, the nameplate row `(a, n)` is still there afterwards, and `(a, n, σ)` is
    no claim any more, then the step is (a crash inside) a `release` received on a connection
    bound to `(a, σ)` that resolves to `n`. -/
theorem C07_claim_removed {g : GSys} (hI : g.GInv) (op : Op) {a n σ : String}
    (hpre : g.sys.db.claims a n σ)
    (hsurv : ∀ np ∈ g.sys.db.nameplates, np.app = a → np.name = n → np ∈ (g.step op).sys.db.nameplates)
    (hpost : ¬ (g.step op).sys.db.claims a n σ) :
    ∃ c t id nm x, op.inner = .recv c t id (.release nm) ∧ g.sys.findConn c = some x ∧ x.BoundTo a σ ∧
      releaseTarget x nm = some n := by
  have hrel := hI.npRel op
  have hp := hI.cinv.toPInv
  obtain ⟨np, hnp, e1, e2, r, hr, e3, e4, e5⟩ := hpre
  have hnp' := hsurv np hnp e1 e2
  rcases hrel.ns_kept hp hnp hnp' hr e3 with hk | hl
  · exact absurd ⟨np, hnp', e1, e2, r, hk, e3, e4, e5⟩ hpost
  · rw [e1, e2, e5] at hl
    obtain ⟨c, t, id, nm, x, hop, hx, ha, hs, ht⟩ := npLbl_spec_of hl
    exact ⟨c, t, id, nm, x, hop, hx, boundTo_of_getD hI.conn hx ha hs, ht⟩

/-- **a nameplate row is DELETED only** (i) in a `release` of that nameplate by a connection of
    its app after which no claimed side row would remain (every row of another side is
    already unclaimed), (ii) in a `close` by a connection of its app that acts on -- and deletes
    -- its mailbox, (iii) in a non-faulted sweep that deletes its mailbox. -/
theorem C07_nameplate_deleted {g : GSys} (hI : g.GInv) (op : Op) {np : Nameplate}
    (hnp : np ∈ g.sys.db.nameplates) (hgone : ∀ r ∈ (g.step op).sys.db.nameplates, r.id ≠ np.id) :
    (∃ c t id nm x σ, op.inner = .recv c t id (.release nm) ∧ g.sys.findConn c = some x ∧
      x.BoundTo np.app σ ∧ releaseTarget x nm = some np.name ∧
      ∀ r ∈ g.sys.db.npSides, r.npid = np.id → r.side ≠ σ → r.claimed = false) ∨
    (∃ c t id m mood x, op.inner = .recv c t id (.close m mood) ∧ g.sys.findConn c = some x ∧
      x.app = some np.app ∧ closeTarget x m = some np.mailbox ∧
      ∀ mb ∈ (g.step op).sys.db.mailboxes, mb.id ≠ np.mailbox) ∨
    (∃ now, op.inner = .sweep now false ∧ ∀ mb ∈ (g.step op).sys.db.mailboxes, mb.id ≠ np.mailbox) := by
  have hrel := hI.npRel op
  have hp := hI.cinv.toPInv
  have hnot : np ∉ (g.step op).sys.db.nameplates := fun h => hgone np h rfl
  rcases hrel.np_gone hp hnp hnot with ⟨σ, hl, hall⟩ | ⟨hl, hmb⟩ | ⟨hl, hmb⟩
  · obtain ⟨c, t, id, nm, x, hop, hx, ha, hs, ht⟩ := npLbl_spec_of hl
    exact Or.inl ⟨c, t, id, nm, x, σ, hop, hx, boundTo_of_getD hI.conn hx ha hs, ht, hall⟩
  · obtain ⟨c, t, id, m, mood, x, hop, hx, ha, ht⟩ := npLbl_spec_of hl
    exact Or.inr (Or.inl ⟨c, t, id, m, mood, x, hop, hx, ha, ht, hmb⟩)
  · obtain ⟨now, hop⟩ := npLbl_spec_of hl
    exact Or.inr (Or.inr ⟨now, hop, hmb⟩)


/-- **a claim is ENDED only** by its owner's release, by the `close` (of a connection of its app)
    that deletes the nameplate's mailbox, or by a non-faulted sweep that deletes that mailbox --
    by nothing else, and by nobody else's release. -/
theorem C07_claim_ended_only_by {g : GSys} (hI : g.GInv) (op : Op) {a n σ : String}
    (hpre : g.sys.db.claims a n σ) (hpost : ¬ (g.step op).sys.db.claims a n σ) :
    (∃ c t id nm x, op.inner = .recv c t id (.release nm) ∧ g.sys.findConn c = some x ∧ x.BoundTo a σ ∧
      releaseTarget x nm = some n) ∨
    (∃ c t id m mood x np, op.inner = .recv c t id (.close m mood) ∧ g.sys.findConn c = some x ∧
      x.app = some a ∧ np ∈ g.sys.db.nameplates ∧ np.app = a ∧ np.name = n ∧
      closeTarget x m = some np.mailbox ∧ ∀ mb ∈ (g.step op).sys.db.mailboxes, mb.id ≠ np.mailbox) ∨
    (∃ now np, op.inner = .sweep now false ∧ np ∈ g.sys.db.nameplates ∧ np.app = a ∧ np.name = n ∧
      ∀ mb ∈ (g.step op).sys.db.mailboxes, mb.id ≠ np.mailbox) := by
  have hp := hI.cinv.toPInv
  obtain ⟨np, hnp, e1, e2, r, hr, e3, e4, e5⟩ := hpre
  by_cases hex : ∃ r' ∈ (g.step op).sys.db.nameplates, r'.id = np.id
  · obtain ⟨r', hr', e'⟩ := hex
    have : r' = np := (hI.npRel op).np_same hp hr' hnp e'
    subst this
    refine Or.inl (C07_claim_removed hI op ⟨r', hnp, e1, e2, r, hr, e3, e4, e5⟩ ?_ hpost)
    intro np' hnp' a1 a2
    have : np' = r' := hp.np_eq_of_key hnp' hnp (a1.trans e1.symm) (a2.trans e2.symm)
    rw [this]; exact hr'
  · have hgone : ∀ r' ∈ (g.step op).sys.db.nameplates, r'.id ≠ np.id := fun r' h1 h2 => hex ⟨r', h1, h2⟩
    rcases C07_nameplate_deleted hI op hnp hgone with
      ⟨c, t, id, nm, x, σ', hop, hx, hb, ht, hall⟩ | ⟨c, t, id, m, mood, x, hop, hx, ha, ht, hmb⟩ | ⟨now, hop, hmb⟩
    · have hσ : σ' = σ := by
        apply Classical.byContradiction
        intro hne
        have := hall r hr e3 (by rw [e5]; exact fun h => hne h.symm)
        rw [e4] at this; cases this
      subst hσ
      exact Or.inl ⟨c, t, id, nm, x, hop, hx, e1 ▸ hb, e2 ▸ ht⟩
    · exact Or.inr (Or.inl ⟨c, t, id, m, mood, x, np, hop, hx, e1 ▸ ha, hnp, e1, e2, ht, hmb⟩)
    · exact Or.inr (Or.inr ⟨now, np, hop, hnp, e1, e2, hmb⟩)

/-- **C07_claims_change_only_by_owner**: the two directions together -/
theorem C07_claims_change_only_by_owner {g : GSys} (hI : g.GInv) (op : Op) (a n σ : String) :
    ((g.step op).sys.db.claims a n σ → ¬ g.sys.db.claims a n σ →
      ∃ c t id cmd x, op.inner = .recv c t id cmd ∧ g.sys.findConn c = some x ∧ x.BoundTo a σ ∧
        ((∃ fresh, cmd = .claim (some n) fresh) ∨
         ∃ pick draws fresh, cmd = .allocate pick draws fresh ∧
           findAvailable (g.sys.db.namesOfApp a) pick draws = some n)) ∧
    (g.sys.db.claims a n σ → ¬ (g.step op).sys.db.claims a n σ →
      (∃ c t id nm x, op.inner = .recv c t id (.release nm) ∧ g.sys.findConn c = some x ∧ x.BoundTo a σ ∧
        releaseTarget x nm = some n) ∨
      (∃ c t id m mood x np, op.inner = .recv c t id (.close m mood) ∧ g.sys.findConn c = some x ∧
        x.app = some a ∧ np ∈ g.sys.db.nameplates ∧ np.app = a ∧ np.name = n ∧
        closeTarget x m = some np.mailbox ∧ ∀ mb ∈ (g.step op).sys.db.mailboxes, mb.id ≠ np.mailbox) ∨
      (∃ now np, op.inner = .sweep now false ∧ np ∈ g.sys.db.nameplates ∧ np.app = a ∧ np.name = n ∧
        ∀ mb ∈ (g.step op).sys.db.mailboxes, mb.id ≠ np.mailbox)) :=
  ⟨C07_claim_added hI op, C07_claim_ended_only_by hI op⟩

/-- **what does NOT end a claim** (the "in particular"): a received command `cmd` on connection
    record `x` leaves the claim `(a, n, σ)` in place unless it is the release of `n` by `(a, σ)`
    itself or a close, by a connection of app `a`, that acts on the mailbox of `(a, n)`.  So: not
    another side's release (`x` is not bound to `(a, σ)`), not a release of another nameplate
    (it resolves to another name), not the close of another mailbox, nothing in another app
    (`x.app ≠ some a`), and no claim/allocate/open/add/list/ping/bind at all. -/
theorem C07_claim_survives_recv {g : GSys} (hI : g.GInv) {op : Op} {c : Nat} {t : Time} {id : Val} {cmd : Cmd}
    {x : Conn} {a n σ : String} (hop : op.inner = .recv c t id cmd) (hx : g.sys.findConn c = some x)
    (hpre : g.sys.db.claims a n σ)
    (hrel : ∀ nm, cmd = .release nm → x.BoundTo a σ → releaseTarget x nm ≠ some n)
    (hclose : ∀ m mood, cmd = .close m mood → x.app = some a →
      ∀ np ∈ g.sys.db.nameplates, np.app = a → np.name = n → closeTarget x m ≠ some np.mailbox) :
    (g.step op).sys.db.claims a n σ := by
  apply Classical.byContradiction
  intro hpost
  rcases C07_claim_ended_only_by hI op hpre hpost with
    ⟨c', t', id', nm, x', hop', hx', hb, ht⟩ | ⟨c', t', id', m, mood, x', np, hop', hx', ha, hnp, e1, e2, ht, _⟩ |
    ⟨now, np, hop', _⟩
  · rw [hop] at hop'
    cases hop'
    rw [hx] at hx'; cases hx'
    exact hrel nm rfl hb ht
  · rw [hop] at hop'
    cases hop'
    rw [hx] at hx'; cases hx'
    exact hclose m mood rfl ha np hnp e1 e2 ht
  · rw [hop] at hop'; cases hop'

/-- connects, drops, restarts and faulted sweeps end no claim -/
theorem C07_claim_survives_other {g : GSys} (hI : g.GInv) {op : Op} {a n σ : String}
    (hop : (∃ c, op.inner = .connect c) ∨ (∃ c, op.inner = .drop c) ∨ (∃ t, op.inner = .restart t) ∨
      (∃ now, op.inner = .sweep now true))
    (hpre : g.sys.db.claims a n σ) : (g.step op).sys.db.claims a n σ := by
  apply Classical.byContradiction
  intro hpost
  rcases C07_claim_ended_only_by hI op hpre hpost with
    ⟨c', t', id', nm, x', hop', _⟩ | ⟨c', t', id', m, mood, x', np, hop', _⟩ | ⟨now, np, hop', _⟩ <;>
  · rcases hop with ⟨_, h⟩ | ⟨_, h⟩ | ⟨_, h⟩ | ⟨_, h⟩ <;> rw [h] at hop' <;> cases hop'


/-- **C07_listed_iff_held** (crash-free states, `SInv`): with listing allowed, `list` is answered
    exactly `[ack, nameplates ids]` and `n ∈ ids` iff some side holds a claim on `(app, n)`. -/
theorem C07_listed_iff_held {s : Sys} (hS : s.db.SInv) {c : Nat} {x : Conn} {a : String} (t : Time) (id : Val)
    (hx : s.findConn c = some x) (ha : x.app = some a) (hl : s.cfg.allowList = true) :
    (s.step (.recv c t id .list)).out =
      [.frame c (.ack id) s.synced, .frame c (.nameplates (s.listAnswer a)) s.synced] ∧
    ∀ n, n ∈ s.listAnswer a ↔ ∃ σ, s.db.claims a n σ := by
  obtain ⟨h1, h2, _, _⟩ := C18_list_answer t id hx ha
  refine ⟨h1, fun n => ?_⟩
  rw [(h2 hl).2 n]
  constructor
  · rintro ⟨r, hr, e1, e2⟩
    obtain ⟨sd, hsd, e3, e4⟩ := hS.npClaimed r hr
    exact ⟨sd.side, r, hr, e1, e2, sd, hsd, e3, e4, rfl⟩
  · rintro ⟨σ, r, hr, e1, e2, _⟩
    exact ⟨r, hr, e1, e2⟩

/-- a `release` that passes validation, as a state equation -/
theorem step_release {s : Sys} {c : Nat} {x : Conn} {a : String} (t : Time) (id : Val) (nm : Option String)
    (hx : s.findConn c = some x) (ha : x.app = some a) (hnr : rejectText x (.release nm) = none) :
    ∃ n, releaseTarget x nm = some n ∧
      s.step (.recv c t id (.release nm)) =
        (({ s with out := [], snaps := [] } : Sys).send c (.ack id)).releaseWith x a (x.side.getD "") t n := by
  simp only [rejectText, needBind, ha] at hnr
  have hd : x.didRelease = false := by
    cases h : x.didRelease
    · rfl
    · simp [h] at hnr
  simp only [hd] at hnr
  rw [step_recv, onMessage_dispatch, show ({ s with out := [], snaps := [] } : Sys).findConn c = some x from hx]
  simp only [ha, handleBound, handleRelease_eq, hd]
  cases nm with
  | some n =>
    refine ⟨n, rfl, ?_⟩
    cases hh : x.nameplateId with
    | none => simp
    | some held =>
      simp only [hh] at hnr
      have : n = held := by
        apply Classical.byContradiction
        intro hne
        simp [hne] at hnr
      simp [this]
  | none =>
    cases hh : x.nameplateId with
    | none => simp [hh] at hnr
    | some held => exact ⟨held, by simp [releaseTarget, hh], by simp⟩

/-- **C07_release_total.**  Every `release` that passes validation, from a synced state, is
    answered by exactly `[ack id, released]` (both sent with nothing uncommitted); it resolves to
    a name `n`, and the channel database afterwards is: unchanged if `(a, n)` does not exist or
    the caller's side has no row on it; else the side's row is unclaimed and, if no claimed row
    remains, the nameplate and its side rows are deleted.  It never fails. -/
theorem C07_release_total {s : Sys} (hs : s.Synced) {c : Nat} {x : Conn} {a : String} (t : Time) (id : Val)
    (nm : Option String) (hx : s.findConn c = some x) (ha : x.app = some a)
    (hnr : rejectText x (.release nm) = none) :
    (s.step (.recv c t id (.release nm))).frames = [.frame c (.ack id) true, .frame c .released true] ∧
    ∃ n, releaseTarget x nm = some n ∧
      (s.db.findNameplate a n = none → (s.step (.recv c t id (.release nm))).db = s.db) ∧
      (∀ np, s.db.findNameplate a n = some np →
        (s.db.findNpSide np.id (x.side.getD "") = none → (s.step (.recv c t id (.release nm))).db = s.db) ∧
        (∀ r0, s.db.findNpSide np.id (x.side.getD "") = some r0 →
          (((s.db.unclaim np.id (x.side.getD "")).npSidesOf np.id).any (·.claimed) = true ∧
            (s.step (.recv c t id (.release nm))).db = s.db.unclaim np.id (x.side.getD "")) ∨
          (((s.db.unclaim np.id (x.side.getD "")).npSidesOf np.id).any (·.claimed) = false ∧
            (s.step (.recv c t id (.release nm))).db =
              ((s.db.unclaim np.id (x.side.getD "")).delNpSidesOf np.id).delNameplate np.id))) := by
  obtain ⟨n, htarget, hstep⟩ := step_release t id nm hx ha hnr
  unfold releaseWith at hstep
  rw [findConn_id hx] at hstep
  generalize hA : ((({ s with out := [], snaps := [] } : Sys).send c (.ack id)).updConn c
      (fun y => { y with didRelease := true })) = sA at hstep
  have hAdb : sA.db = s.db := by rw [← hA]; rfl
  cases hE : sA.releaseNameplate a n (x.side.getD "") t with
  | mk s1 b =>
    rw [hE] at hstep
    obtain ⟨rfl, _, hcases⟩ := releaseNameplate_exact hE
    rw [hAdb] at hcases
    dsimp only at hstep
    have hdb : (s.step (.recv c t id (.release nm))).db = s1.db := by rw [hstep]; rfl
    rw [hdb]
    refine ⟨?_, n, htarget, ?_⟩
    · obtain ⟨q, _, hsy⟩ := releaseNameplate_spec hE
      have hsyn : s1.synced = true := (synced_iff s1).2 (hsy (by rw [← hA]; exact hs))
      have hs0 : ({ s with out := [], snaps := [] } : Sys).synced = true := (synced_iff s).2 hs
      rw [hstep]
      simp only [Sys.send, emit_frames, Event.isFrame, if_true, q.frames, hsyn, ← hA]
      simp [Sys.frames, Sys.emit, Sys.updConn, hs0, List.filter, Event.isFrame]
    · -- the three cases of `releaseNameplate_exact`; the look-ups decide which clause speaks
      rcases hcases with ⟨h0, e⟩ | ⟨np', h1, h2, e⟩ | ⟨np', r0', h1, h2, h3⟩
      · exact ⟨fun _ => (by rw [e, hAdb]), fun np hnp => by cases h0.symm.trans hnp⟩
      · refine ⟨fun hnone => (by cases hnone.symm.trans h1), fun np hnp => ?_⟩
        cases hnp.symm.trans h1
        exact ⟨fun _ => (by rw [e, hAdb]), fun r0 hr0 => by cases h2.symm.trans hr0⟩
      · refine ⟨fun hnone => (by cases hnone.symm.trans h1), fun np hnp => ?_⟩
        cases hnp.symm.trans h1
        refine ⟨fun hside => (by cases hside.symm.trans h2), fun _ _ => ?_⟩
        rcases h3 with ⟨a1, a2, _⟩ | ⟨a1, a2, _⟩
        · exact Or.inl ⟨a1, a2⟩
        · exact Or.inr ⟨a1, a2⟩


/-- after `UPDATE … SET claimed=0` the side holds no claim -/
theorem Chan.not_claims_unclaim {d : Chan} (hp : d.PInv) {a n σ : String} {np : Nameplate}
    (hnp : d.findNameplate a n = some np) : ¬ (d.unclaim np.id σ).claims a n σ := by
  rintro ⟨np', hnp', e1, e2, r, hr, e3, e4, e5⟩
  obtain ⟨m1, m2, m3⟩ := Chan.findNameplate_some hnp
  have : np' = np := hp.np_eq_of_key hnp' m1 (e1.trans m2.symm) (e2.trans m3.symm)
  subst this
  simp only [Chan.unclaim, List.mem_map] at hr
  obtain ⟨r1, _, rfl⟩ := hr
  by_cases hc : r1.npid = np'.id ∧ r1.side = σ
  · simp [hc] at e4
  · simp only [hc, if_false] at e3 e5
    exact hc ⟨e3, e5⟩

theorem Chan.not_claims_deleted {d : Chan} (hp : d.PInv) {a n σ : String} {np : Nameplate}
    (hnp : d.findNameplate a n = some np) :
    ¬ (((d.unclaim np.id σ).delNpSidesOf np.id).delNameplate np.id).claims a n σ := by
  rintro ⟨np', hnp', e1, e2, _⟩
  obtain ⟨m1, m2, m3⟩ := Chan.findNameplate_some hnp
  simp only [Chan.delNameplate, Chan.delNpSidesOf, Chan.unclaim, List.mem_filter, decide_eq_true_eq] at hnp'
  have : np' = np := hp.np_eq_of_key hnp'.1 m1 (e1.trans m2.symm) (e2.trans m3.symm)
  exact hnp'.2 (by rw [this])

/-- **a release by a side that holds no claim changes nothing** (crash-free states, `SInv`):
    no nameplate `(a, n)`, no row of the side on it, or a row with `claimed = 0`.
    (Under `CInv` alone the last case is false: after a crash between the two commits of the last
    release the nameplate has only unclaimed rows, and the re-sent release completes the deletion.) -/
theorem C07_release_noop {s : Sys} (hs : s.Synced) (hS : s.db.SInv) {c : Nat} {x : Conn} {a n : String} (t : Time)
    (id : Val) (nm : Option String) (hx : s.findConn c = some x) (ha : x.app = some a)
    (hnr : rejectText x (.release nm) = none) (htarget : releaseTarget x nm = some n)
    (hno : ¬ s.db.claims a n (x.side.getD "")) :
    (s.step (.recv c t id (.release nm))).db = s.db := by
  obtain ⟨_, n', ht', h1, h2⟩ := C07_release_total hs t id nm hx ha hnr
  rw [htarget] at ht'; cases ht'
  cases hnp : s.db.findNameplate a n with
  | none => exact h1 hnp
  | some np =>
    obtain ⟨k1, k2⟩ := h2 np hnp
    cases hside : s.db.findNpSide np.id (x.side.getD "") with
    | none => exact k1 hside
    | some r0 =>
      obtain ⟨m1, m2, m3⟩ := Chan.findNameplate_some hnp
      obtain ⟨s1, s2, s3⟩ := Chan.findNpSide_some hside
      have hself : s.db.unclaim np.id (x.side.getD "") = s.db := by
        apply Chan.unclaim_eq_self
        intro r hr e1 e2
        cases hcl : r.claimed with
        | false => rfl
        | true => exact absurd ⟨np, m1, m2, m3, r, hr, e1, hcl, e2⟩ hno
      rcases k2 r0 hside with ⟨_, e⟩ | ⟨hany, _⟩
      · rw [e, hself]
      · exfalso
        rw [hself] at hany
        obtain ⟨rc, hrc, e1, e2⟩ := hS.npClaimed np m1
        simp only [Chan.npSidesOf, List.any_eq_false, List.mem_filter, decide_eq_true_eq, Bool.not_eq_true,
          and_imp] at hany
        have := hany rc hrc e1
        rw [e2] at this; cases this

/-- **after a release the side holds no claim** on that nameplate -/
theorem C07_release_unclaims {s : Sys} (hs : s.Synced) (hc : s.db.CInv) {c : Nat} {x : Conn} {a n : String} (t : Time)
    (id : Val) (nm : Option String) (hx : s.findConn c = some x) (ha : x.app = some a)
    (hnr : rejectText x (.release nm) = none) (htarget : releaseTarget x nm = some n) :
    ¬ (s.step (.recv c t id (.release nm))).db.claims a n (x.side.getD "") := by
  obtain ⟨_, n', ht', h1, h2⟩ := C07_release_total hs t id nm hx ha hnr
  rw [htarget] at ht'; cases ht'
  cases hnp : s.db.findNameplate a n with
  | none =>
    rw [h1 hnp]
    rintro ⟨np, hn, e1, e2, _⟩
    exact Chan.findNameplate_none hnp np hn ⟨e1, e2⟩
  | some np =>
    obtain ⟨k1, k2⟩ := h2 np hnp
    obtain ⟨m1, m2, m3⟩ := Chan.findNameplate_some hnp
    cases hside : s.db.findNpSide np.id (x.side.getD "") with
    | none =>
      rw [k1 hside]
      rintro ⟨np', hn', e1, e2, r, hr, e3, _, e5⟩
      have : np' = np := hc.toPInv.np_eq_of_key hn' m1 (e1.trans m2.symm) (e2.trans m3.symm)
      subst this
      simp only [Chan.findNpSide, List.find?_eq_none, decide_eq_true_eq] at hside
      exact hside r hr ⟨e3, e5⟩
    | some r0 =>
      rcases k2 r0 hside with ⟨_, e⟩ | ⟨_, e⟩
      · rw [e]; exact Chan.not_claims_unclaim hc.toPInv hnp
      · rw [e]; exact Chan.not_claims_deleted hc.toPInv hnp

/-- **release is idempotent**: a second release of the same nameplate by the same side (any
    connection bound to it -- typically a new one, `release` being once-per-connection) changes
    nothing in the channel database.  `s'` is the state after the first release; `SInv` of `s'` is
    what `GSys.ReachCF.sinv` provides in crash-free histories. -/
theorem C07_release_twice {s : Sys} (hs : s.Synced) (hc : s.db.CInv) {c c' : Nat} {x x' : Conn} {a n : String}
    (t t' : Time) (id id' : Val) (nm nm' : Option String)
    (hx : s.findConn c = some x) (ha : x.app = some a) (hnr : rejectText x (.release nm) = none)
    (htarget : releaseTarget x nm = some n)
    (hs' : (s.step (.recv c t id (.release nm))).Synced) (hS' : (s.step (.recv c t id (.release nm))).db.SInv)
    (hx' : (s.step (.recv c t id (.release nm))).findConn c' = some x') (ha' : x'.app = some a)
    (hside : x'.side.getD "" = x.side.getD "")
    (hnr' : rejectText x' (.release nm') = none) (htarget' : releaseTarget x' nm' = some n) :
    ((s.step (.recv c t id (.release nm))).step (.recv c' t' id' (.release nm'))).db =
      (s.step (.recv c t id (.release nm))).db :=
  C07_release_noop hs' hS' t' id' nm' hx' ha' hnr' htarget'
    (hside ▸ C07_release_unclaims hs hc t id nm hx ha hnr htarget)

/-- **C07_reclaimed.**  A claim by a side whose row on the live nameplate says `claimed = 0`
    (it released earlier) is answered by exactly `[ack, error "reclaimed"]`; both databases and
    their committed states are unchanged and nothing is committed.  The connection record DOES
    change: `didClaim := true`, `nameplateId := some n` (the code sets these flags before it calls
    `claim_nameplate`), so a later `release` without a name on this connection resolves to `n`. -/
theorem C07_reclaimed {s : Sys} (hs : s.Synced) (hc : s.db.CInv) {c : Nat} {x : Conn} {a n fresh : String}
    {t : Time} {id : Val} {row : Nameplate} {r : NpSide}
    (hx : s.findConn c = some x) (ha : x.app = some a) (hd : x.didClaim = false)
    (hrow : s.db.findNameplate a n = some row)
    (hside : s.db.findNpSide row.id (x.side.getD "") = some r) (hr : r.claimed = false) :
    (s.step (.recv c t id (.claim (some n) fresh))).out =
      [.frame c (.ack id) true, .frame c (.error "reclaimed") true] ∧
    (s.step (.recv c t id (.claim (some n) fresh))).db = s.db ∧
    (s.step (.recv c t id (.claim (some n) fresh))).disk = s.disk ∧
    (s.step (.recv c t id (.claim (some n) fresh))).udb = s.udb ∧
    (s.step (.recv c t id (.claim (some n) fresh))).udisk = s.udisk ∧
    (s.step (.recv c t id (.claim (some n) fresh))).snaps = [] ∧
    (s.step (.recv c t id (.claim (some n) fresh))).conns =
      s.conns.map (fun y => if y.id = c then { y with didClaim := true, nameplateId := some n } else y) := by
  have hstep := step_claim t id n fresh hx ha hd
  generalize hE : (((({ s with out := [], snaps := [] } : Sys).send c (.ack id)).updConn c
      (fun y => { y with didClaim := true, nameplateId := some n })).claimNameplate a n (x.side.getD "") t fresh) = p
    at hstep
  obtain ⟨s1, res⟩ := p
  rcases claimNameplate_of_some hE hrow with ⟨_, _, _, rfl, rfl⟩ | ⟨hall, _⟩
  · have hs0 : ({ s with out := [], snaps := [] } : Sys).synced = true := (synced_iff s).2 hs
    rw [hstep]
    refine ⟨?_, rfl, rfl, rfl, rfl, rfl, rfl⟩
    simp [Sys.sendError, Sys.send, Sys.emit, Sys.updConn, hs0]
    exact hs0
  · cases hr.symm.trans (hall r hside)

/-- **C07_reusable.**  After the step that deleted the nameplate row of `(a, n)`, `n` is not among
    the names of app `a` any more: it disappears from `list` (`C18_list_answer`) and from the
    `claimed` argument of `findAvailable`. -/
theorem C07_reusable {g : GSys} (hI : g.GInv) (op : Op) {np : Nameplate} (hnp : np ∈ g.sys.db.nameplates)
    (hgone : ∀ r ∈ (g.step op).sys.db.nameplates, r.id ≠ np.id) :
    np.name ∉ (g.step op).sys.db.namesOfApp np.app := by
  rw [mem_namesOfApp]
  rintro ⟨r, hr, e1, e2⟩
  have hnot : np ∉ (g.step op).sys.db.nameplates := fun h => hgone np h rfl
  have hr0 := (hI.npRel op).sub_of_gone hI.cinv.toPInv hnp hnot r hr
  have : r = np := hI.cinv.toPInv.np_eq_of_key hr0 hnp e1 e2
  exact hgone r hr (by rw [this])

/-- ... so `allocate` may hand it out again (link to C04): if the freed name is the decimal
    rendering of a `k` with `d ≤ 3` digits and no shorter name is free, some outcome of
    `random.choice` makes `findAvailable` return it in the post-state. -/
theorem C07_reusable_alloc {g : GSys} (hI : g.GInv) (op : Op) {np : Nameplate} (hnp : np ∈ g.sys.db.nameplates)
    (hgone : ∀ r ∈ (g.step op).sys.db.nameplates, r.id ≠ np.id) {d k : Nat} (draws : List Nat)
    (hname : np.name = toString k) (hd : d = 1 ∨ d = 2 ∨ d = 3)
    (hshorter : ∀ e, 1 ≤ e → e < d → ¬ C04.Free ((g.step op).sys.db.namesOfApp np.app) e)
    (hlo : 10 ^ (d - 1) ≤ k) (hhi : k < 10 ^ d) :
    ∃ pick, findAvailable ((g.step op).sys.db.namesOfApp np.app) pick draws = some np.name := by
  rw [hname]
  exact C04.C04_every_choice_reachable hd hshorter hlo hhi (hname ▸ C07_reusable hI op hnp hgone)


/-! ## non-vacuity -/

theorem exG_ginv : exG.GInv := exG_reach.ginv

theorem exG_sinv : exG.sys.db.SInv := ⟨exG_cinv, by decide +kernel, by decide +kernel⟩

/-- in `exG` sides "s1" and "s2" hold ("app","7"); connection 4 (side "s1") claims a NEW name "9" -/
example := C07_claim_added exG_ginv (.recv 4 17 .null (.claim (some "9") "mb9")) (a := "app") (n := "9") (σ := "s1")
  (by unfold Chan.claims; decide +kernel) (by unfold Chan.claims; decide +kernel)

/-- "s1" releases "7" on connection 1: its claim goes, the nameplate stays (held by "s2") -/
example := C07_claim_removed exG_ginv (.recv 1 20 .null (.release none)) (a := "app") (n := "7") (σ := "s1")
  (by unfold Chan.claims; decide +kernel) (by decide +kernel) (by unfold Chan.claims; decide +kernel)

/-- the state after that release -/
def exG1 : GSys := exG.step (.recv 1 20 .null (.release none))
theorem exG1_ginv : exG1.GInv := exG_ginv.step _ (GSys.wfOpB_sound (by decide +kernel))
theorem exG1_sinv : exG1.sys.db.SInv := ⟨exG1_ginv.cinv, by decide +kernel, by decide +kernel⟩

/-- then "s2" releases too: the row of ("app","7") (id 1) is deleted -- case (i) -/
example := C07_nameplate_deleted exG1_ginv (.recv 2 21 .null (.release none)) (np := ⟨1, "app", "7", "mb1"⟩)
  (by decide +kernel) (by decide +kernel)
example := C07_reusable exG1_ginv (.recv 2 21 .null (.release none)) (np := ⟨1, "app", "7", "mb1"⟩)
  (by decide +kernel) (by decide +kernel)
/-- "7" is a one-digit name: `allocate` can return it again -/
example := C07_reusable_alloc exG1_ginv (.recv 2 21 .null (.release none)) (np := ⟨1, "app", "7", "mb1"⟩)
  (by decide +kernel) (by decide +kernel) (d := 1) (k := 7) [] (by decide) (Or.inl rfl)
  (fun e h1 h2 => by omega) (by decide) (by decide)

/-- a release by "s2" does not end the claim of "s1" -/
example := C07_claim_survives_recv exG_ginv (op := .recv 2 21 .null (.release none)) (a := "app") (n := "7") (σ := "s1")
  (x := { id := 2, app := some "app", side := some "s2", didClaim := true, nameplateId := some "7" })
  rfl (by decide +kernel) (by unfold Chan.claims; decide +kernel)
  (fun nm _ hb => by simp [Conn.BoundTo] at hb) (fun m mood h => by cases h)

example := C07_claim_ended_only_by exG_ginv (.recv 1 20 .null (.release none)) (a := "app") (n := "7") (σ := "s1")
  (by unfold Chan.claims; decide +kernel) (by unfold Chan.claims; decide +kernel)

/-- listing in `exG`: exactly "7" -/
example := C07_listed_iff_held (s := exG.sys) exG_sinv (c := 4)
  (x := { id := 4, app := some "app", side := some "s1" }) (a := "app") 30 .null (by decide +kernel) rfl rfl

/-- the release of "s1" in `exG` (connection 1, no name given: resolves to the claimed "7") -/
example := C07_release_total (s := exG.sys) exG_synced (c := 1)
  (x := { id := 1, app := some "app", side := some "s1", didClaim := true, nameplateId := some "7" }) (a := "app")
  20 .null none (by decide +kernel) rfl (by decide)

/-- a second release by "s1", from its new connection 4, naming "7": nothing changes -/
example := C07_release_noop (s := exG1.sys) exG1_ginv.synced exG1_sinv (c := 4)
  (x := { id := 4, app := some "app", side := some "s1" }) (a := "app") (n := "7") 22 .null (some "7")
  (by decide +kernel) rfl (by decide) rfl (by unfold Chan.claims; decide +kernel)

example := C07_release_twice (s := exG.sys) exG_synced exG_cinv (c := 1) (c' := 4)
  (x := { id := 1, app := some "app", side := some "s1", didClaim := true, nameplateId := some "7" })
  (x' := { id := 4, app := some "app", side := some "s1" }) (a := "app") (n := "7") 20 22 .null .null none (some "7")
  (by decide +kernel) rfl (by decide) rfl exG1_ginv.synced exG1_sinv (by decide +kernel) rfl rfl
  (by decide) rfl

/-- "s1" released "7" (still held by "s2"), then claims it again from connection 4: `reclaimed` -/
example : (exG1.sys.step (.recv 4 23 (.int 2) (.claim (some "7") "mb4"))).out =
    [.frame 4 (.ack (.int 2)) true, .frame 4 (.error "reclaimed") true] :=
  (C07_reclaimed (s := exG1.sys) exG1_ginv.synced exG1_ginv.cinv
    (x := { id := 4, app := some "app", side := some "s1" }) (row := ⟨1, "app", "7", "mb1"⟩)
    (r := ⟨1, false, "s1", 11⟩) (by decide +kernel) rfl rfl (by decide +kernel) (by decide +kernel) rfl).1

#print axioms C07_claim_added
#print axioms C07_claim_removed
#print axioms C07_nameplate_deleted
#print axioms C07_claim_ended_only_by
#print axioms C07_claims_change_only_by_owner
#print axioms C07_claim_survives_recv
#print axioms C07_claim_survives_other
#print axioms C07_listed_iff_held
#print axioms C07_release_total
#print axioms C07_release_noop
#print axioms C07_release_unclaims
#print axioms C07_release_twice
#print axioms C07_reclaimed
#print axioms C07_reusable
#print axioms C07_reusable_alloc

end Wormhole
