/-
  C11, second part: the restart theorem for the machine WITH the object registry.

  `C11_restart_invisible` (Props/C11.lean) is about `Sys`, the object-free model, in which a restart is
  the identity up to `rebooted` almost by construction.  The content of the property — "the in-memory
  registries (`Server._apps`, `AppNamespace._mailboxes`, `Mailbox._listeners`) which a restart empties and
  which sweeps garbage-collect are unobservable" — is carried by the refinement `Reg_refines_Sys`
  (Props/Reg.lean).  This file composes the two: `C11_restart_invisible_reg` (with
  `C11_wf_without_restart`: one well-formedness hypothesis is enough) and
  `C11_restart_invisible_reg_startup` (the start-up firing of `expire()`).

  NOT CLAIMED (and false, `C11_startup_firing_not_comparable`): a comparison "restart followed by its
  start-up firing" versus "no restart and no firing at that time".  C11 compares the two runs under the
  SAME continuation — the property text says "including sweeps firing before, between and after the
  reconnects": the sweep schedule is part of the history and common to both runs.  A restart at a time when
  the kept server's timer would not have fired adds a firing, and a firing is observable (it deletes
  channels older than `expirationTicks`).
-/
import Wormhole.Props.C11
import Wormhole.Props.Reg

namespace Wormhole
open Sys

/-- the frames handed to connection `c`, in order (the projection used by `Reg_same_per_connection`) -/
def connFrames (c : Nat) (l : List Event) : List Event :=
  l.filter (fun e => match e with | .frame c' _ _ => decide (c' = c) | _ => false)

theorem connFrames_filter_isFrame (c : Nat) (l : List Event) :
    connFrames c (l.filter Event.isFrame) = connFrames c l := by
  unfold connFrames
  rw [List.filter_filter]
  congr 1
  funext e
  cases e <;> simp [Event.isFrame]

theorem connFrames_eq_of_frames_eq {l₁ l₂ : List Event}
    (h : l₁.filter Event.isFrame = l₂.filter Event.isFrame) (c : Nat) : connFrames c l₁ = connFrames c l₂ := by
  rw [← connFrames_filter_isFrame c l₁, ← connFrames_filter_isFrame c l₂, h]

/-- the operations that drop every live connection of the registry machine -/
def rdropAll (r : RSys) : List Op := r.conns.map (fun x => Op.drop x.id)

theorem dropAll_abs (r : RSys) : dropAll r.abs = rdropAll r := by
  simp [dropAll, rdropAll, RSys.abs, RSys.absConn, List.map_map, Function.comp_def]

theorem rdropAll_eq_dropAll (cfg : Cfg) (rb : Time) (H₁ : List Op) (hwf : (GSys.init cfg rb).WF H₁) :
    rdropAll (rrun (RSys.init cfg rb) H₁).1 = dropAll (Sys.run ({ cfg := cfg, rebooted := rb } : Sys) H₁).1 := by
  have h := (RSys.Reg_refines_Sys cfg rb H₁ hwf).2.1.conns
  rw [← dropAll_abs]
  unfold dropAll
  rw [h]
  rfl

theorem RSys.core_fields {r : RSys} {s : Sys} (h : OutEq r.abs s) :
    r.core.cfg = s.cfg ∧ r.core.db = s.db ∧ r.core.disk = s.disk ∧ r.core.udb = s.udb ∧ r.core.udisk = s.udisk ∧
      r.abs.conns = s.conns :=
  ⟨h.cfg, h.db, h.disk, h.udb, h.udisk, h.conns⟩

/-- what the two runs of C11 agree on, stated on the registry machine -/
structure RegRebootEq (a b : RSys) : Prop where
  db : a.core.db = b.core.db
  disk : a.core.disk = b.core.disk
  conns : a.abs.conns = b.abs.conns
  cfg : a.core.cfg = b.core.cfg
  unp : a.core.udb.nameplates = b.core.udb.nameplates
  umb : a.core.udb.mailboxes = b.core.udb.mailboxes
  ucl : a.core.udb.clients = b.core.udb.clients
  dnp : a.core.udisk.nameplates = b.core.udisk.nameplates
  dmb : a.core.udisk.mailboxes = b.core.udisk.mailboxes
  dcl : a.core.udisk.clients = b.core.udisk.clients
  /-- nothing uncommitted, on either side -/
  synced₁ : a.core.db = a.core.disk ∧ a.core.udb = a.core.udisk
  synced₂ : b.core.db = b.core.disk ∧ b.core.udb = b.core.udisk
  inv₁ : a.RegInv
  inv₂ : b.RegInv

/-- **C11 on the registry machine.**  `H₁`, `H₂` crash-free; `r` the registry state after `H₁`; both
    histories well-formed from the initial state (the restart carries a time: `WFOp.mono`).  The run of the
    server WITH its object registry over `H₁ ++ dropAll ++ [restart t] ++ H₂` and over `H₁ ++ dropAll ++ H₂`:
    * every connection receives the same frames (content and `synced` flag) in the same order;
    * the final states agree on the channel database as seen by the process and as committed (five tables
      and the id counter each), on the connection records as `Sys` sees them (a held object = its mailbox
      id), on the configuration and on the usage tables `nameplates`, `mailboxes`, `client_versions`
      (pending and committed; the `current` row is excluded: its `rebooted` column differs,
      `C11Example.current_differs`); nothing is uncommitted; the registry invariant holds in both.
    The registries themselves (`apps`, `nss`, `mbs`, object ids) are NOT claimed equal — they are not. -/
theorem C11_restart_invisible_reg (cfg : Cfg) (rb : Time) (H₁ H₂ : List Op)
    (h1 : ∀ op ∈ H₁, op.isCrash = false) (h2 : ∀ op ∈ H₂, op.isCrash = false) (t : Time)
    (hwA : (GSys.init cfg rb).WF (H₁ ++ rdropAll (rrun (RSys.init cfg rb) H₁).1 ++ [.restart t] ++ H₂))
    (hwB : (GSys.init cfg rb).WF (H₁ ++ rdropAll (rrun (RSys.init cfg rb) H₁).1 ++ H₂)) :
    let r := (rrun (RSys.init cfg rb) H₁).1
    let A := rrun (RSys.init cfg rb) (H₁ ++ rdropAll r ++ [.restart t] ++ H₂)
    let B := rrun (RSys.init cfg rb) (H₁ ++ rdropAll r ++ H₂)
    (∀ c, connFrames c A.2 = connFrames c B.2) ∧ RegRebootEq A.1 B.1 := by
  intro r A B
  have hd : rdropAll r = dropAll (Sys.run ({ cfg := cfg, rebooted := rb } : Sys) H₁).1 :=
    rdropAll_eq_dropAll cfg rb H₁ (GSys.WF_append.1 (GSys.WF_append.1 hwB).1).1
  obtain ⟨_, hfr, hR⟩ := C11_restart_invisible _ (init_synced cfg rb) (init_npOk cfg rb) H₁ H₂ h1 h2 t
  obtain ⟨iA, oA, tA⟩ := RSys.Reg_refines_Sys cfg rb _ hwA
  obtain ⟨iB, oB, tB⟩ := RSys.Reg_refines_Sys cfg rb _ hwB
  rw [← hd] at hfr hR
  refine ⟨fun c => ((tA.filter_conn c).trans (connFrames_eq_of_frames_eq hfr c)).trans (tB.filter_conn c).symm, ?_⟩
  obtain ⟨a1, a2, a3, a4, a5, a6⟩ := RSys.core_fields oA
  obtain ⟨b1, b2, b3, b4, b5, b6⟩ := RSys.core_fields oB
  exact {
    db := a2.trans (hR.chan.1.trans b2.symm)
    disk := a3.trans (hR.chan.2.1.trans b3.symm)
    conns := a6.trans (hR.chan.2.2.trans b6.symm)
    cfg := a1.trans (hR.cfg.trans b1.symm)
    unp := (congrArg Usage.nameplates a4).trans (hR.unp.trans (congrArg Usage.nameplates b4).symm)
    umb := (congrArg Usage.mailboxes a4).trans (hR.umb.trans (congrArg Usage.mailboxes b4).symm)
    ucl := (congrArg Usage.clients a4).trans (hR.ucl.trans (congrArg Usage.clients b4).symm)
    dnp := (congrArg Usage.nameplates a5).trans (hR.dnp.trans (congrArg Usage.nameplates b5).symm)
    dmb := (congrArg Usage.mailboxes a5).trans (hR.dmb.trans (congrArg Usage.mailboxes b5).symm)
    dcl := (congrArg Usage.clients a5).trans (hR.dcl.trans (congrArg Usage.clients b5).symm)
    synced₁ := ⟨a2.trans (hR.synced₁.1.trans a3.symm), a4.trans (hR.synced₁.2.trans a5.symm)⟩
    synced₂ := ⟨b2.trans (hR.synced₂.1.trans b3.symm), b4.trans (hR.synced₂.2.trans b5.symm)⟩
    inv₁ := iA
    inv₂ := iB }

/-- a well-formed crash-free continuation stays well-formed when the ghost clock is EARLIER and the
    states differ in `rebooted` / the `current` row only -/
theorem C11_wf_transfer (ops : List Op) (hops : ∀ op ∈ ops, op.isCrash = false) :
    ∀ {g₁ g₂ : GSys}, RebootEq g₁.sys g₂.sys → g₁.sys.db.NpOk → g₂.clock ≤ g₁.clock → g₁.used = g₂.used →
      g₁.WF ops → g₂.WF ops := by
  induction ops with
  | nil => intro _ _ _ _ _ _ _; trivial
  | cons op rest ih =>
    intro g₁ g₂ h hn hc hu hw
    have hop := hops op (by simp)
    obtain ⟨k1, k2, _, _⟩ := C11_step h hn op hop
    refine ⟨?_, ih (fun o ho => hops o (by simp [ho])) (g₁ := g₁.step op) (g₂ := g₂.step op) k1 k2 ?_ ?_ hw.2⟩
    · exact {
        connFresh := by
          intro c e x hx
          rw [← h.chan.2.2] at hx
          exact hw.1.connFresh c e x hx
        mono := fun t e => Int.le_trans hc (hw.1.mono t e)
        idFresh := by
          intro f e
          rw [← hu]
          exact hw.1.idFresh f e
        crashPlain := by
          intro k op' e
          subst e
          simp [Op.isCrash] at hop }
    · show (match op.time? with | some t => t | none => g₂.clock) ≤ (match op.time? with | some t => t | none => g₁.clock)
      cases op.time? with
      | some t => exact Int.le_refl _
      | none => exact hc
    · show g₁.used ++ op.mailboxIds = g₂.used ++ op.mailboxIds
      rw [hu]

/-- **the run without the restart is well-formed when the run with it is** (the restart only advances
    the clock) -/
theorem C11_wf_without_restart (cfg : Cfg) (rb : Time) (H₁ H₂ : List Op)
    (h1 : ∀ op ∈ H₁, op.isCrash = false) (h2 : ∀ op ∈ H₂, op.isCrash = false) (t : Time)
    (hwA : (GSys.init cfg rb).WF (H₁ ++ rdropAll (rrun (RSys.init cfg rb) H₁).1 ++ [.restart t] ++ H₂)) :
    (GSys.init cfg rb).WF (H₁ ++ rdropAll (rrun (RSys.init cfg rb) H₁).1 ++ H₂) := by
  obtain ⟨hwPR, hw2⟩ := GSys.WF_append.1 hwA
  obtain ⟨hwP, hwR⟩ := GSys.WF_append.1 hwPR
  have hd := rdropAll_eq_dropAll cfg rb H₁ (GSys.WF_append.1 hwP).1
  rw [GSys.run_append] at hw2
  refine GSys.WF_append.2 ⟨hwP, ?_⟩
  -- the state before the restart: nothing uncommitted, no connection
  rw [hd] at hwR hw2 ⊢
  have hpre : ∀ op ∈ H₁ ++ dropAll (Sys.run ({ cfg := cfg, rebooted := rb } : Sys) H₁).1, op.isCrash = false :=
    fun op hop => (List.mem_append.1 hop).elim (h1 op) (dropAll_noCrash _ op)
  have hC' : (Sys.run ({ cfg := cfg, rebooted := rb } : Sys)
      (H₁ ++ dropAll (Sys.run ({ cfg := cfg, rebooted := rb } : Sys) H₁).1)).1.conns = [] := by
    rw [Sys.run_append]; exact run_dropAll_conns _
  generalize H₁ ++ dropAll (Sys.run ({ cfg := cfg, rebooted := rb } : Sys) H₁).1 = P at *
  obtain ⟨_, hS', hN'⟩ := C09_frames_synced _ P hpre (init_synced cfg rb) (init_npOk cfg rb)
  have hR := rebootEq_restart_of_quiet _ t hS' hC'
  rw [← show _ = (Sys.run ({ cfg := cfg, rebooted := rb } : Sys) P).1 from GSys.run_sys (GSys.init cfg rb) P] at hR hN'
  exact C11_wf_transfer H₂ h2 (g₁ := ((GSys.init cfg rb).run P).step (.restart t)) hR (hR.chan.1 ▸ hN')
    (hwR.1.mono t rfl) (List.append_nil _) hw2

/-- `C11_restart_invisible_reg` with one well-formedness hypothesis -/
theorem C11_restart_invisible_reg' (cfg : Cfg) (rb : Time) (H₁ H₂ : List Op)
    (h1 : ∀ op ∈ H₁, op.isCrash = false) (h2 : ∀ op ∈ H₂, op.isCrash = false) (t : Time)
    (hwA : (GSys.init cfg rb).WF (H₁ ++ rdropAll (rrun (RSys.init cfg rb) H₁).1 ++ [.restart t] ++ H₂)) :
    let r := (rrun (RSys.init cfg rb) H₁).1
    let A := rrun (RSys.init cfg rb) (H₁ ++ rdropAll r ++ [.restart t] ++ H₂)
    let B := rrun (RSys.init cfg rb) (H₁ ++ rdropAll r ++ H₂)
    (∀ c, connFrames c A.2 = connFrames c B.2) ∧ RegRebootEq A.1 B.1 :=
  C11_restart_invisible_reg cfg rb H₁ H₂ h1 h2 t hwA (C11_wf_without_restart cfg rb H₁ H₂ h1 h2 t hwA)

/-- **C11 with the start-up firing of the real service.**  `makeService` starts the expiry timer with an
    immediate first call: a restart at `t` is followed at once by `expire()` at `t`.  In the model that is
    the history `… ++ [restart t, sweep t false] ++ H₂'`.  The theorem applies with `H₂ = sweep t false :: H₂'`:
    compared with the run in which the server was NOT restarted but its timer fired at `t` all the same,
    every connection gets the same frames and the stored state is the same.

    NOT claimed: the comparison with a run that has neither the restart nor that firing
    (`C11_startup_firing_not_comparable` below shows that it fails).  The property quantifies over ONE
    continuation — "including sweeps firing before, between and after the reconnects" — shared by the two
    runs; the times at which `expire()` runs are part of it. -/
theorem C11_restart_invisible_reg_startup (cfg : Cfg) (rb : Time) (H₁ H₂' : List Op)
    (h1 : ∀ op ∈ H₁, op.isCrash = false) (h2 : ∀ op ∈ H₂', op.isCrash = false) (t : Time)
    (hwA : (GSys.init cfg rb).WF
      (H₁ ++ rdropAll (rrun (RSys.init cfg rb) H₁).1 ++ [.restart t] ++ (.sweep t false :: H₂'))) :
    let r := (rrun (RSys.init cfg rb) H₁).1
    let A := rrun (RSys.init cfg rb) (H₁ ++ rdropAll r ++ [.restart t] ++ (.sweep t false :: H₂'))
    let B := rrun (RSys.init cfg rb) (H₁ ++ rdropAll r ++ (.sweep t false :: H₂'))
    (∀ c, connFrames c A.2 = connFrames c B.2) ∧ RegRebootEq A.1 B.1 :=
  C11_restart_invisible_reg' cfg rb H₁ (.sweep t false :: H₂') h1
    (by intro op hop; rcases List.mem_cons.1 hop with rfl | h; exact rfl; exact h2 op h) t hwA

/-! ### Non-vacuity, and what is not comparable -/

namespace C11bExample
open Generated

def bind (c : Nat) (t : Time) (app side : String) : Op := .recv c t .null (.bind (some app) (some side) none none)
def open_ (c : Nat) (t : Time) (m : String) : Op := .recv c t .null (.open_ (some m))
def add (c : Nat) (t : Time) (ph bd : String) : Op := .recv c t .null (.add (some (.str ph)) (some (.str bd)))

def cfg0 : Cfg := { usage := true }

/-- a client opens a mailbox and stores a message; a second connection is made; a sweep runs -/
def H₁ : List Op :=
  [.connect 1, bind 1 10 "a" "s1", open_ 1 11 "m", add 1 12 "pake" "x", .connect 2, .sweep 20 false]

/-- the start-up firing; the peer reconnects, opens the mailbox (the stored message is replayed), adds;
    the first client comes back too; a later sweep -/
def H₂ : List Op :=
  [.sweep 50 false, .connect 3, bind 3 51 "a" "s2", open_ 3 52 "m", .connect 4, bind 4 53 "a" "s1",
   open_ 4 54 "m", add 3 55 "pake" "y", .sweep 60 false]

def r : RSys := (rrun (RSys.init cfg0 0) H₁).1
def A := rrun (RSys.init cfg0 0) (H₁ ++ rdropAll r ++ [.restart 50] ++ H₂)
def B := rrun (RSys.init cfg0 0) (H₁ ++ rdropAll r ++ H₂)

/-- two connections are alive after `H₁`, one of them holds a Mailbox object -/
theorem r_ids : r.conns.map (·.id) = [1, 2] ∧ r.mbs.length = 1 := by decide +kernel

theorem rdropAll_r : rdropAll r = [.drop 1, .drop 2] := by
  have : rdropAll r = (r.conns.map (·.id)).map Op.drop := by simp [rdropAll, List.map_map, Function.comp_def]
  rw [this, r_ids.1]; rfl

theorem hwA : (GSys.init cfg0 0).WF (H₁ ++ rdropAll (rrun (RSys.init cfg0 0) H₁).1 ++ [.restart 50] ++ H₂) := by
  have : rdropAll (rrun (RSys.init cfg0 0) H₁).1 = [.drop 1, .drop 2] := rdropAll_r
  rw [this]
  exact GSys.wfB_sound (by decide +kernel)

/-- the hypotheses of `C11_restart_invisible_reg'` / `_startup` hold (`H₂` begins with the firing at the
    restart time) -/
example := C11_restart_invisible_reg' cfg0 0 H₁ H₂ (by decide) (by decide) 50 hwA
example := C11_restart_invisible_reg_startup cfg0 0 H₁ H₂.tail (by decide) (by decide) 50 hwA

/-- evaluated, not derived: connection 3 gets the replayed message and, later, the broadcast in both runs;
    the final databases are equal and not empty -/
example : connFrames 3 A.2 = connFrames 3 B.2 ∧ (connFrames 3 A.2).length = 6 ∧
    Event.frame 3 (.message "s1" (.str "pake") (.str "x") 12 .null) true ∈ A.2 ∧
    A.1.core.db = B.1.core.db ∧ A.1.core.db.messages.length = 2 := by decide +kernel

/-- the REGISTRIES of the two final states differ (object ids; the kept server still knows the namespace
    object created before the restart point) although nothing observable does -/
theorem registries_differ : A.1.nss ≠ B.1.nss ∧ A.1.mbs.map (·.oid) ≠ B.1.mbs.map (·.oid) := by decide +kernel

/-- a client stores a message at 10 and goes away -/
def K₁ : List Op := [.connect 1, bind 1 10 "a" "s1", open_ 1 10 "m", add 1 10 "pake" "x", .drop 1]

/-- the peer connects after `10 + E` and opens the mailbox -/
def K₂ : List Op :=
  [.connect 2, bind 2 (10 + expirationTicks + 2) "a" "s2", open_ 2 (10 + expirationTicks + 2) "m"]

/-- **the start-up firing is observable.**  The mailbox was stamped at 10; the kept server's next firing
    would be later than `10 + E + 2`.  Run A: restart at `10 + E + 1` WITH its start-up firing; run B: no
    restart, no firing.  Both histories are well-formed.  In A the firing deletes the channel: the peer's
    `open` creates a new, empty mailbox and nothing is replayed; in B the peer gets the stored message.
    (With the firing in both runs — `C11_restart_invisible_reg_startup` — they agree.) -/
theorem C11_startup_firing_not_comparable :
    let t := 10 + expirationTicks + 1
    let A := rrun (RSys.init {} 0) (K₁ ++ [.restart t, .sweep t false] ++ K₂)
    let B := rrun (RSys.init {} 0) (K₁ ++ K₂)
    (GSys.init {} 0).WF (K₁ ++ [.restart t, .sweep t false] ++ K₂) ∧ (GSys.init {} 0).WF (K₁ ++ K₂) ∧
    connFrames 2 A.2 ≠ connFrames 2 B.2 ∧
    Event.frame 2 (.message "s1" (.str "pake") (.str "x") 10 .null) true ∈ B.2 ∧
    Event.frame 2 (.message "s1" (.str "pake") (.str "x") 10 .null) true ∉ A.2 ∧
    A.1.core.db.messages = [] ∧ B.1.core.db.messages.length = 1 := by
  refine ⟨GSys.wfB_sound (by decide +kernel), GSys.wfB_sound (by decide +kernel), by decide +kernel,
    by decide +kernel, by decide +kernel, by decide +kernel, by decide +kernel⟩

end C11bExample

end Wormhole

#print axioms Wormhole.C11_restart_invisible_reg
#print axioms Wormhole.C11_wf_without_restart
#print axioms Wormhole.C11_restart_invisible_reg'
#print axioms Wormhole.C11_restart_invisible_reg_startup
#print axioms Wormhole.C11bExample.C11_startup_firing_not_comparable
#print axioms Wormhole.C11bExample.registries_differ
