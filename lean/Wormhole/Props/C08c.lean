/-
  C08, finding K-reopen-after-close (known_findings.json; replay findings/K-reopen-after-close.json).

  `Mailbox.open` (server.py) inserts the `mailbox_sides` row of a side only when that side has no row yet; it
  never sets `opened` back to true.  A side that CLOSED a mailbox and opens it again (from any connection) is
  subscribed and gets the replay, but its row keeps `opened = 0`: the side does not count as open.  When the
  OTHER side closes, no row is `opened`, and the mailbox with its messages is deleted under the re-opened
  subscriber, whose later `add` is refused.  The model (`Sys.mailboxOpen`, Core.lean) mirrors this, and
  `C08.C08_alive_while_open` (Props/C08.lean) is stated on the `opened` column, so it is consistent with it.

  The cause for every state (`C08_reopen_keeps_closed`, `C08_reopen_not_open`); what does hold, with the
  exact guard (`C08_alive_while_subscribed_partial`); the history of the finding op by op
  (`ExC.C08_reopen_after_close_counterexample`) and the failure of the full statement in it.
-/
import Wormhole.Props.C08
import Wormhole.Props.C09b
import Wormhole.Inv.WFDec

namespace Wormhole
namespace C08
open Sys

/-- **C08 (K-reopen-after-close, the cause), `Mailbox.open`.**  For every state: if the side row
    `(mb, side)` exists, `Mailbox.open(side, t)` leaves the `mailbox_sides` table as it was; the row is found
    again, unchanged -- `opened` stays false if it was false. -/
theorem C08_reopen_keeps_closed (s : Sys) (mb side : String) (t : Time) {r : MbSide}
    (hr : s.db.findMbSide mb side = some r) :
    (s.mailboxOpen mb side t).db.mbSides = s.db.mbSides ∧
    (s.mailboxOpen mb side t).db.findMbSide mb side = some r ∧
    (r.opened = false → ∀ r' ∈ (s.mailboxOpen mb side t).db.mbSides,
      r'.mailbox = mb → r'.side = side → r' ∈ s.db.mbSides) := by
  have h1 : (s.mailboxOpen mb side t).db.mbSides = s.db.mbSides := by
    unfold mailboxOpen
    simp only [hr, commit_db]
    rfl
  refine ⟨h1, ?_, ?_⟩
  · unfold Chan.findMbSide at hr ⊢
    rw [h1]; exact hr
  · intro _ r' hr' _ _
    rw [h1] at hr'; exact hr'

/-- **C08 (K-reopen-after-close, the cause), `open_mailbox`.**  For every state: if the side row
    `(mb, side)` exists and `open_mailbox(mb, side, t)` succeeds (`.ok`: neither `crowded` nor IntegrityError),
    the `mailbox_sides` table is as it was, the side's row is found again unchanged, and the side counts as
    open afterwards (`OpenAt`: a row of it with `opened = true`) only if some row of it was `opened` before:
    a successful re-open does not make a closed side open. -/
theorem C08_reopen_keeps_closed_openMailbox (s : Sys) (app mb side : String) (t : Time) {r : MbSide}
    (hr : s.db.findMbSide mb side = some r) {s' : Sys} (hok : s.openMailbox app mb side t = (s', .ok)) :
    s'.db.mbSides = s.db.mbSides ∧
    s'.db.findMbSide mb side = some r ∧
    (s'.db.OpenAt app mb side → ∃ r' ∈ s.db.mbSides, r'.mailbox = mb ∧ r'.side = side ∧ r'.opened = true) := by
  have h1 : s'.db.mbSides = s.db.mbSides := by
    unfold openMailbox at hok
    split at hok
    · cases hok
    · rename_i s1 hadd
      have ha : s1.db.mbSides = s.db.mbSides := by
        unfold addMailbox at hadd
        split at hadd
        · cases hadd; rfl
        · split at hadd
          · cases hadd
          · cases hadd; rfl
      have hr1 : s1.db.findMbSide mb side = some r := by
        unfold Chan.findMbSide at hr ⊢
        rw [ha]; exact hr
      have hm := (C08_reopen_keeps_closed s1 mb side t hr1).1
      dsimp only at hok
      split at hok
      · cases hok
      · cases hok
        rw [commit_db, hm, ha]
  refine ⟨h1, ?_, ?_⟩
  · unfold Chan.findMbSide at hr ⊢
    rw [h1]; exact hr
  · rintro ⟨_, r', hr', hk⟩
    rw [h1] at hr'
    exact ⟨r', hr', hk⟩

/-- ... in particular, with the key of `mailbox_sides` unique (part of `PInv`, hence of `GInv`): if the row
    found has `opened = false`, the side is not open after a successful re-open -/
theorem C08_reopen_not_open {s : Sys} (hP : s.db.PInv) (app mb side : String) (t : Time) {r : MbSide}
    (hr : s.db.findMbSide mb side = some r) (hclosed : r.opened = false)
    {s' : Sys} (hok : s.openMailbox app mb side t = (s', .ok)) :
    ¬ s'.db.OpenAt app mb side := by
  intro ho
  obtain ⟨r', hr', hm, hs, hopen⟩ := (C08_reopen_keeps_closed_openMailbox s app mb side t hr hok).2.2 ho
  have hf := hr
  unfold Chan.findMbSide at hf
  have hmem := List.mem_of_find?_eq_some hf
  have hkey := List.find?_some hf
  simp only [decide_eq_true_eq] at hkey
  have : r' = r := Chan.eq_of_pairwise_ne (f := fun r : MbSide => (r.mailbox, r.side)) (by simpa using hP.msKey)
    hr' hmem (by simp [hm, hs, hkey.1, hkey.2])
  rw [this, hclosed] at hopen
  cases hopen

/- The FULL statement -- "a mailbox row somebody is subscribed to survives every non-sweep operation other
   than that subscriber's side's own close":

     theorem C08_alive_while_subscribed {g : GSys} (hI : g.GInv) {app mb : String}
         (hrow : g.sys.db.HasBox app mb) {x : Conn} (hx : x ∈ g.sys.conns) (hl : x.listening = true)
         (happ : x.app = some app) (hmb : x.mailbox = some mb)
         (op : Op) (hns : op.core.isSweep = false)
         (hnc : ¬ ClosesSide g.sys op app mb (x.side.getD "")) :
         (g.sys.step op).db.HasBox app mb

   is FALSE for the model and the code (finding K-reopen-after-close):
   `ExC.C08_alive_while_subscribed_full_fails` below shows all its hypotheses and the negation of its conclusion
   in a reachable state of the history of `ExC.C08_reopen_after_close_counterexample`.  What is missing is `hside`:
   the subscriber's side row is `opened`. -/

/-- **C08 (a mailbox lives while an OPEN side is subscribed), partial: guard of K-reopen-after-close.**
    From a state satisfying `GInv`, for every operation that is not a sweep (crashes included): if the row
    `(app, mb)` exists, a connection `x` is listening on it, and the side row of `x`'s side is `opened`
    (`hside`, the guard), then the row is still there after the operation and the side is still open in it,
    unless the operation is a `close` of `(app, mb)` by `x`'s own side. -/
theorem C08_alive_while_subscribed_partial {g : GSys} (hI : g.GInv) {app mb : String}
    (hrow : g.sys.db.HasBox app mb) {x : Conn} (_hx : x ∈ g.sys.conns) (_hl : x.listening = true)
    (_happ : x.app = some app) (_hmb : x.mailbox = some mb)
    (hside : ∃ r ∈ g.sys.db.mbSides, r.mailbox = mb ∧ r.side = x.side.getD "" ∧ r.opened = true)
    (op : Op) (hns : op.core.isSweep = false)
    (hnc : ¬ ClosesSide g.sys op app mb (x.side.getD "")) :
    (g.sys.step op).db.HasBox app mb ∧
    ∃ r ∈ (g.sys.step op).db.mbSides, r.mailbox = mb ∧ r.side = x.side.getD "" ∧ r.opened = true := by
  obtain ⟨r, hr, hm, hs, ho⟩ := hside
  constructor
  · -- the row: `C08_alive_while_open`, whose exception is excluded by `hnc`
    rcases C08_alive_while_open hI hrow ⟨r, hr, hm, ho⟩ op hns with h | ⟨σ, hcl, hall⟩
    · exact h
    · have : r.side = σ := hall r hr hm ho
      rw [← this, hs] at hcl
      exact absurd hcl hnc
  · -- the guard persists: `C08_open_side_stays`
    exact (C08_open_side_stays hI (σ := x.side.getD "") ⟨hrow, r, hr, hm, hs, ho⟩ op hns hnc).2

namespace ExC

def bind (c : Nat) (t : Time) (σ : String) : Op := .recv c t .null (.bind (some "a") (some σ) none none)

/-- findings/K-reopen-after-close.json up to and including the re-open by connection 3 (the messages carry no
    "id": `Val.null`, as the model driver passes an absent id) -/
def Hopen : List Op :=
  [ .connect 1, bind 1 808 "s1", .recv 1 816 .null (.open_ (some "m")),
    .recv 1 824 .null (.add (some (.str "p")) (some (.str "00"))),
    .connect 2, bind 2 832 "s2", .recv 2 840 .null (.open_ (some "m")),
    .recv 1 848 .null (.close none (some "happy")),
    .connect 3, bind 3 856 "s1", .recv 3 864 .null (.open_ (some "m")) ]
def close2 : Op := .recv 2 872 .null (.close none (some "happy"))
def add3 : Op := .recv 3 880 .null (.add (some (.str "q")) (some (.str "01")))

def g0 : GSys := GSys.init { usage := true } 800
/-- after connection 3 (side s1 again) has opened "m" -/
def gA : GSys := g0.run Hopen
/-- after side s2 has closed -/
def gB : GSys := gA.step close2
/-- after connection 3 has tried to add -/
def gC : GSys := gB.step add3

theorem run_snoc (g : GSys) (l : List Op) (op : Op) : g.run (l ++ [op]) = (g.run l).step op := by
  induction l generalizing g with
  | nil => rfl
  | cons a l ih => exact ih (g.step a)

theorem gB_eq : gB = g0.run (Hopen ++ [close2]) := (run_snoc _ _ _).symm
theorem gC_eq : gC = g0.run ((Hopen ++ [close2]) ++ [add3]) := by
  rw [run_snoc, ← gB_eq]; rfl

theorem wf_all : g0.wfB ((Hopen ++ [close2]) ++ [add3]) = true := by decide +kernel
theorem gA_reach : gA.Reach := GSys.reach_of_wfB _ _ _ (by decide +kernel)
theorem gB_reach : gB.Reach := gB_eq ▸ GSys.reach_of_wfB _ _ _ (by decide +kernel)
theorem gC_reach : gC.Reach := gC_eq ▸ GSys.reach_of_wfB _ _ _ wf_all

instance (d : Chan) (app mb side : String) : Decidable (d.OpenAt app mb side) := by
  unfold Chan.OpenAt; infer_instance

/-- a frame's `synced` flag set (used only to evaluate outputs: with a usage database the flag of the frames
    sent after the usage record of a two-sided mailbox was written is `decide (udb = udisk)` on a row computed
    by `List.mergeSort`, which the kernel does not unfold; the flag is `true` by `C09_step_all`) -/
def flagTrue : Event → Event
  | .frame c f _ => .frame c f true
  | e => e

theorem map_flagTrue {l : List Event} (h : AllFramesSynced l) : l.map flagTrue = l := by
  induction l with
  | nil => rfl
  | cons e l ih =>
    have h1 : flagTrue e = e := by
      cases e with
      | frame c f b => rw [h _ (by simp) c f b rfl]; rfl
      | _ => rfl
    rw [List.map_cons, h1, ih (fun e he => h e (by simp [he]))]

/-- connection 3 while subscribed -/
def conn3 : Conn :=
  { id := 3, app := some "a", side := some "s1", listening := true, mailbox := some "m", mailboxId := some "m" }
def stored : Message := ⟨"a", "m", "s1", .str "p", .str "00", 824, .null⟩

/-- **K-reopen-after-close, the history of the finding in the model.** -/
theorem C08_reopen_after_close_counterexample :
    -- the whole history is well-formed; the three states are reachable
    g0.WF ((Hopen ++ [close2]) ++ [add3]) ∧ gA.Reach ∧ gB.Reach ∧ gC.Reach ∧
    -- after the re-open: connection 3 listens on "m" ...
    gA.sys.findConn 3 = some conn3 ∧ 3 ∈ gA.sys.listeners "a" "m" ∧
    -- ... and was sent the stored message (the replay) ...
    gA.sys.out = [.frame 3 (.ack .null) true, .commit .chan,
                  .frame 3 (.message "s1" (.str "p") (.str "00") 824 .null) true] ∧
    gA.sys.db.HasBox "a" "m" ∧ gA.sys.db.messages = [stored] ∧
    -- ... but the row of its side keeps `opened = false`: side s1 is not open, only s2 is
    gA.sys.db.findMbSide "m" "s1" = some ⟨"m", false, "s1", 816, some "happy"⟩ ∧
    ¬ gA.sys.db.OpenAt "a" "m" "s1" ∧
    gA.sys.db.mbSides = [⟨"m", false, "s1", 816, some "happy"⟩, ⟨"m", true, "s2", 840, none⟩] ∧
    -- the close of side s2 is answered `closed` ...
    gB.sys.out = [.frame 2 (.ack .null) true, .commit .chan, .commit .usage, .commit .chan,
                  .frame 2 .closed true] ∧
    -- ... the mailbox row and the message are gone, under the subscriber ...
    ¬ gB.sys.db.HasBox "a" "m" ∧ gB.sys.db.messages = [] ∧ gB.sys.db.mbSides = [] ∧
    -- ... which no longer holds a handle and no longer listens
    gB.sys.findConn 3 = some { conn3 with listening := false, mailbox := none } ∧
    gB.sys.listeners "a" "m" = [] ∧
    -- its `add` is refused; nothing is stored
    gC.sys.out = [.frame 3 (.ack .null) true, .frame 3 (.error "must open mailbox before adding") true] ∧
    gC.sys.db = gB.sys.db :=
  ⟨GSys.wfB_sound wf_all, gA_reach, gB_reach, gC_reach,
    by decide +kernel, by decide +kernel, by decide +kernel, by decide +kernel, by decide +kernel,
    by decide +kernel, by decide +kernel, by decide +kernel,
    (map_flagTrue (C09_step_all gA_reach.ginv close2)).symm.trans (by decide +kernel),
    by decide +kernel, by decide +kernel, by decide +kernel, by decide +kernel, by decide +kernel,
    (map_flagTrue (C09_step_all gB_reach.ginv add3)).symm.trans (by decide +kernel),
    by decide +kernel⟩

/-- the step that deletes the mailbox is not a close by the subscriber's side (s1): it is s2's -/
theorem close2_not_own : ¬ ClosesSide gA.sys close2 "a" "m" (conn3.side.getD "") := by
  rintro ⟨c, t, id, m, mood, x, hop, hx, _, _, hside⟩
  cases hop
  have h2 : gA.sys.findConn 2 = some { conn3 with id := 2, side := some "s2" } := by decide +kernel
  rw [h2] at hx
  cases hx
  revert hside
  decide

/-- **the FULL statement fails** (`full_fails`): every hypothesis of `C08_alive_while_subscribed_partial`
    EXCEPT the guard `hside` holds in the reachable state `gA` for connection 3 and the operation `close2`
    -- and the row is gone after it.  The guard fails: no row of side s1 is `opened`. -/
theorem C08_alive_while_subscribed_full_fails :
    gA.Reach ∧ gA.GInv ∧ gA.sys.db.HasBox "a" "m" ∧ conn3 ∈ gA.sys.conns ∧ conn3.listening = true ∧
    conn3.app = some "a" ∧ conn3.mailbox = some "m" ∧ close2.core.isSweep = false ∧
    ¬ ClosesSide gA.sys close2 "a" "m" (conn3.side.getD "") ∧
    ¬ (gA.sys.step close2).db.HasBox "a" "m" ∧
    ¬ (∃ r ∈ gA.sys.db.mbSides, r.mailbox = "m" ∧ r.side = conn3.side.getD "" ∧ r.opened = true) :=
  ⟨gA_reach, gA_reach.ginv, by decide +kernel, by decide +kernel, rfl, rfl, rfl, rfl, close2_not_own,
    by decide +kernel, by decide +kernel⟩

/-- `C08_reopen_keeps_closed` / `_openMailbox` / `C08_reopen_not_open`: their hypotheses hold in the reachable
    state just before the re-open (connection 3 bound to side s1, whose row is closed), and the re-open is
    answered `.ok` -/
def gPre : GSys := g0.run Hopen.dropLast
theorem gPre_reach : gPre.Reach := GSys.reach_of_wfB _ _ _ (by decide +kernel)
example : gPre.sys.db.findMbSide "m" "s1" = some ⟨"m", false, "s1", 816, some "happy"⟩ ∧
    (gPre.sys.openMailbox "a" "m" "s1" 864).2 = .ok := by decide +kernel
example : ¬ (gPre.sys.openMailbox "a" "m" "s1" 864).1.db.OpenAt "a" "m" "s1" :=
  C08_reopen_not_open gPre_reach.ginv.cinv.toPInv "a" "m" "s1" 864 (r := ⟨"m", false, "s1", 816, some "happy"⟩)
    (by decide +kernel) rfl (s' := (gPre.sys.openMailbox "a" "m" "s1" 864).1)
    (Prod.ext rfl (by decide +kernel))
example : (gPre.sys.mailboxOpen "m" "s1" 864).db.mbSides = gPre.sys.db.mbSides :=
  (C08_reopen_keeps_closed gPre.sys "m" "s1" 864 (r := ⟨"m", false, "s1", 816, some "happy"⟩)
    (by decide +kernel)).1

/-- `C08_alive_while_subscribed_partial`: all hypotheses, the guard included, hold in the reachable state
    `gA` for the OTHER subscriber, connection 2 of side s2 (whose row is `opened`), and e.g. the operation
    `add3`; the theorem gives that the row survives -/
def conn2 : Conn :=
  { id := 2, app := some "a", side := some "s2", listening := true, mailbox := some "m", mailboxId := some "m" }
example : (gA.sys.step add3).db.HasBox "a" "m" :=
  (C08_alive_while_subscribed_partial gA_reach.ginv
    (app := "a") (mb := "m") (by decide +kernel) (x := conn2) (by decide +kernel) rfl rfl rfl
    (by decide +kernel) add3 rfl
    (by rintro ⟨c, t, id, m, mood, x, hop, _⟩; cases hop)).1

end ExC

end C08
end Wormhole

#print axioms Wormhole.C08.C08_reopen_keeps_closed
#print axioms Wormhole.C08.C08_reopen_keeps_closed_openMailbox
#print axioms Wormhole.C08.C08_reopen_not_open
#print axioms Wormhole.C08.C08_alive_while_subscribed_partial
#print axioms Wormhole.C08.ExC.C08_reopen_after_close_counterexample
#print axioms Wormhole.C08.ExC.C08_alive_while_subscribed_full_fails
