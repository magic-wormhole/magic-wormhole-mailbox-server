/-
  C10 — any crash leaves a database the server can restart from and clean up.

  Proved here (for EVERY well-formed history; configuration arbitrary, usage DB or not):

  * `C10_crash_state_wf`   every snapshot committed inside any operation (these are exactly the
        states a kill -9 can leave, given SQLite's atomic commit) satisfies `Chan.CInv`:
        (app,name), nameplate ids, mailbox ids, (nameplate,side), (mailbox,side) unique; every
        foreign key resolved (nameplate → mailbox of the same app, sides → parents, message →
        mailbox of the same app — the start-up `foreign_key_check`); ids below the AUTOINCREMENT
        counter; every nameplate has a side row.  Hence the state after `crashIn k op`, for every
        `k`, satisfies the whole invariant `GInv` again.
  * `C10_crash_history_wf` the same for whole histories from the initial state.
  * `C10_sweeps_total`     from every reachable state (crashes allowed) a sweep emits no
        `Event.internal` unless its fault is injected; in fact from every state whose nameplate
        tables are in order (`C10_sweep_no_internal`).
  * `C10_strong_needs_crash_free`  (non-vacuity / sharpness) the strengthening `SInv` does fail
        after a crash: a concrete reachable crash state has a mailbox without side rows.

  Not in this file: `C10_resend_converges` (see C14), emptying after quiescence (C13).

  The FOREIGN KEY facts that make SQLite accept every DELETE of server.py (so that the model's
  total delete primitives omit nothing) are `Chan.delNpSidesOf_fk`, `Chan.delNpSidesOfMailbox_fk`,
  `Chan.closeBlock_fk`, `Chan.pruneBlock_fk` in Inv/ChanLemmas.lean; the guard of the last one is
  established inside `Sys.prune_good` (Inv/StepInv.lean).
-/
import Wormhole.Inv.Main
import Wormhole.Inv.WFDec

namespace Wormhole
open Sys

theorem GSys.WFOp.crashIn {g : GSys} {op : Op} (hw : g.WFOp op) (hop : op.isCrash = false) (k : Nat) :
    g.WFOp (.crashIn k op) := by
  refine ⟨?_, hw.mono, hw.idFresh, ?_⟩
  · intro c e; cases e
  · intro k' op' e
    cases e
    exact ⟨hop, hw.connFresh⟩

/-- **C10 (crash states are well-formed).**  For every reachable `g` and every well-formed plain
    operation `op`: every snapshot committed while `op` runs satisfies `CInv`, and so does the
    committed state at its end; consequently the state left by a crash after the `k`-th commit,
    for every `k`, satisfies the complete invariant `GInv` again. -/
theorem C10_crash_state_wf {g : GSys} (hg : g.Reach) (op : Op) (hop : op.isCrash = false) (hw : g.WFOp op) :
    (∀ p ∈ (({ g.sys with out := [], snaps := [] } : Sys).stepPlain op).snaps, p.1.CInv) ∧
    (({ g.sys with out := [], snaps := [] } : Sys).stepPlain op).disk.CInv ∧
    ∀ k, (g.step (.crashIn k op)).GInv := by
  have hI := hg.ginv
  obtain ⟨hF, _⟩ := hI.plain_full (S := False) False.elim op hw.mono hw.connFresh
  exact ⟨fun p hp => (hF.good.d.snaps p hp).cinv, hF.good.d.disk.cinv,
    fun k => hI.step _ (hw.crashIn hop k)⟩

/-- **C10 for histories**: after any well-formed history from the initial state, crashes at any
    commit boundary of any operation (sweeps included) allowed, the store satisfies `CInv` (and
    the state the whole invariant). -/
theorem C10_crash_history_wf (cfg : Cfg) (rb : Time) (ops : List Op) (hwf : (GSys.init cfg rb).WF ops) :
    (Sys.run { cfg := cfg, rebooted := rb } ops).1.db.CInv ∧ ((GSys.init cfg rb).run ops).GInv := by
  have h := (GSys.reach_run (.init cfg rb) ops hwf).ginv
  refine ⟨?_, h⟩
  have := h.cinv
  rw [GSys.run_sys] at this
  exact this

/-- from any state whose nameplate tables are in order (unique ids, a side row for every
    nameplate: part of `CInv`), a sweep without injected fault appends no `internal` event -/
theorem C10_sweep_no_internal {s : Sys} (hn : s.db.NpOk) (now : Time) :
    OutExt (IntOnly False) s (s.expire now false) := by
  refine expire_outExt (fun w => intOnly_of_commit _ ⟨w, rfl⟩) (fun _ _ _ _ he => nomatch he) (by simp)
    (fun hfail => ?_)
  rw [((pruneApps_spec _ rfl).2 (by simpa using hn)).2.1] at hfail
  cases hfail

/-- **C10 (sweeps are total).**  From every reachable state — crashes allowed, so in particular
    from every state a crash can leave — a sweep whose fault is not injected emits no
    `Event.internal`: `prune_all_apps` runs to completion (`pruneApps` returns `true`). -/
theorem C10_sweeps_total {g : GSys} (hg : g.Reach) (now : Time) :
    ∀ e ∈ (g.sys.step (.sweep now false)).out, e.notInternal = true := fun e he =>
  notInternal_of_intOnly_false
    ((C10_sweep_no_internal (s := { g.sys with out := [], snaps := [] }) hg.ginv.cinv.npOk now).forall_out rfl e he)

/-- the same right after a crash inside any operation, stated without going through `Reach` -/
theorem C10_sweep_after_crash {g : GSys} (hg : g.Reach) (op : Op) (hop : op.isCrash = false) (hw : g.WFOp op)
    (k : Nat) (now : Time) :
    ∀ e ∈ ((g.step (.crashIn k op)).sys.step (.sweep now false)).out, e.notInternal = true :=
  C10_sweeps_total (.step _ hg (hw.crashIn hop k)) now

/-! ### Non-vacuity: a concrete history with a crash between the two commits of a first claim -/

namespace C10Example

def claimOp : Op := .recv 1 11 (.int 2) (.claim (some "4") "mb1")

/-- connect, bind, a `claim` that dies right after its FIRST commit (mailbox row + nameplate row +
    nameplate side row are on disk, the mailbox side row is not), a new connection -/
def hist : List Op :=
  [ .connect 1,
    .recv 1 10 (.int 1) (.bind (some "app") (some "s1") none none),
    .crashIn 1 claimOp,
    .connect 2 ]

def g0 : GSys := GSys.init { usage := true } 0
def g : GSys := g0.run hist
/-- the state just before the crashing claim -/
def gPre : GSys := g0.run (hist.take 2)

theorem g_reach : g.Reach := GSys.reach_of_wfB _ _ _ (by decide +kernel)
theorem gPre_reach : gPre.Reach := GSys.reach_of_wfB _ _ _ (by decide +kernel)

/-- the hypotheses of `C10_crash_state_wf` are satisfiable: `claimOp` is plain and well-formed in
    the reachable state `gPre` … -/
example : claimOp.isCrash = false ∧ gPre.WFOp claimOp := ⟨rfl, GSys.wfOpB_sound (by decide +kernel)⟩

/-- … and it commits twice on the channel database, so there are two genuine crash points -/
example : ((({ gPre.sys with out := [], snaps := [] } : Sys).stepPlain claimOp).snaps.map
    (fun p => (p.1.mailboxes.length, p.1.nameplates.length, p.1.npSides.length, p.1.mbSides.length))) =
    [(1, 1, 1, 0), (1, 1, 1, 1)] := by decide +kernel

/-- the crash state of `hist`: the weak spot the invariants are designed around -/
example : g.sys.db.mailboxes.map (·.id) = ["mb1"] ∧ g.sys.db.nameplates.map (·.name) = ["4"] ∧
    g.sys.db.npSides.length = 1 ∧ g.sys.db.mbSides = [] ∧ g.sys.conns.map (·.id) = [2] := by
  decide +kernel

example : g.GInv := g_reach.ginv

/-- sharpness: the crash-free strengthening is FALSE in this reachable state (the mailbox has no
    opened side row), so `SInv` can only be claimed for crash-free histories -/
theorem C10_strong_needs_crash_free : g.Reach ∧ ¬ g.sys.db.SInv := by
  refine ⟨g_reach, fun h => ?_⟩
  have hm : (⟨"app", "mb1", 11, true⟩ : MailboxRow) ∈ g.sys.db.mailboxes := by decide +kernel
  obtain ⟨r, hr, _⟩ := h.mbOpened _ hm
  have : g.sys.db.mbSides = [] := by decide +kernel
  rw [this] at hr
  simp at hr

/-- evaluated, not derived: a later sweep on the crash state raises nothing and empties the store -/
example : ((g.sys.step (.sweep 100000 false)).out.all Event.notInternal) = true ∧
    (g.sys.step (.sweep 100000 false)).db = { nextNp := 2 } := by decide +kernel

/-- the flag is not constantly `true`: a faulted sweep does emit an `internal` event -/
example : ((g.sys.step (.sweep 100000 true)).out.all Event.notInternal) = false := by decide +kernel

end C10Example

end Wormhole

#print axioms Wormhole.C10_crash_state_wf
#print axioms Wormhole.C10_crash_history_wf
#print axioms Wormhole.C10_sweep_no_internal
#print axioms Wormhole.C10_sweeps_total
#print axioms Wormhole.C10_sweep_after_crash
#print axioms Wormhole.C10Example.C10_strong_needs_crash_free
