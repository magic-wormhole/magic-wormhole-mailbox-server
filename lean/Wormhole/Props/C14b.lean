/-
  C14, the ordinary surviving `close`: `C14_close_survives_run`.

  The closer holds the handle, the peer's side is still open, the mailbox has at most two side rows.  After the
  re-sent `close` the two databases differ in ONE cell, the column `updated` of the mailbox row `m` (`u` without the
  duplicate, `t` with it; finding K-close-touch, `C14_close_survives_step`).  `updated` is written by open / add /
  claim / the touch loop of the sweep, and read only by the sweep's query for old mailboxes.  So for EVERY
  crash-free continuation `H₂` in which no sweep distinguishes the two stamps, the two runs

      A = run (H₁ ++ [close] ++ dup ++ H₂)        B = run (H₁ ++ [close] ++ H₂)

  * emit the same frames (addressee, content, flag, order) and the same `internal` / `fired` events in `H₂`
    (`vis`: everything except commits; an `open` by an existing side at the very time `t` re-stamps the row
    in B only, so one run may have an effective channel commit the other has not — commits are NOT claimed equal);
  * end with equal connection records and configuration, and with channel databases (as seen and as
    committed) that agree on all five tables and the counter MODULO the `updated` column of the rows with
    id `m` (`A.db.touch m v = B.db.touch m v` for every `v`; row by row: `Chan.TchRel`), and are EQUAL
    outright as soon as the row has been re-stamped or deleted (no row `(m, u)` left in B).

  THE CONDITION (`SweepsOK`, a predicate on the run WITHOUT the duplicate): for every non-faulted sweep
  `sweep now` of `H₂` taken in a state `s` of run B in which the row of `m` still carries the stamp `u` AND nobody
  is subscribed to the mailbox: `NoSplit u t (now - expirationTicks)`, i.e. the cutoff is below both stamps or
  not below either (`u ≤ old ↔ t ≤ old`).  Nothing is required of
  * sweeps while somebody is subscribed (the touch loop re-stamps the row to `now` in both runs: with the
    peer still connected the FIRST sweep ends the difference);
  * sweeps after any op that re-stamped the mailbox (open / add / claim on it) or deleted it;
  * faulted sweeps, and every other operation.
  The condition is tight: in `C14_close_touch_counterexample` (peer gone, sweep at `u + expirationTicks`)
  it fails, and so does the conclusion (`C14bExample.counterexample_violates`).

  Proof: the two-run walk of Inv/TchDefs.lean, TchCore.lean, TchWs.lean (`Sys.TchRel`: `mailboxes` related row by row).
-/
import Wormhole.Props.C14
import Wormhole.Props.C09
import Wormhole.Inv.TchWs

namespace Wormhole
open Sys Generated

/-- `Sys.TchRel` without the events of the current step (which the next step discards) -/
structure TchStart (u t : Time) (m ap : String) (b a : Sys) : Prop where
  db : Chan.TchRel u t m ap b.db a.db
  disk : Chan.TchRel u t m ap b.disk a.disk
  conns : a.conns = b.conns
  cfg : a.cfg = b.cfg

theorem Chan.TchRel.weaken {u t : Time} {m ap : String} {db da : Chan} (h : Chan.TchRel u u m ap db da) :
    Chan.TchRel u t m ap db da := by
  refine ⟨h.nps, h.sides, h.mbs.mono ?_, h.mbSides, h.msgs, h.next⟩
  intro rb _ ra _ hr
  rcases hr with rfl | ⟨_, _, e3, rfl⟩
  · exact Or.inl rfl
  · left
    cases rb
    simp only at e3
    simp [e3]

theorem Chan.TchRel.touch_eq {u t : Time} {m ap : String} {db da : Chan} (h : Chan.TchRel u t m ap db da) (v : Time) :
    da.touch m v = db.touch m v := by
  apply (h.touch m v).eq_of_mailboxes
  symm
  apply h.mbs.map_eq
  intro rb _ ra _ hr
  rcases hr with rfl | ⟨e1, _, _, rfl⟩
  · rfl
  · simp [e1]

/-- **the condition on the tail**, read along the run WITHOUT the duplicate: a non-faulted sweep taken while
    the row of `(ap, m)` still carries `u` and nobody is subscribed to it must not separate `u` and `t` -/
def SweepsOK (u t : Time) (m ap : String) : Sys → List Op → Prop
  | _, [] => True
  | b, op :: rest =>
    (∀ now, op = .sweep now false → (∃ r ∈ b.db.mailboxes, r.id = m ∧ r.app = ap ∧ r.updated = u) →
      b.listeners ap m ≠ [] ∨ NoSplit u t (now - expirationTicks)) ∧
    SweepsOK u t m ap (b.step op) rest

theorem SweepsOK_of_static {u t : Time} {m ap : String} (ops : List Op)
    (h : ∀ now, Op.sweep now false ∈ ops → NoSplit u t (now - expirationTicks)) :
    ∀ b : Sys, SweepsOK u t m ap b ops := by
  induction ops with
  | nil => intro _; trivial
  | cons op rest ih =>
    intro b
    refine ⟨?_, ih (fun now hn => h now (by simp [hn])) _⟩
    intro now e _
    exact Or.inr (h now (by simp [e]))

theorem SweepsOK_of_no_sweep {u t : Time} {m ap : String} (ops : List Op)
    (h : ∀ now, Op.sweep now false ∉ ops) (b : Sys) : SweepsOK u t m ap b ops :=
  SweepsOK_of_static ops (fun now hn => absurd hn (h now)) b

theorem TchStart.step {u t : Time} {m ap : String} {b a : Sys} (h : TchStart u t m ap b a) (hS : b.Synced)
    (op : Op) (hop : op.isCrash = false)
    (hs : ∀ now, op = .sweep now false → (∃ r ∈ b.db.mailboxes, r.id = m ∧ r.app = ap ∧ r.updated = u) →
      b.listeners ap m ≠ [] ∨ NoSplit u t (now - expirationTicks)) :
    Sys.TchRel u t m ap (b.step op) (a.step op) := by
  by_cases hrow : ∃ r ∈ b.db.mailboxes, r.id = m ∧ r.app = ap ∧ r.updated = u
  · have h0 : Sys.TchRel u t m ap { b with out := [] } { a with out := [] } := ⟨h.db, h.disk, h.conns, h.cfg, rfl⟩
    exact h0.step op hop (fun now e => hs now e hrow)
  · -- the databases are equal: run with the degenerate parameters `(u, u)`
    have e1 : a.db = b.db := h.db.eq_of_no_row hrow
    have e2 : a.disk = b.disk := h.disk.eq_of_no_row (by rw [← hS.1]; exact hrow)
    have h0 : Sys.TchRel u u m ap { b with out := [] } { a with out := [] } :=
      ⟨by show Chan.TchRel u u m ap b.db a.db; rw [e1]; exact Chan.TchRel.refl _,
       by show Chan.TchRel u u m ap b.disk a.disk; rw [e2]; exact Chan.TchRel.refl _, h.conns, h.cfg, rfl⟩
    have h1 := h0.step op hop (fun now _ => Or.inr Iff.rfl)
    exact ⟨h1.db.weaken, h1.disk.weaken, h1.conns, h1.cfg, h1.out⟩

theorem TchStart.run {u t : Time} {m ap : String} (ops : List Op) (hcf : ∀ op ∈ ops, op.isCrash = false) :
    ∀ {b a : Sys}, TchStart u t m ap b a → b.Synced → b.db.NpOk → SweepsOK u t m ap b ops →
      TchStart u t m ap (Sys.run b ops).1 (Sys.run a ops).1 ∧ vis (Sys.run a ops).2 = vis (Sys.run b ops).2 := by
  induction ops with
  | nil => intro b a h _ _ _; exact ⟨h, rfl⟩
  | cons op rest ih =>
    intro b a h hS hN hsw
    have hop := hcf op (by simp)
    have h1 := h.step hS op hop hsw.1
    have hok := Ok.step hS hN hop
    obtain ⟨h2, e2⟩ := ih (fun o ho => hcf o (by simp [ho])) ⟨h1.db, h1.disk, h1.conns, h1.cfg⟩ hok.synced hok.np hsw.2
    simp only [Sys.run]
    exact ⟨h2, by rw [vis_append, vis_append, h1.out, e2]⟩

/-- frames, flags included, from the visible traces when every frame of both was sent synced (C09) -/
theorem frames_eq_of_vis_eq {l₁ l₂ : List Event} (h : vis l₁ = vis l₂) (h1 : AllFramesSynced l₁)
    (h2 : AllFramesSynced l₂) : l₁.filter Event.isFrame = l₂.filter Event.isFrame := by
  have key : ∀ l : List Event, AllFramesSynced l → l.filter Event.isFrame = (vis l).filter Event.isFrame := by
    intro l
    induction l with
    | nil => intro _; rfl
    | cons e l ih =>
      intro hl
      have ih' := ih (fun x hx => hl x (by simp [hx]))
      cases e with
      | frame c f b =>
        have : b = true := hl _ (by simp) c f b rfl
        subst this
        simp only [vis, List.filterMap_cons, visE, List.filter_cons, Event.isFrame, if_true]
        rw [ih']; rfl
      | _ =>
        simp only [vis, List.filterMap_cons, visE, List.filter_cons, Event.isFrame]
        exact ih'
  rw [key l₁ h1, key l₂ h2, h]

/-- **C14_close_survives_run** (see the header).  `r₀` is the row of `m` after the original close (stamp
    `u = r₀.updated`); the duplicate is sent on a fresh connection `c'`; `H₂` is crash-free and satisfies
    `SweepsOK u t m r₀.app` along the run without the duplicate. -/
theorem C14_close_survives_run (cfg : Cfg) (rb : Time) (H₁ H₂ : List Op) (c : Nat) (t : Time) (id : Val)
    (mo mood : Option String)
    (hwf : (GSys.init cfg rb).WF (H₁ ++ [Op.recv c t id (.close mo mood)]))
    (hcf : ∀ op ∈ H₂, op.isCrash = false)
    {x : Conn} {a σ m : String}
    (hx : (Sys.run (start cfg rb) H₁).1.findConn c = some x) (ha : x.app = some a) (hσ : x.side = some σ)
    (htg : x.closeTarget mo = some m)
    (hans : Answered ((Sys.run (start cfg rb) H₁).1.step (.recv c t id (.close mo mood))).out c id (.close mo mood))
    {r₀ : MailboxRow}
    (hr₀ : r₀ ∈ (Sys.run (start cfg rb) (H₁ ++ [Op.recv c t id (.close mo mood)])).1.db.mailboxes) (hm : r₀.id = m)
    (hlen : ((Sys.run (start cfg rb) (H₁ ++ [Op.recv c t id (.close mo mood)])).1.db.mbSidesOf m).length ≤ 2)
    (c' : Nat) (hfresh : ∀ y ∈ (Sys.run (start cfg rb) (H₁ ++ [Op.recv c t id (.close mo mood)])).1.conns, y.id ≠ c')
    (id₁ : Val) (impl ver : Option String)
    (hsw : SweepsOK r₀.updated t m r₀.app (Sys.run (start cfg rb) (H₁ ++ [Op.recv c t id (.close mo mood)])).1 H₂) :
    let SB := (Sys.run (start cfg rb) (H₁ ++ [Op.recv c t id (.close mo mood)])).1
    let SA := (Sys.run (start cfg rb) (H₁ ++ [Op.recv c t id (.close mo mood)] ++
      dup c' t id₁ id a σ impl ver (.close (some m) mood))).1
    let A := Sys.run (start cfg rb) (H₁ ++ [Op.recv c t id (.close mo mood)] ++
      dup c' t id₁ id a σ impl ver (.close (some m) mood) ++ H₂)
    let B := Sys.run (start cfg rb) (H₁ ++ [Op.recv c t id (.close mo mood)] ++ H₂)
    -- the two runs, split at the point where the tail begins
    A.1 = (Sys.run SA H₂).1 ∧ B.1 = (Sys.run SB H₂).1 ∧
    A.2 = (Sys.run (start cfg rb) (H₁ ++ [Op.recv c t id (.close mo mood)] ++
      dup c' t id₁ id a σ impl ver (.close (some m) mood))).2 ++ (Sys.run SA H₂).2 ∧
    B.2 = (Sys.run (start cfg rb) (H₁ ++ [Op.recv c t id (.close mo mood)])).2 ++ (Sys.run SB H₂).2 ∧
    -- the events of the tail
    vis (Sys.run SA H₂).2 = vis (Sys.run SB H₂).2 ∧
    (Sys.run SA H₂).2.filter Event.isFrame = (Sys.run SB H₂).2.filter Event.isFrame ∧
    -- the final states
    Chan.TchRel r₀.updated t m r₀.app B.1.db A.1.db ∧ Chan.TchRel r₀.updated t m r₀.app B.1.disk A.1.disk ∧
    (∀ v, A.1.db.touch m v = B.1.db.touch m v) ∧
    ((¬ ∃ r ∈ B.1.db.mailboxes, r.id = m ∧ r.updated = r₀.updated) → A.1.db = B.1.db) ∧
    A.1.conns = B.1.conns ∧ A.1.cfg = B.1.cfg := by
  intro SB SA A B
  have hid : SB.db.HasId m := ⟨r₀, hr₀, hm⟩
  obtain ⟨_, _, _, _, _, _, _, _, k1, _, _, k3, k4, k5⟩ :=
    C14_close_survives_step cfg rb H₁ c t id mo mood hwf hx ha hσ htg hans hid hlen c' hfresh id₁ impl ver
  have hReach : ((GSys.init cfg rb).run (H₁ ++ [Op.recv c t id (.close mo mood)])).Reach :=
    GSys.reach_run (.init cfg rb) _ hwf
  have hI := hReach.ginv
  have hsys : ((GSys.init cfg rb).run (H₁ ++ [Op.recv c t id (.close mo mood)])).sys = SB := GSys.run_sys _ _
  have hSB : SB.Synced := by rw [← hsys]; exact hI.synced
  have hNB : SB.db.NpOk := by rw [← hsys]; exact hI.cinv.npOk
  have hids : SB.db.mailboxes.Pairwise (fun p q => ¬ p.id = q.id) := by rw [← hsys]; exact hI.cinv.toPInv.mbIds
  -- the relation right after the duplicate
  have hdb : Chan.TchRel r₀.updated t m r₀.app SB.db SA.db := by
    rw [show SA.db = SB.db.touch m t from k1, ← hm]
    exact Chan.TchRel.of_touch hids hr₀ t
  have hstart : TchStart r₀.updated t m r₀.app SB SA :=
    ⟨hdb, by rw [← hSB.1, ← k5.1]; exact hdb, k3, k4⟩
  obtain ⟨hfin, hvis⟩ := TchStart.run H₂ hcf hstart hSB hNB hsw
  have hNA : SA.db.NpOk := by
    rw [show SA.db = SB.db.touch m t from k1]
    exact Chan.NpOk.of_npPart (d := SB.db) (d' := SB.db.touch m t) rfl hNB
  have fA := (C09_frames_synced SA H₂ hcf k5 hNA).1
  have fB := (C09_frames_synced SB H₂ hcf hSB hNB).1
  have eA : A = ((Sys.run SA H₂).1, _ ++ (Sys.run SA H₂).2) := Sys.run_append (start cfg rb) _ H₂
  have eB : B = ((Sys.run SB H₂).1, _ ++ (Sys.run SB H₂).2) := Sys.run_append (start cfg rb) _ H₂
  rw [eA, eB]
  exact ⟨rfl, rfl, rfl, rfl, hvis, frames_eq_of_vis_eq hvis fA fB, hfin.db, hfin.disk, hfin.db.touch_eq,
    fun hno => hfin.db.eq_of_no_row (fun ⟨r, hr, e1, _, e3⟩ => hno ⟨r, hr, e1, e3⟩), hfin.conns, hfin.cfg⟩

/-! ## a decision procedure for `SweepsOK` (for the examples) -/

def sweepOKB (u t : Time) (m ap : String) (b : Sys) : Op → Bool
  | .sweep now false =>
    !(b.db.mailboxes.any (fun r => decide (r.id = m ∧ r.app = ap ∧ r.updated = u))) ||
      !(b.listeners ap m).isEmpty || decide (NoSplit u t (now - expirationTicks))
  | _ => true

def sweepsOKB (u t : Time) (m ap : String) : Sys → List Op → Bool
  | _, [] => true
  | b, op :: rest => sweepOKB u t m ap b op && sweepsOKB u t m ap (b.step op) rest

theorem sweepsOKB_sound {u t : Time} {m ap : String} : ∀ (ops : List Op) (b : Sys),
    sweepsOKB u t m ap b ops = true → SweepsOK u t m ap b ops := by
  intro ops
  induction ops with
  | nil => intro _ _; trivial
  | cons op rest ih =>
    intro b h
    simp only [sweepsOKB, Bool.and_eq_true] at h
    refine ⟨?_, ih _ h.2⟩
    intro now e hrow
    subst e
    have h1 := h.1
    simp only [sweepOKB, Bool.or_eq_true, Bool.not_eq_true', decide_eq_true_eq] at h1
    rcases h1 with (h1 | h1) | h1
    · obtain ⟨r, hr, e1, e2, e3⟩ := hrow
      simpa [e1, e2, e3] using List.any_eq_false.1 h1 r hr
    · left
      intro hl
      rw [hl] at h1
      simp at h1
    · exact Or.inr h1

/-! ## Non-vacuity: the K-close-touch scenario of Props/C14.lean with tails that satisfy the condition -/

namespace C14bExample
open C14Ex

/-- the state without the duplicate: s1 closed on its handle at 200, the row of "m" still carries 100 -/
def SB : Sys := (Sys.run (start cfgN 0) (Ht1 ++ [Op.recv 1 200 (.int 3) cmdT])).1
def r₀ : MailboxRow := ⟨"app", "m", 100, false⟩

theorem hr₀ : r₀ ∈ (Sys.run (start cfgN 0) (Ht1 ++ [Op.recv 1 200 (.int 3) cmdT])).1.db.mailboxes := by decide +kernel

/-- TAIL 1 — the ordinary case: the peer (connection 2) stays subscribed.  The sweep at `100 + E` (which
    separates 100 and 200!) is harmless: the touch loop re-stamps the row in both runs.  Then the peer adds,
    leaves, and a late sweep deletes the mailbox in both runs. -/
def T1 : List Op :=
  [ .sweep (100 + E) false, .recv 2 (150 + E) (.int 9) (.ping (some (.str "still here"))),
    .drop 2, .sweep (200 + E) false, .connect 3, bind 3 (300 + E) "s2", .recv 3 (301 + E) (.int 2) (.open_ (some "m")),
    .sweep (400 + 3 * E) false ]

theorem T1_ok : SweepsOK 100 200 "m" "app" SB T1 := sweepsOKB_sound _ _ (by decide +kernel)
example : ¬ NoSplit 100 200 (100 + E - expirationTicks) := by decide

/-- TAIL 2 — the peer is gone, no re-stamping: sweeps whose cutoff is below both stamps (`now < 100 + E`) or
    not below either (`now ≥ 200 + E`) -/
def T2 : List Op :=
  [ .drop 2, .sweep 300 false, .sweep (99 + E) true, .sweep (99 + E) false, .connect 3, bind 3 (100 + E) "s3",
    .recv 3 (101 + E) (.int 2) .list, .sweep (200 + E) false ]

theorem T2_ok : SweepsOK 100 200 "m" "app" SB T2 := by
  apply SweepsOK_of_static
  intro now h
  simp only [T2, C14Ex.bind, List.mem_cons, Op.sweep.injEq, and_false, and_true, reduceCtorEq,
    List.not_mem_nil, or_false, false_or] at h
  rcases h with rfl | rfl | rfl <;> decide

/-- TAIL 3 — no sweep at all, nothing re-stamps: the difference persists (so "modulo `updated`" is needed) -/
def T3 : List Op := [ .connect 3, bind 3 210 "s3", .recv 3 211 (.int 2) .list, .drop 2 ]
theorem T3_ok : SweepsOK 100 200 "m" "app" SB T3 :=
  SweepsOK_of_no_sweep _ (by intro now h; simp [T3, C14Ex.bind] at h) _

set_option linter.defProp false in
/-- the hypotheses of `C14_close_survives_run` in the K-close-touch scenario (those of
    `C14_close_survives_step`, checked in Props/C14.lean) and the theorem applied to the three tails -/
def apply (H₂ : List Op) (hcf : ∀ op ∈ H₂, op.isCrash = false) (hsw : SweepsOK 100 200 "m" "app" SB H₂) :=
  C14_close_survives_run cfgN 0 Ht1 H₂ 1 200 (.int 3) none (some "happy") (GSys.wfB_sound (by decide +kernel)) hcf
    (x := xT) (a := "app") (σ := "s1") (m := "m") (by decide +kernel) rfl rfl (by decide) ⟨true, by decide +kernel⟩
    (r₀ := r₀) hr₀ rfl (by decide +kernel) 9 (by decide +kernel) (.int 7) none none hsw

example := apply T1 (by decide) T1_ok
example := apply T2 (by decide) T2_ok
example := apply T3 (by decide) T3_ok

/-- evaluated, not derived: tail 1 — frames equal, final databases EQUAL (the row was re-stamped) and not empty
    before the last sweep; -/
example :
    (Sys.run stN (Ht1 ++ [Op.recv 1 200 (.int 3) cmdT] ++ dupT ++ T1)).1.db =
      (Sys.run stN (Ht1 ++ [Op.recv 1 200 (.int 3) cmdT] ++ T1)).1.db ∧
    (Sys.run stN (Ht1 ++ [Op.recv 1 200 (.int 3) cmdT] ++ T1.take 7)).1.db.mailboxes = [⟨"app", "m", 301 + E, false⟩] ∧
    ((Sys.run stN (Ht1 ++ [Op.recv 1 200 (.int 3) cmdT] ++ dupT ++ T1)).2.filter Event.isFrame).drop 15 =
      ((Sys.run stN (Ht1 ++ [Op.recv 1 200 (.int 3) cmdT] ++ T1)).2.filter Event.isFrame).drop 11 ∧
    ((Sys.run stN (Ht1 ++ [Op.recv 1 200 (.int 3) cmdT] ++ T1)).2.filter Event.isFrame).length = 17 := by
  decide +kernel

/-- tail 3: the databases still differ in exactly that cell, and agree once it is overwritten -/
example :
    (Sys.run stN (Ht1 ++ [Op.recv 1 200 (.int 3) cmdT] ++ dupT ++ T3)).1.db.mailboxes = [⟨"app", "m", 200, false⟩] ∧
    (Sys.run stN (Ht1 ++ [Op.recv 1 200 (.int 3) cmdT] ++ T3)).1.db.mailboxes = [⟨"app", "m", 100, false⟩] ∧
    (Sys.run stN (Ht1 ++ [Op.recv 1 200 (.int 3) cmdT] ++ dupT ++ T3)).1.db.touch "m" 0 =
      (Sys.run stN (Ht1 ++ [Op.recv 1 200 (.int 3) cmdT] ++ T3)).1.db.touch "m" 0 := by
  decide +kernel

/-- **the condition is tight**: the tail `Ht2` of `C14_close_touch_counterexample` (the peer's connection is
    lost, then a sweep at `100 + E`, whose cutoff 100 separates the stamps 100 and 200) violates `SweepsOK`,
    and there the conclusion fails (the later `open` replays a message in one run only). -/
theorem counterexample_violates : ¬ SweepsOK 100 200 "m" "app" SB Ht2 := by
  intro h
  have := h.2.1 (100 + E) rfl ⟨r₀, by decide +kernel, rfl, rfl, rfl⟩
  rcases this with h1 | h1
  · exact h1 (by decide +kernel)
  · exact absurd h1 (by decide)

end C14bExample

end Wormhole

#print axioms Wormhole.Sys.TchRel.step
#print axioms Wormhole.TchStart.run
#print axioms Wormhole.SweepsOK_of_static
#print axioms Wormhole.sweepsOKB_sound
#print axioms Wormhole.C14_close_survives_run
#print axioms Wormhole.C14bExample.counterexample_violates
