/-
  C17 at the JSON level: the `Cmd`-level theorems of Props/C17.lean composed with the decoder
  (`Wormhole/Decode.lean`, theorems in Props/Decode.lean).

  What a "received JSON object" is here: `o : JObj`, the list of `key: value` pairs of the text
  (`jget o k` = `msg.get(k)`, last occurrence wins); the command the model steps on is
  `decodeCmd o p d f` and the id is `decodeId o` (`p d f` = the random choices of the step, inputs of
  the history).  Every theorem is for ALL states `s : Sys` with a live connection `c`
  (`s.findConn c = some x`, the only hypothesis the underlying C17 theorems take -- no reachability or
  invariant is needed), all objects, all times, all random choices.

  DOMAIN RESTRICTION (not fixable without changing the model type `Val`, which has only null / string /
  integer).  For an object that has a "type" key the decoder returns `none` when "id" is a bool, float,
  array or object, and for type "ping" also when the "ping" value is one of those (`InDomain`,
  `decodeCmd_isSome_iff`).  The code acks such ids and pongs such values all the same (`msg.get("id")`
  and `msg["ping"]` are passed through `json.dumps` untouched).  So "ack echoing its id" and "pong with
  the same value" are PROVED for ids / ping values that are null, a string or an integer, and are checked
  on the implementation only for the other JSON values.  An object WITHOUT a "type" key is always in the
  domain (its id is not looked at: `C17_json_no_type` has no domain hypothesis).

  ORACLE-ONLY CLAUSES.  Two clauses of the C17 property text have no counterpart in the model ("the
  `error` frame contains the original message", "every frame carries a send timestamp") and are checked
  on the implementation only: see `C17_oracle_only_clauses` at the end.  `C17_frames_typed` of
  Props/C17.lean is about ADDRESSEES, not about the typing clause.
-/
import Wormhole.Props.C17
import Wormhole.Props.Decode

namespace Wormhole

/-! ## `.noType` is exactly "no `type` key" -/

/-- **the decoded command is `Cmd.noType` iff the object has no "type" key** (so every object in the
    domain that HAS a "type" key decodes to a command the model acks) -/
theorem decodeCmd_noType_iff (o : JObj) (p : Nat) (d : List Nat) (f : String) :
    decodeCmd o p d f = some .noType ↔ jget o "type" = none := by
  unfold decodeCmd decodeOf
  cases jget o "type" with
  | none => simp
  | some ty =>
    simp only [reduceCtorEq, iff_false]
    -- every other branch answers `none` or a command that is not `.noType`
    repeat' split
    all_goals simp

theorem decoded_eq_noType_iff {o : JObj} {p : Nat} {d : List Nat} {f : String} {cmd : Cmd}
    (hd : decodeCmd o p d f = some cmd) : cmd = .noType ↔ jget o "type" = none := by
  rw [← decodeCmd_noType_iff o p d f, hd]
  simp

example : decodeCmd [("nameplate", .num 4), ("id", .other)] 0 [] "" = some .noType ∧
    jget [("nameplate", .num 4), ("id", .other)] "type" = none ∧
    decodeCmd [("type", .null)] 0 [] "" = some .unknown ∧ jget [("type", .null)] "type" ≠ none := by decide

/-! ## `decodeId` is the object's id -/

/-- **`decodeId o` is the value under "id"**: null when the key is absent (`msg.get("id")` is `None`),
    and the value itself when it is null / a string / an integer -/
theorem decodeId_eq (o : JObj) :
    (jget o "id" = none → decodeId o = .null) ∧
    (∀ v w, jget o "id" = some v → v.toVal? = some w → decodeId o = w) := by
  unfold decodeId
  constructor
  · intro h; rw [h]; rfl
  · intro v w h hw; rw [h]; simp [fieldId, hw]

theorem decodeId_of_fieldId {o : JObj} {i : Val} (h : fieldId (jget o "id") = some i) : decodeId o = i := by
  unfold decodeId; rw [h]; rfl

/-- **in the domain the id is representable**: when the decoder answers on an object that has a "type"
    key, `msg.get("id")` is null / string / integer and `decodeId o` is that value -- the `.getD .null`
    default inside `decodeId` is not what makes the theorems below true -/
theorem decodeId_representable {o : JObj} {p : Nat} {d : List Nat} {f : String} {cmd : Cmd}
    (hd : decodeCmd o p d f = some cmd) (hty : jget o "type" ≠ none) :
    fieldId (jget o "id") = some (decodeId o) := by
  unfold decodeCmd decodeOf at hd
  cases ht : jget o "type" with
  | none => exact absurd ht hty
  | some ty =>
    rw [ht] at hd
    simp only [] at hd
    cases hi : fieldId (jget o "id") with
    | none => rw [hi] at hd; simp at hd
    | some i => rw [decodeId_of_fieldId hi]

example : decodeId [("type", .str "list")] = .null ∧ decodeId [("id", .num 7), ("type", .str "list")] = .int 7 ∧
    decodeId [("id", .str "a"), ("id", .str "b")] = .str "b" ∧
    fieldId (jget [("id", .num 7), ("type", .str "list")] "id") = some (.int 7) ∧
    decodeCmd [("id", .bool true), ("type", .str "list")] 0 [] "" = none := by decide

/-! ## ack first -/

/-- **C17 (ack first, JSON level).**  For every state with a live connection `c` and every received JSON
    object `o` in the decoder's domain that has a "type" key (whatever its value: a known string, an
    unknown string, not a string), whatever the other keys: the id `msg.get("id")` is representable and
    equal to `decodeId o`, and the FIRST event of the step is the `ack` frame to `c` echoing it. -/
theorem C17_json_ack_first {s : Sys} {c : Nat} {x : Conn} (t : Time) {o : JObj} {p : Nat} {d : List Nat}
    {f : String} {cmd : Cmd} (hx : s.findConn c = some x) (hd : decodeCmd o p d f = some cmd)
    (hty : jget o "type" ≠ none) :
    fieldId (jget o "id") = some (decodeId o) ∧
    ∃ rest, (s.step (.recv c t (decodeId o) cmd)).out = .frame c (.ack (decodeId o)) s.synced :: rest :=
  ⟨decodeId_representable hd hty,
    (C17_ack_first t (decodeId o) cmd hx).1 (fun h => hty ((decoded_eq_noType_iff hd).1 h))⟩

/-- the same with the domain spelled out: on every `InDomain` object with a "type" key the decoder
    answers, and the step on its answer starts with the ack of the object's id -/
theorem C17_json_ack_first_domain {s : Sys} {c : Nat} {x : Conn} (t : Time) (o : JObj) (p : Nat)
    (d : List Nat) (f : String) (hx : s.findConn c = some x) (hdom : InDomain o)
    (hty : jget o "type" ≠ none) :
    ∃ cmd, decodeCmd o p d f = some cmd ∧ cmd ≠ .noType ∧ fieldId (jget o "id") = some (decodeId o) ∧
      ∃ rest, (s.step (.recv c t (decodeId o) cmd)).out = .frame c (.ack (decodeId o)) s.synced :: rest := by
  obtain ⟨cmd, hd⟩ := Option.isSome_iff_exists.1 ((decodeCmd_isSome_iff o p d f).2 hdom)
  obtain ⟨h1, h2⟩ := C17_json_ack_first t hx hd hty
  exact ⟨cmd, hd, fun h => hty ((decoded_eq_noType_iff hd).1 h), h1, h2⟩

/-- non-vacuity: a second `claim` on connection 2 of `exSys` with an extra key and id 9; a type that is
    not a string; the instance of the theorem -/
example :
    let o : JObj := [("junk", .other), ("id", .num 9), ("nameplate", .str "7"), ("type", .str "claim")]
    exSys.findConn 2 = some exConn2 ∧ decodeCmd o 0 [] "f" = some (.claim (some "7") "f") ∧
    jget o "type" ≠ none ∧ decodeId o = .int 9 ∧
    (exSys.step (.recv 2 5 (decodeId o) (.claim (some "7") "f"))).out =
      [.frame 2 (.ack (.int 9)) true, .frame 2 (.error "only one claim per connection") true] := by decide +kernel
example : ∃ rest, (exSys.step (.recv 1 5 (decodeId [("type", .num 3), ("id", .str "q")]) .unknown)).out =
    .frame 1 (.ack (decodeId [("type", .num 3), ("id", .str "q")])) exSys.synced :: rest :=
  (C17_json_ack_first (s := exSys) (c := 1) (x := { id := 1 }) 5 (o := [("type", .num 3), ("id", .str "q")])
    (p := 0) (d := []) (f := "") (by decide) (by decide) (by decide)).2

/-! ## no `type` -/

/-- **C17 (no type, JSON level).**  For every state with a live connection `c` and every JSON object
    without a "type" key (NO domain hypothesis: nothing else of the object is looked at, an
    unrepresentable id included): the decoder gives `.noType`, and the step emits exactly one event, the
    frame `error "missing 'type'"` to `c` -- no ack, nothing to anybody else -- and the whole state
    (databases, committed states, configuration, every connection record) is unchanged. -/
theorem C17_json_no_type {s : Sys} {c : Nat} {x : Conn} (t : Time) (o : JObj) (p : Nat) (d : List Nat)
    (f : String) (hx : s.findConn c = some x) (hty : jget o "type" = none) :
    decodeCmd o p d f = some .noType ∧
    (s.step (.recv c t (decodeId o) .noType)).out = [.frame c (.error "missing 'type'") s.synced] ∧
    Unchanged s (s.step (.recv c t (decodeId o) .noType)) := by
  refine ⟨(decodeCmd_noType_iff o p d f).2 hty, ?_, ?_⟩
  · exact (C17_ack_first t (decodeId o) .noType hx).2 rfl
  · exact (C17_validation_error t (decodeId o) hx Rejected.noType).2

example : jget [("nameplate", .str "4"), ("id", .other)] "type" = none ∧
    decodeCmd [("nameplate", .str "4"), ("id", .other)] 0 [] "" = some .noType ∧
    (exSys.step (.recv 2 5 (decodeId [("nameplate", .str "4"), ("id", .other)]) .noType)).out =
      [.frame 2 (.error "missing 'type'") true] := by decide +kernel
example := C17_json_no_type (s := exSys) (c := 2) (x := exConn2) 5 [("nameplate", .str "4"), ("id", .other)]
  0 [] "" (by decide) (by decide)

/-! ## ping -/

/-- **C17 (ping, JSON level).**  For every state with a live connection `c` (bound or not) and every
    object whose "type" is the string "ping", whose "ping" value `jv` is null / a string / an integer
    (`jv.toVal? = some v`) and whose id is representable (`i`; null when absent), whatever other keys it
    has: the decoder gives `ping (some v)` and id `i`, and the step emits exactly
    `[ack i, pong v]` to `c`; the whole state is unchanged. -/
theorem C17_json_ping {s : Sys} {c : Nat} {x : Conn} (t : Time) {o : JObj} (p : Nat) (d : List Nat)
    (f : String) {jv : JVal} {v i : Val} (hx : s.findConn c = some x)
    (hty : jget o "type" = some (.str "ping")) (hp : jget o "ping" = some jv) (hv : jv.toVal? = some v)
    (hi : fieldId (jget o "id") = some i) :
    decodeCmd o p d f = some (.ping (some v)) ∧ decodeId o = i ∧
    (s.step (.recv c t (decodeId o) (.ping (some v)))).out =
      [.frame c (.ack i) s.synced, .frame c (.pong v) s.synced] ∧
    Unchanged s (s.step (.recv c t (decodeId o) (.ping (some v)))) := by
  have hid := decodeId_of_fieldId hi
  refine ⟨?_, hid, ?_, (C17_ping t (decodeId o) v hx).2⟩
  · unfold decodeCmd decodeOf
    rw [hty]
    simp only [hi, hp]
    have : mtypeOf (.str "ping") = .ping := by decide
    simp [this, fieldVal, hv]
  · rw [(C17_ping t (decodeId o) v hx).1, hid]

/-- the literal `{"type":"ping","ping":jv}` (no id: the ack carries null) -/
theorem C17_json_ping_literal {s : Sys} {c : Nat} {x : Conn} (t : Time) (p : Nat) (d : List Nat) (f : String)
    (jv : JVal) {v : Val} (hx : s.findConn c = some x) (hv : jv.toVal? = some v) :
    decodeCmd [("type", .str "ping"), ("ping", jv)] p d f = some (.ping (some v)) ∧
    decodeId [("type", .str "ping"), ("ping", jv)] = .null ∧
    (s.step (.recv c t (decodeId [("type", .str "ping"), ("ping", jv)]) (.ping (some v)))).out =
      [.frame c (.ack .null) s.synced, .frame c (.pong v) s.synced] ∧
    Unchanged s (s.step (.recv c t (decodeId [("type", .str "ping"), ("ping", jv)]) (.ping (some v)))) :=
  C17_json_ping t p d f hx (by simp [jget]) (by simp [jget]) hv (by simp [jget, fieldId])

/-- the literal `{"id":ji,"type":"ping","ping":jv}` -/
theorem C17_json_ping_literal_id {s : Sys} {c : Nat} {x : Conn} (t : Time) (p : Nat) (d : List Nat)
    (f : String) (ji jv : JVal) {i v : Val} (hx : s.findConn c = some x) (hi : ji.toVal? = some i)
    (hv : jv.toVal? = some v) :
    decodeCmd [("id", ji), ("type", .str "ping"), ("ping", jv)] p d f = some (.ping (some v)) ∧
    decodeId [("id", ji), ("type", .str "ping"), ("ping", jv)] = i ∧
    (s.step (.recv c t (decodeId [("id", ji), ("type", .str "ping"), ("ping", jv)]) (.ping (some v)))).out =
      [.frame c (.ack i) s.synced, .frame c (.pong v) s.synced] ∧
    Unchanged s
      (s.step (.recv c t (decodeId [("id", ji), ("type", .str "ping"), ("ping", jv)]) (.ping (some v)))) :=
  C17_json_ping t p d f hx (by simp [jget]) (by simp [jget]) hv (by simp [jget, fieldId, hi])

/-- the three kinds of value, for every string / integer, on every live connection -/
theorem C17_json_ping_values {s : Sys} {c : Nat} {x : Conn} (t : Time) (p : Nat) (d : List Nat) (f : String)
    (hx : s.findConn c = some x) :
    (s.step (.recv c t (decodeId [("type", .str "ping"), ("ping", .null)]) (.ping (some .null)))).out =
      [.frame c (.ack .null) s.synced, .frame c (.pong .null) s.synced] ∧
    (∀ str : String,
      decodeCmd [("type", .str "ping"), ("ping", .str str)] p d f = some (.ping (some (.str str))) ∧
      (s.step (.recv c t (decodeId [("type", .str "ping"), ("ping", .str str)]) (.ping (some (.str str))))).out =
        [.frame c (.ack .null) s.synced, .frame c (.pong (.str str)) s.synced]) ∧
    (∀ n : Int,
      decodeCmd [("type", .str "ping"), ("ping", .num n)] p d f = some (.ping (some (.int n))) ∧
      (s.step (.recv c t (decodeId [("type", .str "ping"), ("ping", .num n)]) (.ping (some (.int n))))).out =
        [.frame c (.ack .null) s.synced, .frame c (.pong (.int n)) s.synced]) := by
  refine ⟨(C17_json_ping_literal t p d f .null hx rfl).2.2.1, fun str => ?_, fun n => ?_⟩
  · have h := C17_json_ping_literal t p d f (.str str) hx rfl
    exact ⟨h.1, h.2.2.1⟩
  · have h := C17_json_ping_literal t p d f (.num n) hx rfl
    exact ⟨h.1, h.2.2.1⟩

/-- non-vacuity: connection 1 of `exSys` is not bound, connection 2 is bound and holds a mailbox -/
example : exSys.findConn 1 = some { id := 1 } ∧ (exSys.findConn 1).bind (·.app) = none ∧
    exSys.findConn 2 = some exConn2 ∧ exConn2.app = some "app" := by decide
example :
    let o : JObj := [("type", .str "ping"), ("ping", .null)]
    decodeCmd o 0 [] "" = some (.ping (some .null)) ∧
    (exSys.step (.recv 1 5 (decodeId o) (.ping (some .null)))).out =
      [.frame 1 (.ack .null) true, .frame 1 (.pong .null) true] ∧
    (exSys.step (.recv 2 5 (decodeId o) (.ping (some .null)))).out =
      [.frame 2 (.ack .null) true, .frame 2 (.pong .null) true] := by decide +kernel
example :
    let o : JObj := [("type", .str "ping"), ("ping", .str "hello")]
    decodeCmd o 0 [] "" = some (.ping (some (.str "hello"))) ∧
    (exSys.step (.recv 1 5 (decodeId o) (.ping (some (.str "hello"))))).out =
      [.frame 1 (.ack .null) true, .frame 1 (.pong (.str "hello")) true] ∧
    (exSys.step (.recv 2 5 (decodeId o) (.ping (some (.str "hello"))))).out =
      [.frame 2 (.ack .null) true, .frame 2 (.pong (.str "hello")) true] := by decide +kernel
example :
    let o : JObj := [("id", .str "i1"), ("type", .str "ping"), ("ping", .num (-3)), ("extra", .other)]
    decodeCmd o 0 [] "" = some (.ping (some (.int (-3)))) ∧ decodeId o = .str "i1" ∧
    (exSys.step (.recv 1 5 (decodeId o) (.ping (some (.int (-3)))))).out =
      [.frame 1 (.ack (.str "i1")) true, .frame 1 (.pong (.int (-3))) true] ∧
    (exSys.step (.recv 2 5 (decodeId o) (.ping (some (.int (-3)))))).out =
      [.frame 2 (.ack (.str "i1")) true, .frame 2 (.pong (.int (-3))) true] := by decide +kernel
/-- the instances of the theorems (hypotheses satisfiable), unbound and bound -/
example := C17_json_ping (s := exSys) (c := 1) (x := { id := 1 }) 5
  (o := [("id", .str "i1"), ("type", .str "ping"), ("ping", .num (-3)), ("extra", .other)]) 0 [] ""
  (jv := .num (-3)) (v := .int (-3)) (i := .str "i1") (by decide) (by decide) (by decide) rfl (by decide)
example := C17_json_ping_values (s := exSys) (c := 2) (x := exConn2) 5 0 [] "" (by decide)
/-- outside the domain (see the header): a boolean / array ping value, a float id -/
example : decodeCmd [("type", .str "ping"), ("ping", .bool true)] 0 [] "" = none ∧
    decodeCmd [("type", .str "ping"), ("ping", .other)] 0 [] "" = none ∧
    decodeCmd [("type", .str "ping"), ("ping", .num 1), ("id", .other)] 0 [] "" = none := by decide

/-! ## rejected commands -/

/-- **C17 (validation errors are harmless, JSON level).**  For every state with a live connection `c`
    whose record is `x`, and every JSON object in the decoder's domain whose decoded command is
    `Rejected` by `x` with `text` (the enumeration of Props/C17.lean; decidable, `rejected_iff`):
      * the events of the step are exactly `[ack id] ++ [error text]` to `c`, where the ack is present
        iff the object has a "type" key and `id = decodeId o` is then the object's (representable) id;
      * no frame goes to any other connection;
      * the whole state is unchanged (`Unchanged`: both databases, their committed states, configuration,
        reboot time, every flag of every connection record; no commit). -/
theorem C17_json_rejected_unchanged {s : Sys} {c : Nat} {x : Conn} {o : JObj} {p : Nat} {d : List Nat}
    {f : String} {cmd : Cmd} {text : String} (t : Time) (hx : s.findConn c = some x)
    (hd : decodeCmd o p d f = some cmd) (hr : Rejected x cmd text) :
    (s.step (.recv c t (decodeId o) cmd)).out =
      (if jget o "type" = none then [] else [.frame c (.ack (decodeId o)) s.synced]) ++
        [.frame c (.error text) s.synced] ∧
    (jget o "type" ≠ none → fieldId (jget o "id") = some (decodeId o)) ∧
    (∀ c' fr b, .frame c' fr b ∈ (s.step (.recv c t (decodeId o) cmd)).out → c' = c) ∧
    Unchanged s (s.step (.recv c t (decodeId o) cmd)) := by
  obtain ⟨h1, h2⟩ := C17_validation_error t (decodeId o) hx hr
  refine ⟨?_, decodeId_representable hd, C17_validation_error_private t (decodeId o) hx hr, h2⟩
  rw [h1]
  by_cases hn : cmd = .noType
  · rw [if_pos hn, if_pos ((decoded_eq_noType_iff hd).1 hn)]
  · rw [if_neg hn, if_neg (fun h => hn ((decoded_eq_noType_iff hd).2 h))]

/-- the same with the decision procedure: `text` is `rejectText x cmd` -/
theorem C17_json_rejected_text {s : Sys} {c : Nat} {x : Conn} {o : JObj} {p : Nat} {d : List Nat}
    {f : String} {cmd : Cmd} {text : String} (t : Time) (hx : s.findConn c = some x)
    (hd : decodeCmd o p d f = some cmd) (hr : rejectText x cmd = some text) :
    (s.step (.recv c t (decodeId o) cmd)).out =
      (if jget o "type" = none then [] else [.frame c (.ack (decodeId o)) s.synced]) ++
        [.frame c (.error text) s.synced] ∧
    (∀ c' fr b, .frame c' fr b ∈ (s.step (.recv c t (decodeId o) cmd)).out → c' = c) ∧
    Unchanged s (s.step (.recv c t (decodeId o) cmd)) :=
  have h := C17_json_rejected_unchanged t hx hd (rejected_iff.2 hr)
  ⟨h.1, h.2.2.1, h.2.2.2⟩

/-- non-vacuity: a second `open` on connection 2 (holds "mb"), a `list` before `bind` on connection 1, an
    `add` without phase carrying a spoofed side; and the instance of the theorem -/
example :
    let o : JObj := [("type", .str "open"), ("mailbox", .str "zz"), ("id", .num 3)]
    decodeCmd o 0 [] "" = some (.open_ (some "zz")) ∧
    Rejected exConn2 (.open_ (some "zz")) "only one open per connection" ∧
    (exSys.step (.recv 2 5 (decodeId o) (.open_ (some "zz")))).out =
      [.frame 2 (.ack (.int 3)) true, .frame 2 (.error "only one open per connection") true] := by decide +kernel
example :
    let o : JObj := [("type", .str "list")]
    decodeCmd o 0 [] "" = some .list ∧ Rejected { id := 1 } .list "must bind first" ∧
    (exSys.step (.recv 1 5 (decodeId o) .list)).out =
      [.frame 1 (.ack .null) true, .frame 1 (.error "must bind first") true] := by decide +kernel
example :
    let o : JObj := [("body", .str "00"), ("side", .str "spoofed"), ("type", .str "add")]
    decodeCmd o 0 [] "" = some (.add none (some (.str "00"))) ∧
    Rejected exConn2 (.add none (some (.str "00"))) "missing 'phase'" ∧
    (exSys.step (.recv 2 5 (decodeId o) (.add none (some (.str "00"))))).out =
      [.frame 2 (.ack .null) true, .frame 2 (.error "missing 'phase'") true] := by decide +kernel
example := C17_json_rejected_unchanged (s := exSys) (c := 2) (x := exConn2)
  (o := [("type", .str "open"), ("mailbox", .str "zz"), ("id", .num 3)]) (p := 0) (d := []) (f := "")
  (cmd := .open_ (some "zz")) (text := "only one open per connection") 5 (by decide) (by decide) (by decide)
/-- the no-type case through the same theorem: no ack -/
example : (exSys.step (.recv 1 5 (decodeId [("id", .num 1)]) .noType)).out =
    (if jget [("id", .num 1)] "type" = none then [] else [.frame 1 (.ack (decodeId [("id", .num 1)])) exSys.synced])
      ++ [.frame 1 (.error "missing 'type'") exSys.synced] :=
  (C17_json_rejected_unchanged (s := exSys) (c := 1) (x := { id := 1 }) (o := [("id", .num 1)]) (p := 0)
    (d := []) (f := "") 5 (by decide) (by decide) Rejected.noType).1

/-! ## what the model does not carry -/

/-- **C17, the two ORACLE-ONLY clauses.**  Structural facts about the model's frames, stated so
    that the restriction shows up in the theorem list:
      (a) an `error` frame of the model IS its text (`Frame.error txt₁ = Frame.error txt₂ ↔ txt₁ = txt₂`):
          it has no `orig` field, so "the `error` frame contains the original message" is not expressible,
          let alone proved, here;
      (b) a frame event IS (addressee, frame, synced flag): it has no `server_tx`, so "every frame carries
          a send timestamp" is not expressible here (and "carries its type" is the `Frame` constructor).
    Both clauses are checked on the implementation only, by the oracle events `!error-orig-mismatch`
    (for (a)) and `!frame-malformed`, `!frame-server_tx` (for (b); also `!frame-not-json`) emitted by the
    frame hook of /verif/harness/impl.py and turned into C17 findings by /verif/harness/oracles.py. -/
theorem C17_oracle_only_clauses :
    (∀ txt₁ txt₂ : String, Frame.error txt₁ = Frame.error txt₂ ↔ txt₁ = txt₂) ∧
    (∀ (c c' : Nat) (fr fr' : Frame) (b b' : Bool),
      Event.frame c fr b = Event.frame c' fr' b' ↔ c = c' ∧ fr = fr' ∧ b = b') := by
  constructor
  · intro a b; simp
  · intro c c' fr fr' b b'; simp

example : Frame.error "x" ≠ Frame.error "y" ∧ Event.frame 1 (.error "x") true ≠ Event.frame 2 (.error "x") true := by
  decide

end Wormhole

#print axioms Wormhole.decodeCmd_noType_iff
#print axioms Wormhole.decodeId_eq
#print axioms Wormhole.decodeId_representable
#print axioms Wormhole.C17_json_ack_first
#print axioms Wormhole.C17_json_ack_first_domain
#print axioms Wormhole.C17_json_no_type
#print axioms Wormhole.C17_json_ping
#print axioms Wormhole.C17_json_ping_literal
#print axioms Wormhole.C17_json_ping_literal_id
#print axioms Wormhole.C17_json_ping_values
#print axioms Wormhole.C17_json_rejected_unchanged
#print axioms Wormhole.C17_json_rejected_text
#print axioms Wormhole.C17_oracle_only_clauses
