/-
  C04 (history half) — "allocate returns a free, shortest-available nameplate and holds it".

  Props/C04.lean proves the pure part (`C04_findAvailable_some` / `_valid` / `C04_exhausted`: which
  name `_find_available_nameplate_id` returns for a given set of names in use).  This file proves
  what the `allocate` COMMAND does in a state of a history:

  * `C04_allocate_spec`: for a non-rejected `allocate` (connection bound to (a, σ), has not allocated)
    from any state with the invariants (`PInv` of the channel database, nothing uncommitted -- both
    hold in every reachable state, `GInv`): if `findAvailable (names of app a) pick draws = some n` and
    the generated mailbox id `fresh` is not a mailbox id in the database, then
      - the events of the step are exactly `ack id`, effective commits, `allocated n`, both frames
        sent with nothing uncommitted (flag `true`) -- the `allocated` frame is the LAST event;
      - `n` was not the name of any nameplate row of `a` before (whoever created it, by allocation or
        by explicit claim, numeric or not) and satisfies the pure spec of Props/C04.lean;
      - the channel database is `npClaimNew` of the old one: one new mailbox row, one new nameplate
        row `(a, n)`, one CLAIMED nameplate side row for σ, one opened mailbox side row for σ;
      - and this is ALREADY ON DISK (`disk = db`) when the `allocated` frame is emitted: the frame
        carries the flag `true` (= nothing uncommitted at that instant) and `send` does not write;
      - the connection has `didAllocate = true`, no other connection record changes;
      - nothing depends on `cfg.allowList`: the statement does not mention the configuration at all
        (`C04_allowList_irrelevant`: two states that differ only in their configuration give the same
        database, committed copy, connection records and frames; `C04_config_independent` cites
        `C18_config_independent_step` for the full event list modulo usage commits).
  * `C04_not_reissued`: while the nameplate row `(a, n)` lives no `allocate` in app `a` -- on any
    connection, for any outcome of the random choices -- is answered `allocated n`
    (`C04_no_allocated_frame`: the step emits no `allocated n` frame at all).
  * `C04_exhausted_step` (K-alloc-exhaust): if `findAvailable = none` the events are exactly
    `ack, internal ValueError` and nothing at all changes.
-/
import Wormhole.Props.C04
import Wormhole.Props.C18
import Wormhole.Inv.MbClaim
import Wormhole.Inv.NpSpec
import Wormhole.Inv.NpOut
import Wormhole.Inv.Main
import Wormhole.Inv.WFDec

namespace Wormhole
open Sys C04

/-- what validation has checked when it lets an `allocate` through -/
theorem allocate_accepted {x : Conn} {p : Nat} {d : List Nat} {f : String}
    (hr : rejectText x (.allocate p d f) = none) : (∃ app, x.app = some app) ∧ x.didAllocate = false := by
  obtain ⟨happ, h⟩ := needBind_eq_none hr
  refine ⟨happ, ?_⟩
  cases hd : x.didAllocate <;> simp_all

theorem step_allocate_eq {s : Sys} {c : Nat} {x : Conn} (hx : s.findConn c = some x) {app : String}
    (happ : x.app = some app) (t : Time) (id : Val) (pick : Nat) (draws : List Nat) (fresh : String) :
    s.step (.recv c t id (.allocate pick draws fresh)) =
      (({ s with out := [], snaps := [] } : Sys).send c (.ack id)).handleAllocate x app (x.side.getD "") t
        pick draws fresh := by
  rw [step_recv]
  unfold onMessage
  have : ({ s with out := [], snaps := [] } : Sys).findConn c = some x := hx
  simp only [this, happ]

/-- **C04_not_reissued**: while the nameplate row `(a, n)` lives, `findAvailable` never returns `n`
    for app `a`, so no `allocate` in app `a` -- from any connection, whatever the random choices --
    emits an `allocated n` frame -/
theorem C04_not_reissued {d : Chan} {a n : String} (hrow : ∃ r ∈ d.nameplates, r.app = a ∧ r.name = n)
    (pick : Nat) (draws : List Nat) : findAvailable (d.namesOfApp a) pick draws ≠ some n := by
  intro h
  obtain ⟨_, _, hnc, _⟩ := C04_findAvailable_some h
  exact hnc (mem_namesOfApp.2 hrow)

/-- **C04_allocate_spec** (see the header) -/
theorem C04_allocate_spec {s : Sys} (hP : s.db.PInv) (hS : s.Synced) {c : Nat} {x : Conn}
    (hx : s.findConn c = some x) {a σ : String} (happ : x.app = some a) (hside : x.side = some σ)
    (hna : x.didAllocate = false) (t : Time) (id : Val) (pick : Nat) (draws : List Nat) (fresh : String)
    {n : String} (hfa : findAvailable (s.db.namesOfApp a) pick draws = some n)
    (hfresh : ∀ m ∈ s.db.mailboxes, m.id ≠ fresh) :
    let s' := s.step (.recv c t id (.allocate pick draws fresh))
    (∃ commits, (∀ e ∈ commits, IsCommit e) ∧
      s'.out = .frame c (.ack id) true :: (commits ++ [.frame c (.allocated n) true])) ∧
    (∀ r ∈ s.db.nameplates, r.app = a → r.name ≠ n) ∧
    s'.db = s.db.npClaimNew a n σ fresh t ∧ s'.disk = s'.db ∧ s'.Synced ∧
    (∃ row ∈ s'.disk.nameplates, row.app = a ∧ row.name = n ∧
      ∃ r ∈ s'.disk.npSides, r.npid = row.id ∧ r.side = σ ∧ r.claimed = true) ∧
    s'.conns = s.conns.map (fun y => if y.id = c then { y with didAllocate := true } else y) := by
  intro s'
  have hid : x.id = c := findConn_id hx
  have hsy : s.synced = true := (synced_iff s).2 hS
  have hnot : ∀ r ∈ s.db.nameplates, r.app = a → r.name ≠ n := fun r hr ha hn =>
    C04_not_reissued ⟨r, hr, ha, hn⟩ pick draws hfa
  have hnone : s.db.findNameplate a n = none := by
    simp only [Chan.findNameplate, List.find?_eq_none, decide_eq_true_eq, not_and]
    exact hnot
  have hs' : s' = _ := step_allocate_eq hx happ t id pick draws fresh
  rw [show x.side.getD "" = σ by rw [hside]; rfl] at hs'
  unfold handleAllocate at hs'
  simp only [hna, Bool.false_eq_true, if_false,
    show (({ s with out := [], snaps := [] } : Sys).send c (.ack id)).db = s.db from rfl, hfa] at hs'
  cases e : (({ s with out := [], snaps := [] } : Sys).send c (.ack id)).claimNameplate a n σ t fresh with
  | mk s1 r =>
    rw [e] at hs'
    obtain ⟨hdb1, hconns1, rfl⟩ := Sys.Np.claimNameplate_new (by exact hP) (by exact hnone) (by exact hfresh) e
    obtain ⟨q, _, hd⟩ := claimNameplate_spec e (by exact hP.bounded)
    have hsync1 : s1.Synced := ⟨hd hS.1, by rw [q.udb, q.udisk]; exact hS.2⟩
    obtain ⟨commits, hout, hc⟩ :=
      Sys.Np.OutExt.of_core (P := IsCommit) (fun _ h => h) (CExt.claimNameplate .refl) e
    dsimp only at hs'
    have hdb' : s'.db = s.db.npClaimNew a n σ fresh t := by rw [hs']; exact hdb1
    have hdisk' : s'.disk = s'.db := by rw [hs']; exact hsync1.1.symm
    refine ⟨⟨commits, hc, ?_⟩, hnot, hdb', hdisk', by rw [hs']; exact hsync1, ?_, ?_⟩
    · rw [hs']
      show (s1.updConn x.id _).out ++ [.frame x.id (.allocated n) (s1.updConn x.id _).synced] = _
      rw [(synced_iff _).2 (show (s1.updConn x.id _).Synced from hsync1), updConn_out, hout, hid]
      simp [send, emit]
      exact hsy
    · rw [hdisk', hdb']
      exact ⟨⟨s.db.nextNp, a, n, fresh⟩, by simp [Chan.npClaimNew], rfl, rfl,
        ⟨s.db.nextNp, true, σ, t⟩, by simp [Chan.npClaimNew], rfl, rfl, rfl⟩
    · rw [hs']
      show (s1.updConn x.id _).conns = _
      simp only [updConn, hconns1, hid]
      rfl

/-- nothing in `C04_allocate_spec` depends on the configuration: two states with the same databases
    and connection records (whatever `allowList`, `usage`, `blur`) give the same database, committed
    copy, connection records and the same two frames -/
theorem C04_allowList_irrelevant {s s₂ : Sys} (hP : s.db.PInv) (hS : s.Synced) (hS₂ : s₂.Synced)
    (hdb : s₂.db = s.db) (hconns : s₂.conns = s.conns) {c : Nat} {x : Conn}
    (hx : s.findConn c = some x) {a σ : String} (happ : x.app = some a) (hside : x.side = some σ)
    (hna : x.didAllocate = false) (t : Time) (id : Val) (pick : Nat) (draws : List Nat) (fresh : String)
    {n : String} (hfa : findAvailable (s.db.namesOfApp a) pick draws = some n)
    (hfresh : ∀ m ∈ s.db.mailboxes, m.id ≠ fresh) :
    (s₂.step (.recv c t id (.allocate pick draws fresh))).db = (s.step (.recv c t id (.allocate pick draws fresh))).db ∧
    (s₂.step (.recv c t id (.allocate pick draws fresh))).disk = (s.step (.recv c t id (.allocate pick draws fresh))).disk ∧
    (s₂.step (.recv c t id (.allocate pick draws fresh))).conns = (s.step (.recv c t id (.allocate pick draws fresh))).conns ∧
    (s₂.step (.recv c t id (.allocate pick draws fresh))).frames = (s.step (.recv c t id (.allocate pick draws fresh))).frames := by
  have hx₂ : s₂.findConn c = some x := by unfold Sys.findConn; rw [hconns]; exact hx
  obtain ⟨⟨cm1, hc1, o1⟩, _, d1, k1, _, _, c1⟩ :=
    C04_allocate_spec hP hS hx happ hside hna t id pick draws fresh hfa hfresh
  obtain ⟨⟨cm2, hc2, o2⟩, _, d2, k2, _, _, c2⟩ :=
    C04_allocate_spec (s := s₂) (by rw [hdb]; exact hP) hS₂ hx₂ happ hside hna t id pick draws fresh
      (by rw [hdb]; exact hfa) (by rw [hdb]; exact hfresh)
  have hfr : ∀ cm : List Event, (∀ e ∈ cm, IsCommit e) → cm.filter Event.isFrame = [] := by
    intro cm h
    rw [List.filter_eq_nil_iff]
    intro e he
    obtain ⟨w, rfl⟩ := h e he
    simp [Event.isFrame]
  refine ⟨by rw [d2, d1, hdb], by rw [k2, k1, d2, d1, hdb], by rw [c2, c1, hconns], ?_⟩
  unfold Sys.frames
  rw [o1, o2]
  simp [List.filter_cons, List.filter_append, Event.isFrame, hfr cm1 hc1, hfr cm2 hc2]

/-- the same, by citation of C18: for ANY two configurations the whole event list of the step agrees
    modulo usage commits, and the channel state agrees -/
theorem C04_config_independent {s₁ s₂ : Sys} (h : CfgSim s₁ s₂) (c : Nat) (t : Time) (id : Val) (pick : Nat)
    (draws : List Nat) (fresh : String) :
    CfgSim (s₁.step (.recv c t id (.allocate pick draws fresh))) (s₂.step (.recv c t id (.allocate pick draws fresh))) ∧
    (s₁.step (.recv c t id (.allocate pick draws fresh))).out.filterMap eraseCfg =
      (s₂.step (.recv c t id (.allocate pick draws fresh))).out.filterMap eraseCfg :=
  C18_config_independent_step h _ rfl

/-- every `allocated` frame an `allocate` step emits carries the name
    `findAvailable` returned for the names in use before the step -/
theorem C04_allocated_frame_source {s : Sys} {c : Nat} {x : Conn} (hx : s.findConn c = some x) {a : String}
    (happ : x.app = some a) (t : Time) (id : Val) (pick : Nat) (draws : List Nat) (fresh : String)
    {c' : Nat} {n' : String} {b : Bool}
    (hmem : Event.frame c' (.allocated n') b ∈ (s.step (.recv c t id (.allocate pick draws fresh))).out) :
    findAvailable (s.db.namesOfApp a) pick draws = some n' := by
  rw [step_allocate_eq hx happ t id pick draws fresh] at hmem
  unfold handleAllocate at hmem
  split at hmem
  · simp [sendError, send, emit] at hmem
  · split at hmem
    · simp [internalErr, send, emit] at hmem
    · rename_i name hname
      split at hmem
      all_goals
        rename_i e1
        obtain ⟨commits, hout, hc⟩ :=
          Sys.Np.OutExt.of_core (P := IsCommit) (fun _ h => h) (CExt.claimNameplate .refl) e1
        have hnotc : ∀ e ∈ commits, e ≠ Event.frame c' (.allocated n') b := by
          intro e he h; obtain ⟨w, hw⟩ := hc e he; rw [hw] at h; cases h
        simp only [internalErr, send, emit, updConn_out, hout, List.mem_append, List.mem_cons, List.not_mem_nil,
          or_false] at hmem
        rcases hmem with ((h | h) | h) | h
        · cases h
        · cases h
        · exact absurd rfl (hnotc _ h)
      · cases h; exact hname
      all_goals cases h

theorem C04_no_allocated_frame {s : Sys} {a n : String} (hrow : ∃ r ∈ s.db.nameplates, r.app = a ∧ r.name = n)
    {c : Nat} {x : Conn} (hx : s.findConn c = some x) (happ : x.app = some a) (t : Time) (id : Val) (pick : Nat)
    (draws : List Nat) (fresh : String) (c' : Nat) (b : Bool) :
    Event.frame c' (.allocated n) b ∉ (s.step (.recv c t id (.allocate pick draws fresh))).out :=
  fun hmem => C04_not_reissued hrow pick draws (C04_allocated_frame_source hx happ t id pick draws fresh hmem)

/-- **C04_exhausted_step** (K-alloc-exhaust): `ValueError` escapes, nothing changes -/
theorem C04_exhausted_step {s : Sys} (hS : s.Synced) {c : Nat} {x : Conn} (hx : s.findConn c = some x) {a : String}
    (happ : x.app = some a) (hna : x.didAllocate = false) (t : Time) (id : Val) (pick : Nat) (draws : List Nat)
    (fresh : String) (hfa : findAvailable (s.db.namesOfApp a) pick draws = none) :
    (s.step (.recv c t id (.allocate pick draws fresh))).out =
      [.frame c (.ack id) true, .internal (some c) "ValueError"] ∧
    Unchanged s (s.step (.recv c t id (.allocate pick draws fresh))) := by
  have hid : x.id = c := findConn_id hx
  have hsy : s.synced = true := (synced_iff s).2 hS
  rw [step_allocate_eq hx happ t id pick draws fresh]
  unfold handleAllocate
  simp only [hna, Bool.false_eq_true, if_false]
  have : (({ s with out := [], snaps := [] } : Sys).send c (.ack id)).db = s.db := rfl
  rw [this, hfa]
  refine ⟨?_, ⟨rfl, rfl, rfl, rfl, rfl, rfl, rfl⟩, rfl⟩
  show [Event.frame c (.ack id) s.synced] ++ [Event.internal (some x.id) "ValueError"] = _
  rw [hsy, hid]; rfl

/-- `C04_allocate_spec` in every state of every well-formed history (crashes included) -/
theorem C04_allocate_spec_reach {g : GSys} (hg : g.Reach) {c : Nat} {x : Conn}
    (hx : g.sys.findConn c = some x) {a σ : String} (happ : x.app = some a) (hside : x.side = some σ)
    (hna : x.didAllocate = false) (t : Time) (id : Val) (pick : Nat) (draws : List Nat) (fresh : String)
    (hw : g.WFOp (.recv c t id (.allocate pick draws fresh)))
    {n : String} (hfa : findAvailable (g.sys.db.namesOfApp a) pick draws = some n) :
    let s' := g.sys.step (.recv c t id (.allocate pick draws fresh))
    (∃ commits, (∀ e ∈ commits, IsCommit e) ∧
      s'.out = .frame c (.ack id) true :: (commits ++ [.frame c (.allocated n) true])) ∧
    (∀ r ∈ g.sys.db.nameplates, r.app = a → r.name ≠ n) ∧
    s'.db = g.sys.db.npClaimNew a n σ fresh t ∧ s'.disk = s'.db ∧ s'.Synced ∧
    (∃ row ∈ s'.disk.nameplates, row.app = a ∧ row.name = n ∧
      ∃ r ∈ s'.disk.npSides, r.npid = row.id ∧ r.side = σ ∧ r.claimed = true) ∧
    s'.conns = g.sys.conns.map (fun y => if y.id = c then { y with didAllocate := true } else y) := by
  have hI := hg.ginv
  refine C04_allocate_spec hI.cinv.toPInv hI.synced hx happ hside hna t id pick draws fresh hfa ?_
  intro m hm e
  exact hw.idFresh fresh rfl (e ▸ hI.used m hm)

/-! ### Non-vacuity -/

namespace C04bExample

def bind (c : Nat) (t : Time) (σ : String) : Op := .recv c t (.int 1) (.bind (some "app") (some σ) none none)
/-- names "1" (allocated earlier) and "3" (explicit claim) are in use; listing is DISALLOWED -/
def H : List Op :=
  [ .connect 1, bind 1 10 "s1", .recv 1 11 (.int 2) (.allocate 0 [] "mb1"),
    .connect 2, bind 2 12 "s2", .recv 2 13 (.int 2) (.claim (some "3") "mb2"),
    .connect 3, bind 3 14 "s3" ]
def g : GSys := (GSys.init { allowList := false } 0).run H
theorem g_reach : g.Reach := GSys.reach_of_wfB _ _ _ (by decide +kernel)
def x3 : Conn := { id := 3, app := some "app", side := some "s3" }
def op : Op := .recv 3 15 (.int 2) (.allocate 1 [] "mb3")

/-- the hypotheses of `C04_allocate_spec_reach` hold: names in use {"1","3"}, `pick = 1` among the free
    one-digit values 2,4,5,… gives "4" -/
example : g.sys.findConn 3 = some x3 ∧ g.WFOp op ∧ g.sys.db.namesOfApp "app" = ["1", "3"] ∧
    findAvailable (g.sys.db.namesOfApp "app") 1 [] = some "4" :=
  ⟨by decide +kernel, GSys.wfOpB_sound (by decide +kernel), by decide +kernel, by decide +kernel⟩
/-- evaluated: the step answers `allocated "4"` after two commits and the claim is on disk -/
example : (g.sys.step op).out =
    [.frame 3 (.ack (.int 2)) true, .commit .chan, .commit .chan, .frame 3 (.allocated "4") true] ∧
    (g.sys.step op).disk.nameplates.map (fun r => (r.app, r.name)) = [("app", "1"), ("app", "3"), ("app", "4")] := by
  decide +kernel
/-- while ("app","4") lives nobody else is given "4" -/
example : findAvailable ((g.sys.step op).db.namesOfApp "app") 1 [] = some "5" := by decide +kernel

end C04bExample
end Wormhole

#print axioms Wormhole.C04_allocate_spec
#print axioms Wormhole.C04_allocate_spec_reach
#print axioms Wormhole.C04_allowList_irrelevant
#print axioms Wormhole.C04_config_independent
#print axioms Wormhole.C04_allocated_frame_source
#print axioms Wormhole.C04_not_reissued
#print axioms Wormhole.C04_no_allocated_frame
#print axioms Wormhole.C04_exhausted_step
