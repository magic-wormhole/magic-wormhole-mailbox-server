/-
  C20 — schema upgrade keeps every usage record and can be retried.

  Theorems about the step model of `database.py` (`Wormhole/DbFile.lean`) and about the
  generated upgrade script.  `C20_schema_equal` and `C20_rows_kept` are statements about
  `Generated.sql_upgrade_usage_to_v2` / `sql_usage_v1` / `sql_usage_v2` and are proved by
  evaluation, i.e. re-proved against the SQL files of the current tree whenever they change.
  `C20_backup`, `C20_retry` hold for EVERY payload of the version-1 database, every directory
  around it and every crash point.
-/
import Wormhole.Props.C19

namespace Wormhole.DbFile

/-! ## Scripts whose data statements touch only `version` -/

def withPayload (v : Db) (pay : List (String × List Row)) : Db := { v with payload := pay }

/-- a CREATE, or a DELETE/INSERT on `version`, neither reads nor writes the payload -/
theorem applyStmt_withPayload {s : Stmt}
    (hs : isCreate s = true ∨ ((kind s = "deleteall" ∨ kind s = "insert") ∧ obj s = "version"))
    (v : Db) (pay : List (String × List Row)) :
    applyStmt s (withPayload v pay) =
      match applyStmt s v with
      | .ok v1 => .ok (withPayload v1 pay)
      | .error e => .error e := by
  unfold applyStmt
  have ho : ∀ n, hasObj (withPayload v pay) n = hasObj v n := fun _ => rfl
  have ht : ∀ n, hasTable (withPayload v pay) n = hasTable v n := fun _ => rfl
  by_cases hc : isCreate s = true
  · simp only [hc, if_true, ho]
    split <;> rfl
  · rcases hs with hs | ⟨_, hv⟩
    · exact absurd hs hc
    · simp only [hc, Bool.false_eq_true, if_false, ht, hv, if_true]
      by_cases hk : kind s = "deleteall"
      · simp only [hk, if_true]
        split <;> rfl
      · simp only [hk, if_false]
        by_cases hi : kind s = "insert"
        · simp only [hi, if_true]
          split
          · cases parseNat (txt s) <;> rfl
          · rfl
        · simp only [hi, if_false]

theorem runScript_withPayload : ∀ (up : List Stmt), dmlOnlyVersion up = true →
    ∀ (v vfin : Db) (pay : List (String × List Row)), runScript up v = .ok vfin →
      runScript up (withPayload v pay) = .ok (withPayload vfin pay)
  | [], _, v, vfin, pay, h => by
    simp only [runScript] at h ⊢
    cases h; rfl
  | s :: r, hd, v, vfin, pay, h => by
    obtain ⟨hs, hr⟩ : (isCreate s = true ∨ ((kind s = "deleteall" ∨ kind s = "insert") ∧
        obj s = "version")) ∧ dmlOnlyVersion r = true := by
      simpa [dmlOnlyVersion] using hd
    obtain ⟨v1, ha, hr1⟩ := runScript_cons_ok h
    simp only [runScript, applyStmt_withPayload hs, ha]
    exact runScript_withPayload r hr v1 vfin pay hr1

/-- every record intact: a script of this shape returns the payload it was given -/
theorem runScript_payload (up : List Stmt) (hd : dmlOnlyVersion up = true) (v vfin : Db)
    (h : runScript up v = .ok vfin) : vfin.payload = v.payload := by
  have h1 := runScript_withPayload up hd v vfin v.payload h
  rw [show withPayload v v.payload = v from rfl, h] at h1
  exact (congrArg Db.payload (Except.ok.inj h1) :)

/-- For literal lists the hypothesis holds by `rfl`: only kinds and names are compared as strings,
    the SQL texts as literals.  (Deciding `o ∈ b` compares the texts byte by byte through
    `String.decEq`, which is slow to check.) -/
theorem mem_of_find?_eq {a b : List Stmt}
    (h : a.map (fun o => b.find? fun o' => kind o' = kind o ∧ obj o' = obj o) = a.map some) :
    ∀ o, o ∈ a → o ∈ b :=
  fun o ho => List.mem_of_find?_eq_some (List.map_inj_left.mp h o ho)

/-! ## The generated usage scripts -/

/-- a version-1 usage database with arbitrary records -/
def usageV1 (pay : List (String × List Row)) : Db :=
  { objects := Generated.sql_usage_v1, version := [.int 1], payload := pay, fkBad := false }

/-- what the upgrade makes of it -/
def usageUpgraded (pay : List (String × List Row)) : Db :=
  { objects := Generated.sql_usage_v1 ++ Generated.sql_upgrade_usage_to_v2.filter isCreate,
    version := [.int usageCfg.target], payload := pay, fkBad := false }

theorem upgrade_eval :
    runScript Generated.sql_upgrade_usage_to_v2 (usageV1 []) = .ok (usageUpgraded []) := by rfl

theorem upgrade_objs (pay : List (String × List Row)) :
    ∀ o, o ∈ (usageUpgraded pay).objects ↔ o ∈ Generated.sql_usage_v2 :=
  fun o => ⟨mem_of_find?_eq (by rfl) o, mem_of_find?_eq (by rfl) o⟩

theorem upgrade_dml : dmlOnlyVersion Generated.sql_upgrade_usage_to_v2 = true := by rfl

/-- how `usageCfg` (built from `Generated.scripts` and `Generated.usageTarget`) resolves -/
theorem usageCfg_facts :
    usageCfg.upgrader (1 + 1) = some Generated.sql_upgrade_usage_to_v2 ∧
    (1 : Int) + 1 = (usageCfg.target : Int) ∧
    usageCfg.schema = some Generated.sql_usage_v2 := ⟨rfl, rfl, rfl⟩

theorem upgrade_run_script (pay : List (String × List Row)) :
    runScript Generated.sql_upgrade_usage_to_v2 (usageV1 pay) = .ok (usageUpgraded pay) :=
  runScript_withPayload _ upgrade_dml (usageV1 []) (usageUpgraded []) pay upgrade_eval

/-- **C20_schema_equal.**  Applying the generated upgrade script to a database holding exactly
    the objects of the generated `usage-v1.sql` (and `version` = [1]) succeeds and gives exactly
    the object set of the generated `usage-v2.sql` — the schema `create_usage_db` gives a fresh
    database (`usageCfg.schema`) — with `version` rows = [2], for every payload. -/
theorem C20_schema_equal (pay : List (String × List Row)) :
    ∃ v2, runScript Generated.sql_upgrade_usage_to_v2 (usageV1 pay) = .ok v2 ∧
      (∀ o, o ∈ v2.objects ↔ o ∈ Generated.sql_usage_v2) ∧
      usageCfg.schema = some Generated.sql_usage_v2 ∧
      v2.version = [.int 2] := by
  exact ⟨usageUpgraded pay, upgrade_run_script pay, upgrade_objs pay,
    usageCfg_facts.2.2, rfl⟩

/-- **C20_rows_kept.**  No statement of the generated upgrade script touches a payload table:
    every statement is a CREATE (of an object that is new — else `C20_schema_equal`'s run would
    fail —) or a DELETE/INSERT on `version`; consequently, for ANY database content the script
    runs on, the payload rows (every usage record) come out exactly as they went in. -/
theorem C20_rows_kept :
    (∀ s, s ∈ Generated.sql_upgrade_usage_to_v2 →
      isCreate s = true ∨ ((kind s = "deleteall" ∨ kind s = "insert") ∧ obj s = "version")) ∧
    (∀ s, s ∈ Generated.sql_upgrade_usage_to_v2 → isCreate s = true →
      ∀ o, o ∈ Generated.sql_usage_v1 → ¬ obj o = obj s) ∧
    (∀ v v' : Db, runScript Generated.sql_upgrade_usage_to_v2 v = .ok v' →
      v'.payload = v.payload) := by
  refine ⟨?_, ?_, fun v v' h => runScript_payload _ upgrade_dml v v' h⟩
  · have h := upgrade_dml
    simp only [dmlOnlyVersion, List.all_eq_true] at h
    intro s hs
    simpa using h s hs
  · have h : (Generated.sql_upgrade_usage_to_v2.all fun s =>
        !isCreate s || Generated.sql_usage_v1.all fun o => !decide (obj o = obj s)) = true := rfl
    simp only [List.all_eq_true, Bool.or_eq_true, Bool.not_eq_true', decide_eq_false_iff_not] at h
    intro s hs hc o ho
    rcases h s hs with h1 | h1
    · rw [hc] at h1; cases h1
    · exact h1 o ho

/-! ## The upgrade procedure (generic configuration) -/

section upgrade
variable {cx : Ctx} {d : Dir} {v v' : Db} {i : Int} {up : List Stmt}

/-- the directory after a completed upgrade of `d`: the old database in the backup file, the
    new one at `dbfile` -/
abbrev upFinal (cx : Ctx) (v v' : Db) (i : Int) (d : Dir) : Dir :=
  (d.set (backupPath cx.dbfile i) (.db v)).set cx.dbfile (.db v')

theorem upFinal_get_backup : (upFinal cx v v' i d).get (backupPath cx.dbfile i) = some (.db v) := by
  rw [upFinal, Dir.get_set_ne _ _ (fun h => backupPath_ne _ _ h.symm), Dir.get_set_self]

theorem upFinal_get_ne {p : Path} (h1 : ¬ p = cx.dbfile) (h2 : ¬ p = backupPath cx.dbfile i) :
    (upFinal cx v v' i d).get p = d.get p := by
  rw [upFinal, Dir.get_set_ne _ _ (fun h => h1 h.symm), Dir.get_set_ne _ _ (fun h => h2 h.symm)]

attribute [local simp] ends_step ends_halted exec M.curDb M.writeDb M.doCommit M.fail Dir.has in
/-- a complete upgrade run of `_get_db` on a database one version behind the target -/
theorem upgrade_run {P : Dir → Prop} {rest : List VerVal}
    (hd : d.get cx.dbfile = some (.db v)) (ht : hasTable v "version" = true)
    (hv : v.version = .int i :: rest) (hfk : v.fkBad = false)
    (hi : i + 1 = (cx.cfg.target : Int)) (hu : cx.cfg.upgrader (i + 1) = some up)
    (hs : runScript up v = .ok v')
    (hP0 : P d) (hP1 : ∀ x, P (d.set (backupPath cx.dbfile i) x)) (hP2 : P (upFinal cx v v' i d)) :
    Ends cx P (start .getDb d) .ok (upFinal cx v v' i d) := by
  have hlt : i < (cx.cfg.target : Int) := by omega
  have hgd := fun x => Dir.get_set_ne d x (backupPath_ne cx.dbfile i)
  -- COMMIT, db.commit(), version+1, loop test, final test
  have h3 : Ends cx P ⟨d.set (backupPath cx.dbfile i) (.db v), some ⟨cx.dbfile, some v'⟩,
      some (.int i), [.commit, .pyCommit, .bump, .loopHead], .running⟩ .ok (upFinal cx v v' i d) := by
    simp [hi, hP1, hP2]
  refine getDb_existing hd hP0 <| open_ok hd rfl hfk hP0 ?_
  -- read the version, copy in three stages, loop test, look the upgrader up, BEGIN; then the
  -- statements of the script inside the transaction
  simpa [getDbTail, copySteps, upgradeTurn, hd, ht, hv, hlt, hu, hgd, hP0, hP1] using
    loop_tx (hP1 (.db v)) up v v' hs h3

/-- what holds at every point of an upgrade started on directory `d`: the database file is
    still the old one, or it is the new one and the backup holds the old one; nothing else
    but the backup file is touched -/
def UpOk (cx : Ctx) (v v' : Db) (i : Int) (d x : Dir) : Prop :=
  (x.get cx.dbfile = some (.db v) ∨
    (x.get cx.dbfile = some (.db v') ∧ x.get (backupPath cx.dbfile i) = some (.db v))) ∧
  ∀ p, ¬ p = cx.dbfile → ¬ p = backupPath cx.dbfile i → x.get p = d.get p

/-- **retry, generic.**  For every crash point `k` of the upgrade, the directory left behind
    satisfies `UpOk`, and a later normal start succeeds with the upgraded database at `dbfile`,
    the old database in the backup file and every other file as it was. -/
theorem upgrade_retry_generic {rest rest' : List VerVal}
    (hd : d.get cx.dbfile = some (.db v)) (ht : hasTable v "version" = true)
    (hv : v.version = .int i :: rest) (hfk : v.fkBad = false)
    (hi : i + 1 = (cx.cfg.target : Int)) (hu : cx.cfg.upgrader (i + 1) = some up)
    (hs : runScript up v = .ok v')
    (ht' : hasTable v' "version" = true) (hv' : v'.version = .int cx.cfg.target :: rest')
    (hfk' : v'.fkBad = false) (k : Nat) :
    let dk := (runN cx k (start .getDb d)).dir
    UpOk cx v v' i d dk ∧
    ∀ tmp2, ∃ dfin, HaltsWith { cx with tmp := tmp2 } (start .getDb dk) .ok dfin ∧
      dfin.get cx.dbfile = some (.db v') ∧
      dfin.get (backupPath cx.dbfile i) = some (.db v) ∧
      ∀ p, ¬ p = cx.dbfile → ¬ p = backupPath cx.dbfile i → dfin.get p = d.get p := by
  intro dk
  have a0 : UpOk cx v v' i d d := ⟨Or.inl hd, fun _ _ _ => rfl⟩
  have a1 : ∀ x, UpOk cx v v' i d (d.set (backupPath cx.dbfile i) x) := fun x =>
    ⟨Or.inl (by rw [Dir.get_set_ne _ _ (backupPath_ne _ _), hd]),
      fun p _ h2 => Dir.get_set_ne _ _ (fun h => h2 h.symm)⟩
  have a2 : UpOk cx v v' i d (upFinal cx v v' i d) :=
    ⟨Or.inr ⟨Dir.get_set_self .., upFinal_get_backup⟩, fun p => upFinal_get_ne⟩
  have hk : UpOk cx v v' i d dk := (upgrade_run hd ht hv hfk hi hu hs a0 a1 a2).1 k
  refine ⟨hk, fun tmp2 => ?_⟩
  rcases hk.1 with hold | ⟨hnew, hbk⟩
  · -- still the old database: the restart runs the whole upgrade again (new backup included)
    exact ⟨_, (upgrade_run (cx := { cx with tmp := tmp2 }) (P := fun _ => True) hold ht hv hfk hi hu
      hs trivial (fun _ => trivial) trivial).2, Dir.get_set_self .., upFinal_get_backup,
      fun p h1 h2 => (upFinal_get_ne h1 h2).trans (hk.2 p h1 h2)⟩
  · -- already committed: the restart opens the new database and writes nothing
    exact ⟨dk, (keep_getDb (cx := { cx with tmp := tmp2 }) (P := fun _ => True) hnew rfl hfk' ht' hv'
      trivial).2, hnew, hbk, hk.2⟩

end upgrade

/-! ## C20 for the usage database -/

/-- **C20_backup.**  `create_or_upgrade_usage_db` on a version-1 usage database with ANY
    records, in any directory (an older backup file of any content may already be there):
    the run succeeds, and afterwards `<dbfile>-backup-v1` holds exactly the content `dbfile`
    had before, `dbfile` holds the upgraded database with the same records, and no other file
    has changed. -/
theorem C20_backup (cx : Ctx) (hcfg : cx.cfg = usageCfg) (pay : List (String × List Row))
    (d : Dir) (hd : d.get cx.dbfile = some (.db (usageV1 pay))) :
    ∃ dfin, HaltsWith cx (start .getDb d) .ok dfin ∧
      dfin.get (backupPath cx.dbfile 1) = d.get cx.dbfile ∧
      dfin.get cx.dbfile = some (.db (usageUpgraded pay)) ∧
      (usageUpgraded pay).payload = (usageV1 pay).payload ∧
      ∀ p, ¬ p = cx.dbfile → ¬ p = backupPath cx.dbfile 1 → dfin.get p = d.get p := by
  obtain ⟨hu, hi, _⟩ := usageCfg_facts
  exact ⟨_, (upgrade_run (P := fun _ => True) hd rfl rfl rfl (by rw [hcfg]; exact hi)
    (by rw [hcfg]; exact hu) (upgrade_run_script pay) trivial (fun _ => trivial) trivial).2,
    upFinal_get_backup.trans hd.symm, Dir.get_set_self .., rfl, fun p => upFinal_get_ne⟩

/-- **C20_retry.**  For EVERY crash point `k` of the upgrade of a version-1 usage database
    with ANY records (from opening the old file through the copy in three stages, BEGIN, each
    upgrade statement, COMMIT, to the return):
    * the directory the crash leaves has either the old database at `dbfile`, byte for byte
      (an uncommitted transaction leaves no trace), or the upgraded one together with the
      complete backup; no record is lost in either;
    * a later normal start succeeds and leaves the upgraded database — objects = those of a
      fresh `usage-v2` database, `version` = [2], payload identical to the original — at
      `dbfile`, the original database in `<dbfile>-backup-v1`, and all other files unchanged.
    (This is where the BEGIN/COMMIT wrapping is used: `loop_tx` keeps the directory constant
    while the statements run.) -/
theorem C20_retry (cx : Ctx) (hcfg : cx.cfg = usageCfg) (pay : List (String × List Row))
    (d : Dir) (hd : d.get cx.dbfile = some (.db (usageV1 pay))) (k : Nat) :
    let dk := (runN cx k (start .getDb d)).dir
    (dk.get cx.dbfile = some (.db (usageV1 pay)) ∨
      (dk.get cx.dbfile = some (.db (usageUpgraded pay)) ∧
        dk.get (backupPath cx.dbfile 1) = some (.db (usageV1 pay)))) ∧
    ∀ tmp2, ∃ dfin, HaltsWith { cx with tmp := tmp2 } (start .getDb dk) .ok dfin ∧
      dfin.get cx.dbfile = some (.db (usageUpgraded pay)) ∧
      (usageUpgraded pay).payload = pay ∧
      (∀ o, o ∈ (usageUpgraded pay).objects ↔ o ∈ Generated.sql_usage_v2) ∧
      (usageUpgraded pay).version = [.int 2] ∧
      dfin.get (backupPath cx.dbfile 1) = some (.db (usageV1 pay)) ∧
      ∀ p, ¬ p = cx.dbfile → ¬ p = backupPath cx.dbfile 1 → dfin.get p = d.get p := by
  intro dk
  obtain ⟨hu, hi, _⟩ := usageCfg_facts
  have hv' : (usageUpgraded pay).version = .int cx.cfg.target :: [] := by rw [hcfg]; rfl
  obtain ⟨hk, hre⟩ := upgrade_retry_generic (rest' := []) hd rfl rfl rfl
    (by rw [hcfg]; exact hi) (by rw [hcfg]; exact hu) (upgrade_run_script pay)
    rfl hv' rfl k
  refine ⟨hk.1, fun tmp2 => ?_⟩
  obtain ⟨dfin, hh, hdb, hbk, hoth⟩ := hre tmp2
  exact ⟨dfin, hh, hdb, rfl, upgrade_objs pay, rfl, hbk, hoth⟩

/-! ## Non-vacuity -/

def exUsageRows : List (String × List Row) :=
  [("nameplates", ["n1", "n2", "n3"]), ("mailboxes", ["m1"]), ("current", ["c1", "c2"])]

def exUCx : Ctx := { cfg := usageCfg, dbfile := "usage.sqlite", tmp := "usage.sqlite.q0q0q0q0" }
def exUDir : Dir :=
  ⟨[("usage.sqlite", .db (usageV1 exUsageRows)), ("usage.sqlite-backup-v1", .junk [9, 9])]⟩

/-- the hypotheses of `C20_backup` / `C20_retry` hold for a concrete directory (with a stale
    backup file already present) -/
example : exUCx.cfg = usageCfg ∧ exUDir.get exUCx.dbfile = some (.db (usageV1 exUsageRows)) :=
  ⟨rfl, rfl⟩

/-- a crash inside the transaction (after 15 steps: three upgrade statements executed) leaves
    the old database and a complete backup; the run is still going on at that point; a
    restart from that directory ends with the upgraded database and the same records -/
example :
    (runN exUCx 15 (start .getDb exUDir)).status = .running ∧
    (runN exUCx 15 (start .getDb exUDir)).dir.get "usage.sqlite" =
      some (.db (usageV1 exUsageRows)) ∧
    (runN exUCx 15 (start .getDb exUDir)).dir.get "usage.sqlite-backup-v1" =
      some (.db (usageV1 exUsageRows)) ∧
    (runN exUCx 8 (start .getDb exUDir)).dir.get "usage.sqlite-backup-v1" =
      some (.trunc (usageV1 exUsageRows)) ∧
    (runN exUCx 100 (start .getDb (runN exUCx 15 (start .getDb exUDir)).dir)).status = .ok ∧
    (runN exUCx 100 (start .getDb (runN exUCx 15 (start .getDb exUDir)).dir)).dir.get
      "usage.sqlite" = some (.db (usageUpgraded exUsageRows)) := by
  -- the restarted run has halted by step 40; `rfl` cannot unfold 100 steps within the default
  -- recursion depth
  rw [runN_ge (n := 40) (k := 100) (by decide +kernel) (by decide)]
  exact ⟨rfl, rfl, rfl, rfl, rfl, rfl⟩

end Wormhole.DbFile

#print axioms Wormhole.DbFile.C20_schema_equal
#print axioms Wormhole.DbFile.C20_rows_kept
#print axioms Wormhole.DbFile.C20_backup
#print axioms Wormhole.DbFile.C20_retry
