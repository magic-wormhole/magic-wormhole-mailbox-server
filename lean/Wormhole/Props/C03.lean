/-
  C03 -- "A nameplate leads all its claimants to one stable, unshared mailbox".

  GHOST.  The *incarnation* of a nameplate `(app, name)` is the value of `nameplates.id` of its row.
  This is a faithful ghost: the column is `INTEGER PRIMARY KEY AUTOINCREMENT`, so SQLite never
  hands the same value out twice; the model's `Chan.nextNp` is that counter, and we PROVE
  (`C03_id_never_reused`) that a row with a given id, once gone, never comes back, and that a
  newly created row gets an id larger than every id seen before (`C03_new_row`).  No table
  other than `nameplates` is consulted to define it.
  The *claimed answers* of a step (`claimedAnswers`) are read off its output: the frames
  `claimed m` sent to the connection whose `claim` of `name` the step processes, tagged with
  that connection's app.

  Step-level theorems are for ALL states with `Synced ∧ CInv` (weaker than reachable);
  history-level theorems take `hreach : ∀ g, g.Reach → g.GInv` (Props/Final.lean instantiates it
  with `GSys.Reach.ginv`).
-/
import Wormhole.Inv.NpFacts
import Wormhole.Inv.NpOut
import Wormhole.Inv.Main
import Wormhole.Inv.WFDec
import Wormhole.Props.C17

namespace Wormhole
open Sys Sys.Np

theorem Op.inner_of_not_crash {op : Op} (h : op.isCrash = false) : op.inner = op := by
  cases op with
  | crashIn => cases h
  | _ => rfl

theorem step_out_sub (s : Sys) (op : Op) {e : Event} (h : e ∈ (s.step op).out) :
    e ∈ (s.step op.inner).out := by
  cases op with
  | crashIn k op' =>
    have hsub := Sys.step_crash_out_subset s k op' h
    cases op' with
    | crashIn k' op'' => cases hsub
    | _ => exact hsub
  | _ => exact h

theorem npLbl_inner (s : Sys) (op : Op) : s.npLbl op.inner = s.npLbl op := by
  induction op with
  | crashIn k op ih => exact ih
  | _ => rfl

theorem Op.mailboxIds_inner (op : Op) : op.inner.mailboxIds = op.mailboxIds := by
  induction op with
  | crashIn k op ih => exact ih
  | _ => rfl

namespace GSys

theorem run_cons (g : GSys) (op : Op) (rest : List Op) : g.run (op :: rest) = (g.step op).run rest := rfl

end GSys

theorem claimed_not_in_core {s s1 : Sys} {a n σ t fresh r} (h : s.claimNameplate a n σ t fresh = (s1, r))
    {c : Nat} {m : String} {b : Bool} (hm : Event.frame c (.claimed m) b ∈ s1.out) :
    Event.frame c (.claimed m) b ∈ s.out := by
  obtain ⟨l, e, hl⟩ := OutExt.of_core (P := IsCommit) (fun _ h => h) (CExt.claimNameplate .refl) h
  rw [e, List.mem_append] at hm
  rcases hm with hm | hm
  · exact hm
  · obtain ⟨w, hw⟩ := hl _ hm
    cases hw

/-- **the answer `claimed m` of a `claim` step**: `claim_nameplate` returned `ok m` -/
theorem claim_step_ok {s : Sys} {c : Nat} {x : Conn} {a : String} {t : Time} {id : Val} {n fresh m : String}
    {b : Bool} (hx : s.findConn c = some x) (ha : x.app = some a)
    (hout : Event.frame c (.claimed m) b ∈ (s.step (.recv c t id (.claim (some n) fresh))).out) :
    x.didClaim = false ∧
    ∃ s1, (((({ s with out := [], snaps := [] } : Sys).send c (.ack id)).updConn c
          (fun y => { y with didClaim := true, nameplateId := some n })).claimNameplate a n (x.side.getD "") t fresh)
        = (s1, .ok m) ∧
      s.step (.recv c t id (.claim (some n) fresh)) = s1.send c (.claimed m) := by
  cases hd : x.didClaim with
  | true =>
    exfalso
    have hr : Rejected x (.claim (some n) fresh) "only one claim per connection" :=
      .secondClaim _ _ (by simp [ha]) hd
    rw [(C17_validation_error t id hx hr).1] at hout
    simp at hout
  | false =>
    refine ⟨rfl, ?_⟩
    rw [step_claim t id n fresh hx ha hd] at hout ⊢
    generalize hE : (((({ s with out := [], snaps := [] } : Sys).send c (.ack id)).updConn c
          (fun y => { y with didClaim := true, nameplateId := some n })).claimNameplate a n (x.side.getD "") t fresh) = p
      at hout ⊢
    obtain ⟨s1, r⟩ := p
    -- the frame is the last event: `claim_nameplate` itself emits commits only
    have hlast : ∀ ev, Event.frame c (.claimed m) b ∈ (s1.emit ev).out → ev = .frame c (.claimed m) b := by
      intro ev h
      rcases List.mem_append.1 h with h | h
      · have := claimed_not_in_core hE h
        simp [Sys.send, Sys.emit, Sys.updConn] at this
      · exact (List.mem_singleton.1 h).symm
    cases r with
    | ok mb =>
      cases hlast _ hout
      exact ⟨s1, rfl, rfl⟩
    | crowded => cases hlast _ hout
    | reclaimed => cases hlast _ hout
    | integrity => cases hlast _ hout


/-- **the claimed answers of a step** `(app, name, mailbox)`: one entry for every frame
    `claimed mailbox` that the step -- a `claim` of `name` received on connection `c`, possibly cut
    short by a crash -- sends to `c`; `app` is what `c` is bound to.  Defined from the output. -/
def claimedAnswers (s : Sys) (op : Op) : List (String × String × String) :=
  match op.inner with
  | .recv c _ _ (.claim (some n) _) =>
    match s.findConn c with
    | some x =>
      match x.app with
      | some a =>
        (s.step op).out.filterMap (fun e =>
          match e with
          | .frame c' (.claimed m) _ => if c' = c then some (a, n, m) else none
          | _ => none)
      | none => []
    | none => []
  | _ => []

theorem mem_claimedAnswers {s : Sys} {op : Op} {a n m : String} (h : (a, n, m) ∈ claimedAnswers s op) :
    ∃ c t id fresh x b, op.inner = .recv c t id (.claim (some n) fresh) ∧ s.findConn c = some x ∧
      x.app = some a ∧ Event.frame c (.claimed m) b ∈ (s.step op).out := by
  unfold claimedAnswers at h
  split at h
  · rename_i c t id n' fresh hop
    split at h
    · rename_i x hx
      split at h
      · rename_i a' ha
        obtain ⟨e, he, hm⟩ := List.mem_filterMap.1 h
        split at hm
        · split at hm
          · rename_i hc
            cases hm
            exact ⟨c, t, id, fresh, x, _, hop, hx, ha, hc ▸ he⟩
          · cases hm
        · cases hm
      · cases h
    · cases h
  · cases h

theorem claimedAnswers_complete {s : Sys} {op : Op} {c : Nat} {t : Time} {id : Val} {n fresh a m : String}
    {x : Conn} {b : Bool} (hop : op.inner = .recv c t id (.claim (some n) fresh))
    (hx : s.findConn c = some x) (ha : x.app = some a)
    (hout : Event.frame c (.claimed m) b ∈ (s.step op).out) : (a, n, m) ∈ claimedAnswers s op := by
  unfold claimedAnswers
  rw [hop]
  simp only [hx, ha]
  rw [List.mem_filterMap]
  exact ⟨_, hout, by simp⟩

theorem Op.inner_not_crash (op : Op) : op.inner.isCrash = false := by
  induction op with
  | crashIn k op ih => exact ih
  | _ => rfl

/-- **the ghost sees every `claimed` frame**: a `claimed m` frame in the output of ANY step (a
    command of any kind, a sweep, a connect, ..., crashed or not) is sent by a `claim` of some
    name `n`, to the connection the claim arrived on, which is bound to some app `a`; so it is
    recorded in `claimedAnswers` as `(a, n, m)`. -/
theorem claimedAnswers_sees_all (s : Sys) (op : Op) {c : Nat} {m : String} {b : Bool}
    (h : Event.frame c (.claimed m) b ∈ (s.step op).out) :
    ∃ t id n fresh x a, op.inner = .recv c t id (.claim (some n) fresh) ∧ s.findConn c = some x ∧
      x.app = some a ∧ (a, n, m) ∈ claimedAnswers s op := by
  have h' := step_out_sub s op h
  have key : ∀ {P : Event → Prop} {s1 : Sys},
      OutExt P ({ s with out := [], snaps := [] } : Sys) s1 → Event.frame c (.claimed m) b ∈ s1.out →
      P (Event.frame c (.claimed m) b) := by
    intro P s1 ⟨l, e, hl⟩ hm
    rw [e] at hm
    exact hl _ (by simpa using hm)
  cases hop : op.inner with
  | crashIn k o =>
    have := Op.inner_not_crash op
    rw [hop] at this
    cases this
  | connect c1 | drop c1 | restart t1 =>
    simp [hop, Sys.step, Sys.stepPlain, Sys.connect, Sys.dropConn, Sys.restart, Sys.send, Sys.emit] at h'
  | sweep now f =>
    rw [hop] at h'
    exact absurd (key (Sys.expire_notFrame (s := { s with out := [], snaps := [] }) (now := now) (fault := f)) h')
      (by simp [NotFrame])
  | recv c1 t id cmd =>
    rw [hop, step_recv] at h'
    have := key (onMessage_claimedTo (s := { s with out := [], snaps := [] }) c1 t id cmd
      (∃ x a nm fresh, s.findConn c1 = some x ∧ x.app = some a ∧ cmd = .claim (some nm) fresh)
      (fun x a nm fresh h1 h2 h3 => ⟨x, a, nm, fresh, h1, h2, h3⟩)) h'
    obtain ⟨rfl, x, a, nm, fresh, hx, ha, rfl⟩ := this c m b rfl
    exact ⟨t, id, nm, fresh, x, a, rfl, hx, ha, claimedAnswers_complete hop hx ha h⟩

/-- **answers and rows.**  If a step (crashed or not) from a synced state with `CInv` carries the
    claimed answer `(a, n, m)` then every nameplate row `(a, n)` of the pre-state AND of the
    post-state has `mailbox = m`. -/
theorem answer_rows {s : Sys} (hs : s.Synced) (hc : s.db.CInv) {op : Op} {a n m : String}
    (h : (a, n, m) ∈ claimedAnswers s op) :
    (∀ row ∈ s.db.nameplates, row.app = a → row.name = n → row.mailbox = m) ∧
    (∀ row ∈ (s.step op).db.nameplates, row.app = a → row.name = n → row.mailbox = m) := by
  obtain ⟨c, t, id, fresh, x, b, hop, hx, ha, hout⟩ := mem_claimedAnswers h
  have hout' := step_out_sub s op hout
  rw [hop] at hout'
  obtain ⟨_, s1, hE, _⟩ := claim_step_ok hx ha hout'
  have hok : (∃ row, s.db.findNameplate a n = some row ∧ m = row.mailbox) ∨
      (s.db.findNameplate a n = none ∧ m = fresh) := (claimNameplate_ok hE :)
  have hpre : ∀ row ∈ s.db.nameplates, row.app = a → row.name = n → row.mailbox = m := by
    intro row hrow e1 e2
    rcases hok with ⟨row0, h0, rfl⟩ | ⟨hnone, _⟩
    · obtain ⟨m1, m2, m3⟩ := Chan.findNameplate_some h0
      rw [hc.toPInv.np_eq_of_key hrow m1 (e1.trans m2.symm) (e2.trans m3.symm)]
    · exact absurd ⟨e1, e2⟩ (Chan.findNameplate_none hnone row hrow)
  refine ⟨hpre, ?_⟩
  intro row hrow e1 e2
  have hrel := step_rel hs hc.npOk op
  rcases hrel.np_mem hrow with h0 | ⟨a', nm, σ, fresh', t', hl, rfl, hnone⟩
  · exact hpre row h0 e1 e2
  · -- the row is new: the label says which `claim` made it
    rw [← npLbl_inner, hop] at hl
    simp only [Sys.npLbl, hx, cmdLbl, ha, NpLbl.claim.injEq] at hl
    obtain ⟨rfl, rfl, _, rfl, _⟩ := hl
    rcases hok with ⟨row0, h0, _⟩ | ⟨_, rfl⟩
    · rw [hnone] at h0; cases h0
    · rfl

/-- after a `claim` step answered `claimed m`, crashed or not, the row `(a, n)` with mailbox `m` is
    there, provided a row that this very step creates is (`hnew`) -/
theorem claimed_rows {s : Sys} (hs : s.Synced) (hc : s.db.CInv) {op : Op} {c : Nat} {x : Conn} {a n fresh m : String}
    {t : Time} {id : Val} {b : Bool} (hop : op.inner = .recv c t id (.claim (some n) fresh))
    (hx : s.findConn c = some x) (ha : x.app = some a) (hout : Event.frame c (.claimed m) b ∈ (s.step op).out)
    (hnew : s.db.findNameplate a n = none → (⟨s.db.nextNp, a, n, m⟩ : Nameplate) ∈ (s.step op).db.nameplates) :
    (∃ row ∈ (s.step op).db.nameplates, row.app = a ∧ row.name = n ∧ row.mailbox = m) ∧
    (∀ row0 ∈ s.db.nameplates, row0.app = a → row0.name = n →
      row0.mailbox = m ∧ row0 ∈ (s.step op).db.nameplates) := by
  obtain ⟨hpre, _⟩ := answer_rows hs hc (claimedAnswers_complete hop hx ha hout)
  -- a `claim` deletes no row
  have hsub : ∀ row0 ∈ s.db.nameplates, row0 ∈ (s.step op).db.nameplates := by
    have hrel := step_rel hs hc.npOk op
    rw [← npLbl_inner, hop] at hrel
    simp only [Sys.npLbl, hx, cmdLbl, ha] at hrel
    exact hrel.claim_np_sub
  refine ⟨?_, fun row0 h0 e1 e2 => ⟨hpre row0 h0 e1 e2, hsub row0 h0⟩⟩
  cases hrow : s.db.findNameplate a n with
  | some row0 =>
    obtain ⟨m1, m2, m3⟩ := Chan.findNameplate_some hrow
    exact ⟨row0, hsub row0 m1, m2, m3, hpre row0 m1 m2 m3⟩
  | none => exact ⟨_, hnew hrow, rfl, rfl, rfl⟩

/-- **C03 (step form).**  If a `claim` of `n` received on a connection bound to `a` is answered
    `claimed m`, then afterwards the nameplate row `(a, n)` exists and has `mailbox = m`; and if
    a row `(a, n)` existed before, its mailbox was already `m` and the row (same `id`, all
    fields) is still there. -/
theorem C03_claimed_step {s : Sys} (hs : s.Synced) (hc : s.db.CInv) {c : Nat} {x : Conn} {a n fresh m : String}
    {t : Time} {id : Val} {b : Bool} (hx : s.findConn c = some x) (ha : x.app = some a)
    (hout : Event.frame c (.claimed m) b ∈ (s.step (.recv c t id (.claim (some n) fresh))).out) :
    (∃ row ∈ (s.step (.recv c t id (.claim (some n) fresh))).db.nameplates,
      row.app = a ∧ row.name = n ∧ row.mailbox = m) ∧
    (∀ row0 ∈ s.db.nameplates, row0.app = a → row0.name = n →
      row0.mailbox = m ∧ row0 ∈ (s.step (.recv c t id (.claim (some n) fresh))).db.nameplates) := by
  refine claimed_rows hs hc rfl hx ha hout fun hnone => ?_
  obtain ⟨_, s1, hE, hstep⟩ := claim_step_ok hx ha hout
  rcases claimNameplate_ok hE with ⟨_, h0, _⟩ | ⟨_, rfl⟩
  · cases hnone.symm.trans h0
  · rw [hstep]
    exact (claimNameplate_snaps_new hE hc.bounded hnone (by simp)).2

/-- **C03 (step form, crashed step).**  If a `claim` step that is cut short by a crash still got
    its `claimed m` out, the state the crash leaves (the files as of some commit point of the
    step) contains the nameplate row `(a, n)` with `mailbox = m`: an answer that was sent is
    never lost. -/
theorem C03_claimed_step_crash {s : Sys} (hs : s.Synced) (hc : s.db.CInv) {k c : Nat} {x : Conn}
    {a n fresh m : String} {t : Time} {id : Val} {b : Bool} (hx : s.findConn c = some x) (ha : x.app = some a)
    (hout : Event.frame c (.claimed m) b ∈ (s.step (.crashIn k (.recv c t id (.claim (some n) fresh)))).out) :
    ∃ row ∈ (s.step (.crashIn k (.recv c t id (.claim (some n) fresh)))).db.nameplates,
      row.app = a ∧ row.name = n ∧ row.mailbox = m := by
  refine (claimed_rows hs hc rfl hx ha hout fun hnone => ?_).1
  obtain ⟨_, s1, hE, hstep⟩ := claim_step_ok hx ha (step_out_sub s _ hout)
  rcases claimNameplate_ok hE with ⟨_, h0, _⟩ | ⟨_, rfl⟩
  · cases hnone.symm.trans h0
  · -- the nameplate is created by this step: every commit point has the new row
    obtain ⟨hsn, hfin⟩ := claimNameplate_snaps_new hE hc.bounded hnone (by simp)
    refine DbAll.crash (P := fun d => (⟨s.db.nextNp, a, n, m⟩ : Nameplate) ∈ d.nameplates) k _
      (fun e => by rw [e] at hout; cases hout) ?_
    rw [show ({ s with out := [], snaps := [] } : Sys).stepPlain (.recv c t id (.claim (some n) m)) =
      s1.send c (.claimed m) from hstep]
    refine ⟨?_, fun p hp => (hsn p hp).resolve_left (by simp [Sys.send, Sys.emit, Sys.updConn])⟩
    show _ ∈ s1.disk.nameplates
    rw [← (claimNameplate_spec hE hc.bounded).2.2 hs.1]
    exact hfin

/-- **C03 (invariant form).**  Over ANY step -- a command of anybody, a sweep, a restart, a
    connect, a drop, a crash anywhere inside one of these -- a nameplate row that still exists
    afterwards (same `id`) is the same row: `app`, `name` and `mailbox` are never updated. -/
theorem C03_mailbox_never_changes {s : Sys} (hs : s.Synced) (hc : s.db.CInv) (op : Op) {n n' : Nameplate}
    (hn : n ∈ s.db.nameplates) (hn' : n' ∈ (s.step op).db.nameplates) (e : n'.id = n.id) : n' = n :=
  (step_rel hs hc.npOk op).np_same hc.toPInv hn' hn e

/-- the AUTOINCREMENT counter never decreases -/
theorem C03_nextNp_mono {s : Sys} (hs : s.Synced) (hc : s.db.CInv) (op : Op) :
    s.db.nextNp ≤ (s.step op).db.nextNp :=
  (step_rel hs hc.npOk op).nextNp_le

/-- a nameplate row that a step creates gets the old counter value as its id -- larger than every
    id in use -- and it is the row of a `claim`/`allocate` that found no nameplate of that name:
    its mailbox is the id generated in that very step -/
theorem C03_new_row {s : Sys} (hs : s.Synced) (hc : s.db.CInv) (op : Op) {n' : Nameplate}
    (hn' : n' ∈ (s.step op).db.nameplates) (hnew : n' ∉ s.db.nameplates) :
    n'.id = s.db.nextNp ∧ (∀ n ∈ s.db.nameplates, n.id < n'.id) ∧
    s.db.findNameplate n'.app n'.name = none ∧ op.fresh? = some n'.mailbox ∧
    n'.mailbox ∈ op.mailboxIds := by
  rcases (step_rel hs hc.npOk op).np_mem hn' with h0 | ⟨a, nm, σ, fresh, t, hl, rfl, hnone⟩
  · exact absurd h0 hnew
  · obtain ⟨c, id, cmd, x, hop, _, _, _, hf, hcmd⟩ := npLbl_spec_of hl
    refine ⟨rfl, fun n hn => hc.bounded.1 n hn, hnone, hf, ?_⟩
    rw [← Op.mailboxIds_inner, hop]
    rcases hcmd with rfl | ⟨p, dr, rfl, _⟩ <;> simp [Op.mailboxIds, Cmd.mailboxIds]

namespace GSys

theorem GInv.npRel {g : GSys} (hI : g.GInv) (op : Op) :
    Chan.NpRel (g.sys.npLbl op) g.sys.db (g.step op).sys.db := step_rel hI.synced hI.cinv.npOk op

theorem run_induction (hreach : ∀ g : GSys, g.Reach → g.GInv) (J : GSys → Prop)
    (hstep : ∀ g op, g.Reach → g.GInv → g.WFOp op → J g → J (g.step op)) :
    ∀ (ops : List Op) {g : GSys}, g.Reach → g.WF ops → J g → J (g.run ops) := by
  intro ops
  induction ops with
  | nil => intro g _ _ h; exact h
  | cons op rest ih =>
    intro g hg hwf h
    exact ih (.step op hg hwf.1) hwf.2 (hstep g op hg (hreach g hg) hwf.1 h)

end GSys

/-- **AUTOINCREMENT never reuses an id** (history form): a row with the id of a row that existed at
    some point of a well-formed history is, at every later point, that very row.  So the `id` names
    one incarnation of one `(app, name)` for ever. -/
theorem C03_id_never_reused (hreach : ∀ g : GSys, g.Reach → g.GInv) {g : GSys} (hg : g.Reach)
    (ops : List Op) (hwf : g.WF ops) {row row' : Nameplate} (hrow : row ∈ g.sys.db.nameplates)
    (hrow' : row' ∈ (g.run ops).sys.db.nameplates) (e : row'.id = row.id) : row' = row := by
  have hJ := GSys.run_induction hreach
    (fun g' => row.id < g'.sys.db.nextNp ∧ ∀ r ∈ g'.sys.db.nameplates, r.id = row.id → r = row)
    (by
      intro g' op _ hI _ ⟨h1, h2⟩
      have hr := hI.npRel op
      refine ⟨Nat.lt_of_lt_of_le h1 hr.nextNp_le, ?_⟩
      intro r hr' e'
      rcases hr.np_mem hr' with h0 | ⟨a, nm, σ, fresh, t, _, rfl, _⟩
      · exact h2 r h0 e'
      · simp at e'; omega)
    ops hg hwf
    ⟨(hreach g hg).cinv.bounded.1 row hrow,
      fun r hr e' => (hreach g hg).cinv.toPInv.np_eq_of_id hr hrow e'⟩
  exact hJ.2 row' hrow' e

/-- **C03_same_mailbox** (history form).  In a well-formed history, take a step `op` with claimed
    answer `(a, n, m)` and a later step `op'` with claimed answer `(a, n, m')`.  If a row `(a, n)`
    present right after `op` -- the incarnation the first answer refers to -- has its `id` present
    in every state up to `op'` (it was never deleted in between), then `m = m'`: across
    connections, sides, restarts and crashes.
    (After a non-crashed `op` such a row exists: `C03_claimed_step`.) -/
theorem C03_same_mailbox (hreach : ∀ g : GSys, g.Reach → g.GInv) {g : GSys} (hg : g.Reach)
    (op : Op) (mid : List Op) (op' : Op) (hwf : g.WF (op :: (mid ++ [op'])))
    {a n m m' : String}
    (h1 : (a, n, m) ∈ claimedAnswers g.sys op)
    (h2 : (a, n, m') ∈ claimedAnswers ((g.step op).run mid).sys op')
    {row : Nameplate} (hrow : row ∈ (g.step op).sys.db.nameplates) (hra : row.app = a) (hrn : row.name = n)
    (hlive : ∀ p, p <+: mid → ∃ r' ∈ ((g.step op).run p).sys.db.nameplates, r'.id = row.id) :
    m = m' := by
  have hI := hreach g hg
  have hg1 : (g.step op).Reach := .step op hg hwf.1
  have hwf2 : (g.step op).WF mid := (GSys.WF_append.1 hwf.2).1
  have hg2 : ((g.step op).run mid).Reach := GSys.reach_run hg1 mid hwf2
  have hI2 := hreach _ hg2
  have e1 : row.mailbox = m := (answer_rows hI.synced hI.cinv h1).2 row hrow hra hrn
  -- the row itself survives, since ids are never reused
  have hrow2 : row ∈ ((g.step op).run mid).sys.db.nameplates := by
    obtain ⟨r', hr', e⟩ := hlive mid (List.prefix_refl _)
    rw [C03_id_never_reused hreach hg1 mid hwf2 hrow hr' e] at hr'
    exact hr'
  have e2 : row.mailbox = m' := (answer_rows hI2.synced hI2.cinv h2).1 row hrow2 hra hrn
  exact e1.symm.trans e2

/-- **the invariant `NpMbInjective`** (two nameplate rows with different ids have different
    mailboxes) is kept by every well-formed step from a `GInv` state -/
theorem C03_npMbInjective_step {g : GSys} (hI : g.GInv) {op : Op} (hw : g.WFOp op)
    (hinj : g.sys.db.NpMbInjective) : (g.step op).sys.db.NpMbInjective := by
  refine (hI.npRel op).npMbInjective hI.cinv.toPInv hinj ?_
  intro a nm σ fresh t hl m hm e
  obtain ⟨_, _, _, _, _, _, _, _, hf, _⟩ := npLbl_spec_of hl
  exact hw.idFresh fresh hf (e ▸ hI.used m hm)

theorem C03_npMbInjective_reach (hreach : ∀ g : GSys, g.Reach → g.GInv) {g : GSys} (hg : g.Reach) :
    g.sys.db.NpMbInjective := by
  induction hg with
  | init cfg rb => intro n1 h1; simp [GSys.init] at h1
  | step op hg hw ih => exact C03_npMbInjective_step (hreach _ hg) hw ih

/-- **a new incarnation gets a never-seen mailbox id**: the mailbox of a nameplate row created by
    a step differs from every mailbox id mentioned earlier in the history (generated,
    client-chosen, or stored), and is recorded as used afterwards -/
theorem C03_new_incarnation_fresh {g : GSys} (hI : g.GInv) {op : Op} (hw : g.WFOp op) {row : Nameplate}
    (hrow : row ∈ (g.step op).sys.db.nameplates) (hnew : row ∉ g.sys.db.nameplates) :
    row.mailbox ∉ g.used ∧ row.mailbox ∈ (g.step op).used := by
  obtain ⟨_, _, _, hf, hm⟩ := C03_new_row hI.synced hI.cinv op hrow hnew
  exact ⟨hw.idFresh _ hf, List.mem_append_right _ hm⟩

/-- **C03_distinct** (history form).  Two nameplate rows with different ids -- different
    incarnations of one name, different names, different apps -- have different mailbox ids,
    whether they exist at the same time (`ops = []`) or at different times of a well-formed
    history.  Hypothesis: `WFOp.idFresh` (generated ids are new), via `hwf`. -/
theorem C03_distinct (hreach : ∀ g : GSys, g.Reach → g.GInv) {g : GSys} (hg : g.Reach)
    (ops : List Op) (hwf : g.WF ops) {row1 row2 : Nameplate} (h1 : row1 ∈ g.sys.db.nameplates)
    (h2 : row2 ∈ (g.run ops).sys.db.nameplates) (hne : row1.id ≠ row2.id) :
    row1.mailbox ≠ row2.mailbox := by
  have hI := hreach g hg
  have hJ := GSys.run_induction hreach
    (fun g' => row1.mailbox ∈ g'.used ∧
      ∀ r ∈ g'.sys.db.nameplates, r.id ≠ row1.id → r.mailbox ≠ row1.mailbox)
    (by
      intro g' op _ hI' hw ⟨a1, a2⟩
      refine ⟨List.mem_append_left _ a1, ?_⟩
      intro r hr hid
      by_cases hold : r ∈ g'.sys.db.nameplates
      · exact a2 r hold hid
      · intro e
        exact (C03_new_incarnation_fresh hI' hw hr hold).1 (e ▸ a1))
    ops hg hwf
    ⟨by
      obtain ⟨m, hm, e, _⟩ := hI.cinv.npMb row1 h1
      exact e ▸ hI.used m hm,
     fun r hr hid => C03_npMbInjective_reach hreach hg r hr row1 h1 hid⟩
  exact fun e => hJ.2 row2 h2 (Ne.symm hne) e.symm

/-- **C03_distinct for answers**: claimed answers that refer to rows with different ids carry
    different mailbox ids -/
theorem C03_distinct_answers (hreach : ∀ g : GSys, g.Reach → g.GInv) {g : GSys} (hg : g.Reach)
    (op : Op) (mid : List Op) (op' : Op) (hwf : g.WF (op :: (mid ++ [op'])))
    {a n m a' n' m' : String}
    (h1 : (a, n, m) ∈ claimedAnswers g.sys op)
    (h2 : (a', n', m') ∈ claimedAnswers ((g.step op).run mid).sys op')
    {row row' : Nameplate} (hrow : row ∈ (g.step op).sys.db.nameplates) (hra : row.app = a) (hrn : row.name = n)
    (hrow' : row' ∈ (((g.step op).run mid).step op').sys.db.nameplates) (hra' : row'.app = a')
    (hrn' : row'.name = n') (hne : row.id ≠ row'.id) : m ≠ m' := by
  have hI := hreach g hg
  have hg1 : (g.step op).Reach := .step op hg hwf.1
  have hwf2 := GSys.WF_append.1 hwf.2
  have hg2 : ((g.step op).run mid).Reach := GSys.reach_run hg1 mid hwf2.1
  have hI2 := hreach _ hg2
  have e1 : row.mailbox = m := (answer_rows hI.synced hI.cinv h1).2 row hrow hra hrn
  have e2 : row'.mailbox = m' := (answer_rows hI2.synced hI2.cinv h2).2 row' hrow' hra' hrn'
  have hwf3 : (g.step op).WF (mid ++ [op']) := hwf.2
  have := C03_distinct hreach hg1 (mid ++ [op']) hwf3 hrow
    (by rw [GSys.run_append]; exact hrow') hne
  rw [e1, e2] at this
  exact this


/-- **C03_repeat_partial.**  A side with a claimed row on a live nameplate claims again, on a
    connection that has not claimed yet.  The answer is exactly `[ack, claimed m]` with the row's
    mailbox id PROVIDED neither crowding check fires: the mailbox has at most two side rows after
    the call and the nameplate has at most two side rows.
    FULL statement (false, finding K-crowded-rejoin): the same without the two guards.
    The guard on `nameplate_sides` cannot be dropped either: after a crash between the two commits
    of a third side's claim the nameplate has three side rows and the mailbox two.
    Frames only: the step may also record a `commit` event (the mailbox is touched). -/
theorem C03_repeat_partial {s : Sys} (hs : s.Synced) (hc : s.db.CInv) {c : Nat} {x : Conn} {a n fresh : String}
    {t : Time} {id : Val} {row : Nameplate} {r : NpSide}
    (hx : s.findConn c = some x) (ha : x.app = some a) (hd : x.didClaim = false)
    (hrow : s.db.findNameplate a n = some row)
    (hside : s.db.findNpSide row.id (x.side.getD "") = some r) (hr : r.claimed = true)
    (hg1 : ¬ ((s.step (.recv c t id (.claim (some n) fresh))).db.mbSidesOf row.mailbox).length > 2)
    (hg2 : ¬ (s.db.npSidesOf row.id).length > 2) :
    (s.step (.recv c t id (.claim (some n) fresh))).frames =
      [.frame c (.ack id) true, .frame c (.claimed row.mailbox) true] := by
  have hstep := step_claim t id n fresh hx ha hd
  generalize hA : ((({ s with out := [], snaps := [] } : Sys).send c (.ack id)).updConn c
      (fun y => { y with didClaim := true, nameplateId := some n })) = sA at hstep
  have hAdb : sA.db = s.db := by rw [← hA]; rfl
  cases hE : sA.claimNameplate a n (x.side.getD "") t fresh with
  | mk s1 res =>
    rw [hE] at hstep
    obtain ⟨q, _, hsy⟩ := claimNameplate_spec hE (hAdb ▸ hc.bounded)
    rcases claimNameplate_present (hAdb ▸ hc.toPInv) (hAdb ▸ hrow) hE with ⟨r0, h0, hf, _⟩ | ⟨_, e1, _, e3⟩
    · rw [hAdb, hside] at h0
      cases h0
      rw [hr] at hf
      cases hf
    · have hns : s1.db.npSidesOf row.id = s.db.npSidesOf row.id := by
        rw [e1, hAdb]
        simp [Chan.npSidesOf, Chan.npClaim_npSides, hside]
      have hres : res = .ok row.mailbox := by
        have hdb : (s.step (.recv c t id (.claim (some n) fresh))).db = s1.db := by
          rw [hstep]; cases res <;> rfl
        rw [hdb] at hg1
        rw [e3, Chan.npClaimRes, if_neg hg1, hns, if_neg hg2]
      subst hres
      rw [hstep]
      have hsyn : s1.synced = true :=
        (synced_iff s1).2 ⟨hsy (by rw [← hA]; exact hs.1), by rw [q.udb, q.udisk, ← hA]; exact hs.2⟩
      have hs0 : ({ s with out := [], snaps := [] } : Sys).synced = true := (synced_iff s).2 hs
      simp only [Sys.send, emit_frames, Event.isFrame, if_true, q.frames, hsyn, ← hA]
      simp [Sys.frames, Sys.emit, Sys.updConn, hs0, List.filter, Event.isFrame]

/-- three sides of app "app" claim nameplate "7" (the third is told `crowded`, its rows stay);
    then side "s1" reconnects (connection 4) -/
def cxOps : List Op :=
  [ .connect 1, .recv 1 10 .null (.bind (some "app") (some "s1") none none),
    .recv 1 11 .null (.claim (some "7") "mb1"),
    .connect 2, .recv 2 12 .null (.bind (some "app") (some "s2") none none),
    .recv 2 13 .null (.claim (some "7") "mb2"),
    .connect 3, .recv 3 14 .null (.bind (some "app") (some "s3") none none),
    .recv 3 15 .null (.claim (some "7") "mb3"),
    .connect 4, .recv 4 16 .null (.bind (some "app") (some "s1") none none) ]

def cxG : GSys := (GSys.init {} 0).run cxOps

/-- **C03_repeat_counterexample** (finding K-crowded-rejoin).  In the reachable state `cxG` side
    "s1" holds a claimed row on the live nameplate ("app", "7") and its connection 4 has not
    claimed; the operation is well-formed; yet the repeated claim is answered `crowded`, not
    `claimed "mb1"`: the conclusion of `C03_repeat_partial` fails without its guards. -/
theorem C03_repeat_counterexample :
    cxG.Reach ∧
    cxG.WFOp (.recv 4 17 (.int 1) (.claim (some "7") "mb4")) ∧
    (∃ x, cxG.sys.findConn 4 = some x ∧ x.app = some "app" ∧ x.side = some "s1" ∧ x.didClaim = false) ∧
    (∃ row r, cxG.sys.db.findNameplate "app" "7" = some row ∧ row.mailbox = "mb1" ∧
      cxG.sys.db.findNpSide row.id "s1" = some r ∧ r.claimed = true) ∧
    (cxG.sys.step (.recv 4 17 (.int 1) (.claim (some "7") "mb4"))).frames =
      [.frame 4 (.ack (.int 1)) true, .frame 4 (.error "crowded") true] :=
  ⟨GSys.reach_of_wfB _ _ _ (by decide +kernel), GSys.wfOpB_sound (by decide +kernel),
    ⟨{ id := 4, app := some "app", side := some "s1" }, by decide +kernel, rfl, rfl, rfl⟩,
    ⟨⟨1, "app", "7", "mb1"⟩, ⟨1, true, "s1", 11⟩, by decide +kernel, rfl, by decide +kernel, rfl⟩,
    by decide +kernel⟩

/-- the same two sides claim; the third side's claim is cut by a crash right after its FIRST commit
    (the nameplate-side row is on disk, the mailbox-side row is not); then "s1" reconnects -/
def cxOpsCrash : List Op :=
  [ .connect 1, .recv 1 10 .null (.bind (some "app") (some "s1") none none),
    .recv 1 11 .null (.claim (some "7") "mb1"),
    .connect 2, .recv 2 12 .null (.bind (some "app") (some "s2") none none),
    .recv 2 13 .null (.claim (some "7") "mb2"),
    .connect 3, .recv 3 14 .null (.bind (some "app") (some "s3") none none),
    .crashIn 1 (.recv 3 15 .null (.claim (some "7") "mb3")),
    .connect 4, .recv 4 16 .null (.bind (some "app") (some "s1") none none) ]

def cxGCrash : GSys := (GSys.init {} 0).run cxOpsCrash

/-- **why `C03_repeat_partial` needs the guard on `nameplate_sides` too** (K-crowded-rejoin after a
    crash): in the reachable state `cxGCrash` the mailbox has TWO side rows before and after the
    repeated claim of "s1", the nameplate has three, and the answer is `crowded`. -/
theorem C03_repeat_counterexample_crash :
    cxGCrash.Reach ∧
    cxGCrash.WFOp (.recv 4 17 (.int 1) (.claim (some "7") "mb4")) ∧
    (cxGCrash.sys.db.mbSidesOf "mb1").length = 2 ∧ (cxGCrash.sys.db.npSidesOf 1).length = 3 ∧
    ((cxGCrash.sys.step (.recv 4 17 (.int 1) (.claim (some "7") "mb4"))).db.mbSidesOf "mb1").length = 2 ∧
    (cxGCrash.sys.step (.recv 4 17 (.int 1) (.claim (some "7") "mb4"))).frames =
      [.frame 4 (.ack (.int 1)) true, .frame 4 (.error "crowded") true] :=
  ⟨GSys.reach_of_wfB _ _ _ (by decide +kernel),
    GSys.wfOpB_sound (by decide +kernel), by decide +kernel, by decide +kernel, by decide +kernel,
    by decide +kernel⟩

/-! ## non-vacuity -/

theorem forall_prefix_of_take {α : Type} {mid : List α} {P : List α → Prop}
    (h : ∀ k ∈ List.range (mid.length + 1), P (mid.take k)) : ∀ p, p <+: mid → P p := by
  intro p hp
  have e := List.prefix_iff_eq_take.1 hp
  rw [e]
  exact h _ (List.mem_range.2 (Nat.lt_succ_of_le hp.length_le))

/-- two sides have claimed ("app", "7"); side "s1" has reconnected as connection 4 -/
def exOps : List Op :=
  [ .connect 1, .recv 1 10 .null (.bind (some "app") (some "s1") none none),
    .recv 1 11 .null (.claim (some "7") "mb1"),
    .connect 2, .recv 2 12 .null (.bind (some "app") (some "s2") none none),
    .recv 2 13 .null (.claim (some "7") "mb2"),
    .connect 4, .recv 4 16 .null (.bind (some "app") (some "s1") none none) ]

def exG : GSys := (GSys.init {} 0).run exOps

theorem exG_reach : exG.Reach := GSys.reach_of_wfB _ _ _ (by decide +kernel)
theorem exG_synced : exG.sys.Synced := exG_reach.ginv.synced
theorem exG_cinv : exG.sys.db.CInv := exG_reach.ginv.cinv

/-- `C03_repeat_partial` applies to `exG`: the repeated claim of "s1" is answered `claimed "mb1"` -/
example : (exG.sys.step (.recv 4 17 (.int 1) (.claim (some "7") "mb4"))).frames =
    [.frame 4 (.ack (.int 1)) true, .frame 4 (.claimed "mb1") true] :=
  C03_repeat_partial (x := { id := 4, app := some "app", side := some "s1" }) (row := ⟨1, "app", "7", "mb1"⟩)
    (r := ⟨1, true, "s1", 11⟩) exG_synced exG_cinv (by decide +kernel) rfl rfl (by decide +kernel)
    (by decide +kernel) rfl (by decide +kernel) (by decide +kernel)

/-- `C03_claimed_step` / `answer_rows` apply: that step has the claimed answer ("app","7","mb1") -/
example : ("app", "7", "mb1") ∈ claimedAnswers exG.sys (.recv 4 17 (.int 1) (.claim (some "7") "mb4")) := by
  decide +kernel

example := C03_claimed_step (s := exG.sys) (c := 4) (x := { id := 4, app := some "app", side := some "s1" })
  (a := "app") (n := "7") (fresh := "mb4") (m := "mb1") (t := 17) (id := .int 1) (b := true)
  exG_synced exG_cinv (by decide +kernel) rfl (by decide +kernel)

example := C03_mailbox_never_changes (s := exG.sys) exG_synced exG_cinv (.sweep 100000 false)
  (n := ⟨1, "app", "7", "mb1"⟩) (n' := ⟨1, "app", "7", "mb1"⟩) (by decide +kernel)

/-- a second incarnation: both sides release "7", then "s1" claims it again (connection 5) and gets
    a NEW row (id 2) with the new mailbox "mb5" -/
def exOps2 : List Op :=
  [ .recv 1 20 .null (.release none), .recv 2 21 .null (.release none),
    .connect 5, .recv 5 22 .null (.bind (some "app") (some "s1") none none),
    .recv 5 23 .null (.claim (some "7") "mb5") ]

example : (exG.run exOps2).sys.db.nameplates = [⟨2, "app", "7", "mb5"⟩] := by decide +kernel

/-- `C03_new_row`: the last step of `exOps2` creates the row with id 2 -/
example :=
  have hI := (GSys.reach_run exG_reach (exOps2.take 4) (GSys.wfB_sound (by decide +kernel))).ginv
  C03_new_row (s := (exG.run (exOps2.take 4)).sys) hI.synced hI.cinv (.recv 5 23 .null (.claim (some "7") "mb5"))
  (n' := ⟨2, "app", "7", "mb5"⟩) (by decide +kernel) (by decide +kernel)

/-- the hypotheses of `C03_same_mailbox` are satisfiable (given the reachability invariant): the
    answers to connection 4 (`exG`, "mb1") and, after a restart and a reconnect, to connection 6 -/
example (hreach : ∀ g : GSys, g.Reach → g.GInv) : "mb1" = "mb1" :=
  C03_same_mailbox hreach exG_reach (.recv 4 17 (.int 1) (.claim (some "7") "mb4"))
    [.restart 30, .connect 6, .recv 6 31 .null (.bind (some "app") (some "s2") none none)]
    (.recv 6 32 .null (.claim (some "7") "mb6"))
    (GSys.wfB_sound (by decide +kernel)) (a := "app") (n := "7") (by decide +kernel) (by decide +kernel)
    (row := ⟨1, "app", "7", "mb1"⟩) (by decide +kernel) rfl rfl
    (forall_prefix_of_take (by decide +kernel))

/-- the hypotheses of `C03_distinct` are satisfiable: incarnation 1 (in `exG`) and incarnation 2
    (after `exOps2`) of ("app","7") -/
example (hreach : ∀ g : GSys, g.Reach → g.GInv) : "mb1" ≠ "mb5" :=
  C03_distinct hreach exG_reach exOps2 (GSys.wfB_sound (by decide +kernel))
    (row1 := ⟨1, "app", "7", "mb1"⟩) (row2 := ⟨2, "app", "7", "mb5"⟩) (by decide +kernel) (by decide +kernel)
    (by decide)

example (hreach : ∀ g : GSys, g.Reach → g.GInv) := C03_npMbInjective_reach hreach exG_reach

#print axioms C03_claimed_step
#print axioms C03_claimed_step_crash
#print axioms answer_rows
#print axioms claimedAnswers_sees_all
#print axioms C03_mailbox_never_changes
#print axioms C03_nextNp_mono
#print axioms C03_new_row
#print axioms C03_id_never_reused
#print axioms C03_same_mailbox
#print axioms C03_npMbInjective_step
#print axioms C03_npMbInjective_reach
#print axioms C03_new_incarnation_fresh
#print axioms C03_distinct
#print axioms C03_distinct_answers
#print axioms C03_repeat_partial
#print axioms C03_repeat_counterexample
#print axioms C03_repeat_counterexample_crash

end Wormhole
