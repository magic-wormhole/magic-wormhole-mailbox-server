/-
  C12 — expiry never removes a channel that is active or has a subscriber.

  The sweep is `Op.sweep now fault` = one firing of `expire()` (server_tap.py); its exact effect on the
  database is `Chan.sweepP (fun _ => true) s.listened now (now - expirationTicks)` (Inv/SweepSys.lean:
  `Sys.step_sweep_spec`; a faulted firing sweeps no app: `Sys.step_sweep_db`; one `prune`:
  `Sys.prune_sweepP`).  All theorems are for EVERY state that satisfies the invariant (`g.GInv`, of which
  the sweep theorems use only `cinv`, `conn`, `synced` = `Sys.SwInv`), any `now`, no bounds.  In order:
  what one sweep keeps and what it deletes; sequences of sweeps, alone and mixed with other traffic; the
  grace period; activity stamps `updated`; `updated` never goes back, so activity means survival.
-/
import Wormhole.Inv.SweepGInv
import Wormhole.Inv.SweepStamp
import Wormhole.Inv.SweepKeep
import Wormhole.Inv.SweepMono
import Wormhole.Inv.WFDec

namespace Wormhole
open Generated

/-- some live connection is subscribed to the mailbox of row `r` -/
def Sys.Subscribed (s : Sys) (r : MailboxRow) : Prop :=
  ∃ x ∈ s.conns, x.listening = true ∧ x.app = some r.app ∧ x.mailbox = some r.id

instance (s : Sys) (r : MailboxRow) : Decidable (s.Subscribed r) := by
  unfold Sys.Subscribed; infer_instance

theorem Sys.subscribed_iff {s : Sys} {r : MailboxRow} : s.Subscribed r ↔ s.listened r.app r.id = true :=
  Sys.listened_iff.symm

/-- **C12_sweep_preserves.**  From any state satisfying the invariant, for any sweep time: a mailbox
    row that was updated less than the expiration time ago, OR that has a subscriber, is present after
    the sweep — with `updated = now` if subscribed, unchanged otherwise — and all its messages, side
    rows, the nameplates pointing at it and their side rows are unchanged; connections are untouched. -/
theorem C12_sweep_preserves {g : GSys} (hI : g.GInv) (now : Time) {r : MailboxRow}
    (hr : r ∈ g.sys.db.mailboxes) (hlive : now - r.updated < expirationTicks ∨ g.sys.Subscribed r) :
    (g.sys.Subscribed r →
      ({ r with updated := now } : MailboxRow) ∈ (g.step (.sweep now false)).sys.db.mailboxes) ∧
    (¬ g.sys.Subscribed r → r ∈ (g.step (.sweep now false)).sys.db.mailboxes) ∧
    Chan.SameChannel g.sys.db (g.step (.sweep now false)).sys.db r ∧
    (g.step (.sweep now false)).sys.conns = g.sys.conns := by
  obtain ⟨k0, k1, k2⟩ : _ ∈ (g.step (.sweep now false)).sys.db.mailboxes ∧ _ :=
    Sys.sweep_keeps hI.cinv now false hr (.inr (hlive.imp_right Sys.subscribed_iff.1))
  refine ⟨fun hs => ?_, fun hs => ?_, k1, k2⟩
  · simpa [Chan.stamp, Sys.subscribed_iff.1 hs] using k0
  · rwa [Chan.stamp_eq_self (Bool.eq_false_iff.2 fun hl => hs (Sys.subscribed_iff.2 hl))] at k0

/-- the faulted firing (trivially) preserves everything -/
theorem C12_sweep_preserves_fault (g : GSys) (now : Time) :
    (g.step (.sweep now true)).sys.db = g.sys.db ∧ (g.step (.sweep now true)).sys.conns = g.sys.conns :=
  ⟨(Sys.step_sweep_fault g.sys now).1, (Sys.step_sweep_fault g.sys now).2.conns⟩

/-- the rows a sweep at `now` may remove: not updated after the cutoff and without subscriber -/
def Sys.Old (s : Sys) (now : Time) (m : MailboxRow) : Prop :=
  m ∈ s.db.mailboxes ∧ m.updated ≤ now - expirationTicks ∧ ¬ s.Subscribed m

instance (s : Sys) (now : Time) (m : MailboxRow) : Decidable (s.Old now m) := by
  unfold Sys.Old; infer_instance

theorem Sys.old_iff {s : Sys} {now : Time} {m : MailboxRow} :
    s.Old now m ↔ m ∈ s.db.mailboxes ∧ Chan.dead (fun _ => true) s.listened (now - expirationTicks) m = true := by
  rw [Sys.Old, Chan.dead_all, Sys.subscribed_iff, Bool.not_eq_true]
  exact and_congr_right fun _ => And.comm

/-- **C12_sweep_only_old.**  Every row a sweep deletes — mailbox, message, mailbox side, nameplate,
    nameplate side — belongs to a mailbox row (of the SAME app, for the tables that carry an app) that
    was `Old`: pre-state `updated ≤ now - expirationTicks` and no subscriber.  Nothing else changes:
    the tables afterwards are sub-lists of the tables before, surviving mailbox rows are the old
    ones, re-stamped exactly when subscribed. (The faulted firing deletes nothing:
    `C12_sweep_preserves_fault`.) -/
theorem C12_sweep_only_old {g : GSys} (hI : g.GInv) (now : Time) :
    (∀ m ∈ g.sys.db.mailboxes,
      (∀ m' ∈ (g.step (.sweep now false)).sys.db.mailboxes, m'.id ≠ m.id) → g.sys.Old now m) ∧
    (∀ r ∈ g.sys.db.messages, r ∉ (g.step (.sweep now false)).sys.db.messages →
      ∃ m, g.sys.Old now m ∧ m.id = r.mailbox ∧ m.app = r.app) ∧
    (∀ r ∈ g.sys.db.mbSides, r ∉ (g.step (.sweep now false)).sys.db.mbSides →
      ∃ m, g.sys.Old now m ∧ m.id = r.mailbox) ∧
    (∀ n ∈ g.sys.db.nameplates, n ∉ (g.step (.sweep now false)).sys.db.nameplates →
      ∃ m, g.sys.Old now m ∧ m.id = n.mailbox ∧ m.app = n.app) ∧
    (∀ r ∈ g.sys.db.npSides, r ∉ (g.step (.sweep now false)).sys.db.npSides →
      ∃ n ∈ g.sys.db.nameplates, n.id = r.npid ∧ ∃ m, g.sys.Old now m ∧ m.id = n.mailbox ∧ m.app = n.app) ∧
    (g.step (.sweep now false)).sys.db.nameplates.Sublist g.sys.db.nameplates ∧
    (g.step (.sweep now false)).sys.db.npSides.Sublist g.sys.db.npSides ∧
    (g.step (.sweep now false)).sys.db.mbSides.Sublist g.sys.db.mbSides ∧
    (g.step (.sweep now false)).sys.db.messages.Sublist g.sys.db.messages ∧
    (∀ m' ∈ (g.step (.sweep now false)).sys.db.mailboxes, ∃ m ∈ g.sys.db.mailboxes, ¬ g.sys.Old now m ∧
      m' = if g.sys.listened m.app m.id = true then { m with updated := now } else m) ∧
    (g.step (.sweep now false)).sys.db.nextNp = g.sys.db.nextNp := by
  rw [show (g.step (.sweep now false)).sys.db = _ from (Sys.step_sweep_spec hI.cinv now).1]
  have hp := hI.cinv.toPInv
  have old : ∀ {m}, m ∈ g.sys.db.mailboxes →
      Chan.dead (fun _ => true) g.sys.listened (now - expirationTicks) m = true → g.sys.Old now m :=
    fun hm hd => Sys.old_iff.2 ⟨hm, hd⟩
  obtain ⟨s1, s2, s3, s4, _, s6⟩ := Chan.sweepP_sublist (d := g.sys.db) (A := fun _ => true) (L := g.sys.listened)
    (now := now) (old := now - expirationTicks)
  refine ⟨?_, ?_, ?_, ?_, ?_, s1, s2, s3, s4, ?_, s6⟩
  · intro m hm hg; exact old hm (Chan.sweepP_gone_mailbox hp hm hg)
  · intro r hr hg
    obtain ⟨m, hm, e1, e2, hdd⟩ := Chan.sweepP_gone_message hp hr hg
    exact ⟨m, old hm hdd, e1, e2⟩
  · intro r hr hg
    obtain ⟨m, hm, e1, hdd⟩ := Chan.sweepP_gone_mbSide hp hr hg
    exact ⟨m, old hm hdd, e1⟩
  · intro n hn hg
    obtain ⟨m, hm, e1, e2, hdd⟩ := Chan.sweepP_gone_nameplate hp hn hg
    exact ⟨m, old hm hdd, e1, e2⟩
  · intro r hr hg
    obtain ⟨n, hn, e, m, hm, e1, e2, hdd⟩ := Chan.sweepP_gone_npSide hp hr hg
    exact ⟨n, hn, e, m, old hm hdd, e1, e2⟩
  · intro m' hm'
    obtain ⟨m, hm, hnd, e⟩ := Chan.mem_sweepP_mailboxes.1 hm'
    exact ⟨m, hm, fun ho => hnd (Chan.mem_deadIds.2 ⟨m, hm, (Sys.old_iff.1 ho).2, rfl⟩), by rw [← e, Chan.stamp_all]⟩


/-- **C12_prune_other_apps.**  One `AppNamespace.prune(now, old)` of app `app` (with `old < now`, as in
    `expire()`), from a state whose database satisfies the commit-point invariant: no exception, and
    the rows of every OTHER app are untouched in all five tables — mailboxes, nameplates, messages
    (whose DELETE is keyed by mailbox id only: this needs the global uniqueness of mailbox ids), mailbox
    sides and nameplate sides. -/
theorem C12_prune_other_apps {s s1 : Sys} {app : String} {now old : Time} {b : Bool} (h : s.db.CInv)
    (hlt : old < now) (hp : s.prune app now old = (s1, b)) {a : String} (ha : a ≠ app) :
    b = true ∧
    s1.db.mailboxesOfApp a = s.db.mailboxesOfApp a ∧
    s1.db.nameplatesOfApp a = s.db.nameplatesOfApp a ∧
    s1.db.messages.filter (fun r => r.app = a) = s.db.messages.filter (fun r => r.app = a) ∧
    (∀ m ∈ s.db.mailboxes, m.app = a → s1.db.mbSidesOf m.id = s.db.mbSidesOf m.id) ∧
    (∀ n ∈ s.db.nameplates, n.app = a → s1.db.npSidesOf n.id = s.db.npSidesOf n.id) ∧
    s1.conns = s.conns := by
  obtain ⟨hb, hd, hf, _, _⟩ := Sys.prune_sweepP h hlt hp
  rw [hd]
  obtain ⟨k1, k2, k3, k4, k5⟩ := Chan.sweepP_other_app (d := s.db) (A := fun x => x == app) (L := s.listened)
    (now := now) (old := old) h.toPInv (a := a) (by simpa using ha)
  exact ⟨hb, k1, k2, k3, k4, k5, hf.conns⟩

def Op.isFiring : Op → Bool
  | .sweep _ _ => true
  | _ => false

/-- the time an operation that is a sweep fires at -/
def Op.firingTime : Op → Time
  | .sweep now _ => now
  | _ => 0

namespace Sys

theorem run_firings {P : Sys → Prop} (ops : List Op) (hops : ∀ op ∈ ops, op.isFiring = true)
    (hstep : ∀ s now fault, Op.sweep now fault ∈ ops → s.SwInv → P s → P (s.step (.sweep now fault))) :
    ∀ {s : Sys}, s.SwInv → P s → (s.run ops).1.SwInv ∧ P (s.run ops).1 := by
  induction ops with
  | nil => intro s h hp; exact ⟨h, hp⟩
  | cons op rest ih =>
    intro s h hp
    rw [run_cons]
    cases op with
    | sweep now fault =>
      exact ih (fun o ho => hops o (List.mem_cons_of_mem _ ho))
        (fun s now fault ho => hstep s now fault (List.mem_cons_of_mem _ ho))
        (h.step_sweep now fault) (hstep s now fault List.mem_cons_self h hp)
    | _ => exact absurd (hops _ List.mem_cons_self) (by simp [Op.isFiring])

/-- a mailbox row that has a subscriber, or that every firing of the list finds younger than the expiration
    time: re-stamped at most, and literally unchanged if it has no subscriber -/
theorem survives_sweeps (ops : List Op) (hops : ∀ op ∈ ops, op.isFiring = true) {s : Sys} (h : s.SwInv)
    {r : MailboxRow} (hr : r ∈ s.db.mailboxes)
    (hlive : s.Subscribed r ∨ ∀ op ∈ ops, op.firingTime < r.updated + expirationTicks) :
    (s.run ops).1.conns = s.conns ∧
    (∃ r' ∈ (s.run ops).1.db.mailboxes, r'.id = r.id ∧ r'.app = r.app ∧ r'.forNp = r.forNp ∧
      (¬ s.Subscribed r → r' = r)) ∧
    Chan.SameChannel s.db (s.run ops).1.db r := by
  refine (run_firings (P := fun s' => s'.conns = s.conns ∧
    (∃ r' ∈ s'.db.mailboxes, r'.id = r.id ∧ r'.app = r.app ∧ r'.forNp = r.forNp ∧ (¬ s.Subscribed r → r' = r)) ∧
    Chan.SameChannel s.db s'.db r) ops hops ?_ h ⟨rfl, ⟨r, hr, rfl, rfl, rfl, fun _ => rfl⟩, .refl _ _⟩).2
  rintro s' now fault ho h' ⟨hc, ⟨r', hr', e1, e2, e3, e4⟩, hsame⟩
  have hsub : s'.Subscribed r' ↔ s.Subscribed r := by unfold Subscribed; rw [hc, e1, e2]
  have hlive' : fault = true ∨ now - r'.updated < expirationTicks ∨ s'.listened r'.app r'.id = true := by
    by_cases hs : s.Subscribed r
    · exact .inr (.inr (subscribed_iff.1 (hsub.2 hs)))
    · rw [e4 hs]
      exact .inr (.inl (recent_of_lt (hlive.resolve_left hs _ ho)))
  obtain ⟨k0, k1, k2⟩ := sweep_keeps h'.cinv now fault hr' hlive'
  refine ⟨k2.trans hc, ⟨_, k0, by simpa using e1, by simpa using e2, by simpa using e3, fun hs => ?_⟩,
    hsame.trans (k1.of_key e1.symm e2.symm)⟩
  rw [Chan.stamp_eq_self (Bool.eq_false_iff.2 fun hl => hs (hsub.1 (subscribed_iff.2 hl))), e4 hs]

end Sys

/-- **C12_connected_forever.**  For ANY sequence of sweeps (arbitrary times, faulted or not): the
    connection records are untouched — a subscribed connection stays subscribed — and the mailbox
    of every subscribed connection is still present under its app afterwards, with all its
    messages, side rows, nameplates and nameplate side rows unchanged.  (`x.mailbox = some mb`
    implies that the row exists, by the invariant.) -/
theorem C12_connected_forever {g : GSys} (hI : g.GInv) (ops : List Op) (hops : ∀ op ∈ ops, op.isFiring = true)
    {x : Conn} (hx : x ∈ g.sys.conns) {mb : String} (hmb : x.mailbox = some mb) :
    (g.run ops).sys.conns = g.sys.conns ∧
    ∃ app, x.app = some app ∧ x.listening = true ∧
      ∃ r ∈ g.sys.db.mailboxes, r.id = mb ∧ r.app = app ∧
        (∃ r' ∈ (g.run ops).sys.db.mailboxes, r'.id = mb ∧ r'.app = app ∧ r'.forNp = r.forNp) ∧
        Chan.SameChannel g.sys.db (g.run ops).sys.db r := by
  rw [GSys.run_sys]
  obtain ⟨hl, app, happ, r, hr, e1, e2⟩ := hI.conn.handle x hx mb hmb
  have hs : g.sys.Subscribed r := ⟨x, hx, hl, by rw [happ, e2], by rw [hmb, e1]⟩
  obtain ⟨hc, ⟨r', hr', f1, f2, f3, _⟩, hsame⟩ := Sys.survives_sweeps ops hops hI.swInv hr (.inl hs)
  exact ⟨hc, app, happ, hl, r, hr, e1, e2, ⟨r', hr', f1.trans e1, f2.trans e2, f3⟩, hsame⟩


theorem GSys.GInv.holds {g : GSys} (hI : g.GInv) {x : Conn} (hx : x ∈ g.sys.conns) {mb : String}
    (hmb : x.mailbox = some mb) : ∃ app, x.app = some app ∧ g.sys.Holds x.id app mb := by
  obtain ⟨hl, app, happ, r, hr, e1, e2⟩ := hI.conn.handle x hx mb hmb
  exact ⟨app, happ, ⟨x, hx, rfl, hl, happ, hmb⟩, Sys.mem_mbKeys_iff.2 ⟨r, hr, e2, e1⟩⟩

/-- **C12_connected_step.**  One step of ANY operation other than the subscriber's own `drop`, a
    `close` command, a restart or a crash (`Op.harmlessFor c`): connection `c` is still subscribed to
    `(app, mb)` and the mailbox row is still there.  Sweeps (faulted or not, at any time), commands of
    other connections, and `c`'s own commands other than `close` are all covered. -/
theorem C12_connected_step {g : GSys} (hI : g.GInv) {c : Nat} {app mb : String} (h : g.sys.Holds c app mb)
    {op : Op} (hop : op.harmlessFor c = true) : (g.step op).sys.Holds c app mb :=
  Sys.Holds.step hI.swInv h hop

/-- **C12_connected_close_other.**  A `close` received on ANOTHER connection either leaves `c`'s
    subscription and the mailbox row intact, or it deleted the mailbox (no row with that id is left;
    the stop callback then drops `c`'s handle). -/
theorem C12_connected_close_other {g : GSys} {c : Nat} {app mb : String} (h : g.sys.Holds c app mb)
    {i : Nat} (hi : i ≠ c) (t : Time) (id : Val) (m mood : Option String) :
    (g.step (.recv i t id (.close m mood))).sys.Holds c app mb ∨
      ∀ k ∈ (g.step (.recv i t id (.close m mood))).sys.db.mbKeys, ¬ k.2 = mb :=
  Sys.Holds.step_close h hi t id m mood

/-- **C12_connected_forever (mixed form).**  Along ANY well-formed history made of operations that
    are harmless for `c` — sweeps at any (non-decreasing) times, faulted or not, connects, drops and
    commands of other connections except `close`, `c`'s own commands except `close` — the
    subscription of `c` and the row of its mailbox persist. -/
theorem C12_connected_mixed (ops : List Op) :
    ∀ {g : GSys}, g.GInv → g.WF ops → ∀ {c : Nat} {app mb : String}, g.sys.Holds c app mb →
      (∀ op ∈ ops, op.harmlessFor c = true) → (g.run ops).sys.Holds c app mb ∧ (g.run ops).GInv := by
  induction ops with
  | nil => intro g hI _ c app mb h _; exact ⟨h, hI⟩
  | cons op rest ih =>
    intro g hI hwf c app mb h hops
    exact ih (hI.step op hwf.1) hwf.2 (C12_connected_step hI h (hops op (List.mem_cons_self)))
      (fun o ho => hops o (List.mem_cons_of_mem _ ho))

/-- the same from a reachable state -/
theorem C12_connected_mixed_reach {g : GSys} (hg : g.Reach) (ops : List Op) (hwf : g.WF ops)
    {x : Conn} (hx : x ∈ g.sys.conns) {mb : String} (hmb : x.mailbox = some mb)
    (hops : ∀ op ∈ ops, op.harmlessFor x.id = true) :
    ∃ app, x.app = some app ∧ (g.run ops).sys.Holds x.id app mb := by
  obtain ⟨app, happ, h⟩ := hg.ginv.holds hx hmb
  exact ⟨app, happ, (C12_connected_mixed ops hg.ginv hwf h hops).1⟩

/-- **C12_survives_sweeps** (first half of C12_grace).  A mailbox row with `updated = t` survives,
    with its channel, every firing at a time `< t + expirationTicks` — any number of firings, any
    spacing (in particular one every `periodTicks`), faulted or not. -/
theorem C12_survives_sweeps {g : GSys} (hI : g.GInv) (ops : List Op) (hops : ∀ op ∈ ops, op.isFiring = true)
    {r : MailboxRow} (hr : r ∈ g.sys.db.mailboxes)
    (ht : ∀ op ∈ ops, op.firingTime < r.updated + expirationTicks) :
    (∃ r' ∈ (g.run ops).sys.db.mailboxes, r'.id = r.id ∧ r'.app = r.app ∧ r'.forNp = r.forNp) ∧
    (¬ g.sys.Subscribed r → r ∈ (g.run ops).sys.db.mailboxes) ∧
    Chan.SameChannel g.sys.db (g.run ops).sys.db r := by
  rw [GSys.run_sys]
  obtain ⟨_, ⟨r', hr', e1, e2, e3, e4⟩, hsame⟩ := Sys.survives_sweeps ops hops hI.swInv hr (.inr ht)
  exact ⟨⟨r', hr', e1, e2, e3⟩, fun hs => e4 hs ▸ hr', hsame⟩

/-- the arithmetic of the grace period: the timer fires every `periodTicks`; a client subscribed
    at the firing `f`, gone at `td` before the next firing (`td < f + periodTicks`), leaves a row
    with `updated ≥ f`; every firing `f'` during an absence of `a ≤ expirationTicks - periodTicks`
    (`f' ≤ td + a`) sees the row younger than the expiration time -/
theorem C12_grace_arith {f td a f' u : Int} (h1 : td < f + periodTicks) (h2 : f ≤ u)
    (h3 : a ≤ expirationTicks - periodTicks) (h4 : f' ≤ td + a) : f' < u + expirationTicks := by
  omega

theorem C12_grace_window_pos : 0 < expirationTicks - periodTicks := by
  have := sweep_period_lt_expiration; omega

/-- **C12_grace.**  Firings are `periodTicks` apart.  Let the row be stamped at `u ≥ f`, where `f`
    is a firing time no more than one period before the moment `td` the client went away
    (`td < f + periodTicks`: the last firing that saw the subscriber, or any later activity).  Then
    the row and its channel survive ALL firings up to `td + a` for every absence
    `a ≤ expirationTicks - periodTicks` (a positive amount, `C12_grace_window_pos`).
    Without a preceding firing: an absence shorter than `expirationTicks` after the last activity
    is safe (`C12_survives_sweeps`). -/
theorem C12_grace {g : GSys} (hI : g.GInv) (ops : List Op) (hops : ∀ op ∈ ops, op.isFiring = true)
    {r : MailboxRow} (hr : r ∈ g.sys.db.mailboxes) {f td a : Time}
    (h1 : td < f + periodTicks) (h2 : f ≤ r.updated) (h3 : a ≤ expirationTicks - periodTicks)
    (h4 : ∀ op ∈ ops, op.firingTime ≤ td + a) :
    (∃ r' ∈ (g.run ops).sys.db.mailboxes, r'.id = r.id ∧ r'.app = r.app ∧ r'.forNp = r.forNp) ∧
    (¬ g.sys.Subscribed r → r ∈ (g.run ops).sys.db.mailboxes) ∧
    Chan.SameChannel g.sys.db (g.run ops).sys.db r :=
  C12_survives_sweeps hI ops hops hr (fun op ho => C12_grace_arith h1 h2 h3 (h4 op ho))

/-- the command was refused or ended in an exception: an `error` frame or an `internal` event -/
def Event.bad : Event → Bool
  | .frame _ (.error _) _ => true
  | .internal _ _ => true
  | _ => false

namespace Sys

theorem sendError_not_good {s : Sys} {c : Nat} {text : String}
    (h : ∀ e ∈ (s.sendError c text).out, e.bad = false) : False := by
  have := h (.frame c (.error text) s.synced) (by simp [sendError, send, emit])
  cases this

theorem internalErr_not_good {s : Sys} {c : Nat} {cls : String}
    (h : ∀ e ∈ (s.internalErr c cls).out, e.bad = false) : False := by
  have := h (.internal (some c) cls) (by simp [internalErr, emit])
  cases this

end Sys

open Sys in
/-- **C12_activity_stamps (claim).**  A `claim` at time `t` that is answered neither by an `error`
    frame nor by an internal failure: it named a nameplate, that nameplate now exists under the
    connection's app, the answer `claimed` carries its mailbox id, and the row of that mailbox
    (under the same app) has `updated = t`. -/
theorem C12_activity_stamps_claim {s : Sys} {c : Nat} {x : Conn} {app : String}
    (hx : s.findConn c = some x) (happ : x.app = some app) (t : Time) (id : Val) (n : Option String)
    (fresh : String)
    (hgood : ∀ e ∈ (s.step (.recv c t id (.claim n fresh))).out, e.bad = false) :
    ∃ name, n = some name ∧ ∃ np ∈ (s.step (.recv c t id (.claim n fresh))).db.nameplates,
      np.app = app ∧ np.name = name ∧
      (∃ b, Event.frame c (.claimed np.mailbox) b ∈ (s.step (.recv c t id (.claim n fresh))).out) ∧
      ∃ r ∈ (s.step (.recv c t id (.claim n fresh))).db.mailboxes,
        r.id = np.mailbox ∧ r.app = app ∧ r.updated = t := by
  have hid := findConn_id hx
  have hx0 : ({ s with out := [], snaps := [] } : Sys).findConn c = some x := hx
  rw [step_recv] at hgood ⊢
  simp only [onMessage, hx0, happ, handleClaim] at hgood ⊢
  cases n with
  | none => exact (sendError_not_good hgood).elim
  | some name =>
    refine ⟨name, rfl, ?_⟩
    dsimp only at hgood ⊢
    split at hgood
    · exact (sendError_not_good hgood).elim
    · rename_i hdc
      rw [if_neg hdc]
      generalize hE : Sys.claimNameplate _ app name _ t fresh = p at hgood ⊢
      obtain ⟨s1, res⟩ := p
      cases res <;> dsimp only at hgood ⊢
      · rename_i mb
        obtain ⟨np, hnp, f1, f2, ⟨⟨r, hr, e1, e2, e3⟩, _⟩, f3⟩ := claimNameplate_stamped hE (by simp) (by simp)
        refine ⟨np, hnp, f1, f2, ⟨s1.synced, ?_⟩, r, hr, e1, e2, e3⟩
        rw [← f3 mb rfl, hid]
        simp [send, emit]
      · exact (sendError_not_good hgood).elim
      · exact (sendError_not_good hgood).elim
      · exact (internalErr_not_good hgood).elim

open Sys in
/-- **C12_activity_stamps (allocate).**  An `allocate` at time `t` answered neither by an `error`
    frame nor by an internal failure: the answer `allocated name` names a nameplate that now
    exists under the connection's app, and the row of its mailbox has `updated = t`. -/
theorem C12_activity_stamps_allocate {s : Sys} {c : Nat} {x : Conn} {app : String}
    (hx : s.findConn c = some x) (happ : x.app = some app) (t : Time) (id : Val) (pick : Nat)
    (draws : List Nat) (fresh : String)
    (hgood : ∀ e ∈ (s.step (.recv c t id (.allocate pick draws fresh))).out, e.bad = false) :
    ∃ name, (∃ b, Event.frame c (.allocated name) b ∈ (s.step (.recv c t id (.allocate pick draws fresh))).out) ∧
      ∃ np ∈ (s.step (.recv c t id (.allocate pick draws fresh))).db.nameplates,
        np.app = app ∧ np.name = name ∧
        ∃ r ∈ (s.step (.recv c t id (.allocate pick draws fresh))).db.mailboxes,
          r.id = np.mailbox ∧ r.app = app ∧ r.updated = t := by
  have hid := findConn_id hx
  have hx0 : ({ s with out := [], snaps := [] } : Sys).findConn c = some x := hx
  rw [step_recv] at hgood ⊢
  simp only [onMessage, hx0, happ, handleAllocate] at hgood ⊢
  split at hgood
  · exact (sendError_not_good hgood).elim
  · rename_i hda
    rw [if_neg hda]
    generalize hF : findAvailable _ pick draws = q at hgood ⊢
    cases q <;> dsimp only at hgood ⊢
    · exact (internalErr_not_good hgood).elim
    · rename_i name
      generalize hE : Sys.claimNameplate _ app name _ t fresh = p at hgood ⊢
      obtain ⟨s1, res⟩ := p
      cases res <;> dsimp only at hgood ⊢
      · rename_i mb
        obtain ⟨np, hnp, f1, f2, ⟨⟨r, hr, e1, e2, e3⟩, _⟩, _⟩ := claimNameplate_stamped hE (by simp) (by simp)
        refine ⟨name, ⟨s1.synced, ?_⟩, np, hnp, f1, f2, r, hr, e1, e2, e3⟩
        rw [← hid]
        exact List.mem_append_right _ (List.mem_singleton.2 rfl)
      · exact (internalErr_not_good hgood).elim
      · exact (internalErr_not_good hgood).elim
      · exact (internalErr_not_good hgood).elim

open Sys in
/-- **C12_activity_stamps (open).**  An `open` at time `t` answered neither by an `error` frame nor
    by an internal failure: it named a mailbox, and the row of that mailbox under the connection's
    app exists with `updated = t` (and every row with that id has `updated = t`). -/
theorem C12_activity_stamps_open {s : Sys} {c : Nat} {x : Conn} {app : String}
    (hx : s.findConn c = some x) (happ : x.app = some app) (t : Time) (id : Val) (m : Option String)
    (hgood : ∀ e ∈ (s.step (.recv c t id (.open_ m))).out, e.bad = false) :
    ∃ mb, m = some mb ∧ (s.step (.recv c t id (.open_ m))).Stamped app mb t := by
  have hx0 : ({ s with out := [], snaps := [] } : Sys).findConn c = some x := hx
  rw [step_recv] at hgood ⊢
  simp only [onMessage, hx0, happ, handleOpen] at hgood ⊢
  split at hgood
  · exact (sendError_not_good hgood).elim
  · rename_i hmo
    rw [if_neg hmo]
    cases m with
    | none => exact (sendError_not_good hgood).elim
    | some mb =>
      refine ⟨mb, rfl, ?_⟩
      dsimp only at hgood ⊢
      generalize hE : Sys.openMailbox _ app mb _ t = p at hgood ⊢
      obtain ⟨s1, res⟩ := p
      cases res <;> dsimp only at hgood ⊢
      · have := openMailbox_stamped hE (by simp)
        simpa [Sys.Stamped] using this
      · exact (sendError_not_good hgood).elim
      · exact (internalErr_not_good hgood).elim

open Sys in
/-- **C12_activity_stamps (add).**  An `add` at time `t` answered neither by an `error` frame nor by
    an internal failure: the connection holds a mailbox handle, and the row of that mailbox under the
    connection's app (it exists, by `ConnInv`) has `updated = t` afterwards. -/
theorem C12_activity_stamps_add {s : Sys} (hc : s.ConnInv) {c : Nat} {x : Conn} {app : String}
    (hx : s.findConn c = some x) (happ : x.app = some app) (t : Time) (id : Val) (ph bd : Option Val)
    (hgood : ∀ e ∈ (s.step (.recv c t id (.add ph bd))).out, e.bad = false) :
    ∃ mb, x.mailbox = some mb ∧ (s.step (.recv c t id (.add ph bd))).Stamped app mb t := by
  have hx0 : ({ s with out := [], snaps := [] } : Sys).findConn c = some x := hx
  rw [step_recv] at hgood ⊢
  simp only [onMessage, hx0, happ, handleAdd] at hgood ⊢
  cases hm : x.mailbox with
  | none => rw [hm] at hgood; exact (sendError_not_good hgood).elim
  | some mb =>
    rw [hm] at hgood
    refine ⟨mb, rfl, ?_⟩
    dsimp only at hgood ⊢
    cases ph with
    | none => exact (sendError_not_good hgood).elim
    | some ph =>
      cases bd with
      | none => exact (sendError_not_good hgood).elim
      | some bd =>
        dsimp only
        obtain ⟨_, a, ha, r, hr, e1, e2⟩ := hc.handle x (List.mem_of_find?_eq_some hx) mb hm
        have : a = app := by rw [happ] at ha; exact (Option.some.inj ha).symm
        subst this
        simp only [Sys.Stamped, sw_broadcast_db]
        constructor
        · exact ⟨_, addMessage_mem _ _ _ _ _ _ _ _ (r := r) hr e1, e1, e2, rfl⟩
        · intro r' hr' e'
          exact addMessage_updated _ _ _ _ _ _ _ _ hr' e'

/-- **C12 (activity ⇒ survival).**  A mailbox row stamped `t` by an activity (`C12_activity_stamps_*`)
    is kept, with its channel, by every sweep at a time `now` with `now - t < expirationTicks`,
    from every state satisfying the invariant in which the row still carries that stamp
    (instance of `C12_sweep_preserves`; times never go back by `WFOp.mono`, and no row is stamped
    later than the clock by `GInv.clockMb`, so `t ≤ now` there). -/
theorem C12_recent_activity_survives {g : GSys} (hI : g.GInv) {app mb : String} {t : Time}
    (hst : g.sys.Stamped app mb t) (now : Time) (hnow : now - t < expirationTicks) :
    ∃ r ∈ g.sys.db.mailboxes, r.id = mb ∧ r.app = app ∧
      (∃ r' ∈ (g.step (.sweep now false)).sys.db.mailboxes, r'.id = mb ∧ r'.app = app) ∧
      Chan.SameChannel g.sys.db (g.step (.sweep now false)).sys.db r := by
  obtain ⟨⟨r, hr, e1, e2, e3⟩, _⟩ := hst
  obtain ⟨h1, h2, h3, _⟩ := C12_sweep_preserves hI now hr (Or.inl (by rw [e3]; exact hnow))
  refine ⟨r, hr, e1, e2, ?_, h3⟩
  by_cases hs : g.sys.Subscribed r
  · exact ⟨_, h1 hs, e1, e2⟩
  · exact ⟨r, h2 hs, e1, e2⟩


theorem lower_bound_arith {now t u : Int} (h1 : now - t < expirationTicks) (h2 : t ≤ u) :
    now - u < expirationTicks := by omega

/-- **C12_updated_mono.**  One step of ANY well-formed operation (crashes included) from a state
    satisfying the invariant: every mailbox row afterwards is a row from before, unchanged, or is
    stamped with the operation's time, which is not before the clock; hence for every mailbox id the
    value of `updated` never decreases. -/
theorem C12_updated_mono {g : GSys} (hI : g.GInv) {op : Op} (hw : g.WFOp op) :
    (∀ r' ∈ (g.step op).sys.db.mailboxes, r' ∈ g.sys.db.mailboxes ∨ r'.updated = (g.step op).clock) ∧
    g.clock ≤ (g.step op).clock ∧
    (∀ r ∈ g.sys.db.mailboxes, ∀ r' ∈ (g.step op).sys.db.mailboxes, r'.id = r.id → r.updated ≤ r'.updated) := by
  have hst : Chan.StampStep (g.opTime op) g.sys.db (g.sys.step op).db :=
    Sys.step_stampStep hI.synced op (by intro t e; simp [GSys.opTime, e])
  have hclk : g.clock ≤ g.opTime op := GSys.clock_le_opTime hw.mono
  refine ⟨hst, hclk, ?_⟩
  intro r hr r' hr' e
  rcases hst r' hr' with h | h
  · have : r' = r := Chan.eq_of_pairwise_ne (f := MailboxRow.id) hI.cinv.mbIds h hr e
    subst this; exact Int.le_refl _
  · rw [h]; exact Int.le_trans (hI.clockMb r hr) hclk

/-- **C12_updated_lower_bound.**  Along any well-formed history (crashes, restarts, closes, sweeps,
    re-creation of the mailbox — anything): if every row with id `mb` is stamped `≥ t` (and `t` is
    not in the future), this is still so at the end. -/
theorem C12_updated_lower_bound (ops : List Op) :
    ∀ {g : GSys}, g.GInv → g.WF ops → ∀ {mb : String} {t : Time}, t ≤ g.clock →
      (∀ r ∈ g.sys.db.mailboxes, r.id = mb → t ≤ r.updated) →
      (g.run ops).GInv ∧ ∀ r ∈ (g.run ops).sys.db.mailboxes, r.id = mb → t ≤ r.updated := by
  induction ops with
  | nil => intro g hI _ mb t _ h; exact ⟨hI, h⟩
  | cons op rest ih =>
    intro g hI hwf mb t ht hlb
    obtain ⟨h1, h2, _⟩ := C12_updated_mono hI hwf.1
    refine ih (hI.step op hwf.1) hwf.2 (Int.le_trans ht h2) fun r' hr' e => ?_
    -- a row after the step is a row from before, or is stamped with the time of the step
    rcases h1 r' hr' with h | h
    · exact hlb r' h e
    · rw [h]; exact Int.le_trans ht h2

/-- **C12_activity_survives.**  `g` = a state (satisfying the invariant) in which mailbox `(app, mb)`
    has just been stamped `t` by a claim / allocate / open / add (`C12_activity_stamps_*` give
    `Stamped`).  After ANY well-formed continuation `ops`, a sweep at a time `now` with
    `now - t < expirationTicks` keeps every row with that id that is there when it fires, together with
    its messages, side rows, nameplates and their side rows.  So no sweep within the expiration time
    after the last activity removes the channel. -/
theorem C12_activity_survives {g : GSys} (hI : g.GInv) {app mb : String} {t : Time}
    (hst : g.sys.Stamped app mb t) (ops : List Op) (hwf : g.WF ops) (now : Time)
    (hnow : now - t < expirationTicks) {r : MailboxRow} (hr : r ∈ (g.run ops).sys.db.mailboxes)
    (hid : r.id = mb) :
    (∃ r' ∈ ((g.run ops).step (.sweep now false)).sys.db.mailboxes,
      r'.id = r.id ∧ r'.app = r.app ∧ r'.forNp = r.forNp) ∧
    Chan.SameChannel (g.run ops).sys.db ((g.run ops).step (.sweep now false)).sys.db r := by
  obtain ⟨⟨r0, hr0, e1, _, e3⟩, hall⟩ := hst
  have ht : t ≤ g.clock := by rw [← e3]; exact hI.clockMb r0 hr0
  obtain ⟨hI', hlb⟩ := C12_updated_lower_bound ops hI hwf (mb := mb) ht
    (fun r hr e => by rw [hall r hr e]; exact Int.le_refl _)
  obtain ⟨h1, h2, h3, _⟩ := C12_sweep_preserves hI' now hr (Or.inl (lower_bound_arith hnow (hlb r hr hid)))
  refine ⟨?_, h3⟩
  by_cases hs : (g.run ops).sys.Subscribed r
  · exact ⟨_, h1 hs, rfl, rfl, rfl⟩
  · exact ⟨r, h2 hs, rfl, rfl, rfl⟩

/-! ## Non-vacuity: a concrete state with two apps, an old and a new mailbox with messages side by
    side, an idle one of another app and a subscribed one.  All times are expressed through
    `Generated.expirationTicks` / `periodTicks`, so the examples follow the constants. -/

namespace SweepExample

def E : Time := expirationTicks
def P : Time := periodTicks
/-- the firing time: cutoff = `E` -/
def now : Time := 2 * E

def rOld : MailboxRow := ⟨"A", "old", 100, true⟩
def rNew : MailboxRow := ⟨"A", "new", E + 100, true⟩
def rSub : MailboxRow := ⟨"B", "sub", 0, true⟩
def rIdle : MailboxRow := ⟨"B", "idle", 50, false⟩

def db : Chan :=
  { nameplates := [⟨1, "A", "4", "old"⟩, ⟨2, "A", "7", "new"⟩, ⟨3, "B", "4", "sub"⟩],
    npSides := [⟨1, true, "s1", 100⟩, ⟨2, true, "s1", E + 100⟩, ⟨3, true, "s2", 0⟩],
    mailboxes := [rOld, rNew, rSub, rIdle],
    mbSides := [⟨"old", true, "s1", 100, none⟩, ⟨"new", true, "s1", E + 100, none⟩,
                ⟨"sub", true, "s2", 0, none⟩, ⟨"idle", false, "s3", 50, some "happy"⟩],
    messages := [⟨"A", "old", "s1", .str "pake", .str "aa", 100, .null⟩,
                 ⟨"A", "new", "s1", .str "pake", .str "bb", E + 100, .null⟩,
                 ⟨"B", "sub", "s2", .str "pake", .str "cc", 0, .null⟩,
                 ⟨"B", "idle", "s3", .str "x", .str "dd", 50, .null⟩],
    nextNp := 4 }

/-- connection 7 is subscribed to "sub" of app "B"; connection 8 is bound to app "A", nothing else -/
def conn7 : Conn :=
  { id := 7, app := some "B", side := some "s2", listening := true, mailbox := some "sub",
    mailboxId := some "sub" }
def conn8 : Conn := { id := 8, app := some "A", side := some "s9" }

def sys : Sys := { cfg := { usage := true }, db := db, disk := db, conns := [conn7, conn8] }

def g : GSys := ⟨sys, E + 100, ["old", "new", "sub", "idle"]⟩

theorem g_ginv : g.GInv where
  cinv := { npIds := by decide, npKey := by decide, bounded := ⟨by decide, by decide⟩, mbIds := by decide,
            npMb := by decide, nsFk := by decide, nsKey := by decide, msFk := by decide,
            msKey := by decide, msgFk := by decide, npHasSide := by decide }
  conn := { ids := by decide, handle := by decide, listen := by decide, bound := by decide }
  synced := ⟨rfl, rfl⟩
  used := by decide
  usedConn := by decide
  clockMb := by decide

/-- what the sweep at `now` must leave: "old" (app A) and "idle" (app B) are gone with everything
    hanging off them; "new" is untouched; "sub" is re-stamped -/
def after : Chan :=
  { nameplates := [⟨2, "A", "7", "new"⟩, ⟨3, "B", "4", "sub"⟩],
    npSides := [⟨2, true, "s1", E + 100⟩, ⟨3, true, "s2", 0⟩],
    mailboxes := [rNew, { rSub with updated := now }],
    mbSides := [⟨"new", true, "s1", E + 100, none⟩, ⟨"sub", true, "s2", 0, none⟩],
    messages := [⟨"A", "new", "s1", .str "pake", .str "bb", E + 100, .null⟩,
                 ⟨"B", "sub", "s2", .str "pake", .str "cc", 0, .null⟩],
    nextNp := 4 }

/-- the specification evaluated on the example (through `Sys.step_sweep_spec`) ... -/
theorem sweep_eval : (g.step (.sweep now false)).sys.db = after := by
  rw [show (g.step (.sweep now false)).sys = g.sys.step (.sweep now false) from rfl,
    (Sys.step_sweep_spec g_ginv.cinv now).1]
  decide +kernel

-- ... and the model itself, executed (no theorem involved)
#guard decide ((g.step (.sweep now false)).sys.db = after)

/-- `C12_sweep_preserves`, recent row: "new" was updated `E - 100 < E` ticks before the sweep -/
example : rNew ∈ g.sys.db.mailboxes ∧ now - rNew.updated < expirationTicks ∧ ¬ g.sys.Subscribed rNew := by
  decide
example := C12_sweep_preserves g_ginv now (r := rNew) (by decide) (Or.inl (by decide))

/-- `C12_sweep_preserves`, subscribed row: "sub" is `2E` old but connection 7 is subscribed -/
example : rSub ∈ g.sys.db.mailboxes ∧ ¬ now - rSub.updated < expirationTicks ∧ g.sys.Subscribed rSub := by
  decide
example : ({ rSub with updated := now } : MailboxRow) ∈ (g.step (.sweep now false)).sys.db.mailboxes :=
  (C12_sweep_preserves g_ginv now (r := rSub) (by decide) (Or.inr (by decide))).1 (by decide)

/-- `C12_sweep_only_old`: the hypothesis holds, and rows really are deleted (`sweep_eval`): "old" and,
    side by side in the other app, "idle" -/
example := C12_sweep_only_old g_ginv now
example : g.sys.Old now rOld ∧ g.sys.Old now rIdle ∧ ¬ g.sys.Old now rNew ∧ ¬ g.sys.Old now rSub := by
  decide


/-- `C12_prune_other_apps`: pruning app "A" of the example at `now` (cutoff `E < now`) -/
example := C12_prune_other_apps (s := sys) (app := "A") (now := now) (old := now - E) (s1 := (sys.prune "A" now (now - E)).1)
  (b := (sys.prune "A" now (now - E)).2) g_ginv.cinv (by decide) rfl (a := "B") (by decide)
#guard decide (((sys.prune "A" now (now - E)).1.db.mailboxesOfApp "B" = sys.db.mailboxesOfApp "B") ∧
  (sys.prune "A" now (now - E)).1.db.mailboxesOfApp "A" = [rNew])

/-- `C12_connected_forever`: a faulted firing, an ordinary one and one a hundred expiration times later -/
def sweeps : List Op := [.sweep now true, .sweep (now + P) false, .sweep (now + 100 * E) false]
example : (∀ op ∈ sweeps, op.isFiring = true) ∧ conn7 ∈ g.sys.conns ∧ conn7.mailbox = some "sub" := by decide
example := C12_connected_forever g_ginv sweeps (by decide) (x := conn7) (by decide) (mb := "sub") rfl
#guard decide (∃ r ∈ (g.run sweeps).sys.db.mailboxes, r.id = "sub" ∧ r.app = "B")


/-- `C12_connected_mixed`: other traffic between sweeps — connection 8 claims, opens and adds, a new
    connection appears and goes, a faulted and an ordinary sweep fire — connection 7 keeps "sub" -/
def traffic : List Op :=
  [.connect 9, .recv 8 (E + 300) (.int 1) (.claim (some "7") "f1"), .sweep now true,
   .recv 8 (now + 1) (.int 2) (.open_ (some "new")), .sweep (now + P) false,
   .recv 8 (now + P + 1) (.int 3) (.add (some (.str "p")) (some (.str "b"))), .drop 9,
   .recv 7 (now + P + 2) (.int 4) (.add (some (.str "p")) (some (.str "c"))), .sweep (now + 50 * E) false]
example : (∀ op ∈ traffic, op.harmlessFor 7 = true) ∧ g.sys.Holds 7 "B" "sub" := by decide
theorem traffic_wf : g.WF traffic := GSys.wfB_sound (by decide +kernel)
example := C12_connected_mixed traffic g_ginv traffic_wf (c := 7) (app := "B") (mb := "sub") (by decide) (by decide)
#guard decide ((g.run traffic).sys.Holds 7 "B" "sub")
-- ... and the subscriber's own `close` does end it (the excluded case)
#guard decide (¬ ((g.step (.recv 8 (E + 300) (.int 1) (.open_ (some "new")))).step
  (.recv 8 (E + 301) (.int 2) (.close (some "new") none))).sys.Holds 8 "A" "new")


/-- `C12_updated_mono` / `C12_activity_survives`: "new" was stamped `E + 100`; after the traffic above
    (sweeps, claims, opens, adds, a connection coming and going) its row is still stamped `≥ E + 100` -/
example : g.WFOp (.recv 8 (E + 300) (.int 1) (.claim (some "7") "f1")) := GSys.wfOpB_sound (by decide +kernel)
example := C12_updated_mono g_ginv (op := .recv 8 (E + 300) (.int 1) (.claim (some "7") "f1"))
  (GSys.wfOpB_sound (by decide +kernel))
example := fun r hr => C12_activity_survives g_ginv (app := "A") (mb := "new") (t := E + 100) (by decide)
  [.connect 9, .sweep now true] (GSys.wfB_sound (by decide +kernel)) now (by decide) (r := r) hr
#guard decide (∀ r ∈ (g.run traffic).sys.db.mailboxes, r.id = "new" → E + 100 ≤ r.updated)

/-- `C12_survives_sweeps`: three firings before `rNew.updated + E` -/
def early : List Op := [.sweep (E + 200) false, .sweep (E + 200 + P) true, .sweep (2 * E + 50) false]
example : (∀ op ∈ early, op.isFiring = true) ∧
    (∀ op ∈ early, op.firingTime < rNew.updated + expirationTicks) := by decide
example := C12_survives_sweeps g_ginv early (by decide) (r := rNew) (by decide) (by decide)

/-- `C12_grace`: last firing that saw the client at `f = E`, client gone at `td = E + P - 1`, absence
    `a = E - P`; the firings at `E + P` and `E + 2P` (if within the absence) are harmless -/
example : let f := E; let td := E + P - 1; let a := E - P
    td < f + periodTicks ∧ f ≤ rNew.updated ∧ a ≤ expirationTicks - periodTicks ∧
    ∀ op ∈ [Op.sweep (E + P) false, Op.sweep (td + a) false], op.firingTime ≤ td + a := by decide
example := C12_grace g_ginv [.sweep (E + P) false, .sweep (E + P - 1 + (E - P)) false] (by decide)
  (r := rNew) (by decide) (f := E) (td := E + P - 1) (a := E - P) (by decide) (by decide) (by decide) (by decide)

/-! activity: the four commands, successful, on the example state at time `t = E + 300` -/
def t : Time := E + 300

example : ∀ e ∈ (sys.step (.recv 8 t (.int 1) (.claim (some "7") "fresh"))).out, e.bad = false := by
  decide +kernel
example := C12_activity_stamps_claim (s := sys) (c := 8) (x := conn8) (app := "A") (by decide) rfl t (.int 1)
  (some "7") "fresh" (by decide +kernel)

example : ∀ e ∈ (sys.step (.recv 8 t (.int 1) (.allocate 0 [] "fresh"))).out, e.bad = false := by
  decide +kernel
example := C12_activity_stamps_allocate (s := sys) (c := 8) (x := conn8) (app := "A") (by decide) rfl t (.int 1)
  0 [] "fresh" (by decide +kernel)

example : ∀ e ∈ (sys.step (.recv 8 t (.int 1) (.open_ (some "new")))).out, e.bad = false := by
  decide +kernel
example := C12_activity_stamps_open (s := sys) (c := 8) (x := conn8) (app := "A") (by decide) rfl t (.int 1)
  (some "new") (by decide +kernel)

example : ∀ e ∈ (sys.step (.recv 7 t (.int 1) (.add (some (.str "p")) (some (.str "b"))))).out,
    e.bad = false := by
  decide +kernel
example := C12_activity_stamps_add (s := sys) g_ginv.conn (c := 7) (x := conn7) (app := "B") (by decide) rfl t
  (.int 1) (some (.str "p")) (some (.str "b")) (by decide +kernel)

/-- the hypothesis is not always true: a second claim on the same connection is refused -/
example : ¬ ∀ e ∈ (sys.step (.recv 8 t (.int 1) (.claim none "fresh"))).out, e.bad = false := by
  decide +kernel

example : g.sys.Stamped "A" "new" (E + 100) ∧ now - (E + 100) < expirationTicks := by
  decide
example := C12_recent_activity_survives g_ginv (app := "A") (mb := "new") (t := E + 100)
  (by decide) now (by decide)

end SweepExample

end Wormhole

#print axioms Wormhole.C12_sweep_preserves
#print axioms Wormhole.C12_sweep_preserves_fault
#print axioms Wormhole.C12_sweep_only_old
#print axioms Wormhole.C12_prune_other_apps
#print axioms Wormhole.C12_connected_forever
#print axioms Wormhole.C12_connected_step
#print axioms Wormhole.C12_connected_close_other
#print axioms Wormhole.C12_connected_mixed
#print axioms Wormhole.C12_connected_mixed_reach
#print axioms Wormhole.C12_updated_mono
#print axioms Wormhole.C12_updated_lower_bound
#print axioms Wormhole.C12_activity_survives
#print axioms Wormhole.C12_survives_sweeps
#print axioms Wormhole.C12_grace_arith
#print axioms Wormhole.C12_grace_window_pos
#print axioms Wormhole.C12_grace
#print axioms Wormhole.C12_activity_stamps_claim
#print axioms Wormhole.C12_activity_stamps_allocate
#print axioms Wormhole.C12_activity_stamps_open
#print axioms Wormhole.C12_activity_stamps_add
#print axioms Wormhole.C12_recent_activity_survives
#print axioms Wormhole.Sys.prune_sweepP
#print axioms Wormhole.Sys.expire_db
#print axioms Wormhole.GSys.GInv.step_sweep
#print axioms Wormhole.SweepExample.sweep_eval
