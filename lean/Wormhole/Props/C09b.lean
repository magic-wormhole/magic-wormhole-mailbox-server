/-
  C09, completed — a response is sent only after its effects are committed, for ALL well-formed
  histories, crashes included.

  Props/C09.lean proves the commit discipline for crash-free histories and leaves one gap
  (`hCrash` of `C09_frames_synced_crash_partial`): that the nameplate tables are in order in the
  state a crash leaves.  That is part of `GInv`, which holds in every reachable state
  (`GSys.Reach.ginv`, Inv/Main.lean: every snapshot committed inside any operation satisfies
  `CInv`).  Hence:

  * `C09_frames_synced_all`   for every configuration, start time and every well-formed history
        (crashes at any commit boundary of any operation, sweeps with and without fault,
        restarts): every frame of the trace carries `synced = true`, i.e. at the instant it was
        handed to the transport both databases had nothing uncommitted.
  * `C09_frames_synced_reach` the same from any reachable state.
-/
import Wormhole.Props.C09
import Wormhole.Inv.Main
import Wormhole.Inv.WFDec

namespace Wormhole
open Sys

theorem C09_step_all {g : GSys} (hI : g.GInv) (op : Op) : AllFramesSynced (g.sys.step op).out := by
  rcases op.isCrash_cases with hc | ⟨k, op', rfl⟩
  · exact (Ok.step hI.synced hI.cinv.npOk hc).frames
  · exact step_crash_framesOk hI.synced hI.cinv.npOk k op'

/-- **C09 from any reachable state**, any well-formed continuation -/
theorem C09_frames_synced_reach : ∀ (ops : List Op) {g : GSys}, g.Reach → g.WF ops →
    AllFramesSynced (g.sys.run ops).2 := by
  intro ops
  induction ops with
  | nil => intro g _ _ e he; simp [Sys.run] at he
  | cons op rest ih =>
    intro g hg hwf
    simp only [Sys.run]
    exact (C09_step_all hg.ginv op).append (ih (g := g.step op) (.step op hg hwf.1) hwf.2)

/-- **C09, all histories.**  For every `cfg`, `rb` and every well-formed history `ops` (crashes
    included), every frame in the trace has `synced = true`. -/
theorem C09_frames_synced_all (cfg : Cfg) (rb : Time) (ops : List Op) (hwf : (GSys.init cfg rb).WF ops) :
    AllFramesSynced (Sys.run { cfg := cfg, rebooted := rb } ops).2 :=
  C09_frames_synced_reach ops (.init cfg rb) hwf

/-- the final state has nothing uncommitted either -/
theorem C09_final_synced (cfg : Cfg) (rb : Time) (ops : List Op) (hwf : (GSys.init cfg rb).WF ops) :
    (Sys.run { cfg := cfg, rebooted := rb } ops).1.Synced := by
  have := (GSys.reach_run (.init cfg rb) ops hwf).ginv.synced
  rw [GSys.run_sys] at this
  exact this

/-! ### Non-vacuity: a history with a crash inside `claim`, a restart, a sweep; usage DB on -/

namespace C09bExample

def hist : List Op :=
  [ .connect 1,
    .recv 1 10 (.int 1) (.bind (some "app") (some "s1") (some "impl") (some "v")),
    .crashIn 1 (.recv 1 11 (.int 2) (.claim (some "4") "mb1")),
    .connect 2,
    .recv 2 12 (.int 3) (.bind (some "app") (some "s1") none none),
    .recv 2 13 (.int 4) (.claim (some "4") "mb2"),
    .recv 2 14 (.int 5) (.open_ (some "mb1")),
    .recv 2 15 (.int 6) (.add (some (.str "pake")) (some (.str "body"))),
    .crashIn 2 (.recv 2 16 (.int 7) (.close none (some "happy"))),
    .restart 20,
    .sweep 100000 false ]

/-- the hypothesis of `C09_frames_synced_all` holds for it -/
theorem hist_wf : (GSys.init { usage := true } 0).WF hist := GSys.wfB_sound (by decide +kernel)

example : AllFramesSynced (Sys.run { cfg := { usage := true }, rebooted := 0 } hist).2 :=
  C09_frames_synced_all _ _ _ hist_wf

/-- evaluated, not derived: the frames are there (eleven of them), each with `synced = true` -/
example : C09Example.flags (Sys.run { cfg := { usage := true }, rebooted := 0 } hist).2 =
    [true, true, true, true, true, true, true, true, true, true, true] := by decide +kernel

/-- the second claim (after the crash) is answered with the mailbox the crashed claim committed -/
example : Event.frame 2 (.claimed "mb1") true ∈ (Sys.run { cfg := { usage := true }, rebooted := 0 } hist).2 := by
  decide +kernel

end C09bExample

end Wormhole

#print axioms Wormhole.C09_step_all
#print axioms Wormhole.C09_frames_synced_reach
#print axioms Wormhole.C09_frames_synced_all
#print axioms Wormhole.C09_final_synced
