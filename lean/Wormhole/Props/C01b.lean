/-
  C01, second part.

  (a) `C01_replay_exact_live`  "exactly as submitted" under the weakest hypothesis that makes it true:
      every entry of the LIVE LOG of `(a, m)` carries no JSON number (K-id-coercion) -- instead of
      `C01_replay_exact'`'s "every op of the history is textual", which implies it
      (`textual_ops_imp_live`); the example below is a history to which only the live form applies.
  (b) `C01_deleted_only_by_close_or_sweep`  the link between the table-reading ghost `liveStep`
      ("row `(a, m)` absent after the step") and the words of the property ("deletion: last close or
      expiry"): from EVERY state satisfying `GInv`, for EVERY operation (crashes at any commit
      included): if the mailbox row `(a, m)` is present before the step and absent after it, the
      operation is either a `close` by a connection bound to `a`, acting on `m`, with no OTHER side
      of `m` open (`ClosesLast`), or a non-faulted sweep that finds the row old and without listener
      (`SweepsOld`).
  (c) `C01_entry_survives`  the history-level corollary: an accepted `add` on `(a, m)` stays in
      `liveLog a m` as long as no later step is a `ClosesLast` or a `SweepsOld` of `(a, m)`.
-/
import Wormhole.Props.C01
import Wormhole.Props.C03
import Wormhole.Props.C08
import Wormhole.Props.C12

namespace Wormhole
open Sys

theorem textual_ops_imp_live (a m : String) (cfg : Cfg) (rb : Time) (ops : List Op)
    (htext : ∀ op ∈ ops, op.Textual) : ∀ e ∈ liveLog a m cfg rb ops, e.Textual :=
  liveRun_forall Entry.Textual a m ops
    (fun op hop _ _ _ _ h => addEntryOf_textual h (htext op hop)) _ [] (by simp)

/-- **C01 (replay exact, live form)**: if no entry of the live log of `(a, m)` -- the accepted `add`s
    on `(a, m)` since that mailbox row last did not exist -- carries a JSON number as phase, body or
    id, then an accepted `open` of `(a, m)` answered ok is sent exactly: ack, commits, and that log,
    one frame per entry, in order, with the adder's bound side and phase, body, id EXACTLY AS
    SUBMITTED.  Nothing is required of rejected `add`s, of `add`s to other mailboxes or apps, or of
    `add`s to an earlier incarnation of `(a, m)`. -/
theorem C01_replay_exact_live (cfg : Cfg) (rb : Time) (ops : List Op)
    (hwf : (GSys.init cfg rb).WF ops)
    {c : Nat} {x : Conn} {a σ m : String} (htext : ∀ e ∈ liveLog a m cfg rb ops, e.Textual)
    (t : Time) (id : Val)
    (hx : ((GSys.init cfg rb).run ops).sys.findConn c = some x) (ha : x.app = some a)
    (hσ : x.side = some σ) (hm : x.mailbox = none)
    (hok : ((GSys.init cfg rb).run ops).sys.db.openRes a m σ = .ok) :
    ∃ commits, (∀ e ∈ commits, IsCommit e) ∧
      (((GSys.init cfg rb).run ops).step (.recv c t id (.open_ (some m)))).sys.out =
        [.frame c (.ack id) true] ++ commits ++ (liveLog a m cfg rb ops).map (Entry.asSubmitted c) :=
  C01_replay_asSubmitted (fun _ h => h.ginv) cfg rb ops hwf htext t id hx ha hσ hm hok

/-- the live form gives `C01_replay_exact'` -/
example (cfg : Cfg) (rb : Time) (ops : List Op)
    (hwf : (GSys.init cfg rb).WF ops) (htext : ∀ op ∈ ops, op.Textual)
    {c : Nat} {x : Conn} {a σ m : String} (t : Time) (id : Val)
    (hx : ((GSys.init cfg rb).run ops).sys.findConn c = some x) (ha : x.app = some a)
    (hσ : x.side = some σ) (hm : x.mailbox = none)
    (hok : ((GSys.init cfg rb).run ops).sys.db.openRes a m σ = .ok) :
    ∃ commits, (∀ e ∈ commits, IsCommit e) ∧
      (((GSys.init cfg rb).run ops).step (.recv c t id (.open_ (some m)))).sys.out =
        [.frame c (.ack id) true] ++ commits ++ (liveLog a m cfg rb ops).map (Entry.asSubmitted c) :=
  C01_replay_exact_live cfg rb ops hwf (textual_ops_imp_live a m cfg rb ops htext) t id hx ha hσ hm hok

namespace C01bEx

/-- connection 1 (app "A", side "s1") opens "m" and adds a textual message; connection 3 (same app)
    opens ANOTHER mailbox "other" and adds there with the JSON number 5 as id; connection 1 also sends
    an `add` with a numeric phase and NO body, which validation refuses; connection 2 binds. -/
def hist : List Op :=
  [.connect 1, .recv 1 1 .null (.bind (some "A") (some "s1") none none),
   .recv 1 2 .null (.open_ (some "m")),
   .recv 1 3 (.str "i1") (.add (some (.str "ph")) (some (.str "bd"))),
   .connect 3, .recv 3 4 .null (.bind (some "A") (some "s3") none none),
   .recv 3 5 .null (.open_ (some "other")),
   .recv 3 6 (.int 5) (.add (some (.str "ph")) (some (.str "bd"))),
   .recv 1 7 (.int 9) (.add (some (.int 1)) none),
   .connect 2, .recv 2 8 .null (.bind (some "A") (some "s2") none none)]

theorem hist_wf : (GSys.init {} 0).WF hist := GSys.wfB_sound (by decide +kernel)

/-- the hypothesis of `C01_replay_exact'` fails (two ops are not textual) ... -/
example : ¬ ∀ op ∈ hist, op.Textual := by
  intro h
  have := h (.recv 3 6 (.int 5) (.add (some (.str "ph")) (some (.str "bd")))) (by simp [hist])
  simp [Op.Textual, Op.plain, Val.isInt] at this

/-- ... the live log of ("A","m") is textual all the same ... -/
theorem live_m : liveLog "A" "m" {} 0 hist = [⟨"s1", .str "ph", .str "bd", .str "i1", 3⟩] := by
  decide +kernel

theorem live_textual : ∀ e ∈ liveLog "A" "m" {} 0 hist, e.Textual := by
  rw [live_m]
  intro e he
  simp only [List.mem_singleton] at he
  subst he
  exact ⟨rfl, rfl, rfl⟩

def x2 : Conn := { id := 2, app := some "A", side := some "s2" }

/-- ... and all hypotheses of `C01_replay_exact_live` hold for connection 2 opening "m" -/
example := C01_replay_exact_live {} 0 hist hist_wf (c := 2) (x := x2) (a := "A") (σ := "s2") (m := "m")
  live_textual 9 .null (by decide +kernel) rfl rfl rfl (by decide +kernel)

/-- (the live log of ("A","other") is NOT textual: there the finding K-id-coercion bites) -/
example : liveLog "A" "other" {} 0 hist = [⟨"s3", .str "ph", .str "bd", .int 5, 6⟩] := by decide +kernel

end C01bEx

/-- `op` (or the operation a `crashIn` wraps) is a `close` received on a connection bound to app `a`,
    acting on mailbox `m` (`Conn.closeTarget`: the handle if the connection holds one, else the
    `mailbox` key of the command, else the name the connection remembers), while NO OTHER side of `m`
    is open in the state the command arrives in: the closer's side is the only side row of `m` with
    `opened = true`, or there is none (possible only after a crash inside an earlier `close`).
    The command passes validation (`rejectText = none`, Props/C17.lean). -/
def Sys.ClosesLast (s : Sys) (op : Op) (a m : String) : Prop :=
  ∃ c t id mo mood x, op.inner = .recv c t id (.close mo mood) ∧ s.findConn c = some x ∧
    rejectText x (.close mo mood) = none ∧
    x.app = some a ∧ x.closeTarget mo = some m ∧ ¬ s.db.OtherOpen m (x.side.getD "")

/-- `op` (or the operation a `crashIn` wraps) is a non-faulted sweep at time `now`, the row `(a, m)`
    was last stamped at or before `now - expirationTicks`, and nobody is subscribed to `(a, m)` -/
def Sys.SweepsOld (s : Sys) (op : Op) (a m : String) : Prop :=
  ∃ now row, op.inner = .sweep now false ∧ s.db.findMailbox a m = some row ∧
    row.updated ≤ now - Generated.expirationTicks ∧ s.listeners a m = []

/-- `¬ OtherOpen` spelled out: every `opened` side row of `m` is the closer's -/
theorem c01b_not_otherOpen_iff (d : Chan) (m σ : String) :
    ¬ d.OtherOpen m σ ↔ ∀ r ∈ d.mbSides, r.mailbox = m → r.opened = true → r.side = σ := by
  unfold Chan.OtherOpen
  constructor
  · intro h r hr hm ho
    false_or_by_contra
    rename_i hne
    exact h ⟨r, hr, hm, hne, ho⟩
  · rintro h ⟨r, hr, hm, hne, ho⟩
    exact hne (h r hr hm ho)

theorem Op.c01b_plain_eq_core (op : Op) : op.plain = op.core := by cases op <;> rfl

theorem Op.c01b_inner_of_core {op op0 : Op} (h : op.core = op0) (h0 : op0.isCrash = false) : op.inner = op0 := by
  subst h
  cases op with
  | crashIn k op' => exact Op.inner_of_not_crash h0
  | _ => rfl

/-- a step that executes nothing (a `crashIn` wrapped around a `crashIn`) and every step that is neither
    a sweep nor a `close` aimed at mailbox id `m` keeps the row `(a, m)` -- at every commit point -/
theorem c01b_hasBox_step_of_no_close {s : Sys} (hs : s.db = s.disk) {a m : String} (hrow : s.db.HasBox a m)
    (op : Op) (hns : op.core.isSweep = false)
    (hnc : ¬ ∃ c t id mo mood x app', op.core = .recv c t id (.close mo mood) ∧ s.findConn c = some x ∧
      x.app = some app' ∧ x.closeTarget mo = some m) :
    (s.step op).db.HasBox a m := by
  refine step_track (R := fun d => d.HasBox a m) (R' := fun d => d.HasBox a m)
    (fun d f hf h => (Chan.Mono.grow hf d).rows _ _ h) (fun _ h => h)
    (by intro hsw; rw [hns] at hsw; cases hsw) ?_ ?_ hrow (by rw [← hs]; exact hrow)
  · intro c t id x mo mood app' tgt _ _ _ _ d h _
    exact h
  · intro c t id x mo mood app' tgt hop hx happ htg d h _
    have hne : m ≠ tgt := by
      rintro rfl
      exact hnc ⟨c, t, id, mo, mood, x, app', hop, hx, happ, htg⟩
    obtain ⟨r, hr, h1, h2⟩ := h
    refine ⟨r, ?_, h1, h2⟩
    simp only [Chan.closeDeletes, Chan.delMailbox, List.mem_filter, decide_not, Bool.not_eq_eq_eq_not,
      Bool.not_true, decide_eq_false_iff_not]
    exact ⟨hr, by rw [h2]; exact hne⟩

/-- an accepted `close` that names a mailbox id existing under ANOTHER app, on a connection without
    handle, is answered IntegrityError (K-global-mailbox-id) before any statement ran: the database,
    the committed database and the list of crash points are untouched -/
theorem c01b_onMessage_close_clash {s : Sys} {c : Nat} {x : Conn} {app' mb : String} {mo mood : Option String}
    (hx : s.findConn c = some x) (hr : rejectText x (.close mo mood) = none) (happ : x.app = some app')
    (hnoh : x.mailbox = none) (hn : x.closeName mo = some mb)
    (h1 : s.db.findMailbox app' mb = none) (h2 : s.db.findMailboxById mb ≠ none) (t : Time) (id : Val) :
    (s.onMessage c t id (.close mo mood)).db = s.db ∧ (s.onMessage c t id (.close mo mood)).disk = s.disk ∧
    (s.onMessage c t id (.close mo mood)).snaps = s.snaps := by
  have hom : (s.send c (.ack id)).openMailbox app' mb (x.side.getD "") t = (s.send c (.ack id), .integrity) := by
    have : (s.send c (.ack id)).addMailbox app' mb false t = none := by
      rw [addMailbox_none_iff]; exact ⟨h1, h2⟩
    simp [Sys.openMailbox, this]
  rw [onMessage_close_eq hx hr happ hn]
  simp only [closeGo_eq, closeOpened, closeFinish, hnoh, hom]
  exact ⟨rfl, rfl, rfl⟩

/-- a command whose execution changes neither the database nor the committed database and commits
    nothing leaves the database as it was, crashed or not -/
theorem c01b_step_db_of_inert {s : Sys} (hs : s.db = s.disk) (op : Op) {c : Nat} {t : Time} {id : Val} {cmd : Cmd}
    (hop : op.core = .recv c t id cmd)
    (hk : (({ s with out := [], snaps := [] } : Sys).onMessage c t id cmd).db = s.db ∧
      (({ s with out := [], snaps := [] } : Sys).onMessage c t id cmd).disk = s.disk ∧
      (({ s with out := [], snaps := [] } : Sys).onMessage c t id cmd).snaps = []) :
    (s.step op).db = s.db := by
  obtain ⟨k1, k2, k3⟩ := hk
  refine AllDb.step_db (P := (· = s.db)) hs.symm ?_
  rw [Op.c01b_plain_eq_core, hop]
  exact ⟨k1, fun _ => ⟨k2.trans hs.symm, fun p hp => by simp [Sys.stepPlain, k3] at hp⟩⟩

theorem c01b_step_db_of_rejected {s : Sys} (hs : s.db = s.disk) (op : Op) {c : Nat} {t : Time} {id : Val} {cmd : Cmd}
    {x : Conn} {text : String} (hop : op.core = .recv c t id cmd) (hx : s.findConn c = some x)
    (hr : rejectText x cmd = some text) : (s.step op).db = s.db := by
  apply c01b_step_db_of_inert hs op hop
  rw [onMessage_rejected (s := { s with out := [], snaps := [] }) (t := t) (id := id) hx hr]
  split <;> exact ⟨rfl, rfl, rfl⟩

/-- the part of (b) for every operation that is not a sweep (crashes at any commit included) -/
theorem c01b_deleted_nonsweep {g : GSys} (hI : g.GInv) {a m : String} (hrow : g.sys.db.HasBox a m) (op : Op)
    (hns : op.core.isSweep = false) (hgone : ¬ (g.sys.step op).db.HasBox a m) :
    g.sys.ClosesLast op a m := by
  have hP := hI.cinv.toPInv
  -- a `close` that deletes something was not refused by validation
  have hacc : ∀ {c t id mo mood x}, op.core = .recv c t id (.close mo mood) → g.sys.findConn c = some x →
      rejectText x (.close mo mood) = none := by
    intro c t id mo mood x hop hx
    cases hr : rejectText x (.close mo mood) with
    | none => rfl
    | some text =>
      exfalso
      apply hgone
      rw [c01b_step_db_of_rejected hI.synced.1 op hop hx hr]
      exact hrow
  by_cases hopen : ∃ r ∈ g.sys.db.mbSides, r.mailbox = m ∧ r.opened = true
  · rcases C08.C08_alive_while_open hI hrow hopen op hns with h | ⟨σ, hcl, hall⟩
    · exact absurd h hgone
    · obtain ⟨c, t, id, mo, mood, x, hop, hx, happ, htg, hside⟩ := hcl
      exact ⟨c, t, id, mo, mood, x, Op.c01b_inner_of_core hop rfl, hx, hacc hop hx, happ, htg,
        (c01b_not_otherOpen_iff _ _ _).2 (by rw [hside]; exact hall)⟩
  · by_cases hcl : ∃ c t id mo mood x app', op.core = .recv c t id (.close mo mood) ∧
        g.sys.findConn c = some x ∧ x.app = some app' ∧ x.closeTarget mo = some m
    · obtain ⟨c, t, id, mo, mood, x, app', hop, hx, happ, htg⟩ := hcl
      by_cases hap : app' = a
      · subst hap
        refine ⟨c, t, id, mo, mood, x, Op.c01b_inner_of_core hop rfl, hx, hacc hop hx, happ, htg, ?_⟩
        rintro ⟨r, hr, h1, _, h3⟩
        exact hopen ⟨r, hr, h1, h3⟩
      · -- a connection of another app names the id: IntegrityError, nothing happens
        exfalso
        apply hgone
        have hnoh : x.mailbox = none := by
          cases hh : x.mailbox with
          | none => rfl
          | some h =>
            exfalso
            have : h = m := by simpa [Conn.closeTarget, hh] using htg
            subst this
            obtain ⟨_, a', ha', r, hr, e1, e2⟩ := hI.conn.handle x (findConn_mem hx) h hh
            rw [happ] at ha'; cases ha'
            exact hap ((hP.app_of_id hrow hr e1).symm.trans e2).symm
        have hn : x.closeName mo = some m := by simpa [Conn.closeTarget, hnoh] using htg
        have h1 : g.sys.db.findMailbox app' m = none := by
          rw [Chan.findMailbox_eq_none]
          rintro ⟨r, hr, e1, e2⟩
          exact hap (e1.symm.trans (hP.app_of_id hrow hr e2))
        have h2 : g.sys.db.findMailboxById m ≠ none := by
          obtain ⟨r, hr, _, e2⟩ := hrow
          intro hn'
          simp only [Chan.findMailboxById, List.find?_eq_none, decide_eq_true_eq] at hn'
          exact hn' r hr e2
        have hdb : (g.sys.step op).db = g.sys.db :=
          c01b_step_db_of_inert hI.synced.1 op hop
            (c01b_onMessage_close_clash (s := g.cleared) hx (hacc hop hx) happ hnoh hn h1 h2 t id)
        rw [hdb]; exact hrow
    · exact absurd (c01b_hasBox_step_of_no_close hI.synced.1 hrow op hns hcl) hgone

/-! ### the sweep: a row stamped after the cutoff survives at every commit point -/

/-- `(a, m)` has a row, and every row with id `m` is stamped later than `old` -/
def Chan.Young (a m : String) (old : Time) (d : Chan) : Prop :=
  d.HasBox a m ∧ ∀ r ∈ d.mailboxes, r.id = m → old < r.updated

theorem Chan.Young.of_mailboxes {a m : String} {old : Time} {d d' : Chan} (h : Chan.Young a m old d)
    (e : d'.mailboxes = d.mailboxes) : Chan.Young a m old d' := by
  unfold Chan.Young Chan.HasBox at *
  rw [e]; exact h

theorem Chan.Young.restamp {a m : String} {old now : Time} {d : Chan} (h : Chan.Young a m old d)
    (hlt : old < now) (p : MailboxRow → Prop) [DecidablePred p] :
    Chan.Young a m old
      { d with mailboxes := d.mailboxes.map (fun r => if p r then { r with updated := now } else r) } := by
  obtain ⟨⟨r, hr, h1, h2⟩, hall⟩ := h
  constructor
  · refine ⟨if p r then { r with updated := now } else r, List.mem_map.2 ⟨r, hr, rfl⟩, ?_, ?_⟩ <;>
      split <;> assumption
  · intro r' hr' hid
    obtain ⟨r0, hr0, rfl⟩ := List.mem_map.1 hr'
    split
    · exact hlt
    · rename_i hp
      rw [if_neg hp] at hid
      exact hall r0 hr0 hid

theorem Chan.Young.delMb {a m : String} {old : Time} {d : Chan} (h : Chan.Young a m old d) {i : String}
    (hne : i ≠ m) : Chan.Young a m old (((d.delMessagesOf i).delMbSidesOf i).delMailbox i) := by
  obtain ⟨⟨r, hr, h1, h2⟩, hall⟩ := h
  constructor
  · refine ⟨r, ?_, h1, h2⟩
    simp only [Chan.delMailbox, Chan.delMbSidesOf, Chan.delMessagesOf, List.mem_filter, decide_not,
      Bool.not_eq_eq_eq_not, Bool.not_true, decide_eq_false_iff_not]
    exact ⟨hr, by rw [h2]; exact fun e => hne e.symm⟩
  · intro r' hr' hid
    simp only [Chan.delMailbox, Chan.delMbSidesOf, Chan.delMessagesOf, List.mem_filter] at hr'
    exact hall r' hr'.1 hid

section young
variable {W : Prop} {a m : String} {old : Time}

/-- the statements that leave the mailbox rows alone or stamp some of them after `old` -/
theorem Sys.AllDb.stmt_young {s s' : Sys} (h : AllDb W (Chan.Young a m old) s) {k : Kind} (hs : Stmt k s s')
    (hk : k.keepsMpart = true) (hst : ∀ now, k = .stamp now → old < now) : AllDb W (Chan.Young a m old) s' := by
  cases hs with
  | commit => exact h.commit
  | ucommit => exact h.ucommit
  | storeNp => exact h.storeNameplateUsage
  | unclaim | releaseDel | closeSide | delNp => exact h.modDb (h.db.of_mailboxes rfl)
  | touchListened _ app now => exact h.modDb (h.db.restamp (hst now rfl) _)
  | grow | insMessage | closeDeletes | stop | delMb | restart => cases hk
  | _ => exact ⟨h.db, h.rest⟩

/-- one `prune(now, old)` with `old < now`: listened rows are stamped `now`, and only rows NOT stamped
    after `old` are deleted -/
theorem Sys.AllDb.yPrune {s : Sys} (h : AllDb W (Chan.Young a m old) s) {now : Time} (hlt : old < now)
    (app : String) : AllDb W (Chan.Young a m old) (s.prune app now old).1 := by
  have hy1 : Chan.Young a m old (s.touchListened app now).commit.db := by
    rw [commit_db]; exact h.db.restamp hlt _
  refine ((Runs.refl s).prune (K := fun k => (k.keepsMpart = true ∧ ∀ n, k = .stamp n → old < n) ∨
      ∃ id, k = .sweep (some id) ∧ id ≠ m) (.inl ⟨rfl, nofun⟩) (.inl ⟨rfl, nofun⟩) (.inl ⟨rfl, nofun⟩) app now old
    (.inl ⟨rfl, fun n e => by cases e; exact hlt⟩) (fun row hrow => .inr ⟨_, rfl, fun hid => ?_⟩)).preserves ?_ h
  · -- a row with id `m` is stamped after `old`, hence not among the old ones
    simp only [List.mem_filter, Chan.mailboxesOfApp, decide_eq_true_eq, decide_not, Bool.not_eq_eq_eq_not,
      Bool.not_true, decide_eq_false_iff_not] at hrow
    exact hrow.2 (hy1.2 row hrow.1.1 hid)
  · rintro _ (⟨hk, hst⟩ | ⟨id, rfl, hne⟩) _ _ hs h1
    · exact h1.stmt_young hs hk hst
    · cases hs
      exact h1.modDb (h1.db.delMb hne)

theorem Sys.AllDb.yPruneApps {now : Time} (hlt : old < now) (l : List String) :
    ∀ {s : Sys}, AllDb W (Chan.Young a m old) s → AllDb W (Chan.Young a m old) (s.pruneApps now old l).1 := by
  induction l with
  | nil => intro s h; exact h
  | cons app rest ih =>
    intro s h
    unfold Sys.pruneApps
    have h1 := h.yPrune hlt app
    split <;> rename_i s1 heq <;> rw [heq] at h1
    · exact h1
    · exact ih h1

/-- one firing of `expire()` at `now` keeps, at every commit point, a row stamped after
    `now - expirationTicks` -/
theorem Sys.AllDb.yExpire {s : Sys} {now : Time}
    (h : AllDb W (Chan.Young a m (now - Generated.expirationTicks)) s) (fault : Bool) :
    AllDb W (Chan.Young a m (now - Generated.expirationTicks)) (s.expire now fault) := by
  unfold Sys.expire
  simp only []
  apply AllDb.dumpStats
  split
  · exact h.emit.emit
  · have hlt : now - Generated.expirationTicks < now := Int.sub_lt_self now expirationTicks_pos
    have h1 := AllDb.yPruneApps hlt ((s.emit (.fired now (now - Generated.expirationTicks))).allApps)
      (s := s.emit (.fired now (now - Generated.expirationTicks))) h.emit
    split <;> rename_i heq <;> rw [heq] at h1
    · exact h1
    · exact h1.emit

end young

/-- the part of (b) for sweeps (crashes at any commit of the sweep included) -/
theorem c01b_deleted_sweep {g : GSys} (hI : g.GInv) {a m : String} {row : MailboxRow}
    (hrow : g.sys.db.findMailbox a m = some row) (op : Op) {now : Time} {fault : Bool}
    (hop : op.core = .sweep now fault) (hgone : ¬ (g.sys.step op).db.HasBox a m) :
    fault = false ∧ row.updated ≤ now - Generated.expirationTicks ∧ g.sys.listeners a m = [] := by
  have hP := hI.cinv.toPInv
  obtain ⟨hrm, hra, hri⟩ := Chan.findMailbox_some_mbx hrow
  have hbox : g.sys.db.HasBox a m := ⟨row, hrm, hra, hri⟩
  have hpl : op.plain = .sweep now fault := by rw [Op.c01b_plain_eq_core, hop]
  -- whatever the step leaves is the live database, the committed one or a crash point of the sweep
  have hcases : ∀ P : Chan → Prop, P g.sys.db →
      AllDb True P (g.cleared.expire now fault) → P (g.sys.step op).db := by
    intro P h0 hA
    exact AllDb.step_db (by rw [← hI.synced.1]; exact h0) (by rw [hpl]; exact hA)
  refine ⟨?_, ?_, ?_⟩
  · -- a faulted firing touches nothing
    cases fault with
    | false => rfl
    | true =>
      exfalso
      apply hgone
      apply hcases (fun d => d.HasBox a m) hbox
      rw [expire_fault]
      exact (AllDb.start hI.synced hbox).emit.emit.dumpStats
  · -- a row stamped after the cutoff survives
    false_or_by_contra
    rename_i hyoung
    have hy : Chan.Young a m (now - Generated.expirationTicks) g.sys.db := by
      refine ⟨hbox, ?_⟩
      intro r hr hid
      have : r = row := Chan.eq_of_pairwise_ne (f := MailboxRow.id) hP.mbIds hr hrm (hid.trans hri.symm)
      subst this
      exact Int.not_le.1 hyoung
    exact hgone (hcases _ hy ((AllDb.start hI.synced hy).yExpire fault)).1
  · -- a mailbox with a listener is never swept (`step_tr`, as in `C02_sweep_keeps_listened`)
    have hna : g.sys.addRowOf op.plain = none := by rw [hpl]; rfl
    have htr := Sys.step_tr hI.synced hP.uniqIds op hna
    rw [hpl] at htr
    false_or_by_contra
    rename_i hl
    obtain ⟨r, hr, e1, e2⟩ := Chan.mem_mbKeys.1
      (htr.mem_keys (k := (a, m)) (Chan.mem_mbKeys.2 ⟨row, hrm, hra, hri⟩) hl)
    exact hgone ⟨r, hr, e1, e2⟩

/-- **C01 (deletion = last close or expiry).**  From every state satisfying the invariant (hence from
    every reachable state), for EVERY operation -- any command of any connection, connect, drop,
    sweep, restart, and `crashIn k` of any of these at any commit `k`: if the mailbox row `(a, m)` is
    present before the step and absent after it, then the operation (the wrapped one, for a crash) is
      * EITHER a `close` received on a connection bound to app `a` whose target is `m`, in a state in
        which no OTHER side has `m` open (`Sys.ClosesLast`),
      * OR a non-faulted sweep `sweep now false` for which the row was old
        (`updated ≤ now - expirationTicks`) and had no listener (`Sys.SweepsOld`).
    So the ghost `liveStep`, which empties the log of `(a, m)` exactly when the row is absent after a
    step, empties it only at "the mailbox's deletion (last close or expiry)".  In particular
    `connect`, `drop`, `restart`, faulted sweeps, every command other than `close`, every `close`
    by a connection of another app or aimed at another mailbox, every `close` while another side is
    open, and every crash inside any of these delete no mailbox row. -/
theorem C01_deleted_only_by_close_or_sweep {g : GSys} (hI : g.GInv) (op : Op) {a m : String}
    (hpre : g.sys.db.findMailbox a m ≠ none) (hpost : (g.sys.step op).db.findMailbox a m = none) :
    g.sys.ClosesLast op a m ∨ g.sys.SweepsOld op a m := by
  have hgone : ¬ (g.sys.step op).db.HasBox a m := Chan.findMailbox_eq_none.1 hpost
  cases hrow : g.sys.db.findMailbox a m with
  | none => exact absurd hrow hpre
  | some row =>
    cases hsw : op.core.isSweep with
    | false =>
      exact .inl (c01b_deleted_nonsweep hI (Chan.findMailbox_isSome.1 (by simp [hrow])) op hsw hgone)
    | true =>
      right
      obtain ⟨now, fault, hop⟩ : ∃ now fault, op.core = .sweep now fault := by
        cases hc : op.core <;> simp [hc, Op.isSweep] at hsw
        exact ⟨_, _, rfl⟩
      obtain ⟨h1, h2, h3⟩ := c01b_deleted_sweep hI hrow op hop hgone
      subst h1
      exact ⟨now, row, Op.c01b_inner_of_core hop rfl, hrow, h2, h3⟩

/-- the same for reachable states -/
theorem C01_deleted_only_by_close_or_sweep_reach {g : GSys} (hg : g.Reach) (op : Op) {a m : String}
    (hpre : g.sys.db.findMailbox a m ≠ none) (hpost : (g.sys.step op).db.findMailbox a m = none) :
    g.sys.ClosesLast op a m ∨ g.sys.SweepsOld op a m :=
  C01_deleted_only_by_close_or_sweep hg.ginv op hpre hpost

/-! ### non-vacuity of (b): reachable states, a deleting close, a deleting sweep, crashes inside both -/

namespace C01bEx

/-- connection 1 (app "A", side "s1") opens "m" and adds a message -/
def h1 : List Op :=
  [.connect 1, .recv 1 1 .null (.bind (some "A") (some "s1") none none),
   .recv 1 2 .null (.open_ (some "m")),
   .recv 1 3 (.str "i1") (.add (some (.str "ph")) (some (.str "bd")))]

def g1 : GSys := (GSys.init {} 0).run h1

theorem g1_reach : g1.Reach := GSys.reach_run (.init {} 0) h1 (GSys.wfB_sound (by decide +kernel))

def x1 : Conn :=
  { id := 1, app := some "A", side := some "s1", listening := true, mailbox := some "m", mailboxId := some "m" }

/-- the last (only) open side closes: the row is there before and gone after; the theorem applies ... -/
example : g1.sys.ClosesLast (.recv 1 4 .null (.close none none)) "A" "m" ∨
    g1.sys.SweepsOld (.recv 1 4 .null (.close none none)) "A" "m" :=
  C01_deleted_only_by_close_or_sweep_reach g1_reach (.recv 1 4 .null (.close none none))
    (a := "A") (m := "m") (by decide +kernel) (by decide +kernel)

/-- ... and the disjunct that holds is `ClosesLast`, with these witnesses -/
example : g1.sys.ClosesLast (.recv 1 4 .null (.close none none)) "A" "m" :=
  ⟨1, 4, .null, none, none, x1, rfl, by decide +kernel, by decide, rfl, by decide, by decide +kernel⟩

/-- the same `close` killed right after its SECOND commit (the deletion): the row is gone in the files
    the crash leaves, and the theorem classifies the wrapped operation; killed after the FIRST commit
    (the UPDATE of the side row) the row is still there (hypothesis `hpost` fails) -/
example : g1.sys.ClosesLast (.crashIn 2 (.recv 1 4 .null (.close none none))) "A" "m" ∨
    g1.sys.SweepsOld (.crashIn 2 (.recv 1 4 .null (.close none none))) "A" "m" :=
  C01_deleted_only_by_close_or_sweep_reach g1_reach (.crashIn 2 (.recv 1 4 .null (.close none none)))
    (a := "A") (m := "m") (by decide +kernel) (by decide +kernel)

example : (g1.sys.step (.crashIn 1 (.recv 1 4 .null (.close none none)))).db.findMailbox "A" "m" ≠ none := by
  decide +kernel

/-- connection 1 goes away without closing: the row stays, stamped 3, without listener -/
def h2 : List Op := h1 ++ [.drop 1]

def g2 : GSys := (GSys.init {} 0).run h2

theorem g2_reach : g2.Reach := GSys.reach_run (.init {} 0) h2 (GSys.wfB_sound (by decide +kernel))

/-- the first sweep at which the row is old (`now = 3 + expirationTicks`) deletes it: the theorem
    applies, and the disjunct that holds is `SweepsOld` -/
example : g2.sys.ClosesLast (.sweep (3 + Generated.expirationTicks) false) "A" "m" ∨
    g2.sys.SweepsOld (.sweep (3 + Generated.expirationTicks) false) "A" "m" :=
  C01_deleted_only_by_close_or_sweep_reach g2_reach (.sweep (3 + Generated.expirationTicks) false)
    (a := "A") (m := "m") (by decide +kernel) (by decide +kernel)

example : g2.sys.SweepsOld (.sweep (3 + Generated.expirationTicks) false) "A" "m" :=
  ⟨3 + Generated.expirationTicks, ⟨"A", "m", 3, false⟩, rfl, by decide +kernel, by decide, by decide +kernel⟩

/-- one tick earlier the row is not old and survives; a faulted firing deletes nothing -/
example : (g2.sys.step (.sweep (3 + Generated.expirationTicks - 1) false)).db.findMailbox "A" "m" ≠ none ∧
    (g2.sys.step (.sweep (3 + Generated.expirationTicks) true)).db.findMailbox "A" "m" ≠ none := by
  decide +kernel

/-- the sweep killed right after its first commit (the deletion) -/
example : g2.sys.ClosesLast (.crashIn 1 (.sweep (3 + Generated.expirationTicks) false)) "A" "m" ∨
    g2.sys.SweepsOld (.crashIn 1 (.sweep (3 + Generated.expirationTicks) false)) "A" "m" :=
  C01_deleted_only_by_close_or_sweep_reach g2_reach (.crashIn 1 (.sweep (3 + Generated.expirationTicks) false))
    (a := "A") (m := "m") (by decide +kernel) (by decide +kernel)

end C01bEx

theorem c01b_liveRun_append (a m : String) (ops1 ops2 : List Op) :
    ∀ (g : GSys) (l : List Entry),
      liveRun a m g.sys (ops1 ++ ops2) l = liveRun a m (g.run ops1).sys ops2 (liveRun a m g.sys ops1 l) := by
  induction ops1 with
  | nil => intro g l; rfl
  | cons op rest ih =>
    intro g l
    exact ih (g.step op) (liveStep a m g.sys op l)

/-- along a history none of whose steps is a last close or an expiry of `(a, m)`, the row `(a, m)`
    stays and the ghost log of `(a, m)` loses nothing -/
theorem c01b_liveRun_keeps {e : Entry} (a m : String) (ops : List Op) :
    ∀ {g : GSys} (live : List Entry), g.GInv → g.WF ops → e ∈ live →
      g.sys.db.findMailbox a m ≠ none →
      (∀ p1 op p2, ops = p1 ++ op :: p2 →
        ¬ (g.run p1).sys.ClosesLast op a m ∧ ¬ (g.run p1).sys.SweepsOld op a m) →
      e ∈ liveRun a m g.sys ops live ∧ (g.run ops).sys.db.findMailbox a m ≠ none := by
  induction ops with
  | nil => intro g live _ _ he hrow _; exact ⟨he, hrow⟩
  | cons op rest ih =>
    intro g live hI hwf he hrow hk
    obtain ⟨k1, k2⟩ := hk [] op rest rfl
    have hrow' : (g.sys.step op).db.findMailbox a m ≠ none := by
      intro hgone
      rcases C01_deleted_only_by_close_or_sweep hI op hrow hgone with h | h
      · exact k1 h
      · exact k2 h
    refine ih (g := g.step op) (liveStep a m g.sys op live) (hI.step op hwf.1) hwf.2 ?_ hrow' ?_
    · unfold liveStep
      rw [if_neg hrow']
      split
      · split
        · exact List.mem_append_left _ he
        · exact he
      · exact he
    · intro p1 op' p2 hsplit
      exact hk (op :: p1) op' p2 (by rw [hsplit]; rfl)

/-- **C01 (history form of "not discarded except by last close or expiry").**  In a well-formed
    history `pre ++ addop :: post` from the initial state, let `addop` be an accepted `add` on `(a, m)`
    that reaches the disk (`addEntryOf … = some (a, m, e)`, not `crashIn 0`).  If no step of `post` is
      (i) an accepted `close` by a connection bound to `a`, acting on `m`, while no other side of `m` is
          open (`Sys.ClosesLast`, evaluated in the state the step starts from), or
      (ii) a non-faulted sweep at which the row `(a, m)` is old and has no listener (`Sys.SweepsOld`),
    then the entry `e` is still in the live log of `(a, m)` at the end -- hence (`C01_replay_live`,
    `C01_replay_exact_live`) it is replayed to every accepted `open` of `(a, m)` at that point.  Whatever
    else happens in `post` -- disconnects, restarts, crashes, other closes, sweeps that find the row
    young or subscribed, traffic of other mailboxes and apps -- is irrelevant. -/
theorem C01_entry_survives (cfg : Cfg) (rb : Time) (pre : List Op) (addop : Op) (post : List Op)
    (hwf : (GSys.init cfg rb).WF (pre ++ addop :: post)) {a m : String} {e : Entry}
    (hadd : ((GSys.init cfg rb).run pre).sys.addEntryOf addop.plain = some (a, m, e))
    (hl : addop.lands = true)
    (hkeep : ∀ p1 op p2, post = p1 ++ op :: p2 →
      ¬ ((GSys.init cfg rb).run (pre ++ addop :: p1)).sys.ClosesLast op a m ∧
      ¬ ((GSys.init cfg rb).run (pre ++ addop :: p1)).sys.SweepsOld op a m) :
    e ∈ liveLog a m cfg rb (pre ++ addop :: post) := by
  obtain ⟨hw1, hw2, hw3⟩ := GSys.WF_append.1 hwf
  have hg1 : ((GSys.init cfg rb).run pre).Reach := GSys.reach_run (.init cfg rb) pre hw1
  have hI1 := hg1.ginv
  generalize hgen : (GSys.init cfg rb).run pre = gp at hw2 hw3 hg1 hI1 hadd
  -- the step of the `add`: the row is there afterwards and the entry is appended
  have hrowOf : gp.sys.addRowOf addop.plain = some (e.row a m) := by
    rw [addRowOf_eq, hadd]; rfl
  have hpres := addEntryOf_present hI1 hadd
  have hnl : ¬ ∃ op', addop = .crashIn 0 op' := by
    intro h
    rw [(Op.lands_eq_false_iff addop).2 h] at hl
    cases hl
  have hrow' : (gp.sys.step addop).db.findMailbox a m ≠ none := by
    rcases Sys.step_add hI1.synced addop hrowOf with ⟨h0, _⟩ | ⟨_, hd⟩
    · exact absurd h0 hnl
    · rw [hd]
      intro hc
      rw [Chan.findMailbox_eq_none_iff, Chan.mbKeys_add] at hc
      exact hc hpres
  have hstep : e ∈ liveStep a m gp.sys addop (liveRun a m (GSys.init cfg rb).sys pre []) := by
    unfold liveStep
    rw [if_neg hrow', hadd]
    simp [hl]
  unfold liveLog
  rw [c01b_liveRun_append, hgen]
  refine (c01b_liveRun_keeps a m post (g := gp.step addop) _ (hI1.step addop hw2) hw3 hstep hrow' ?_).1
  intro p1 op p2 hsplit
  have := hkeep p1 op p2 hsplit
  rw [show pre ++ addop :: p1 = pre ++ ([addop] ++ p1) from rfl, GSys.run_append, hgen] at this
  exact this

namespace C01bEx

/-- non-vacuity of (c): connection 1 opens "m" (`pre`), adds (`addop`), then disappears; a sweep at
    `now = 100` finds the row young (stamped 3); connection 2 arrives.  No step of `post` is a last
    close or an expiry of ("A","m"), so the entry is still in the live log. -/
def pre : List Op :=
  [.connect 1, .recv 1 1 .null (.bind (some "A") (some "s1") none none), .recv 1 2 .null (.open_ (some "m"))]
def addop : Op := .recv 1 3 (.str "i1") (.add (some (.str "ph")) (some (.str "bd")))
def post : List Op :=
  [.drop 1, .sweep 100 false, .connect 2, .recv 2 101 .null (.bind (some "A") (some "s2") none none)]

theorem not_closesLast_of_inner {s : Sys} {op : Op} {a m : String}
    (h : ∀ c t id mo mood, op.inner ≠ .recv c t id (.close mo mood)) : ¬ s.ClosesLast op a m := by
  rintro ⟨c, t, id, mo, mood, _, hop, _⟩
  exact h c t id mo mood hop

theorem not_sweepsOld_of_inner {s : Sys} {op : Op} {a m : String}
    (h : ∀ now, op.inner ≠ .sweep now false) : ¬ s.SweepsOld op a m := by
  rintro ⟨now, _, hop, _⟩
  exact h now hop

example : (⟨"s1", .str "ph", .str "bd", .str "i1", 3⟩ : Entry) ∈ liveLog "A" "m" {} 0 (pre ++ addop :: post) := by
  apply C01_entry_survives {} 0 pre addop post (GSys.wfB_sound (by decide +kernel)) (by decide +kernel) rfl
  intro p1 op p2 hsplit
  rcases p1 with _ | ⟨o1, _ | ⟨o2, _ | ⟨o3, _ | ⟨o4, p1⟩⟩⟩⟩ <;>
    simp only [post, List.nil_append, List.cons_append, List.cons.injEq] at hsplit
  · obtain ⟨rfl, rfl⟩ := hsplit
    exact ⟨not_closesLast_of_inner (by intro c t id mo mood h; cases h),
      not_sweepsOld_of_inner (by intro now h; cases h)⟩
  · obtain ⟨rfl, rfl, rfl⟩ := hsplit
    refine ⟨not_closesLast_of_inner (by intro c t id mo mood h; cases h), ?_⟩
    -- the sweep at 100: the row is stamped 3, not old
    rintro ⟨now, row, hop, hrow, hold, _⟩
    cases hop
    rw [show ((GSys.init {} 0).run (pre ++ addop :: [.drop 1])).sys.db.findMailbox "A" "m" =
      some ⟨"A", "m", 3, false⟩ by decide +kernel] at hrow
    cases hrow
    exact absurd hold (by decide)
  · obtain ⟨rfl, rfl, rfl, rfl⟩ := hsplit
    exact ⟨not_closesLast_of_inner (by intro c t id mo mood h; cases h),
      not_sweepsOld_of_inner (by intro now h; cases h)⟩
  · obtain ⟨rfl, rfl, rfl, rfl, rfl⟩ := hsplit
    exact ⟨not_closesLast_of_inner (by intro c t id mo mood h; cases h),
      not_sweepsOld_of_inner (by intro now h; cases h)⟩
  · obtain ⟨_, _, _, _, h⟩ := hsplit
    cases p1 <;> simp at h

end C01bEx

#print axioms textual_ops_imp_live
#print axioms C01_replay_exact_live
#print axioms C01_deleted_only_by_close_or_sweep
#print axioms C01_deleted_only_by_close_or_sweep_reach
#print axioms C01_entry_survives

end Wormhole
