/-
  C10 (re-send clause): the four commands together, BOTH databases, and finding K-usage-crash-dup.

  FINDING K-usage-crash-dup (server.py `release_nameplate` 343-344, `Mailbox.close` 176-177:
  `usage_db.commit()` PRECEDES `db.commit()`).  With a usage database, a crash between the two commits leaves
  the usage record on disk while the channel rows survive; the re-sent command -- or, if the client never
  returns, the next sweep (`C10_release_crash_then_sweep_two_records`) -- then writes a record for the same
  object a SECOND time.  A re-sent `close` that arrives after the channel commit creates the mailbox again,
  deletes it and writes one more record `(for_nameplate = 0, total = 0)`.
  In `prune` the order is the REVERSE (`db.commit()` first, 555-557): a sweep killed between its two commits
  has deleted the expired rows and recorded nothing, for good (`C10_sweep_crash_loses_usage_counterexample`).
  Both are outside C15's "exactly one record per retired object", which is proved for crash-free steps.

  WHAT IS PROVED (`resend`, `Resend`, `Answered` as in Inv/UsageResend.lean, Inv/DupOrig.lean)
  (a) `C10_resend_usage_equal_nousage`: with `cfg.usage = false` the usage database is untouched by the
      uncrashed step and by crash + restart + reconnect + bind + re-send, for EVERY operation, every `k`:
      both runs end with the usage database of before.  With `C10_resend_all_partial` this is "same stored
      state" for BOTH databases in that configuration (`C10_resend_both_nousage`).
  (b) `C10dExample.C10_resend_usage_dup_counterexample` (release, `decide +kernel`): a concrete state reachable
      without crashes, `release` crashed right after its usage commit (`k = 2`: the usage row is on disk, the
      nameplate row still exists), restarted, re-sent: the usage `nameplates` table ends with TWO rows, the
      uncrashed run has ONE.  `C10_resend_usage_dup_close_counterexample`: the same for `close` (`k = 2`: the
      usage `mailboxes` row duplicated; `k = 3`: one surplus row `(for_nameplate=0, total=0)`).
  (c) `C10_resend_all_partial`: the exact per-command statements of Props/C10b.lean (`C10_resend_claim_all`,
      `C10_resend_release_all`, `C10_resend_open_all`, `C10_resend_close_all_partial`) as ONE statement over
      `Resend x cmd cmd'` -- the original `release` / `close` may omit the name (the usual client forms), the
      re-send names it --, for a state reachable WITH crashes and every `k` (`ResendK`: a `claim` lost before
      its first commit must be re-sent with the same generated id): same frames; channel database equal, for
      `close` under `ResendGuardT` (K-crowded-rejoin) and up to `touch m t` (K-close-touch); the usage rows of
      the uncrashed run are a PREFIX of those of the re-sent run (`C10_resend_usage_prefix_partial`).
  Restart, bind and re-send happen at the instant `t` of the original.
-/
import Wormhole.Props.C10c
import Wormhole.Props.C15b

namespace Wormhole
open Sys Sys.Np

/-! ## Without a usage database: nothing is ever written, so both databases agree -/

/-- **(a)** with `cfg.usage = false` the usage database is untouched by the uncrashed step and by
    crash + restart + reconnect + bind + re-send: EVERY operation `op`, every `k`, every re-sent command -/
theorem C10_resend_usage_equal_nousage {s : Sys} (hS : s.udb = s.udisk) (hu : s.cfg.usage = false) (op : Op)
    (k : Nat) (c' : Nat) (t : Time) (id₁ id : Val) (a σ : String) (impl ver : Option String) (cmd' : Cmd) :
    (s.step op).udb = s.udb ∧
    (resend (s.step (.crashIn k op)) c' t id₁ id a σ impl ver cmd').udb = s.udb ∧
    (resend (s.step (.crashIn k op)) c' t id₁ id a σ impl ver cmd').udb = (s.step op).udb := by
  have h0 := (C15_no_usage_db_no_writes hS hu op).1
  have key : ∀ (z : Sys) (o : Op), z.udb = z.udisk → z.cfg.usage = false →
      (z.step o).udb = z.udb ∧ (z.step o).udb = (z.step o).udisk ∧ (z.step o).cfg.usage = false := by
    intro z o h1 h2
    obtain ⟨e1, e2⟩ := C15_no_usage_db_no_writes h1 h2 o
    exact ⟨e1, e1.trans e2.symm, by rw [step_cfg]; exact h2⟩
  obtain ⟨a1, b1, c1⟩ := key s (.crashIn k op) hS hu
  obtain ⟨a2, b2, c2⟩ := key _ (.restart t) b1 c1
  obtain ⟨a3, b3, c3⟩ := key _ (.connect c') b2 c2
  obtain ⟨a4, b4, c4⟩ := key _ (.recv c' t id₁ (.bind (some a) (some σ) impl ver)) b3 c3
  obtain ⟨a5, _, _⟩ := key _ (.recv c' t id cmd') b4 c4
  have : (resend (s.step (.crashIn k op)) c' t id₁ id a σ impl ver cmd').udb = s.udb := by
    unfold resend
    rw [a5, a4, a3, a2, a1]
  exact ⟨h0, this, this.trans h0.symm⟩

/-! ## The four commands together -/

/-- the guard of K-crowded-rejoin, needed for `close` only: a connection that holds a handle closes a
    mailbox with at most two side rows (`ResendGuard'` of C10c, for a `close` that may omit the name) -/
def ResendGuardT (d : Chan) (x : Conn) : Cmd → Prop
  | .close mo _ => ∀ m, x.closeTarget mo = some m → x.mailbox ≠ none → (d.mbSidesOf m).length ≤ 2
  | _ => True

/-- which crash points are covered: all, except that a `claim` lost before its first commit (`k = 0`) must be
    re-sent with the same generated id -/
def ResendK (k : Nat) : Cmd → Cmd → Prop
  | .claim _ f, .claim _ f' => 1 ≤ k ∨ f' = f
  | _, _ => True

/-- **C10_resend_all_partial.**  For a REACHABLE state (crashes allowed before), a connection bound to
    `(a, σ)`, a well-formed, successfully answered `claim` / `release` / `open` / `close` -- `release` and
    `close` with or without the name (`Resend x cmd cmd'`: the re-send names it) -- and EVERY `k`
    (`ResendK`): crash after the `k`-th commit, restart, reconnect, bind `(a, σ)` and send the command again.
    * the frames the new connection gets are those the original got in the uncrashed step (re-addressed);
    * the channel database equals the one after the uncrashed step -- for `close` under `ResendGuardT`
      (K-crowded-rejoin), up to `touch m t` (K-close-touch);
    * the usage `nameplates` / `mailboxes` tables of the uncrashed run are a PREFIX of those of the re-sent run
      (K-usage-crash-dup: the surplus is exactly described in `C10_resend_release_all`,
      `C10_resend_close_all_partial`; none for `claim` / `open`);
    * without a usage database the usage databases are EQUAL. -/
theorem C10_resend_all_partial {g : GSys} (hg : g.Reach) {c : Nat} {x : Conn} {a σ : String}
    (hx : g.sys.findConn c = some x) (happ : x.app = some a) (hside : x.side = some σ)
    {cmd cmd' : Cmd} (hcmd : Resend x cmd cmd') (t : Time) (id : Val) (hw : g.WFOp (.recv c t id cmd))
    (hans : Answered (g.sys.step (.recv c t id cmd)).out c id cmd) (hguard : ResendGuardT g.sys.db x cmd)
    (k : Nat) (hk : ResendK k cmd cmd') (c' : Nat) (id₁ : Val) (impl ver : Option String) :
    (resend (g.sys.step (.crashIn k (.recv c t id cmd))) c' t id₁ id a σ impl ver cmd').frames =
      (g.sys.step (.recv c t id cmd)).frames.map (Event.toConn c') ∧
    ((resend (g.sys.step (.crashIn k (.recv c t id cmd))) c' t id₁ id a σ impl ver cmd').db =
        (g.sys.step (.recv c t id cmd)).db ∨
      ∃ mo m mood, cmd = .close mo mood ∧ x.closeTarget mo = some m ∧
        (resend (g.sys.step (.crashIn k (.recv c t id cmd))) c' t id₁ id a σ impl ver cmd').db =
          (g.sys.step (.recv c t id cmd)).db.touch m t) ∧
    (g.sys.step (.recv c t id cmd)).udb.nameplates <+:
      (resend (g.sys.step (.crashIn k (.recv c t id cmd))) c' t id₁ id a σ impl ver cmd').udb.nameplates ∧
    (g.sys.step (.recv c t id cmd)).udb.mailboxes <+:
      (resend (g.sys.step (.crashIn k (.recv c t id cmd))) c' t id₁ id a σ impl ver cmd').udb.mailboxes ∧
    (g.sys.cfg.usage = false →
      (resend (g.sys.step (.crashIn k (.recv c t id cmd))) c' t id₁ id a σ impl ver cmd').udb =
        (g.sys.step (.recv c t id cmd)).udb) := by
  have hnou := fun hu => (C10_resend_usage_equal_nousage hg.ginv.synced.2 hu (.recv c t id cmd) k c' t id₁ id a σ
    impl ver cmd').2.2
  cases hcmd with
  | claim n f f' =>
    obtain ⟨m, b, hA⟩ := hans
    obtain ⟨h1, h2, h3, h4, h5, h6⟩ := C10_resend_claim_all hg hx happ hside t id hw hA k c' id₁ impl ver f' hk
    exact ⟨by rw [h1, h2]; rfl, Or.inl h3, by rw [h4, h5]; exact List.prefix_refl _,
      by rw [h4, h6]; exact List.prefix_refl _, hnou⟩
  | release nm n hn =>
    obtain ⟨b, hA⟩ := hans
    obtain ⟨h1, h2, h3, h4, recs, _, _, _, h8⟩ := C10_resend_release_all hg hx happ hside hn t id hw hA k c' id₁ impl ver
    refine ⟨by rw [h1, h2]; rfl, Or.inl h3, ?_, by rw [h4]; exact List.prefix_refl _, hnou⟩
    rcases h8 with h | ⟨h, _⟩
    · rw [h]; exact List.prefix_refl _
    · rw [h]; exact List.prefix_append _ _
  | open_ m =>
    obtain ⟨h1, h2, h3, h4, h5, h6⟩ := C10_resend_open_all hg hx happ hside t id hw hans.2 k c' id₁ impl ver
    refine ⟨?_, Or.inl h3, by rw [h4, h5]; exact List.prefix_refl _, by rw [h4, h6]; exact List.prefix_refl _, hnou⟩
    rw [h1, h2, List.map_cons, replayFrames_toConn]
    rfl
  | close mo m mood htg =>
    obtain ⟨b, hA⟩ := hans
    obtain ⟨h1, h2, h3, _, recsN, recsM, _, _, _, _, _, h9⟩ :=
      C10_resend_close_all_partial hg hx happ hside t id hw htg hA (hguard m htg) k c' id₁ impl ver
    refine ⟨by rw [h1, h2]; rfl, ?_, ?_, ?_, hnou⟩
    · rcases h3 with h | h
      · exact Or.inl h
      · exact Or.inr ⟨mo, m, mood, rfl, htg, h⟩
    · rcases h9 with ⟨h, _⟩ | ⟨h, _⟩ | ⟨h, _⟩
      · rw [h]; exact List.prefix_refl _
      · rw [h]; exact List.prefix_append _ _
      · rw [h]; exact List.prefix_refl _
    · rcases h9 with ⟨_, h⟩ | ⟨_, h, _⟩ | ⟨_, h, _⟩
      · rw [h]; exact List.prefix_refl _
      · rw [h]; exact List.prefix_append _ _
      · rw [h]; exact List.prefix_append _ _

/-- **the positive statement about the usage tables alone** (the minimum the finding leaves true): whatever
    the crash point, the rows of the uncrashed run are a prefix of the rows of the re-sent run -/
theorem C10_resend_usage_prefix_partial {g : GSys} (hg : g.Reach) {c : Nat} {x : Conn} {a σ : String}
    (hx : g.sys.findConn c = some x) (happ : x.app = some a) (hside : x.side = some σ)
    {cmd cmd' : Cmd} (hcmd : Resend x cmd cmd') (t : Time) (id : Val) (hw : g.WFOp (.recv c t id cmd))
    (hans : Answered (g.sys.step (.recv c t id cmd)).out c id cmd) (hguard : ResendGuardT g.sys.db x cmd)
    (k : Nat) (hk : ResendK k cmd cmd') (c' : Nat) (id₁ : Val) (impl ver : Option String) :
    (g.sys.step (.recv c t id cmd)).udb.nameplates <+:
      (resend (g.sys.step (.crashIn k (.recv c t id cmd))) c' t id₁ id a σ impl ver cmd').udb.nameplates ∧
    (g.sys.step (.recv c t id cmd)).udb.mailboxes <+:
      (resend (g.sys.step (.crashIn k (.recv c t id cmd))) c' t id₁ id a σ impl ver cmd').udb.mailboxes :=
  let h := C10_resend_all_partial hg hx happ hside hcmd t id hw hans hguard k hk c' id₁ impl ver
  ⟨h.2.2.1, h.2.2.2.1⟩

/-- **without a usage database: same answers, same stored state, BOTH databases** (channel database up to
    K-close-touch for `close`, under the guard of K-crowded-rejoin) -/
theorem C10_resend_both_nousage {g : GSys} (hg : g.Reach) (hu : g.sys.cfg.usage = false)
    {c : Nat} {x : Conn} {a σ : String}
    (hx : g.sys.findConn c = some x) (happ : x.app = some a) (hside : x.side = some σ)
    {cmd cmd' : Cmd} (hcmd : Resend x cmd cmd') (t : Time) (id : Val) (hw : g.WFOp (.recv c t id cmd))
    (hans : Answered (g.sys.step (.recv c t id cmd)).out c id cmd) (hguard : ResendGuardT g.sys.db x cmd)
    (k : Nat) (hk : ResendK k cmd cmd') (c' : Nat) (id₁ : Val) (impl ver : Option String) :
    (resend (g.sys.step (.crashIn k (.recv c t id cmd))) c' t id₁ id a σ impl ver cmd').frames =
      (g.sys.step (.recv c t id cmd)).frames.map (Event.toConn c') ∧
    ((resend (g.sys.step (.crashIn k (.recv c t id cmd))) c' t id₁ id a σ impl ver cmd').db =
        (g.sys.step (.recv c t id cmd)).db ∨
      ∃ mo m mood, cmd = .close mo mood ∧ x.closeTarget mo = some m ∧
        (resend (g.sys.step (.crashIn k (.recv c t id cmd))) c' t id₁ id a σ impl ver cmd').db =
          (g.sys.step (.recv c t id cmd)).db.touch m t) ∧
    (resend (g.sys.step (.crashIn k (.recv c t id cmd))) c' t id₁ id a σ impl ver cmd').udb =
      (g.sys.step (.recv c t id cmd)).udb :=
  let h := C10_resend_all_partial hg hx happ hside hcmd t id hw hans hguard k hk c' id₁ impl ver
  ⟨h.1, h.2.1, h.2.2.2.2 hu⟩


/-! ## K-usage-crash-dup: the counterexamples, and non-vacuity of the theorems of Props/C10b.lean and above -/

namespace C10dExample
open C10bExample

/-- side s1 has claimed nameplate "4" (mailbox "mb1") on connection 1 -/
def Hr : List Op := [ .connect 1, bind 1 10 "s1", .recv 1 11 (.int 2) (.claim (some "4") "mb1") ]
def gr : GSys := (GSys.init cfg 0).run Hr
theorem gr_reachCF : gr.ReachCF :=
  GSys.reachCF_run (.init cfg 0) Hr (GSys.wfB_sound (by decide +kernel)) (by decide)
def xr : Conn := { id := 1, app := some "app", side := some "s1", didClaim := true, nameplateId := some "4" }
/-- `release` in the usual client form: without the name -/
def relOp : Op := .recv 1 20 (.int 3) (.release none)
def rec4 : UNameplate := ⟨"app", 11, none, 9, "lonely"⟩

/-- **K-usage-crash-dup, `release`** (`cfg.usage = true`).  From a state reachable WITHOUT crashes, all
    hypotheses of `C10_resend_release_all` hold; the uncrashed `release` has three commit points
    (channel: UPDATE; USAGE: the record; channel: DELETE).  Killed right after the SECOND (`k = 2`: the usage
    row is on disk, the nameplate row still exists), restarted, re-sent: the same answers, the same channel
    database -- and the usage `nameplates` table has TWO identical rows where the uncrashed run has ONE. -/
theorem C10_resend_usage_dup_counterexample :
    gr.ReachCF ∧ gr.sys.cfg.usage = true ∧ gr.sys.findConn 1 = some xr ∧ gr.WFOp relOp ∧
    Np.releaseTarget xr none = some "4" ∧
    Event.frame 1 .released true ∈ (gr.sys.step relOp).out ∧
    (gr.sys.step relOp).snaps.map (fun p => (p.1.nameplates.length, p.2.nameplates.length)) =
      [(1, 0), (1, 1), (0, 1)] ∧
    (gr.sys.step (.crashIn 2 relOp)).db.nameplates.length = 1 ∧
    (gr.sys.step (.crashIn 2 relOp)).udb.nameplates = [rec4] ∧
    (resend (gr.sys.step (.crashIn 2 relOp)) 9 20 (.int 7) (.int 3) "app" "s1" none none
      (.release (some "4"))).frames = [.frame 9 (.ack (.int 3)) true, .frame 9 .released true] ∧
    (resend (gr.sys.step (.crashIn 2 relOp)) 9 20 (.int 7) (.int 3) "app" "s1" none none
      (.release (some "4"))).db = (gr.sys.step relOp).db ∧
    (gr.sys.step relOp).udb.nameplates = [rec4] ∧
    (resend (gr.sys.step (.crashIn 2 relOp)) 9 20 (.int 7) (.int 3) "app" "s1" none none
      (.release (some "4"))).udb.nameplates = [rec4, rec4] :=
  ⟨gr_reachCF, rfl, by decide +kernel, GSys.wfOpB_sound (by decide +kernel), rfl, by decide +kernel,
    by decide +kernel, by decide +kernel, by decide +kernel, by decide +kernel, by decide +kernel,
    by decide +kernel, by decide +kernel⟩

/-- the instance of `C10_resend_release_all` at that crash point: it is the SECOND alternative (duplicated
    record) that holds, with `recs = [rec4]`; at `k = 0, 1, 3` the tables are equal (evaluated) -/
example :=
  (C10_resend_release_all gr_reachCF.reach (c := 1) (x := xr) (a := "app") (σ := "s1") (nm := none) (n := "4")
    (by decide +kernel) rfl rfl rfl 20 (.int 3) (GSys.wfOpB_sound (by decide +kernel)) (b := true)
    (by decide +kernel) 2 9 (.int 7) none none)
example : ∀ k ∈ [0, 1, 3, 4],
    (resend (gr.sys.step (.crashIn k relOp)) 9 20 (.int 7) (.int 3) "app" "s1" none none
      (.release (some "4"))).udb.nameplates = (gr.sys.step relOp).udb.nameplates ∧
    (resend (gr.sys.step (.crashIn k relOp)) 9 20 (.int 7) (.int 3) "app" "s1" none none
      (.release (some "4"))).db = (gr.sys.step relOp).db := by decide +kernel

/-- side s1 has also opened the mailbox of its nameplate; its `close` (without the name) is the last one:
    the mailbox AND the nameplate are retired, one usage row each -/
def Hc : List Op := Hr ++ [ .recv 1 12 (.int 3) (.open_ (some "mb1")) ]
def gc : GSys := (GSys.init cfg 0).run Hc
theorem gc_reachCF : gc.ReachCF :=
  GSys.reachCF_run (.init cfg 0) Hc (GSys.wfB_sound (by decide +kernel)) (by decide)
def xc : Conn := { id := 1, app := some "app", side := some "s1", didClaim := true, nameplateId := some "4",
                   listening := true, mailbox := some "mb1", mailboxId := some "mb1" }
def clOp : Op := .recv 1 200 (.int 4) (.close none (some "scary"))
def recN : UNameplate := ⟨"app", 11, none, 189, "lonely"⟩
def recM : UMailbox := ⟨"app", true, 11, 189, none, "scary"⟩
def recGone : UMailbox := ⟨"app", false, 200, 0, none, "scary"⟩

/-- **K-usage-crash-dup, `close`.**  All hypotheses of `C10_resend_close_all_partial` hold (the guard of
    K-crowded-rejoin included); three commit points (channel UPDATE; USAGE; channel DELETE).
    `k = 2` (between the usage commit and the channel commit): BOTH usage rows are written twice.
    `k = 3` (after the channel commit, before the answer): the re-sent close re-creates the mailbox, deletes
    it and writes one more row `(for_nameplate = 0, total = 0)`.  The channel databases are equal. -/
theorem C10_resend_usage_dup_close_counterexample :
    gc.ReachCF ∧ gc.sys.cfg.usage = true ∧ gc.sys.findConn 1 = some xc ∧ gc.WFOp clOp ∧
    xc.closeTarget none = some "mb1" ∧ (gc.sys.db.mbSidesOf "mb1").length ≤ 2 ∧
    Event.frame 1 .closed true ∈ (gc.sys.step clOp).out ∧
    (gc.sys.step clOp).snaps.map
      (fun p => (p.1.mailboxes.length, p.1.nameplates.length, p.2.mailboxes.length, p.2.nameplates.length)) =
      [(1, 1, 0, 0), (1, 1, 1, 1), (0, 0, 1, 1)] ∧
    (gc.sys.step clOp).udb.nameplates = [recN] ∧ (gc.sys.step clOp).udb.mailboxes = [recM] ∧
    (resend (gc.sys.step (.crashIn 2 clOp)) 9 200 (.int 7) (.int 4) "app" "s1" none none
      (.close (some "mb1") (some "scary"))).udb.nameplates = [recN, recN] ∧
    (resend (gc.sys.step (.crashIn 2 clOp)) 9 200 (.int 7) (.int 4) "app" "s1" none none
      (.close (some "mb1") (some "scary"))).udb.mailboxes = [recM, recM] ∧
    (resend (gc.sys.step (.crashIn 3 clOp)) 9 200 (.int 7) (.int 4) "app" "s1" none none
      (.close (some "mb1") (some "scary"))).udb.nameplates = [recN] ∧
    (resend (gc.sys.step (.crashIn 3 clOp)) 9 200 (.int 7) (.int 4) "app" "s1" none none
      (.close (some "mb1") (some "scary"))).udb.mailboxes = [recM, recGone] ∧
    (∀ k ∈ [2, 3], (resend (gc.sys.step (.crashIn k clOp)) 9 200 (.int 7) (.int 4) "app" "s1" none none
      (.close (some "mb1") (some "scary"))).db = (gc.sys.step clOp).db ∧
      (resend (gc.sys.step (.crashIn k clOp)) 9 200 (.int 7) (.int 4) "app" "s1" none none
        (.close (some "mb1") (some "scary"))).frames = [.frame 9 (.ack (.int 4)) true, .frame 9 .closed true]) :=
  ⟨gc_reachCF, by decide +kernel, by decide +kernel, GSys.wfOpB_sound (by decide +kernel), rfl, by decide +kernel,
    by decide +kernel, by decide +kernel, by decide +kernel, by decide +kernel, by decide +kernel,
    by decide +kernel, by decide +kernel, by decide +kernel, by decide +kernel⟩

/-- the surplus row is the `goneRecord` of the theorem -/
example : goneRecord gc.sys.blurTime "app" "mb1" "s1" (some "scary") 200 = recGone := by
  unfold goneRecord mbRecord; decide +kernel

/-- `C10_resend_close_all_partial` applies (every `k`; here `k = 3`), and before the usage commit
    (`k = 0, 1`) nothing is duplicated -/
example :=
  (C10_resend_close_all_partial gc_reachCF.reach (c := 1) (x := xc) (a := "app") (σ := "s1") (mo := none)
    (m := "mb1") (mood := some "scary") (by decide +kernel) rfl rfl 200 (.int 4)
    (GSys.wfOpB_sound (by decide +kernel)) rfl (b := true) (by decide +kernel) (fun _ => by decide +kernel)
    3 9 (.int 7) none none)
example : ∀ k ∈ [0, 1], (resend (gc.sys.step (.crashIn k clOp)) 9 200 (.int 7) (.int 4) "app" "s1" none none
      (.close (some "mb1") (some "scary"))).udb.mailboxes = [recM] ∧
    (resend (gc.sys.step (.crashIn k clOp)) 9 200 (.int 7) (.int 4) "app" "s1" none none
      (.close (some "mb1") (some "scary"))).udb.nameplates = [recN] := by decide +kernel

/-! ### a pre-state that is reachable only WITH a crash, `k = 0`, and the other commands -/

/-- the first claim of "4" died after its first commit (mailbox, nameplate, nameplate side on disk; no
    mailbox side: `SInv` is FALSE here, see `C10Example.C10_strong_needs_crash_free`); the server is
    restarted and side s1 is back on connection 2 -/
def Hx : List Op :=
  [ .connect 1, bind 1 10 "s1", .crashIn 1 (.recv 1 11 (.int 2) (.claim (some "4") "mb1")), .restart 12,
    .connect 2, bind 2 12 "s1" ]
def gx : GSys := (GSys.init cfg 0).run Hx
theorem gx_reach : gx.Reach := GSys.reach_of_wfB _ _ _ (by decide +kernel)
example : gx.sys.db.mbSides = [] ∧ gx.sys.db.mailboxes.length = 1 := by decide +kernel
def x2 : Conn := { id := 2, app := some "app", side := some "s1" }
def claim2 : Op := .recv 2 13 (.int 2) (.claim (some "4") "mb2")

/-- `C10_resend_claim_all` from that state: the second crash of the history (here again after the first
    commit of the claim, `k = 1`) is covered ... -/
example : (resend (gx.sys.step (.crashIn 1 claim2)) 9 13 (.int 7) (.int 2) "app" "s1" none none
    (.claim (some "4") "zzz")).db = (gx.sys.step claim2).db :=
  (C10_resend_claim_all gx_reach (c := 2) (x := x2) (a := "app") (σ := "s1") (n := "4") (fresh := "mb2")
    (by decide +kernel) rfl rfl 13 (.int 2) (GSys.wfOpB_sound (by decide +kernel)) (m := "mb1") (b := true)
    (by decide +kernel) 1 9 (.int 7) none none "zzz" (Or.inl (by decide))).2.2.1
/-- ... and so is `k = 0` (nothing committed) with the same generated id; with ANOTHER id and a nameplate
    that does not exist yet the two runs differ in the new mailbox id only (not a defect: `ResendK`) -/
example : (resend (g0.sys.step (.crashIn 0 claimOp)) 9 11 (.int 7) (.int 2) "app" "s1" none none
    (.claim (some "4") "mb1")).db = (g0.sys.step claimOp).db :=
  (C10_resend_claim_all g0_reachCF.reach (c := 1) (x := x1) (a := "app") (σ := "s1") (n := "4") (fresh := "mb1")
    (by decide +kernel) rfl rfl 11 (.int 2) (GSys.wfOpB_sound (by decide +kernel)) (m := "mb1") (b := true)
    (by decide +kernel) 0 9 (.int 7) none none "mb1" (Or.inr rfl)).2.2.1
example : (resend (g0.sys.step (.crashIn 0 claimOp)) 9 11 (.int 7) (.int 2) "app" "s1" none none
      (.claim (some "4") "zzz")).db.mailboxes.map (·.id) = ["zzz"] ∧
    (g0.sys.step claimOp).db.mailboxes.map (·.id) = ["mb1"] := by decide +kernel

/-- `open`, `k = 0` -/
def openOp : Op := .recv 1 100 (.int 2) (.open_ (some "m"))
example : (resend (g0.sys.step (.crashIn 0 openOp)) 9 100 (.int 7) (.int 2) "app" "s1" none none
    (.open_ (some "m"))).db = (g0.sys.step openOp).db :=
  (C10_resend_open_all g0_reachCF.reach (c := 1) (x := x1) (a := "app") (σ := "s1") (mb := "m")
    (by decide +kernel) rfl rfl 100 (.int 2) (GSys.wfOpB_sound (by decide +kernel))
    (by decide +kernel) 0 9 (.int 7) none none).2.2.1

/-- the four together, on the `release none` of `gr`: hypotheses hold, conclusion for `k = 2` -/
example : (gr.sys.step relOp).udb.nameplates <+:
    (resend (gr.sys.step (.crashIn 2 relOp)) 9 20 (.int 7) (.int 3) "app" "s1" none none
      (.release (some "4"))).udb.nameplates :=
  (C10_resend_all_partial gr_reachCF.reach (c := 1) (x := xr) (a := "app") (σ := "s1")
    (by decide +kernel) rfl rfl (Resend.release none "4" rfl) 20 (.int 3) (GSys.wfOpB_sound (by decide +kernel))
    ⟨true, by decide +kernel⟩ trivial 2 trivial 9 (.int 7) none none).2.2.1

/-- without a usage database: both databases agree (same history, `usage := false`) -/
def grN : GSys := (GSys.init {} 0).run Hr
theorem grN_reach : grN.Reach := GSys.reach_of_wfB _ _ _ (by decide +kernel)
example : (resend (grN.sys.step (.crashIn 2 relOp)) 9 20 (.int 7) (.int 3) "app" "s1" none none
      (.release (some "4"))).udb = (grN.sys.step relOp).udb :=
  (C10_resend_both_nousage grN_reach rfl (c := 1) (x := xr) (a := "app") (σ := "s1")
    (by decide +kernel) rfl rfl (Resend.release none "4" rfl) 20 (.int 3) (GSys.wfOpB_sound (by decide +kernel))
    ⟨true, by decide +kernel⟩ trivial 2 trivial 9 (.int 7) none none).2.2
example : (grN.sys.step relOp).snaps.length = 2 ∧ (grN.sys.step relOp).udb = {} := by decide +kernel

/-! ### the same window seen by the sweep: a second record, and the reverse order in `prune` -/

def sw : Op := .sweep 100000 false

/-- **no re-send at all: the next sweep writes the second record.**  `release` killed after its usage commit
    (`k = 2`), the client never returns; the nameplate row is still there (unclaimed side row) and the sweep
    prunes it with its mailbox: the retired nameplate has TWO usage rows, "lonely" (from the crashed release)
    and "pruney"; the uncrashed history has one. -/
theorem C10_release_crash_then_sweep_two_records :
    ((gr.sys.step (.crashIn 2 relOp)).step sw).udb.nameplates = [rec4, ⟨"app", 11, none, 99989, "pruney"⟩] ∧
    ((gr.sys.step relOp).step sw).udb.nameplates = [rec4] ∧
    ((gr.sys.step (.crashIn 2 relOp)).step sw).db.nameplates = [] ∧
    ((gr.sys.step relOp).step sw).db.nameplates = [] := by decide +kernel

/-- **`prune` commits in the OTHER order** (server.py: `db.commit()` then `usage_db.commit()`): a sweep killed
    between the two (`k = 1`) has deleted the expired nameplate and mailbox and recorded NOTHING; no later
    sweep can make up for it (the rows are gone).  The uncrashed sweep writes one record each. -/
theorem C10_sweep_crash_loses_usage_counterexample :
    (gr.step (.drop 1)).Reach ∧
    ((gr.step (.drop 1)).sys.step sw).snaps.map
      (fun p => (p.1.mailboxes.length, p.1.nameplates.length, p.2.mailboxes.length, p.2.nameplates.length)) =
      [(0, 0, 0, 0), (0, 0, 1, 1), (0, 0, 1, 1)] ∧
    ((gr.step (.drop 1)).sys.step (.crashIn 1 sw)).db.mailboxes = [] ∧
    ((gr.step (.drop 1)).sys.step (.crashIn 1 sw)).db.nameplates = [] ∧
    ((gr.step (.drop 1)).sys.step (.crashIn 1 sw)).udb.mailboxes = [] ∧
    ((gr.step (.drop 1)).sys.step (.crashIn 1 sw)).udb.nameplates = [] ∧
    ((((gr.step (.drop 1)).sys.step (.crashIn 1 sw)).step (.restart 100001)).step (.sweep 100002 false)).udb.mailboxes = [] ∧
    ((gr.step (.drop 1)).sys.step sw).udb.mailboxes = [⟨"app", true, 11, 99989, none, "pruney"⟩] ∧
    ((gr.step (.drop 1)).sys.step sw).udb.nameplates = [⟨"app", 11, none, 99989, "pruney"⟩] :=
  ⟨.step _ gr_reachCF.reach (GSys.wfOpB_sound (by decide +kernel)), by decide +kernel, by decide +kernel,
    by decide +kernel, by decide +kernel, by decide +kernel, by decide +kernel, by decide +kernel, by decide +kernel⟩

end C10dExample

end Wormhole

#print axioms Wormhole.C10_resend_usage_equal_nousage
#print axioms Wormhole.C10_resend_all_partial
#print axioms Wormhole.C10_resend_usage_prefix_partial
#print axioms Wormhole.C10_resend_both_nousage
#print axioms Wormhole.C10dExample.C10_resend_usage_dup_counterexample
#print axioms Wormhole.C10dExample.C10_resend_usage_dup_close_counterexample
#print axioms Wormhole.C10dExample.C10_release_crash_then_sweep_two_records
#print axioms Wormhole.C10dExample.C10_sweep_crash_loses_usage_counterexample
