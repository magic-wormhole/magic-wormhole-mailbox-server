/-
  C10 (re-send clause) — "Clients that reconnect and re-send their unacknowledged claim, release, open
  or close get the same answers and reach the same stored state as if no crash had happened."

  THE SETTING.  `g` is a reachable state (earlier crashes allowed), `c` a connection bound to `(a, σ)`,
  `op = recv c t id cmd` a well-formed operation that is SUCCESSFULLY ANSWERED in the uncrashed run (the frame
  `claimed m` / `released` / `closed` is sent; for `open`: no `error` frame, no escaped exception).
  The process dies right after the `k`-th effective commit of `op` (`crashIn k op`; `k = 0`: before the
  first, the command is lost entirely; right after `op` if it commits fewer times), is restarted at `t`, the
  client reconnects as `c'`, binds `(a, σ)` at `t` and sends the command again at `t`, naming its nameplate /
  mailbox (`Sys.resend`, = `Sys.run` of these four operations).

  One theorem per command, for BOTH databases and EVERY `k`: `C10_resend_claim_all`, `C10_resend_open_all`
  (everything equal), `C10_resend_release_all` (the usage `nameplates` row possibly written twice: finding
  K-usage-crash-dup, Props/C10d.lean), `C10_resend_close_all_partial` (in addition the guard of
  K-crowded-rejoin, and the channel database only up to K-close-touch; false without them:
  `C10bExample.C10_close_touch_counterexample`, `C10bExample.C10_close_crowded_counterexample`).
  Their instances for the channel database alone, from a crash-free history, `k ≥ 1`, a named nameplate /
  mailbox: `C10_resend_claim`, `C10_resend_release`, `C10_resend_open`, `C10_resend_close_partial`, and the four
  together over `ResendCmd`: `C10_resend_converges_partial`.
-/
import Wormhole.Inv.UsageResend
import Wormhole.Props.C10
import Wormhole.Props.C05

namespace Wormhole
open Sys Sys.Np

theorem frames_of_out {s : Sys} {c : Nat} {id : Val} {commits rest : List Event}
    (hc : ∀ e ∈ commits, IsCommit e) (hr : ∀ e ∈ rest, e.isFrame = true)
    (h : s.out = .frame c (.ack id) true :: (commits ++ rest)) :
    s.frames = .frame c (.ack id) true :: rest := by
  unfold Sys.frames
  rw [h]
  exact filter_isFrame_answer hc hr

theorem frames_of_answer {s : Sys} {c : Nat} {id : Val} {commits : List Event} {ans : Event}
    (hc : ∀ e ∈ commits, IsCommit e) (ha : ans.isFrame = true)
    (h : s.out = .frame c (.ack id) true :: (commits ++ [ans])) :
    s.frames = [.frame c (.ack id) true, ans] :=
  frames_of_out hc (fun e he => by rw [List.mem_singleton.1 he]; exact ha) h

/-- the state the re-sent command runs in: the crash state -- where the invariants hold again (`GInv.step`) --
    plus the fresh bound connection -/
theorem resend_state {g : GSys} (hI : g.GInv) {c : Nat} {t : Time} {id : Val} {cmd : Cmd}
    (hw : g.WFOp (.recv c t id cmd)) (k c' : Nat) (id₁ : Val) (a σ : String) (impl ver : Option String)
    (cmd' : Cmd) :
    ∃ sb : Sys, resend (g.sys.step (.crashIn k (.recv c t id cmd))) c' t id₁ id a σ impl ver cmd' =
        sb.step (.recv c' t id cmd') ∧
      sb.findConn c' = some (dupConn c' a σ) ∧ sb.Synced ∧ sb.db.PInv ∧ sb.db.NpHasSide ∧ sb.cfg = g.sys.cfg ∧
      sb.db = (g.sys.step (.crashIn k (.recv c t id cmd))).db ∧
      sb.udb.nameplates = (g.sys.step (.crashIn k (.recv c t id cmd))).udb.nameplates ∧
      sb.udb.mailboxes = (g.sys.step (.crashIn k (.recv c t id cmd))).udb.mailboxes := by
  have hC : (g.sys.step (.crashIn k (.recv c t id cmd))).db.CInv := (hI.step _ (hw.crashIn rfl k)).cinv
  obtain ⟨sb, h1, h2, h3, h4, h5, h6, h7⟩ :=
    resend_bound (step_crash_synced g.sys k (.recv c t id cmd)) c' t id₁ id a σ impl ver cmd'
  exact ⟨sb, h1, h2, h3, by rw [h4]; exact hC.toPInv, by rw [h4]; exact hC.npHasSide, h5.trans (step_cfg _ _), h4,
    h6, h7⟩

/-! ### `release` -/

/-- **C10 (re-sent `release`), both databases, every crash point.**  `g` reachable (earlier crashes
    allowed), `c` bound to `(a, σ)`, a well-formed `release` -- with or without the name -- that resolves to
    nameplate `n` and is answered `released`; ANY `k` (`0`: the command is lost before its first commit).
    Crash, restart, reconnect, bind, `release n`, all at `t`.  Then
    * the answers are the same and the CHANNEL databases are equal;
    * the usage `mailboxes` tables are equal;
    * the usage `nameplates` table of the uncrashed run is that of before plus `recs` (at most one row), and
      the re-sent run ends with the same table, OR with that table FOLLOWED BY `recs` once more -- the
      latter only if the crash state already holds the usage rows of the uncrashed run while its channel
      database is not yet the final one (K-usage-crash-dup: the crash fell between `usage_db.commit()`
      and `db.commit()`). -/
theorem C10_resend_release_all {g : GSys} (hg : g.Reach) {c : Nat} {x : Conn} {a σ : String}
    (hx : g.sys.findConn c = some x) (happ : x.app = some a) (hside : x.side = some σ)
    {nm : Option String} {n : String} (hn : Np.releaseTarget x nm = some n) (t : Time) (id : Val)
    (hw : g.WFOp (.recv c t id (.release nm))) {b : Bool}
    (hans : Event.frame c .released b ∈ (g.sys.step (.recv c t id (.release nm))).out)
    (k : Nat) (c' : Nat) (id₁ : Val) (impl ver : Option String) :
    (g.sys.step (.recv c t id (.release nm))).frames = [.frame c (.ack id) true, .frame c .released true] ∧
    (resend (g.sys.step (.crashIn k (.recv c t id (.release nm)))) c' t id₁ id a σ impl ver
      (.release (some n))).frames = [.frame c' (.ack id) true, .frame c' .released true] ∧
    (resend (g.sys.step (.crashIn k (.recv c t id (.release nm)))) c' t id₁ id a σ impl ver
      (.release (some n))).db = (g.sys.step (.recv c t id (.release nm))).db ∧
    (resend (g.sys.step (.crashIn k (.recv c t id (.release nm)))) c' t id₁ id a σ impl ver
      (.release (some n))).udb.mailboxes = (g.sys.step (.recv c t id (.release nm))).udb.mailboxes ∧
    ∃ recs : List UNameplate, recs.length ≤ 1 ∧
      (g.sys.step (.recv c t id (.release nm))).udb.nameplates = g.sys.udb.nameplates ++ recs ∧
      (g.sys.cfg.usage = false → recs = []) ∧
      ((resend (g.sys.step (.crashIn k (.recv c t id (.release nm)))) c' t id₁ id a σ impl ver
          (.release (some n))).udb.nameplates = (g.sys.step (.recv c t id (.release nm))).udb.nameplates ∨
        ((resend (g.sys.step (.crashIn k (.recv c t id (.release nm)))) c' t id₁ id a σ impl ver
            (.release (some n))).udb.nameplates =
            (g.sys.step (.recv c t id (.release nm))).udb.nameplates ++ recs ∧
          (g.sys.step (.crashIn k (.recv c t id (.release nm)))).udb =
            (g.sys.step (.recv c t id (.release nm))).udb ∧
          (g.sys.step (.crashIn k (.recv c t id (.release nm)))).db ≠
            (g.sys.step (.recv c t id (.release nm))).db)) := by
  have hI := hg.ginv
  have hP := hI.cinv.toPInv
  have hr := not_rejected_of_frame hx hans (by simp) (by simp)
  obtain ⟨⟨commits, hc, hout⟩, hdb, hudb, hcp⟩ := release_step_pairs hI.synced hx hr happ hn t id
  rw [getD_of_side hside] at hdb hudb hcp
  have hcrash := crash_pair_of_pairAll g.sys hI.synced k (.recv c t id (.release nm))
    (P := fun d u => (d = g.sys.db ∧ u = g.sys.udb) ∨ (d = g.sys.db.releaseMid a n σ ∧ u = g.sys.udb) ∨
      (d = g.sys.db.releaseMid a n σ ∧ u = g.sys.releaseUdb a n σ t) ∨
      (d = g.sys.db.releaseDb a n σ ∧ u = g.sys.releaseUdb a n σ t))
    (Or.inl ⟨rfl, rfl⟩)
    (hcp _ (Or.inl ⟨rfl, rfl⟩) (Or.inr (Or.inl ⟨rfl, rfl⟩)) (Or.inr (Or.inr (Or.inl ⟨rfl, rfl⟩)))
      (Or.inr (Or.inr (Or.inr ⟨rfl, rfl⟩))))
  obtain ⟨sb, hre, hxb, hSb, _, _, hbcfg, hbdb, hbn, hbm⟩ :=
    resend_state hI hw k c' id₁ a σ impl ver (.release (some n))
  generalize g.sys.step (.crashIn k (.recv c t id (.release nm))) = sk at hcrash hre hbdb hbn hbm ⊢
  obtain ⟨⟨commits', hc', hout'⟩, hdb', hudb', _⟩ := release_step_pairs hSb hxb (nm := some n) (n := n)
    (by simp [rejectText, needBind, dupConn]) (a := a) rfl rfl t id
  have hside' : (dupConn c' a σ).side.getD "" = σ := rfl
  rw [hside', hbdb] at hdb'
  rw [hside'] at hudb'
  have hrecs : (sb.releaseUdb a n σ t).nameplates =
      sk.udb.nameplates ++ sk.db.releaseRecs g.sys.cfg.usage g.sys.blurTime a n σ t := by
    show sb.udb.nameplates ++ sb.db.releaseRecs sb.cfg.usage sb.blurTime a n σ t = _
    rw [hbn, hbdb, hbcfg, blurTime_congr hbcfg]
  rw [hre, hdb', hudb', hdb, hudb]
  refine ⟨frames_of_answer hc (by rfl) hout, frames_of_answer hc' (by rfl) hout', ?_, ?_,
    g.sys.db.releaseRecs g.sys.cfg.usage g.sys.blurTime a n σ t, Chan.releaseRecs_length _ _ _ _ _ _ _, rfl,
    fun hu => by rw [hu]; exact Chan.releaseRecs_nousage _ _ _ _ _ _, ?_⟩
  · rcases hcrash with h | h | h | h <;> rw [h.1]
    · exact Chan.releaseDb_releaseMid _ _ _ _
    · exact Chan.releaseDb_releaseMid _ _ _ _
    · exact Chan.releaseDb_releaseDb hP _ _ _
  · show sb.udb.mailboxes = g.sys.udb.mailboxes
    rw [hbm]
    rcases hcrash with h | h | h | h <;> rw [h.2] <;> rfl
  · -- usage `nameplates`: the rows of the crash state, then those the release writes from its channel database
    rw [hrecs]
    rcases hcrash with h | h | h | h
    · left; rw [h.1, h.2]; rfl
    · left; rw [h.1, h.2, Chan.releaseRecs_releaseMid]; rfl
    · by_cases hfin : g.sys.db.releaseMid a n σ = g.sys.db.releaseDb a n σ
      · left
        rw [h.1, h.2, hfin, Chan.releaseRecs_releaseDb hP]
        exact List.append_nil _
      · right
        exact ⟨by rw [h.1, h.2, Chan.releaseRecs_releaseMid], h.2, by rw [h.1]; exact hfin⟩
    · left
      rw [h.1, h.2, Chan.releaseRecs_releaseDb hP]
      exact List.append_nil _

/-- **C10 (re-sent `release`)**, channel database -/
theorem C10_resend_release {g : GSys} (hg : g.ReachCF) {c : Nat} {x : Conn} {a σ : String}
    (hx : g.sys.findConn c = some x) (happ : x.app = some a) (hside : x.side = some σ)
    {n : String} (t : Time) (id : Val) (hw : g.WFOp (.recv c t id (.release (some n)))) {b : Bool}
    (hans : Event.frame c .released b ∈ (g.sys.step (.recv c t id (.release (some n)))).out)
    {k : Nat} (hk : 1 ≤ k) (c' : Nat) (id₁ : Val) (impl ver : Option String) :
    (g.sys.step (.recv c t id (.release (some n)))).frames = [.frame c (.ack id) true, .frame c .released true] ∧
    (resend (g.sys.step (.crashIn k (.recv c t id (.release (some n))))) c' t id₁ id a σ impl ver
      (.release (some n))).frames = [.frame c' (.ack id) true, .frame c' .released true] ∧
    (resend (g.sys.step (.crashIn k (.recv c t id (.release (some n))))) c' t id₁ id a σ impl ver
      (.release (some n))).db = (g.sys.step (.recv c t id (.release (some n)))).db :=
  let h := C10_resend_release_all hg.reach hx happ hside (nm := some n) rfl t id hw hans k c' id₁ impl ver
  ⟨h.1, h.2.1, h.2.2.1⟩

/-! ### `claim` -/

/-- **C10 (re-sent `claim`), both databases, every crash point.**  ANY `k`; for `k = 0` (nothing committed:
    the command is lost) the re-sent claim must carry the same generated id, `1 ≤ k ∨ f' = fresh`.  A claim
    writes no usage `nameplates` / `mailboxes` row: these tables are EQUAL in the two runs (and equal to those
    before). -/
theorem C10_resend_claim_all {g : GSys} (hg : g.Reach) {c : Nat} {x : Conn} {a σ : String}
    (hx : g.sys.findConn c = some x) (happ : x.app = some a) (hside : x.side = some σ)
    {n fresh : String} (t : Time) (id : Val)
    (hw : g.WFOp (.recv c t id (.claim (some n) fresh)))
    {m : String} {b : Bool}
    (hans : Event.frame c (.claimed m) b ∈ (g.sys.step (.recv c t id (.claim (some n) fresh))).out)
    (k : Nat) (c' : Nat) (id₁ : Val) (impl ver : Option String) (f' : String) (hk : 1 ≤ k ∨ f' = fresh) :
    (g.sys.step (.recv c t id (.claim (some n) fresh))).frames =
      [.frame c (.ack id) true, .frame c (.claimed m) true] ∧
    (resend (g.sys.step (.crashIn k (.recv c t id (.claim (some n) fresh)))) c' t id₁ id a σ impl ver
      (.claim (some n) f')).frames = [.frame c' (.ack id) true, .frame c' (.claimed m) true] ∧
    (resend (g.sys.step (.crashIn k (.recv c t id (.claim (some n) fresh)))) c' t id₁ id a σ impl ver
      (.claim (some n) f')).db = (g.sys.step (.recv c t id (.claim (some n) fresh))).db ∧
    (g.sys.step (.recv c t id (.claim (some n) fresh))).udb = g.sys.udb ∧
    (resend (g.sys.step (.crashIn k (.recv c t id (.claim (some n) fresh)))) c' t id₁ id a σ impl ver
      (.claim (some n) f')).udb.nameplates = g.sys.udb.nameplates ∧
    (resend (g.sys.step (.crashIn k (.recv c t id (.claim (some n) fresh)))) c' t id₁ id a σ impl ver
      (.claim (some n) f')).udb.mailboxes = g.sys.udb.mailboxes := by
  have hI := hg.ginv
  have hP := hI.cinv.toPInv
  have hr := not_rejected_of_frame hx hans (by simp) (by simp)
  obtain ⟨_, hdc, _⟩ := claim_accepted hr
  obtain ⟨s1, r, e, ⟨commits, hc, hout⟩, hdb, hsy, _⟩ := claim_step hP hI.synced hx hr happ t id
  obtain rfl : r = .ok m := claimAnswer_ok hc (hout ▸ hans)
  rw [getD_of_side hside] at e
  have hfresh : ∀ mm ∈ g.sys.db.mailboxes, mm.id ≠ fresh :=
    fun mm hm e' => hw.idFresh fresh rfl (e' ▸ hI.used mm hm)
  have hstep := step_claim (s := g.sys) t id n fresh hx happ hdc
  rw [getD_of_side hside, e] at hstep
  generalize hX : ((({ g.sys with out := [], snaps := [] } : Sys).send c (.ack id)).updConn c
    (fun y => { y with didClaim := true, nameplateId := some n })) = X at e
  have hX0 : X.db = g.sys.db := by rw [← hX]; rfl
  have hXs : X.snaps = [] := by rw [← hX]; rfl
  have hU : USame g.sys.udb s1 := by
    have := USame.claimNameplate (U := g.sys.udb) (s := X)
      (by rw [← hX]; exact ⟨rfl, hI.synced.2.symm, fun p hp => absurd hp List.not_mem_nil⟩) a n σ t fresh
    rw [e] at this; exact this
  obtain ⟨D1, row, hrow, hrm, hrside, hfin, hres, hsnap⟩ :=
    claimNameplate_mid (s := X) (by rw [hX0]; exact hP) (by rw [hX0]; exact hfresh) e
  have hall : PairAll (fun d u => (d = D1 ∨ d = s1.db) ∧ u = g.sys.udb)
      (({ g.sys with out := [], snaps := [] } : Sys).stepPlain (.recv c t id (.claim (some n) fresh))) := by
    have hplain : ({ g.sys with out := [], snaps := [] } : Sys).stepPlain (.recv c t id (.claim (some n) fresh)) =
        s1.send c (.claimed m) := hstep
    rw [hplain]
    refine PairAll.of_dbAll_uSame ⟨Or.inr ?_, fun p hp => (hsnap p hp).resolve_left ?_⟩ (hU.emit _)
    · show s1.disk = s1.db
      have h2 : (g.sys.step (.recv c t id (.claim (some n) fresh))).disk = s1.disk := by rw [hstep]; rfl
      rw [← h2, ← hsy.1, hdb]
    · rw [hXs]; exact List.not_mem_nil
  have hudb1 : (g.sys.step (.recv c t id (.claim (some n) fresh))).udb = g.sys.udb := by rw [hstep]; exact hU.1
  have hcrash := crash_pair g.sys hI.synced k _ hall
  obtain ⟨sb, hre, hxb, hSb, hPb, _, _, hbdb, hbn, hbm⟩ :=
    resend_state hI hw k c' id₁ a σ impl ver (.claim (some n) f')
  generalize g.sys.step (.crashIn k (.recv c t id (.claim (some n) fresh))) = sk at hcrash hre hbdb hbn hbm ⊢
  obtain ⟨s2, r', e', ⟨commits', hc', hout'⟩, hdb', _, _⟩ := claim_step hPb hSb hxb
    (name := n) (fresh := f') (by simp [rejectText, needBind, dupConn]) (app := a) rfl t id
  have hside' : (dupConn c' a σ).side.getD "" = σ := rfl
  rw [hside'] at e'
  generalize hX' : ((({ sb with out := [], snaps := [] } : Sys).send c' (.ack id)).updConn c'
        (fun y => { y with didClaim := true, nameplateId := some n })) = X' at e'
  have hXdb : X'.db = sk.db := by rw [← hX']; exact hbdb
  have hXP : X'.db.PInv := by rw [← hX']; exact hPb
  obtain ⟨hun, hum⟩ := recv_usage_tables sb c' t id (cmd := .claim (some n) f') (by intro n; simp)
    (by intro m mood; simp)
  have key : s2.db = s1.db ∧ r' = .ok m := by
    rcases hcrash with ⟨hk0, hD, _⟩ | ⟨hD | hD, _⟩
    · -- nothing committed: the same claim again, with the same generated id
      have hff : f' = fresh := hk.resolve_left (by omega)
      subst hff
      exact claimNameplate_det (s := X) (s' := X') (by rw [hX0]; exact hP) (by rw [hXdb, hD, hX0])
        (by rw [hX0]; exact hfresh) e e'
    · obtain ⟨k1, k2, _⟩ := claimNameplate_from_mid hXP (hXdb.trans hD) hrow hrm hrside
        (by rw [← hfin]; exact hres) e'
      exact ⟨k1.trans hfin.symm, k2⟩
    · have hD1 := claimNameplate_ok_done (by rw [← hdb]; exact (hI.step _ hw).cinv.toPInv) e
      obtain ⟨s2', e2, k1, _⟩ := claimNameplate_again hXP
        (by rw [hXdb, hD]; exact hD1) f'
      rw [e'] at e2
      cases e2
      exact ⟨k1.trans (hXdb.trans hD), rfl⟩
  have hcrashU : sk.udb = g.sys.udb := by rcases hcrash with ⟨_, _, h⟩ | ⟨_, h⟩ <;> exact h
  obtain ⟨k1, k2⟩ := key
  subst k2
  rw [hre]
  exact ⟨frames_of_answer hc (by rfl) hout, frames_of_answer hc' (by rfl) hout', by rw [hdb', k1, hdb], hudb1,
    by rw [hun, hbn, hcrashU], by rw [hum, hbm, hcrashU]⟩

/-- **C10 (re-sent `claim`)**, channel database -/
theorem C10_resend_claim {g : GSys} (hg : g.ReachCF) {c : Nat} {x : Conn} {a σ : String}
    (hx : g.sys.findConn c = some x) (happ : x.app = some a) (hside : x.side = some σ)
    {n fresh : String} (t : Time) (id : Val)
    (hw : g.WFOp (.recv c t id (.claim (some n) fresh)))
    {m : String} {b : Bool}
    (hans : Event.frame c (.claimed m) b ∈ (g.sys.step (.recv c t id (.claim (some n) fresh))).out)
    {k : Nat} (hk : 1 ≤ k) (c' : Nat) (id₁ : Val) (impl ver : Option String) (f' : String) :
    (g.sys.step (.recv c t id (.claim (some n) fresh))).frames =
      [.frame c (.ack id) true, .frame c (.claimed m) true] ∧
    (resend (g.sys.step (.crashIn k (.recv c t id (.claim (some n) fresh)))) c' t id₁ id a σ impl ver
      (.claim (some n) f')).frames = [.frame c' (.ack id) true, .frame c' (.claimed m) true] ∧
    (resend (g.sys.step (.crashIn k (.recv c t id (.claim (some n) fresh)))) c' t id₁ id a σ impl ver
      (.claim (some n) f')).db = (g.sys.step (.recv c t id (.claim (some n) fresh))).db :=
  let h := C10_resend_claim_all hg.reach hx happ hside t id hw hans k c' id₁ impl ver f' (Or.inl hk)
  ⟨h.1, h.2.1, h.2.2.1⟩

/-! ### `open` -/

/-- **C10 (re-sent `open`), both databases, every crash point.**  An `open` writes no usage `nameplates` /
    `mailboxes` row. -/
theorem C10_resend_open_all {g : GSys} (hg : g.Reach) {c : Nat} {x : Conn} {a σ : String}
    (hx : g.sys.findConn c = some x) (happ : x.app = some a) (hside : x.side = some σ)
    {mb : String} (t : Time) (id : Val) (hw : g.WFOp (.recv c t id (.open_ (some mb))))
    (hans : ∀ e ∈ (g.sys.step (.recv c t id (.open_ (some mb)))).out, e.isFailure = false)
    (k : Nat) (c' : Nat) (id₁ : Val) (impl ver : Option String) :
    (g.sys.step (.recv c t id (.open_ (some mb)))).frames =
      .frame c (.ack id) true :: replayFrames (g.sys.step (.recv c t id (.open_ (some mb)))).db c a mb ∧
    (resend (g.sys.step (.crashIn k (.recv c t id (.open_ (some mb))))) c' t id₁ id a σ impl ver
      (.open_ (some mb))).frames =
      .frame c' (.ack id) true :: replayFrames (g.sys.step (.recv c t id (.open_ (some mb)))).db c' a mb ∧
    (resend (g.sys.step (.crashIn k (.recv c t id (.open_ (some mb))))) c' t id₁ id a σ impl ver
      (.open_ (some mb))).db = (g.sys.step (.recv c t id (.open_ (some mb)))).db ∧
    (g.sys.step (.recv c t id (.open_ (some mb)))).udb = g.sys.udb ∧
    (resend (g.sys.step (.crashIn k (.recv c t id (.open_ (some mb))))) c' t id₁ id a σ impl ver
      (.open_ (some mb))).udb.nameplates = g.sys.udb.nameplates ∧
    (resend (g.sys.step (.crashIn k (.recv c t id (.open_ (some mb))))) c' t id₁ id a σ impl ver
      (.open_ (some mb))).udb.mailboxes = g.sys.udb.mailboxes := by
  have hI := hg.ginv
  have hP := hI.cinv.toPInv
  have hr := not_rejected_of_noFailure hx hans
  obtain ⟨m, hm, hdb, hlen, commits, hc, hout⟩ := orig_open hI hx happ hside hans
  cases hm
  refine ⟨frames_of_out hc (replayFrames_isFrame _ c a mb) hout, ?_⟩
  obtain ⟨h1, _, h3o⟩ := open_step hP hI.synced hx hr happ t id
  have hnc : ¬ g.sys.db.Clash a mb := by
    intro hcl
    have := hans (.internal (some c) "IntegrityError") (by rw [(h1 hcl).1]; simp)
    simp [Event.isFailure] at this
  have hudb1 := (h3o hnc (by rw [getD_of_side hside, ← hdb]; omega)).2.2.2.1
  have hcrash := crash_pair_of_pairAll g.sys hI.synced k (.recv c t id (.open_ (some mb)))
    (P := fun d u => (d = g.sys.db ∨ d = g.sys.db.openDb a mb σ t) ∧ u = g.sys.udb) ⟨Or.inl rfl, rfl⟩
    (open_pair_points hP hI.synced hx hr happ t id ⟨Or.inl rfl, rfl⟩ ⟨Or.inr (by rw [getD_of_side hside]), rfl⟩)
  obtain ⟨sb, hre, hxb, hSb, hPb, _, _, hbdb, hbn, hbm⟩ :=
    resend_state hI hw k c' id₁ a σ impl ver (.open_ (some mb))
  generalize g.sys.step (.crashIn k (.recv c t id (.open_ (some mb)))) = sk at hcrash hre hbdb hbn hbm ⊢
  obtain ⟨_, _, h3⟩ := open_step hPb hSb hxb (mb := mb)
    (by simp [rejectText, needBind, dupConn]) (app := a) rfl t id
  have hside' : (dupConn c' a σ).side.getD "" = σ := rfl
  rw [hside', hbdb] at h3
  have hopen : sk.db.openDb a mb σ t = g.sys.db.openDb a mb σ t ∧ ¬ sk.db.Clash a mb := by
    rcases hcrash.1 with h | h
    · rw [h]; exact ⟨rfl, hnc⟩
    · rw [h]
      exact ⟨Chan.openDb_idem _ _ _ _ _, fun hcl => hcl.2 (Chan.openDb_hasBox _ _ _ _ _)⟩
  rw [hopen.1] at h3
  obtain ⟨⟨commits', hc', hout'⟩, hdb', _, hudb2, _⟩ := h3 hopen.2 (by rw [← hdb]; omega)
  rw [hre, hdb]
  exact ⟨frames_of_out hc' (replayFrames_isFrame _ c' a mb) hout', hdb', hudb1, by rw [hudb2, hbn, hcrash.2],
    by rw [hudb2, hbm, hcrash.2]⟩

/-- **C10 (re-sent `open`)**, channel database -/
theorem C10_resend_open {g : GSys} (hg : g.ReachCF) {c : Nat} {x : Conn} {a σ : String}
    (hx : g.sys.findConn c = some x) (happ : x.app = some a) (hside : x.side = some σ)
    {mb : String} (t : Time) (id : Val) (hw : g.WFOp (.recv c t id (.open_ (some mb))))
    (hans : ∀ e ∈ (g.sys.step (.recv c t id (.open_ (some mb)))).out, e.isFailure = false)
    {k : Nat} (hk : 1 ≤ k) (c' : Nat) (id₁ : Val) (impl ver : Option String) :
    (g.sys.step (.recv c t id (.open_ (some mb)))).frames =
      .frame c (.ack id) true :: replayFrames (g.sys.step (.recv c t id (.open_ (some mb)))).db c a mb ∧
    (resend (g.sys.step (.crashIn k (.recv c t id (.open_ (some mb))))) c' t id₁ id a σ impl ver
      (.open_ (some mb))).frames =
      .frame c' (.ack id) true :: replayFrames (g.sys.step (.recv c t id (.open_ (some mb)))).db c' a mb ∧
    (resend (g.sys.step (.crashIn k (.recv c t id (.open_ (some mb))))) c' t id₁ id a σ impl ver
      (.open_ (some mb))).db = (g.sys.step (.recv c t id (.open_ (some mb)))).db :=
  let h := C10_resend_open_all hg.reach hx happ hside t id hw hans k c' id₁ impl ver
  ⟨h.1, h.2.1, h.2.2.1⟩

/-! ### `close` -/

/-- **C10 (re-sent `close`), both databases, every crash point** — partial for the channel database for
    exactly the two known findings (K-crowded-rejoin: `hguard`; K-close-touch: equal up to
    `touch m t`, EQUAL when the mailbox was deleted), and for the usage database for K-usage-crash-dup:
    `recsN`, `recsM` are the usage rows the uncrashed step wrote (none unless it deleted the mailbox and a
    usage database exists; at most one `mailboxes` row); the re-sent run ends with
      (i)   the usage tables of the uncrashed run, or
      (ii)  those tables FOLLOWED BY `recsN` / `recsM` ONCE MORE -- only if the crash state holds the usage
            database of the uncrashed run but not its channel database (crash between the two commits), or
      (iii) the `nameplates` table of the uncrashed run and its `mailboxes` table followed by ONE row
            `goneRecord` -- only if the crash state is the final state of the deleting close (the re-sent
            close re-creates the mailbox, deletes it and records it).
    `close` with or without the mailbox name (`htg`: it acts on `m`); pre-state reachable WITH crashes;
    ANY `k`. -/
theorem C10_resend_close_all_partial {g : GSys} (hg : g.Reach) {c : Nat} {x : Conn} {a σ : String}
    (hx : g.sys.findConn c = some x) (happ : x.app = some a) (hside : x.side = some σ)
    {mo : Option String} {m : String} {mood : Option String} (t : Time) (id : Val)
    (hw : g.WFOp (.recv c t id (.close mo mood)))
    (htg : x.closeTarget mo = some m) {b : Bool}
    (hans : Event.frame c .closed b ∈ (g.sys.step (.recv c t id (.close mo mood))).out)
    (hguard : x.mailbox ≠ none → (g.sys.db.mbSidesOf m).length ≤ 2)
    (k : Nat) (c' : Nat) (id₁ : Val) (impl ver : Option String) :
    (g.sys.step (.recv c t id (.close mo mood))).frames = [.frame c (.ack id) true, .frame c .closed true] ∧
    (resend (g.sys.step (.crashIn k (.recv c t id (.close mo mood)))) c' t id₁ id a σ impl ver
      (.close (some m) mood)).frames = [.frame c' (.ack id) true, .frame c' .closed true] ∧
    ((resend (g.sys.step (.crashIn k (.recv c t id (.close mo mood)))) c' t id₁ id a σ impl ver
        (.close (some m) mood)).db = (g.sys.step (.recv c t id (.close mo mood))).db ∨
      (resend (g.sys.step (.crashIn k (.recv c t id (.close mo mood)))) c' t id₁ id a σ impl ver
        (.close (some m) mood)).db = (g.sys.step (.recv c t id (.close mo mood))).db.touch m t) ∧
    (¬ (g.sys.step (.recv c t id (.close mo mood))).db.HasId m →
      (resend (g.sys.step (.crashIn k (.recv c t id (.close mo mood)))) c' t id₁ id a σ impl ver
        (.close (some m) mood)).db = (g.sys.step (.recv c t id (.close mo mood))).db) ∧
    ∃ (recsN : List UNameplate) (recsM : List UMailbox),
      (g.sys.step (.recv c t id (.close mo mood))).udb.nameplates = g.sys.udb.nameplates ++ recsN ∧
      (g.sys.step (.recv c t id (.close mo mood))).udb.mailboxes = g.sys.udb.mailboxes ++ recsM ∧
      recsM.length ≤ 1 ∧
      (g.sys.cfg.usage = false → recsN = [] ∧ recsM = []) ∧
      ((g.sys.step (.recv c t id (.close mo mood))).db.HasId m → recsN = [] ∧ recsM = []) ∧
      (((resend (g.sys.step (.crashIn k (.recv c t id (.close mo mood)))) c' t id₁ id a σ impl ver
            (.close (some m) mood)).udb.nameplates = (g.sys.step (.recv c t id (.close mo mood))).udb.nameplates ∧
          (resend (g.sys.step (.crashIn k (.recv c t id (.close mo mood)))) c' t id₁ id a σ impl ver
            (.close (some m) mood)).udb.mailboxes = (g.sys.step (.recv c t id (.close mo mood))).udb.mailboxes) ∨
        ((resend (g.sys.step (.crashIn k (.recv c t id (.close mo mood)))) c' t id₁ id a σ impl ver
            (.close (some m) mood)).udb.nameplates =
              (g.sys.step (.recv c t id (.close mo mood))).udb.nameplates ++ recsN ∧
          (resend (g.sys.step (.crashIn k (.recv c t id (.close mo mood)))) c' t id₁ id a σ impl ver
            (.close (some m) mood)).udb.mailboxes =
              (g.sys.step (.recv c t id (.close mo mood))).udb.mailboxes ++ recsM ∧
          (g.sys.step (.crashIn k (.recv c t id (.close mo mood)))).udb =
            (g.sys.step (.recv c t id (.close mo mood))).udb ∧
          (g.sys.step (.crashIn k (.recv c t id (.close mo mood)))).db ≠
            (g.sys.step (.recv c t id (.close mo mood))).db) ∨
        ((resend (g.sys.step (.crashIn k (.recv c t id (.close mo mood)))) c' t id₁ id a σ impl ver
            (.close (some m) mood)).udb.nameplates = (g.sys.step (.recv c t id (.close mo mood))).udb.nameplates ∧
          (resend (g.sys.step (.crashIn k (.recv c t id (.close mo mood)))) c' t id₁ id a σ impl ver
            (.close (some m) mood)).udb.mailboxes =
              (g.sys.step (.recv c t id (.close mo mood))).udb.mailboxes ++
                [goneRecord g.sys.blurTime a m σ mood t] ∧
          (g.sys.step (.crashIn k (.recv c t id (.close mo mood)))).db =
            (g.sys.step (.recv c t id (.close mo mood))).db ∧
          ¬ (g.sys.step (.recv c t id (.close mo mood))).db.HasId m ∧ g.sys.cfg.usage = true)) := by
  have hI := hg.ginv
  have hP := hI.cinv.toPInv
  have hN := hI.cinv.npHasSide
  have hr := not_rejected_of_frame hx hans (by simp) (by simp)
  obtain ⟨hnot, hpreP, hb, hs⟩ :=
    close_answered hI (C05.handleRow_reach hg) hx happ hside hr htg hans
  obtain ⟨_, _, h3⟩ := close_step hP hN hI.synced hx hr happ htg t id
  obtain ⟨⟨commits, hc, hout⟩, hdb, _⟩ := h3 hnot
  have hudbO := close_step_udb_all hP hN hI.synced hx hr happ htg t id hnot hb
  have hcpp := fun (P : Chan → Usage → Prop) => close_pair_points hP hI.synced hx hr happ htg t id (P := P)
  simp only [getD_of_side hside] at hdb hudbO hcpp
  have hudbO' := hudbO hs
  generalize hpre : closePre g.sys x a m t = pre at hnot hdb hudbO' hcpp hpreP hb hs
  have hpre' : pre = (if x.mailbox = none then g.sys.db.openDb a m σ t else g.sys.db) := by
    rw [← hpre]; unfold closePre; rw [getD_of_side hside]
  have hlen : (pre.mbSidesOf m).length ≤ 2 := by
    cases hh : x.mailbox with
    | none =>
      have : ¬ (pre.mbSidesOf m).length > 2 := fun h => hnot ⟨hh, Or.inr h⟩
      omega
    | some h =>
      rw [hpre', hh]; simp only [reduceCtorEq, if_false]
      exact hguard (by rw [hh]; simp)
  refine ⟨frames_of_answer hc (by rfl) hout, ?_⟩
  have hcrash := crash_pair_of_pairAll g.sys hI.synced k (.recv c t id (.close mo mood))
    (P := fun d u => (d = g.sys.db ∧ u = g.sys.udb) ∨ (d = pre ∧ u = g.sys.udb) ∨
      (d = pre.closeSide m σ mood ∧ u = g.sys.udb) ∨
      (d = pre.closeSide m σ mood ∧ u = g.sys.closeUdb pre a m σ mood t) ∨
      (d = pre.closeDb a m σ mood ∧ u = g.sys.closeUdb pre a m σ mood t))
    (Or.inl ⟨rfl, rfl⟩)
    (hcpp _ (Or.inl ⟨rfl, rfl⟩) (Or.inr (Or.inl ⟨rfl, rfl⟩)) (Or.inr (Or.inr (Or.inl ⟨rfl, rfl⟩)))
      (Or.inr (Or.inr (Or.inr (Or.inl ⟨rfl, hudbO'⟩)))) (Or.inr (Or.inr (Or.inr (Or.inr ⟨hdb, hudbO'⟩)))))
  rw [hdb, hudbO']
  obtain ⟨sb, hre, hxb, hSb, hPb, hNb, hbcfg, hbdb, hbn, hbm⟩ :=
    resend_state hI hw k c' id₁ a σ impl ver (.close (some m) mood)
  generalize g.sys.step (.crashIn k (.recv c t id (.close mo mood))) = sk at hcrash hre hbdb hbn hbm ⊢
  obtain ⟨_, _, k3⟩ := close_step hPb hNb hSb hxb
    (dupConn_close_valid c' a σ m mood) (app := a) rfl (dupConn_closeTarget c' a σ m) t id
  have hudbR := close_step_udb_all hPb hNb hSb hxb (dupConn_close_valid c' a σ m mood) (a := a) rfl
    (dupConn_closeTarget c' a σ m) t id
  rw [dupConn_closePre, hbdb] at k3 hudbR
  have hside' : (dupConn c' a σ).side.getD "" = σ := rfl
  rw [hside'] at k3 hudbR
  rw [hre]
  have hcd := Chan.closeDb_of_box (mood := mood) hb hs
  have hnoId : ¬ pre.OtherOpen m σ → ¬ (pre.closeDb a m σ mood).HasId m := by
    intro ho
    rw [hcd, if_neg ho]
    rintro ⟨r, hr, hid⟩
    exact Chan.dropMailbox_noId hpreP.mbIds hb r hr hid
  -- the three facts the re-send needs at the crash point: no clash, not crowded, where it ends
  have key : ¬ sk.db.Clash a m ∧ ((sk.db.openDb a m σ t).mbSidesOf m).length ≤ 2 ∧
      (sk.db.closeRun a m σ mood t = pre.closeDb a m σ mood ∨
        sk.db.closeRun a m σ mood t = (pre.closeDb a m σ mood).touch m t) := by
    have hpt := fun hD => Chan.closeRun_of_point hpreP.mbIds mood t hb hs (D := sk.db) hD
    rcases hcrash with h | h | h | h | h
    · cases hh : x.mailbox with
      | some hd =>
        obtain ⟨p1, p2, p3⟩ := hpt (Or.inl (by rw [h.1, hpre', hh]; simp))
        exact ⟨p1, by omega, Or.inr p3⟩
      | none =>
        have hpo : pre = g.sys.db.openDb a m σ t := by rw [hpre', hh]; simp
        rw [h.1]
        refine ⟨fun hcl => hnot ⟨hh, Or.inl hcl⟩, by rw [← hpo]; exact hlen, Or.inl ?_⟩
        unfold Chan.closeRun; rw [← hpo]
    · obtain ⟨p1, p2, p3⟩ := hpt (Or.inl h.1); exact ⟨p1, by omega, Or.inr p3⟩
    · obtain ⟨p1, p2, p3⟩ := hpt (Or.inr (Or.inl h.1)); exact ⟨p1, by omega, Or.inr p3⟩
    · obtain ⟨p1, p2, p3⟩ := hpt (Or.inr (Or.inl h.1)); exact ⟨p1, by omega, Or.inr p3⟩
    · obtain ⟨p1, p2, p3⟩ := hpt (Or.inr (Or.inr h.1)); exact ⟨p1, by omega, Or.inr p3⟩
  obtain ⟨kc, kl, kdb⟩ := key
  have hnotR : ¬ ((dupConn c' a σ).mailbox = none ∧
      (sk.db.Clash a m ∨ ((sk.db.openDb a m σ t).mbSidesOf m).length > 2)) := by
    rintro ⟨_, h | h⟩
    · exact kc h
    · omega
  obtain ⟨⟨commits', hc', hout'⟩, hdb', _⟩ := k3 hnotR
  have hudbR' := hudbR hnotR (Chan.openDb_hasBox _ _ _ _ _) (Chan.openDb_findMbSide_ne_none _ _ _ _ _)
  refine ⟨frames_of_answer hc' (by rfl) hout', ?_, ?_, ?_⟩
  · rw [hdb']
    exact kdb
  · intro hgone
    rw [hdb']
    rcases kdb with h | h
    · exact h
    · exact h.trans (Chan.touch_eq_self_of_noId (fun r hr e => hgone ⟨r, hr, e⟩) t)
  · -- the usage tables: those of the crash state, then the rows the re-run close writes from its channel database
    rw [hudbR']
    have hR : (sb.closeUdb (sk.db.openDb a m σ t) a m σ mood t).nameplates = sk.udb.nameplates ++
          ((sk.db.openDb a m σ t).closeRecs g.sys.cfg.usage g.sys.blurTime a m σ mood t).1 ∧
        (sb.closeUdb (sk.db.openDb a m σ t) a m σ mood t).mailboxes = sk.udb.mailboxes ++
          ((sk.db.openDb a m σ t).closeRecs g.sys.cfg.usage g.sys.blurTime a m σ mood t).2 := by
      show sb.udb.nameplates ++ (Chan.closeRecs _ sb.cfg.usage sb.blurTime a m σ mood t).1 = _ ∧
        sb.udb.mailboxes ++ (Chan.closeRecs _ sb.cfg.usage sb.blurTime a m σ mood t).2 = _
      rw [hbn, hbm, hbcfg, blurTime_congr hbcfg]
      exact ⟨rfl, rfl⟩
    rw [hR.1, hR.2]
    obtain ⟨hsr1, hsr2⟩ := Chan.closeRecs_points hpreP.mbIds mood t hb hs g.sys.cfg.usage g.sys.blurTime t
    -- before the channel commit of the close, the re-run computes the records of the uncrashed close
    have hsame : sk.db = g.sys.db ∨ sk.db = pre ∨ sk.db = pre.closeSide m σ mood →
        (sk.db.openDb a m σ t).closeRecs g.sys.cfg.usage g.sys.blurTime a m σ mood t =
          pre.closeRecs g.sys.cfg.usage g.sys.blurTime a m σ mood t := by
      rintro (h | h | h) <;> rw [h]
      · cases hh : x.mailbox with
        | some hd =>
          have : pre = g.sys.db := by rw [hpre', hh]; simp
          rw [← this]; exact hsr1
        | none =>
          have : pre = g.sys.db.openDb a m σ t := by rw [hpre', hh]; simp
          rw [← this]
      · exact hsr1
      · exact hsr2
    refine ⟨_, _, rfl, rfl, Chan.closeRecs_length _ _ _ _ _ _ _ _, ?_, ?_, ?_⟩
    · intro hu
      have hd : ¬ (g.sys.cfg.usage = true ∧ ¬ pre.OtherOpen m σ) := fun h => by rw [hu] at h; cases h.1
      rw [Chan.closeRecs_of_not pre _ a mood t hd]
      exact ⟨rfl, rfl⟩
    · intro hid
      have hd : ¬ (g.sys.cfg.usage = true ∧ ¬ pre.OtherOpen m σ) := fun h => hnoId h.2 hid
      rw [Chan.closeRecs_of_not pre _ a mood t hd]
      exact ⟨rfl, rfl⟩
    · rcases hcrash with h | h | h | h | h
      · left; rw [hsame (Or.inl h.1), h.2]; exact ⟨rfl, rfl⟩
      · left; rw [hsame (Or.inr (Or.inl h.1)), h.2]; exact ⟨rfl, rfl⟩
      · left; rw [hsame (Or.inr (Or.inr h.1)), h.2]; exact ⟨rfl, rfl⟩
      · -- between the usage commit and the channel commit: the records are written again
        rw [hsame (Or.inr (Or.inr h.1)), h.2]
        by_cases hd : g.sys.cfg.usage = true ∧ ¬ pre.OtherOpen m σ
        · right; left
          refine ⟨rfl, rfl, rfl, ?_⟩
          rw [h.1]
          intro heq
          apply hnoId hd.2
          rw [← heq]
          obtain ⟨r, hr, _, hid⟩ := hb
          exact ⟨r, hr, hid⟩
        · left
          rw [Chan.closeRecs_of_not pre _ a mood t hd]
          exact ⟨List.append_nil _, List.append_nil _⟩
      · by_cases ho : pre.OtherOpen m σ
        · left
          have hd : ¬ (g.sys.cfg.usage = true ∧ ¬ pre.OtherOpen m σ) := fun hd => hd.2 ho
          rw [hsame (Or.inr (Or.inr (by rw [h.1, hcd, if_pos ho]))), h.2, Chan.closeRecs_of_not pre _ a mood t hd]
          exact ⟨List.append_nil _, List.append_nil _⟩
        · -- the mailbox is gone: the re-sent close re-creates it, deletes it and records it
          have hg : (sk.db.openDb a m σ t).closeRecs g.sys.cfg.usage g.sys.blurTime a m σ mood t =
              ([], if g.sys.cfg.usage then [goneRecord g.sys.blurTime a m σ mood t] else []) := by
            rw [h.1, hcd, if_neg ho]
            exact Chan.closeRecs_gone hpreP.mbIds hb _ _ _ _ _
          rw [hg, h.2]
          cases hu : g.sys.cfg.usage with
          | false => left; exact ⟨List.append_nil _, List.append_nil _⟩
          | true => right; right; exact ⟨List.append_nil _, rfl, h.1, hnoId ho, rfl⟩

/-- **C10 (re-sent `close`)**, channel database — partial, for exactly the two known findings:
    * K-crowded-rejoin: if the original connection held a handle (it had opened the mailbox, so its
      `close` did not run the crowding check) the mailbox must have at most two side rows (`hguard`);
      otherwise the re-sent close, which opens first, is answered `crowded`.  For a connection without a
      handle the guard is implied by the answer of the original.
    * K-close-touch: the database after the re-send is that after the uncrashed step with
      `UPDATE mailboxes SET updated = t WHERE id = m` applied (`touch m t`); if the mailbox was deleted the
      databases are EQUAL.
    `htg`: if the connection holds a handle it is the handle of the mailbox it names (the handle and the
    remembered `mailbox_id` are always set together by `open`; not part of `GInv`; Props/C10c.lean derives it). -/
theorem C10_resend_close_partial {g : GSys} (hg : g.ReachCF) {c : Nat} {x : Conn} {a σ : String}
    (hx : g.sys.findConn c = some x) (happ : x.app = some a) (hside : x.side = some σ)
    {m : String} {mood : Option String} (t : Time) (id : Val) (hw : g.WFOp (.recv c t id (.close (some m) mood)))
    (htg : x.closeTarget (some m) = some m) {b : Bool}
    (hans : Event.frame c .closed b ∈ (g.sys.step (.recv c t id (.close (some m) mood))).out)
    (hguard : x.mailbox ≠ none → (g.sys.db.mbSidesOf m).length ≤ 2)
    {k : Nat} (hk : 1 ≤ k) (c' : Nat) (id₁ : Val) (impl ver : Option String) :
    (g.sys.step (.recv c t id (.close (some m) mood))).frames = [.frame c (.ack id) true, .frame c .closed true] ∧
    (resend (g.sys.step (.crashIn k (.recv c t id (.close (some m) mood)))) c' t id₁ id a σ impl ver
      (.close (some m) mood)).frames = [.frame c' (.ack id) true, .frame c' .closed true] ∧
    ((resend (g.sys.step (.crashIn k (.recv c t id (.close (some m) mood)))) c' t id₁ id a σ impl ver
        (.close (some m) mood)).db = (g.sys.step (.recv c t id (.close (some m) mood))).db ∨
      (resend (g.sys.step (.crashIn k (.recv c t id (.close (some m) mood)))) c' t id₁ id a σ impl ver
        (.close (some m) mood)).db = (g.sys.step (.recv c t id (.close (some m) mood))).db.touch m t) ∧
    (¬ (g.sys.step (.recv c t id (.close (some m) mood))).db.HasId m →
      (resend (g.sys.step (.crashIn k (.recv c t id (.close (some m) mood)))) c' t id₁ id a σ impl ver
        (.close (some m) mood)).db = (g.sys.step (.recv c t id (.close (some m) mood))).db) :=
  let h := C10_resend_close_all_partial hg.reach hx happ hside t id hw htg hans hguard k c' id₁ impl ver
  ⟨h.1, h.2.1, h.2.2.1, h.2.2.2.1⟩

/-! ### the four together -/

/-- the commands of the re-send clause, with their nameplate / mailbox named explicitly; the re-sent
    `claim` may carry any generated id -/
inductive ResendCmd : Cmd → Cmd → Prop
  | claim (n f f' : String) : ResendCmd (.claim (some n) f) (.claim (some n) f')
  | release (n : String) : ResendCmd (.release (some n)) (.release (some n))
  | open_ (m : String) : ResendCmd (.open_ (some m)) (.open_ (some m))
  | close (m : String) (mood : Option String) : ResendCmd (.close (some m) mood) (.close (some m) mood)

/-- the guard of the two known findings, needed for `close` only (see `C10_resend_close_partial`) -/
def ResendGuard (d : Chan) (x : Conn) : Cmd → Prop
  | .close (some m) _ => x.closeTarget (some m) = some m ∧ (x.mailbox ≠ none → (d.mbSidesOf m).length ≤ 2)
  | _ => True

/-- a frame re-addressed to connection `c'` -/
def Event.toConn (c' : Nat) : Event → Event
  | .frame _ f b => .frame c' f b
  | e => e

theorem replayFrames_toConn (d : Chan) (c c' : Nat) (a m : String) :
    (replayFrames d c a m).map (Event.toConn c') = replayFrames d c' a m := by
  unfold replayFrames
  rw [List.map_map]
  rfl

/-- **C10_resend_converges_partial.**  For a state reachable by a crash-free well-formed history, a
    connection bound to `(a, σ)`, a well-formed, successfully answered `claim n` / `release n` / `open m` /
    `close m mood` and EVERY `k ≥ 1`: crash after the `k`-th commit, restart, reconnect, bind `(a, σ)` and
    send the command again, all at the same instant.  Then the frames the new connection gets in answer
    are those the original connection got in the uncrashed step (re-addressed), and the channel database
    equals the one after the uncrashed step -- for `close`, under `ResendGuard` (K-crowded-rejoin), up to
    `touch m t`, i.e. the column `updated` of a surviving mailbox row `m` (K-close-touch). -/
theorem C10_resend_converges_partial {g : GSys} (hg : g.ReachCF) {c : Nat} {x : Conn} {a σ : String}
    (hx : g.sys.findConn c = some x) (happ : x.app = some a) (hside : x.side = some σ)
    {cmd cmd' : Cmd} (hcmd : ResendCmd cmd cmd') (t : Time) (id : Val) (hw : g.WFOp (.recv c t id cmd))
    (hans : Answered (g.sys.step (.recv c t id cmd)).out c id cmd) (hguard : ResendGuard g.sys.db x cmd)
    {k : Nat} (hk : 1 ≤ k) (c' : Nat) (id₁ : Val) (impl ver : Option String) :
    (resend (g.sys.step (.crashIn k (.recv c t id cmd))) c' t id₁ id a σ impl ver cmd').frames =
      (g.sys.step (.recv c t id cmd)).frames.map (Event.toConn c') ∧
    ((resend (g.sys.step (.crashIn k (.recv c t id cmd))) c' t id₁ id a σ impl ver cmd').db =
        (g.sys.step (.recv c t id cmd)).db ∨
      ∃ m mood, cmd = .close (some m) mood ∧
        (resend (g.sys.step (.crashIn k (.recv c t id cmd))) c' t id₁ id a σ impl ver cmd').db =
          (g.sys.step (.recv c t id cmd)).db.touch m t) := by
  cases hcmd with
  | claim n f f' =>
    obtain ⟨m, b, hA⟩ := hans
    obtain ⟨h1, h2, h3⟩ := C10_resend_claim hg hx happ hside t id hw hA hk c' id₁ impl ver f'
    exact ⟨by rw [h1, h2]; rfl, Or.inl h3⟩
  | release n =>
    obtain ⟨b, hA⟩ := hans
    obtain ⟨h1, h2, h3⟩ := C10_resend_release hg hx happ hside t id hw hA hk c' id₁ impl ver
    exact ⟨by rw [h1, h2]; rfl, Or.inl h3⟩
  | open_ m =>
    obtain ⟨h1, h2, h3⟩ := C10_resend_open hg hx happ hside t id hw hans.2 hk c' id₁ impl ver
    refine ⟨?_, Or.inl h3⟩
    rw [h1, h2, List.map_cons, replayFrames_toConn]
    rfl
  | close m mood =>
    obtain ⟨b, hA⟩ := hans
    obtain ⟨h1, h2, h3, _⟩ := C10_resend_close_partial hg hx happ hside t id hw hguard.1 hA hguard.2 hk c' id₁ impl ver
    refine ⟨by rw [h1, h2]; rfl, ?_⟩
    rcases h3 with h | h
    · exact Or.inl h
    · exact Or.inr ⟨m, mood, rfl, h⟩

/-! ### Non-vacuity and the two counterexamples -/

theorem GSys.reachCF_run {g : GSys} (hg : g.ReachCF) : ∀ (ops : List Op), g.WF ops →
    (∀ op ∈ ops, op.isCrash = false) → (g.run ops).ReachCF := by
  intro ops
  induction ops generalizing g with
  | nil => intro _ _; exact hg
  | cons op rest ih =>
    intro h hc
    exact ih (.step op hg h.1 (hc op List.mem_cons_self)) h.2 (fun o ho => hc o (List.mem_cons_of_mem _ ho))

namespace C10bExample

def cfg : Cfg := { usage := true }
def bind (c : Nat) (t : Time) (σ : String) : Op := .recv c t (.int 1) (.bind (some "app") (some σ) none none)
def x1 : Conn := { id := 1, app := some "app", side := some "s1" }

/-- a bound connection about to claim nameplate "4" -/
def H0 : List Op := [ .connect 1, bind 1 10 "s1" ]
def g0 : GSys := (GSys.init cfg 0).run H0
theorem g0_reachCF : g0.ReachCF :=
  GSys.reachCF_run (.init cfg 0) H0 (GSys.wfB_sound (by decide +kernel)) (by decide)
def claimOp : Op := .recv 1 11 (.int 2) (.claim (some "4") "mb1")

/-- the hypotheses of `C10_resend_claim` hold … -/
example : g0.sys.findConn 1 = some x1 ∧ g0.WFOp claimOp ∧
    Event.frame 1 (.claimed "mb1") true ∈ (g0.sys.step claimOp).out :=
  ⟨by decide +kernel, GSys.wfOpB_sound (by decide +kernel), by decide +kernel⟩
/-- … the claim has two commit points, and after a crash at the FIRST one (mailbox, nameplate and
    nameplate side on disk, no mailbox side) the re-sent claim -- with another generated id -- completes
    it (evaluated; `C10_resend_claim` proves it for every state and every `k`) -/
example : (g0.sys.step claimOp).snaps.length = 2 ∧
    (g0.sys.step (.crashIn 1 claimOp)).db.mbSides = [] ∧
    (resend (g0.sys.step (.crashIn 1 claimOp)) 9 11 (.int 7) (.int 2) "app" "s1" none none (.claim (some "4") "zzz")).db
      = (g0.sys.step claimOp).db ∧
    (resend (g0.sys.step (.crashIn 1 claimOp)) 9 11 (.int 7) (.int 2) "app" "s1" none none (.claim (some "4") "zzz")).frames
      = [.frame 9 (.ack (.int 2)) true, .frame 9 (.claimed "mb1") true] := by decide +kernel
example : (resend (g0.sys.step (.crashIn 1 claimOp)) 9 11 (.int 7) (.int 2) "app" "s1" none none
    (.claim (some "4") "zzz")).db = (g0.sys.step claimOp).db :=
  (C10_resend_claim g0_reachCF (c := 1) (x := x1) (a := "app") (σ := "s1") (n := "4") (fresh := "mb1")
    (by decide +kernel) rfl rfl 11 (.int 2) (GSys.wfOpB_sound (by decide +kernel)) (m := "mb1") (b := true)
    (by decide +kernel) (k := 1) (by decide) 9 (.int 7) none none "zzz").2.2

/-- two sides have mailbox "m" open; side s1 (connection 1, holding the handle) closes it -/
def Hs : List Op :=
  [ .connect 1, bind 1 10 "s1", .recv 1 100 (.int 2) (.open_ (some "m")),
    .connect 2, bind 2 100 "s2", .recv 2 100 (.int 2) (.open_ (some "m")) ]
def gs : GSys := (GSys.init cfg 0).run Hs
theorem gs_reachCF : gs.ReachCF :=
  GSys.reachCF_run (.init cfg 0) Hs (GSys.wfB_sound (by decide +kernel)) (by decide)
def closeOp : Op := .recv 1 200 (.int 3) (.close (some "m") (some "happy"))
def xs : Conn := { id := 1, app := some "app", side := some "s1", listening := true, mailbox := some "m",
                   mailboxId := some "m" }

/-- **K-close-touch after a crash**: all hypotheses of `C10_resend_close_partial` hold (the guards
    included), the close is answered `closed`, and after the crash + re-send the database is NOT the one of
    the uncrashed run: it differs in `updated` of the surviving row "m" (100 vs 200), exactly as the
    theorem says -/
theorem C10_close_touch_counterexample :
    gs.ReachCF ∧ gs.sys.findConn 1 = some xs ∧ gs.WFOp closeOp ∧ xs.closeTarget (some "m") = some "m" ∧
    (gs.sys.db.mbSidesOf "m").length ≤ 2 ∧
    Event.frame 1 .closed true ∈ (gs.sys.step closeOp).out ∧
    (resend (gs.sys.step (.crashIn 1 closeOp)) 9 200 (.int 7) (.int 3) "app" "s1" none none
        (.close (some "m") (some "happy"))).db ≠ (gs.sys.step closeOp).db ∧
    (resend (gs.sys.step (.crashIn 1 closeOp)) 9 200 (.int 7) (.int 3) "app" "s1" none none
        (.close (some "m") (some "happy"))).db = (gs.sys.step closeOp).db.touch "m" 200 ∧
    (gs.sys.step closeOp).db.mailboxes.map (·.updated) = [100] :=
  ⟨gs_reachCF, by decide +kernel, GSys.wfOpB_sound (by decide +kernel), by decide +kernel, by decide +kernel,
    by decide +kernel, by decide +kernel, by decide +kernel, by decide +kernel⟩

/-- a third side has touched the mailbox (it was refused `crowded`, its side row stays) -/
def Hk : List Op :=
  Hs ++ [ .connect 3, bind 3 100 "s3", .recv 3 100 (.int 2) (.open_ (some "m")) ]
def gk : GSys := (GSys.init cfg 0).run Hk
theorem gk_reachCF : gk.ReachCF :=
  GSys.reachCF_run (.init cfg 0) Hk (GSys.wfB_sound (by decide +kernel)) (by decide)

/-- **K-crowded-rejoin after a crash**: without the guard (three side rows, the closing connection holds
    a handle) the original close is answered `closed` but the re-sent one -- which opens first -- is
    answered `crowded` -/
theorem C10_close_crowded_counterexample :
    gk.ReachCF ∧ gk.sys.findConn 1 = some xs ∧ gk.WFOp closeOp ∧ xs.closeTarget (some "m") = some "m" ∧
    (gk.sys.db.mbSidesOf "m").length = 3 ∧
    (gk.sys.step closeOp).frames = [.frame 1 (.ack (.int 3)) true, .frame 1 .closed true] ∧
    (resend (gk.sys.step (.crashIn 1 closeOp)) 9 200 (.int 7) (.int 3) "app" "s1" none none
        (.close (some "m") (some "happy"))).frames =
      [.frame 9 (.ack (.int 3)) true, .frame 9 (.error "crowded") true] :=
  ⟨gk_reachCF, by decide +kernel, GSys.wfOpB_sound (by decide +kernel), by decide +kernel, by decide +kernel,
    by decide +kernel, by decide +kernel⟩

/-- the last close of a mailbox: deleted in the uncrashed run; a crash between the UPDATE and the DELETE
    (k = 1) or after the usage commit (k = 2) is completed by the re-sent close, databases EQUAL -/
def Hd : List Op := [ .connect 1, bind 1 10 "s1", .recv 1 100 (.int 2) (.open_ (some "m")) ]
def gd : GSys := (GSys.init cfg 0).run Hd
example : (gd.sys.step closeOp).snaps.length = 3 ∧ (gd.sys.step closeOp).db.mailboxes = [] ∧
    (gd.sys.step (.crashIn 1 closeOp)).db.mailboxes.length = 1 ∧
    (resend (gd.sys.step (.crashIn 1 closeOp)) 9 200 (.int 7) (.int 3) "app" "s1" none none
        (.close (some "m") (some "happy"))).db = (gd.sys.step closeOp).db ∧
    (resend (gd.sys.step (.crashIn 2 closeOp)) 9 200 (.int 7) (.int 3) "app" "s1" none none
        (.close (some "m") (some "happy"))).db = (gd.sys.step closeOp).db := by decide +kernel

end C10bExample

end Wormhole

#print axioms Wormhole.C10_resend_claim
#print axioms Wormhole.C10bExample.C10_close_touch_counterexample
#print axioms Wormhole.C10bExample.C10_close_crowded_counterexample
#print axioms Wormhole.C10_resend_converges_partial
#print axioms Wormhole.C10_resend_close_partial
#print axioms Wormhole.C10_resend_open
#print axioms Wormhole.C10_resend_release
#print axioms Wormhole.C10_resend_claim_all
#print axioms Wormhole.C10_resend_release_all
#print axioms Wormhole.C10_resend_open_all
#print axioms Wormhole.C10_resend_close_all_partial
