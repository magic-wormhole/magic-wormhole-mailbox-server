/-
  C17 (protocol discipline: welcome, acks, harmless errors, once-only commands) and the
  `list` clause of C18, on the websocket layer of the model (`Ws.lean`).

  All theorems are for ALL states `s : Sys` (no reachability hypothesis) and all inputs.
  The `synced` flag of every emitted frame is given explicitly (`s.synced`) where the
  output is stated exactly.
-/
import Wormhole.Inv.WsLemmas

namespace Wormhole
open Sys

/-! ## The rejected situations -/

/-- the commands that are refused before `bind` -/
def Cmd.needsBind : Cmd → Bool
  | .noType | .ping _ | .bind _ _ _ _ => false
  | _ => true

/-- `Rejected x cmd text`: connection record `x` refuses `cmd` in validation, with error
    `text`.  The hypotheses of each constructor are exactly the checks the code has passed /
    failed when it raises that `Error` (`onMessage` and the `handle_*` prefix that runs
    before any database access or flag assignment). -/
inductive Rejected (x : Conn) : Cmd → String → Prop
  | noType : Rejected x .noType "missing 'type'"
  | pingNoValue : Rejected x (.ping none) "ping requires 'ping'"
  /-- `if self._app or self._side` (an empty-string side is falsy in Python) -/
  | alreadyBound (a sd i v) : (x.app ≠ none ∨ (x.side ≠ none ∧ x.side ≠ some "")) →
      Rejected x (.bind a sd i v) "already bound"
  | bindNoAppid (sd i v) : x.app = none → (x.side = none ∨ x.side = some "") →
      Rejected x (.bind none sd i v) "bind requires 'appid'"
  | bindNoSide (a i v) : x.app = none → (x.side = none ∨ x.side = some "") →
      Rejected x (.bind (some a) none i v) "bind requires 'side'"
  | mustBind (cmd) : x.app = none → cmd.needsBind = true → Rejected x cmd "must bind first"
  | unknownType : x.app ≠ none → Rejected x .unknown "unknown type"
  | secondAllocate (p d f) : x.app ≠ none → x.didAllocate = true →
      Rejected x (.allocate p d f) "you already allocated one, don't be greedy"
  | claimNoNameplate (f) : x.app ≠ none → Rejected x (.claim none f) "claim requires 'nameplate'"
  | secondClaim (n f) : x.app ≠ none → x.didClaim = true →
      Rejected x (.claim (some n) f) "only one claim per connection"
  | secondRelease (n) : x.app ≠ none → x.didRelease = true →
      Rejected x (.release n) "only one release per connection"
  | releaseOther (n held) : x.app ≠ none → x.didRelease = false → x.nameplateId = some held →
      n ≠ held → Rejected x (.release (some n)) "release and claim must use same nameplate"
  | releaseNothing : x.app ≠ none → x.didRelease = false → x.nameplateId = none →
      Rejected x (.release none) "release without nameplate must follow claim"
  | openHeld (m) : x.app ≠ none → x.mailbox ≠ none →
      Rejected x (.open_ m) "only one open per connection"
  | openNoMailbox : x.app ≠ none → x.mailbox = none →
      Rejected x (.open_ none) "open requires 'mailbox'"
  | addNoMailbox (ph bd) : x.app ≠ none → x.mailbox = none →
      Rejected x (.add ph bd) "must open mailbox before adding"
  | addNoPhase (bd) : x.app ≠ none → x.mailbox ≠ none → Rejected x (.add none bd) "missing 'phase'"
  | addNoBody (ph) : x.app ≠ none → x.mailbox ≠ none →
      Rejected x (.add (some ph) none) "missing 'body'"
  | secondClose (m mood) : x.app ≠ none → x.didClose = true →
      Rejected x (.close m mood) "only one close per connection"
  | closeOther (m held mood) : x.app ≠ none → x.didClose = false → x.mailboxId = some held →
      m ≠ held → Rejected x (.close (some m) mood) "open and close must use same mailbox"
  | closeNothing (mood) : x.app ≠ none → x.didClose = false → x.mailboxId = none →
      Rejected x (.close none mood) "close without mailbox must follow open"

/-- `must bind first`, or else `k` -/
def needBind (x : Conn) (k : Option String) : Option String :=
  if x.app = none then some "must bind first" else k

/-- the error text of the validation of `cmd` on `x`, if validation refuses it
    (a decision procedure for `Rejected`, see `rejected_iff`) -/
def rejectText (x : Conn) : Cmd → Option String
  | .noType => some "missing 'type'"
  | .ping v => if v = none then some "ping requires 'ping'" else none
  | .bind a sd _ _ =>
    if x.app ≠ none ∨ (x.side ≠ none ∧ x.side ≠ some "") then some "already bound"
    else if a = none then some "bind requires 'appid'"
    else if sd = none then some "bind requires 'side'" else none
  | .unknown => needBind x (some "unknown type")
  | .list => needBind x none
  | .allocate _ _ _ => needBind x
      (if x.didAllocate then some "you already allocated one, don't be greedy" else none)
  | .claim n _ => needBind x
      (if n = none then some "claim requires 'nameplate'"
       else if x.didClaim then some "only one claim per connection" else none)
  | .release n => needBind x
      (if x.didRelease then some "only one release per connection"
       else match n, x.nameplateId with
        | some n, some held =>
          if n ≠ held then some "release and claim must use same nameplate" else none
        | none, none => some "release without nameplate must follow claim"
        | _, _ => none)
  | .open_ m => needBind x
      (if x.mailbox ≠ none then some "only one open per connection"
       else if m = none then some "open requires 'mailbox'" else none)
  | .add ph bd => needBind x
      (if x.mailbox = none then some "must open mailbox before adding"
       else if ph = none then some "missing 'phase'"
       else if bd = none then some "missing 'body'" else none)
  | .close m _ => needBind x
      (if x.didClose then some "only one close per connection"
       else match m, x.mailboxId with
        | some m, some held =>
          if m ≠ held then some "open and close must use same mailbox" else none
        | none, none => some "close without mailbox must follow open"
        | _, _ => none)

theorem rejectText_of_rejected {x : Conn} {cmd : Cmd} {text : String} (h : Rejected x cmd text) :
    rejectText x cmd = some text := by
  cases h
  case mustBind h1 h2 => cases cmd <;> first | exact if_pos h1 | cases h2
  case bindNoAppid h1 h2 => simp only [rejectText, h1]; simpa using h2.resolve_left
  case bindNoSide h1 h2 => simp only [rejectText, h1]; simpa using h2.resolve_left
  all_goals simp [rejectText, needBind, *]

theorem not_alreadyBound {x : Conn} (h : ¬ (x.app ≠ none ∨ (x.side ≠ none ∧ x.side ≠ some ""))) :
    x.app = none ∧ (x.side = none ∨ x.side = some "") :=
  ⟨Decidable.byContradiction fun e => h (.inl e),
    Decidable.byContradiction fun e => h (.inr ⟨fun e1 => e (.inl e1), fun e2 => e (.inr e2)⟩)⟩

theorem needBind_eq_some {x : Conn} {k : Option String} {text : String} (h : needBind x k = some text) :
    x.app = none ∧ text = "must bind first" ∨ x.app ≠ none ∧ k = some text := by
  unfold needBind at h
  split at h
  · exact .inl ⟨‹_›, (Option.some.inj h).symm⟩
  · exact .inr ⟨‹_›, h⟩

theorem rejected_of_rejectText {x : Conn} {cmd : Cmd} {text : String}
    (h : rejectText x cmd = some text) : Rejected x cmd text := by
  cases cmd
  case noType => cases h; exact .noType
  case ping v =>
    cases v with
    | none => cases h; exact .pingNoValue
    | some v => cases h
  case bind a sd i v =>
    simp only [rejectText] at h
    split at h
    · cases h; exact .alreadyBound a sd i v ‹_›
    · obtain ⟨h1, h2⟩ := not_alreadyBound ‹_›
      split at h
      · cases h; subst ‹a = none›; exact .bindNoAppid sd i v h1 h2
      · split at h
        · cases h; subst ‹sd = none›
          obtain ⟨a, rfl⟩ := Option.ne_none_iff_exists'.1 ‹¬ a = none›
          exact .bindNoSide a i v h1 h2
        · cases h
  -- the other commands need `bind`: unbound they are refused as such, bound by their own checks
  all_goals
    rcases needBind_eq_some h with ⟨ha, rfl⟩ | ⟨ha, hk⟩
    exact .mustBind _ ha rfl
  case unknown => cases hk; exact .unknownType ha
  case list => cases hk
  case allocate p d f =>
    split at hk
    · cases hk; exact .secondAllocate p d f ha ‹_›
    · cases hk
  case claim n f =>
    split at hk
    · cases hk; subst ‹n = none›; exact .claimNoNameplate f ha
    · obtain ⟨n, rfl⟩ := Option.ne_none_iff_exists'.1 ‹¬ n = none›
      split at hk
      · cases hk; exact .secondClaim n f ha ‹_›
      · cases hk
  case release n =>
    split at hk
    · cases hk; exact .secondRelease n ha ‹_›
    · have hd := Bool.eq_false_iff.2 ‹¬ x.didRelease = true›
      split at hk
      · split at hk
        · cases hk; exact .releaseOther _ _ ha hd ‹_› ‹_›
        · cases hk
      · cases hk; exact .releaseNothing ha hd ‹_›
      · cases hk
  case open_ m =>
    split at hk
    · cases hk; exact .openHeld m ha ‹_›
    · have hm := Decidable.not_not.1 ‹¬ x.mailbox ≠ none›
      split at hk
      · cases hk; subst ‹m = none›; exact .openNoMailbox ha hm
      · cases hk
  case add ph bd =>
    split at hk
    · cases hk; exact .addNoMailbox ph bd ha ‹_›
    · split at hk
      · cases hk; subst ‹ph = none›; exact .addNoPhase bd ha ‹_›
      · obtain ⟨ph, rfl⟩ := Option.ne_none_iff_exists'.1 ‹¬ ph = none›
        split at hk
        · cases hk; subst ‹bd = none›; exact .addNoBody ph ha ‹_›
        · cases hk
  case close m mood =>
    split at hk
    · cases hk; exact .secondClose m mood ha ‹_›
    · have hd := Bool.eq_false_iff.2 ‹¬ x.didClose = true›
      split at hk
      · split at hk
        · cases hk; exact .closeOther _ _ mood ha hd ‹_› ‹_›
        · cases hk
      · cases hk; exact .closeNothing mood ha hd ‹_›
      · cases hk

theorem rejected_iff {x : Conn} {cmd : Cmd} {text : String} :
    Rejected x cmd text ↔ rejectText x cmd = some text :=
  ⟨rejectText_of_rejected, rejected_of_rejectText⟩

instance (x : Conn) (cmd : Cmd) (text : String) : Decidable (Rejected x cmd text) :=
  decidable_of_iff _ rejected_iff.symm

theorem Rejected.unique {x : Conn} {cmd : Cmd} {t1 t2 : String} (h1 : Rejected x cmd t1)
    (h2 : Rejected x cmd t2) : t1 = t2 := by
  have := (rejectText_of_rejected h1).symm.trans (rejectText_of_rejected h2)
  simpa using this

/-! ## What an accepted command may emit -/

/-- events of an accepted command: frames go to connections in `ids`, and the only `error`
    frames are "crowded" / "reclaimed" (raised by the database layer, not by validation) -/
def Good (ids : List Nat) : Event → Prop
  | .frame c (.error t) _ => c ∈ ids ∧ (t = "crowded" ∨ t = "reclaimed")
  | .frame c _ _ => c ∈ ids
  | _ => True

namespace Sys

theorem CExt.good {ids : List Nat} {s s' : Sys} (h : CExt s s') : OutExt (Good ids) s s' :=
  h.mono (by rintro _ ⟨w, rfl⟩; trivial)

section handlers
variable {ids : List Nat} {s : Sys} {x : Conn}

theorem OutExt.of_fst {P} {α : Type} {s s1 : Sys} {p : Sys × α} {r : α}
    (h : OutExt P s p.1) (heq : p = (s1, r)) : OutExt P s s1 := by
  subst heq; exact h

theorem good_frame {c : Nat} (hmem : c ∈ ids) {f : Frame} (hf : ∀ t, f ≠ .error t) (b : Bool) :
    Good ids (.frame c f b) := by
  cases f <;> first | exact hmem | exact absurd rfl (hf _)

theorem handleBind_ok (h1 : x.app = none) (h2 : x.side = none ∨ x.side = some "")
    {t a sd impl version} :
    OutExt (Good ids) s (s.handleBind x t (some a) (some sd) impl version) := by
  unfold handleBind
  rw [if_neg (by rcases h2 with h2 | h2 <;> simp [h1, h2])]
  exact (CExt.logClientVersion (OutExt.updConn .refl)).good

theorem handleList_ok (hmem : x.id ∈ ids) {app} : OutExt (Good ids) s (s.handleList x app) :=
  OutExt.refl.send (good_frame hmem nofun)

theorem handleAllocate_ok (hmem : x.id ∈ ids) (h1 : x.didAllocate = false) {app side t pick draws fresh} :
    OutExt (Good ids) s (s.handleAllocate x app side t pick draws fresh) := by
  unfold handleAllocate
  rw [if_neg (by simp [h1])]
  split
  · exact OutExt.refl.emit trivial
  · rename_i name _
    split <;> rename_i heq <;>
      have h : OutExt (Good ids) s _ := .of_fst (CExt.claimNameplate .refl).good heq
    · exact h.updConn.send (good_frame hmem nofun)
    · exact h.emit trivial
    · exact h.emit trivial
    · exact h.emit trivial

theorem handleClaim_ok (hmem : x.id ∈ ids) (h1 : x.didClaim = false) {app side t name fresh} :
    OutExt (Good ids) s (s.handleClaim x app side t (some name) fresh) := by
  unfold handleClaim
  simp only
  rw [if_neg (by simp [h1])]
  split <;> rename_i heq <;>
    have h : OutExt (Good ids) s _ := .of_fst (CExt.claimNameplate (OutExt.updConn .refl)).good heq
  · exact h.send (good_frame hmem nofun)
  · exact h.send (fun _ => ⟨hmem, .inl rfl⟩)
  · exact h.send (fun _ => ⟨hmem, .inr rfl⟩)
  · exact h.emit trivial

theorem releaseWith_ok (hmem : x.id ∈ ids) {app side t name} :
    OutExt (Good ids) s (s.releaseWith x app side t name) := by
  unfold releaseWith
  split <;> rename_i heq <;>
    have h : OutExt (Good ids) s _ := .of_fst (CExt.releaseNameplate (OutExt.updConn .refl)).good heq
  · exact h.send (good_frame hmem nofun)
  · exact h.emit trivial

theorem handleRelease_ok (hmem : x.id ∈ ids) (h1 : x.didRelease = false) {app side t n}
    (h2 : ∀ a held, n = some a → x.nameplateId = some held → a = held)
    (h3 : ¬ (n = none ∧ x.nameplateId = none)) :
    OutExt (Good ids) s (s.handleRelease x app side t n) := by
  rw [handleRelease_eq, if_neg (by simp [h1])]
  split
  · rename_i a held hh
    rw [if_neg (by simpa using h2 a held rfl hh)]
    exact releaseWith_ok hmem
  · exact releaseWith_ok hmem
  · exact releaseWith_ok hmem
  · rename_i hh
    exact absurd ⟨rfl, hh⟩ h3

theorem handleOpen_ok (hmem : x.id ∈ ids) (h1 : x.mailbox = none) {app side t mb} :
    OutExt (Good ids) s (s.handleOpen x app side t (some mb)) := by
  unfold handleOpen
  rw [if_neg (by simp [h1])]
  simp only
  split <;> rename_i heq <;>
    have h : OutExt (Good ids) s _ := .of_fst (CExt.openMailbox (OutExt.updConn .refl)).good heq
  · exact h.send (fun _ => ⟨hmem, .inl rfl⟩)
  · exact h.emit trivial
  · exact OutExt.foldl_send (fun _ => x.id) (fun (m : Message) => .message m.side m.phase m.body m.rx m.msgId) _
      h.updConn (fun _ _ => good_frame hmem nofun)

theorem addMessage_conns {app mb side phase body t id} :
    (s.addMessage app mb side phase body t id).conns = s.conns := by
  unfold addMessage Sys.commit
  split <;> rfl

theorem mem_listeners {app mb c} (h : c ∈ s.listeners app mb) : c ∈ s.conns.map (·.id) := by
  unfold listeners at h
  obtain ⟨y, hy, rfl⟩ := List.mem_map.1 h
  exact List.mem_map.2 ⟨y, (List.mem_filter.1 hy).1, rfl⟩

theorem handleAdd_ok (hall : ∀ y ∈ s.conns, y.id ∈ ids) {app side t id ph bd mb} (h1 : x.mailbox = some mb) :
    OutExt (Good ids) s (s.handleAdd x app side t id (some ph) (some bd)) := by
  unfold handleAdd
  simp only [h1]
  refine OutExt.foldl_send (fun c => c) (fun _ => .message side ph bd t id) _
    (CExt.addMessage OutExt.refl).good fun c hc => ?_
  obtain ⟨y, hy, rfl⟩ := List.mem_map.1 (mem_listeners hc)
  rw [addMessage_conns] at hy
  exact good_frame (hall y hy) nofun

theorem closeOpened_ok {app side t mb} : OutExt (Good ids) s (s.closeOpened x app side t mb).1 := by
  unfold closeOpened
  split
  · exact .refl
  · exact (CExt.openMailbox .refl).good.updConn

theorem closeFinish_ok (hmem : x.id ∈ ids) {app side t mood} {o : Sys × OpenRes × String}
    (hop : OutExt (Good ids) s o.1) : OutExt (Good ids) s (closeFinish x app side t mood o) := by
  obtain ⟨s1, r, mb⟩ := o
  cases r
  · simp only [closeFinish]
    split <;> rename_i heq <;>
      have hc : OutExt (Good ids) s _ := hop.updConn.trans (.of_fst (CExt.mailboxClose .refl).good heq)
    · exact hc.emit trivial
    · exact hc.updConn.send (good_frame hmem nofun)
  · exact hop.send (fun _ => ⟨hmem, .inl rfl⟩)
  · exact hop.emit trivial

theorem handleClose_ok (hmem : x.id ∈ ids) (h1 : x.didClose = false) {app side t m mood}
    (h2 : ∀ a held, m = some a → x.mailboxId = some held → a = held)
    (h3 : ¬ (m = none ∧ x.mailboxId = none)) :
    OutExt (Good ids) s (s.handleClose x app side t m mood) := by
  rcases handleClose_cases s x app side t m mood with ⟨_, h | ⟨a, held, rfl, hh, hne⟩ | h⟩ | ⟨mb, _, e⟩
  · rw [h1] at h; cases h
  · exact absurd (h2 a held rfl hh) hne
  · exact absurd h h3
  · rw [e]
    exact closeFinish_ok hmem closeOpened_ok

end handlers
/-! ## `onMessage`: the two cases -/

/-- a command refused by validation: the result is the ack (if the object had a type) followed
    by the error frame, as a state equation -/
theorem onMessage_rejected {s : Sys} {c : Nat} {x : Conn} {t : Time} {id : Val} {cmd : Cmd}
    {text : String} (hx : s.findConn c = some x) (hr : rejectText x cmd = some text) :
    s.onMessage c t id cmd =
      (if cmd = .noType then s else s.send c (.ack id)).sendError c text := by
  obtain rfl := findConn_id hx
  rw [onMessage_dispatch]
  simp only [hx]
  -- each situation of `Rejected` carries the facts that send its handler to the `sendError` branch
  cases rejected_of_rejectText hr
  case noType => rfl
  case pingNoValue => rfl
  case alreadyBound h =>
    simp only [handleBind, Option.isSome_iff_ne_none, if_pos h, reduceCtorEq, reduceIte]
  case bindNoAppid h1 h2 => rcases h2 with h | h <;> simp [handleBind, h1, h]
  case bindNoSide h1 h2 => rcases h2 with h | h <;> simp [handleBind, h1, h]
  case mustBind ha hc => cases cmd <;> cases hc <;> simp only [ha, reduceCtorEq, reduceIte]
  -- the other situations are those of a bound connection
  all_goals
    obtain ⟨app, happ⟩ := Option.ne_none_iff_exists'.1 ‹x.app ≠ none›
    simp only [happ, handleBound, reduceCtorEq, reduceIte]
  case secondAllocate hd => exact if_pos hd
  case claimNoNameplate => rfl
  case secondClaim hd => exact if_pos hd
  case secondRelease hd => exact if_pos hd
  case releaseOther hd hn hne => simp [handleRelease, hd, hn, hne]
  case releaseNothing hd hn => simp [handleRelease, hd, hn]
  case openHeld hm => simp [handleOpen, Option.isSome_iff_ne_none, hm]
  case openNoMailbox hm => simp [handleOpen, hm]
  case addNoMailbox hm => simp only [handleAdd, hm]
  case addNoPhase hm => obtain ⟨mb, hmb⟩ := Option.ne_none_iff_exists'.1 hm; simp only [handleAdd, hmb]
  case addNoBody hm => obtain ⟨mb, hmb⟩ := Option.ne_none_iff_exists'.1 hm; simp only [handleAdd, hmb]
  case secondClose hd => exact if_pos hd
  case closeOther hd hn hne => simp [handleClose, hd, hn, hne]
  case closeNothing hd hn => simp [handleClose, hd, hn]

theorem needBind_eq_none {x : Conn} {k : Option String} (h : needBind x k = none) :
    (∃ app, x.app = some app) ∧ k = none := by
  unfold needBind at h
  split at h
  · cases h
  · rename_i hn
    exact ⟨Option.ne_none_iff_exists'.1 hn, h⟩

theorem ite_some_eq_none {α} {c : Prop} [Decidable c] {a : α} {k : Option α}
    (h : (if c then some a else k) = none) : ¬ c ∧ k = none := by
  split at h
  · cases h
  · exact ⟨‹_›, h⟩

/-- a command accepted by validation: after the ack, only `Good` events follow -/
theorem onMessage_ok {s : Sys} {c : Nat} {x : Conn} {t : Time} {id : Val} {cmd : Cmd}
    (hx : s.findConn c = some x) (hr : rejectText x cmd = none) :
    OutExt (Good (s.conns.map (·.id))) (s.send c (.ack id)) (s.onMessage c t id cmd) := by
  obtain rfl := findConn_id hx
  have hmem : x.id ∈ s.conns.map (·.id) := List.mem_map.2 ⟨x, findConn_mem hx, rfl⟩
  rw [onMessage_dispatch]
  simp only [hx]
  cases cmd
  case noType => cases hr
  case ping v =>
    cases v with
    | none => cases hr
    | some v => exact OutExt.refl.send (good_frame hmem nofun)
  case bind a sd i v =>
    obtain ⟨hb, h1⟩ := ite_some_eq_none hr
    obtain ⟨ha, h2⟩ := ite_some_eq_none h1
    obtain ⟨hsd, _⟩ := ite_some_eq_none h2
    obtain ⟨a, rfl⟩ := Option.ne_none_iff_exists'.1 ha
    obtain ⟨sd, rfl⟩ := Option.ne_none_iff_exists'.1 hsd
    exact handleBind_ok (not_alreadyBound hb).1 (not_alreadyBound hb).2
  -- the other commands passed `needBind`: the connection is bound
  all_goals
    obtain ⟨⟨app, happ⟩, h⟩ := needBind_eq_none hr
    simp only [happ, handleBound]
  case unknown => cases h
  case list => exact handleList_ok hmem
  case allocate => exact handleAllocate_ok hmem (Bool.eq_false_iff.2 (ite_some_eq_none h).1)
  case claim n f =>
    obtain ⟨hn, h1⟩ := ite_some_eq_none h
    obtain ⟨name, rfl⟩ := Option.ne_none_iff_exists'.1 hn
    exact handleClaim_ok hmem (Bool.eq_false_iff.2 (ite_some_eq_none h1).1)
  case release n =>
    obtain ⟨hd, h1⟩ := ite_some_eq_none h
    refine handleRelease_ok hmem (Bool.eq_false_iff.2 hd) ?_ ?_
    · rintro a held rfl hh
      simpa [hh] using h1
    · rintro ⟨rfl, hh⟩
      simp [hh] at h1
  case open_ m =>
    obtain ⟨hm, h1⟩ := ite_some_eq_none h
    obtain ⟨mb, rfl⟩ := Option.ne_none_iff_exists'.1 (ite_some_eq_none h1).1
    exact handleOpen_ok hmem (Decidable.not_not.1 hm)
  case add ph bd =>
    obtain ⟨hm, h1⟩ := ite_some_eq_none h
    obtain ⟨hph, h2⟩ := ite_some_eq_none h1
    obtain ⟨hbd, _⟩ := ite_some_eq_none h2
    obtain ⟨mb, hmb⟩ := Option.ne_none_iff_exists'.1 hm
    obtain ⟨ph, rfl⟩ := Option.ne_none_iff_exists'.1 hph
    obtain ⟨bd, rfl⟩ := Option.ne_none_iff_exists'.1 hbd
    exact handleAdd_ok (fun y hy => List.mem_map.2 ⟨y, hy, rfl⟩) hmb
  case close m mood =>
    obtain ⟨hd, h1⟩ := ite_some_eq_none h
    refine handleClose_ok hmem (Bool.eq_false_iff.2 hd) ?_ ?_
    · rintro a held rfl hh
      simpa [hh] using h1
    · rintro ⟨rfl, hh⟩
      simp [hh] at h1

end Sys

/-! ## The property theorems -/

/-- the databases (live and committed), the configuration and the reboot time are the same,
    and no commit happened -/
structure SameStores (s s' : Sys) : Prop where
  db : s'.db = s.db
  disk : s'.disk = s.disk
  udb : s'.udb = s.udb
  udisk : s'.udisk = s.udisk
  cfg : s'.cfg = s.cfg
  rebooted : s'.rebooted = s.rebooted
  snaps : s'.snaps = []

/-- `SameStores` and every connection record (all flags of all connections) is the same:
    everything except the emitted events -/
structure Unchanged (s s' : Sys) : Prop extends SameStores s s' where
  conns : s'.conns = s.conns

/-- **C17 (welcome)**: `connect` emits exactly one frame, a `welcome` carrying the configured
    map, to the new connection; the connection list gains exactly the fresh unbound record. -/
theorem C17_welcome (s : Sys) (c : Nat) :
    (s.step (.connect c)).out = [.frame c (.welcome s.cfg.welcome) s.synced] ∧
    (s.step (.connect c)).conns = s.conns ++ [({ id := c } : Conn)] ∧
    SameStores s (s.step (.connect c)) :=
  ⟨rfl, rfl, ⟨rfl, rfl, rfl, rfl, rfl, rfl, rfl⟩⟩

example : (({} : Sys).step (.connect 1)).out = [.frame 1 (.welcome "{}") true] ∧
    (({} : Sys).step (.connect 1)).conns = [{ id := 1 }] := by decide

/-- a concrete state for the non-vacuity examples: connection 1 is fresh, connection 2 is bound,
    has claimed nameplate "4" and holds mailbox "mb" -/
def exDb : Chan :=
  { nameplates := [⟨1, "app", "7", "mb7"⟩, ⟨2, "other", "1", "x"⟩, ⟨3, "app", "4", "mb"⟩,
                   ⟨4, "app", "12", "mb12"⟩],
    nextNp := 5 }

def exSys : Sys :=
  { conns := [{ id := 1 },
              { id := 2, app := some "app", side := some "s1", didClaim := true,
                nameplateId := some "4", mailbox := some "mb", mailboxId := some "mb",
                listening := true }],
    db := exDb, disk := exDb }

def exConn2 : Conn :=
  { id := 2, app := some "app", side := some "s1", didClaim := true, nameplateId := some "4",
    mailbox := some "mb", mailboxId := some "mb", listening := true }

example : exSys.findConn 2 = some exConn2 := by decide

private theorem fresh_findConn (s : Sys) (c : Nat) :
    ({ s with out := [], snaps := [] } : Sys).findConn c = s.findConn c := rfl

/-- a message for a connection id that does not exist does nothing (cannot happen: the
    transport only delivers on open connections) -/
theorem recv_no_conn {s : Sys} {c : Nat} (t : Time) (id : Val) (cmd : Cmd) (hx : s.findConn c = none) :
    (s.step (.recv c t id cmd)).out = [] := by
  rw [step_recv]
  unfold Sys.onMessage
  rw [fresh_findConn, hx]

private theorem rejected_step {s : Sys} {c : Nat} {x : Conn} {t : Time} {id : Val} {cmd : Cmd}
    {text : String} (hx : s.findConn c = some x) (hr : rejectText x cmd = some text) :
    (s.step (.recv c t id cmd)).out =
      (if cmd = .noType then [] else [.frame c (.ack id) s.synced]) ++
        [.frame c (.error text) s.synced] ∧
    Unchanged s (s.step (.recv c t id cmd)) := by
  rw [step_recv, Sys.onMessage_rejected (s := { s with out := [], snaps := [] }) hx hr]
  by_cases h : cmd = .noType
  · simp only [h, if_true]
    exact ⟨rfl, ⟨rfl, rfl, rfl, rfl, rfl, rfl, rfl⟩, rfl⟩
  · simp only [h, if_false]
    exact ⟨rfl, ⟨rfl, rfl, rfl, rfl, rfl, rfl, rfl⟩, rfl⟩

private theorem frame_mem_rejected {cmd : Cmd} {c c' : Nat} {id : Val} {text : String} {f : Frame}
    {b b' : Bool} (h : Event.frame c' f b ∈
      (if cmd = .noType then [] else [.frame c (.ack id) b']) ++ [.frame c (.error text) b']) :
    c' = c ∧ ∀ t, f = .error t → t = text := by
  split at h <;> simp at h <;> grind

private theorem accepted_step {s : Sys} {c : Nat} {x : Conn} {cmd : Cmd} (t : Time) (id : Val)
    (hx : s.findConn c = some x) (hr : rejectText x cmd = none) :
    ∃ l, (s.step (.recv c t id cmd)).out = .frame c (.ack id) s.synced :: l ∧
      ∀ e ∈ l, Good (s.conns.map (·.id)) e := by
  obtain ⟨l, hl, hg⟩ := Sys.onMessage_ok (s := { s with out := [], snaps := [] }) (t := t) (id := id) hx hr
  exact ⟨l, by rw [step_recv, hl]; rfl, hg⟩

/-- **C17 (ack first)**: a received object with a `type` on an existing connection is answered
    first with `ack` echoing its `id`; an object without `type` gets exactly one
    `error "missing 'type'"` frame and no ack. -/
theorem C17_ack_first {s : Sys} {c : Nat} {x : Conn} (t : Time) (id : Val) (cmd : Cmd)
    (hx : s.findConn c = some x) :
    (cmd ≠ .noType → ∃ rest, (s.step (.recv c t id cmd)).out = .frame c (.ack id) s.synced :: rest) ∧
    (cmd = .noType →
      (s.step (.recv c t id cmd)).out = [.frame c (.error "missing 'type'") s.synced]) := by
  constructor
  · intro hne
    cases hr : rejectText x cmd with
    | some text =>
      refine ⟨[.frame c (.error text) s.synced], ?_⟩
      rw [(rejected_step hx hr).1]
      simp [hne]
    | none =>
      obtain ⟨l, hl, _⟩ := accepted_step t id hx hr
      exact ⟨l, hl⟩
  · rintro rfl
    exact (rejected_step (text := "missing 'type'") hx rfl).1

example : ∃ rest, (exSys.step (.recv 2 5 (.int 9) (.claim (some "7") "f"))).out =
    .frame 2 (.ack (.int 9)) true :: rest :=
  (C17_ack_first (s := exSys) (c := 2) (x := exConn2) 5 (.int 9) (.claim (some "7") "f")
    (by decide)).1 (by decide)

example : (exSys.step (.recv 1 5 .null .noType)).out = [.frame 1 (.error "missing 'type'") true] := by
  decide +kernel

/-- **C17 (ping)**: `ping` with a value is answered by exactly `[ack id, pong v]` to the sender,
    bound or not; nothing else changes. -/
theorem C17_ping {s : Sys} {c : Nat} {x : Conn} (t : Time) (id v : Val)
    (hx : s.findConn c = some x) :
    (s.step (.recv c t id (.ping (some v)))).out =
      [.frame c (.ack id) s.synced, .frame c (.pong v) s.synced] ∧
    Unchanged s (s.step (.recv c t id (.ping (some v)))) := by
  rw [step_recv]
  unfold Sys.onMessage
  rw [fresh_findConn, hx]
  exact ⟨rfl, ⟨rfl, rfl, rfl, rfl, rfl, rfl, rfl⟩, rfl⟩

example : (exSys.step (.recv 1 5 (.str "i") (.ping (some (.int 3))))).out =
    [.frame 1 (.ack (.str "i")) true, .frame 1 (.pong (.int 3)) true] := by decide +kernel
example : (exSys.step (.recv 2 5 .null (.ping (some (.str "p"))))).out =
    [.frame 2 (.ack .null) true, .frame 2 (.pong (.str "p")) true] := by decide +kernel

/-- **C17 (validation errors are harmless)**: a command refused by validation is answered by
    exactly `[ack?] ++ [error text]` to the sender (ack iff the object had a type) — so nothing
    goes to any other connection — and everything else is unchanged: both databases, their
    committed states, the configuration and the whole connection list (every flag of every
    connection, the sender's included), and nothing was committed. -/
theorem C17_validation_error {s : Sys} {c : Nat} {x : Conn} {cmd : Cmd} {text : String}
    (t : Time) (id : Val) (hx : s.findConn c = some x) (hr : Rejected x cmd text) :
    (s.step (.recv c t id cmd)).out =
      (if cmd = .noType then [] else [.frame c (.ack id) s.synced]) ++
        [.frame c (.error text) s.synced] ∧
    Unchanged s (s.step (.recv c t id cmd)) :=
  rejected_step hx (rejectText_of_rejected hr)

/-- no frame of a refused command goes to another connection -/
theorem C17_validation_error_private {s : Sys} {c : Nat} {x : Conn} {cmd : Cmd} {text : String}
    (t : Time) (id : Val) (hx : s.findConn c = some x) (hr : Rejected x cmd text) :
    ∀ c' f b, .frame c' f b ∈ (s.step (.recv c t id cmd)).out → c' = c := by
  intro c' f b h
  rw [(C17_validation_error t id hx hr).1] at h
  exact (frame_mem_rejected h).1

example : Rejected exConn2 (.claim (some "7") "f") "only one claim per connection" :=
  .secondClaim _ _ (by decide) rfl
example : (exSys.step (.recv 2 5 (.int 9) (.claim (some "7") "f"))).out =
    [.frame 2 (.ack (.int 9)) true, .frame 2 (.error "only one claim per connection") true] := by
  decide +kernel
example : Rejected exConn2 (.release (some "5")) "release and claim must use same nameplate" :=
  .releaseOther _ "4" (by decide) rfl rfl (by decide)
example : Rejected exConn2 (.open_ (some "zz")) "only one open per connection" :=
  .openHeld _ (by decide) (by decide)
example : Rejected { id := 1 } .list "must bind first" := .mustBind _ rfl rfl
/-- NOT rejected: a first `claim` (the flags are set before the claim is attempted) -/
example : ¬ ∃ text, Rejected { id := 3, app := some "a", side := some "s" } (.claim (some "7") "f") text := by
  rintro ⟨text, h⟩
  have := rejectText_of_rejected h
  simp [rejectText, needBind] at this

/-- NOT rejected: an `open` after a failed ("crowded") open: `_mailbox_id` was set before
    `open_mailbox` raised, but no handle is held -/
example : ¬ ∃ text, Rejected { id := 3, app := some "a", side := some "s", mailboxId := some "m" }
    (.open_ (some "q")) text := by
  rintro ⟨text, h⟩
  have := rejectText_of_rejected h
  simp [rejectText, needBind] at this
/-- `Rejected` is decidable -/
example : Rejected exConn2 (.claim none "f") "claim requires 'nameplate'" := by decide
example : ¬ Rejected exConn2 (.claim none "f") "only one claim per connection" := by decide

/-- **C17 (the enumeration is complete)**: an `error` frame in the output of a `recv` step whose
    text is not "crowded" / "reclaimed" (the two errors raised by the database layer) goes to the
    sender and comes from a `Rejected` situation with exactly that text. -/
theorem C17_validation_complete {s : Sys} {c : Nat} {t : Time} {id : Val} {cmd : Cmd}
    {c' : Nat} {text : String} {b : Bool}
    (h : .frame c' (.error text) b ∈ (s.step (.recv c t id cmd)).out)
    (h1 : text ≠ "crowded") (h2 : text ≠ "reclaimed") :
    c' = c ∧ ∃ x, s.findConn c = some x ∧ Rejected x cmd text := by
  cases hx : s.findConn c with
  | none => rw [recv_no_conn t id cmd hx] at h; simp at h
  | some x =>
    cases hr : rejectText x cmd with
    | some text' =>
      rw [(rejected_step hx hr).1] at h
      obtain ⟨rfl, ht⟩ := frame_mem_rejected h
      cases ht _ rfl
      exact ⟨rfl, x, rfl, rejected_of_rejectText hr⟩
    | none =>
      obtain ⟨l, hl, hg⟩ := accepted_step t id hx hr
      rw [hl] at h
      rcases List.mem_cons.1 h with h | h
      · cases h
      · rcases (hg _ h).2 with h | h
        · exact absurd h h1
        · exact absurd h h2

/-! ## C18: the answer to `list` -/

theorem pairwise_ne_eraseDups {α : Type} [BEq α] [LawfulBEq α] :
    ∀ (l : List α), l.eraseDups.Pairwise (fun a b => a ≠ b)
  | [] => by simp
  | a :: as => by
    rw [List.eraseDups_cons]
    refine List.pairwise_cons.2 ⟨?_, pairwise_ne_eraseDups _⟩
    intro b hb
    rw [List.mem_eraseDups, List.mem_filter] at hb
    have := hb.2
    intro hab
    subst hab
    simp at this
termination_by l => l.length
decreasing_by
  simp only [List.length_cons]
  exact Nat.lt_succ_of_le (List.length_filter_le _ _)

theorem strictly_sorted_of_nodup (l : List String) (hl : l.Pairwise (fun a b => a ≠ b)) :
    (l.mergeSort (fun a b => decide (a ≤ b))).Pairwise (fun a b => a < b) := by
  have h1 : (l.mergeSort (fun a b => decide (a ≤ b))).Pairwise (fun a b => decide (a ≤ b) = true) :=
    List.pairwise_mergeSort
      (fun a b c hab hbc => by
        simp only [decide_eq_true_eq] at hab hbc ⊢
        exact String.le_trans hab hbc)
      (fun a b => by
        simp only [Bool.or_eq_true, decide_eq_true_eq]
        exact String.le_total a b) l
  have h2 : (l.mergeSort (fun a b => decide (a ≤ b))).Pairwise (fun a b => a ≠ b) :=
    (List.mergeSort_perm l _).symm.pairwise hl (fun h => Ne.symm h)
  refine (h1.and h2).imp ?_
  rintro a b ⟨hle, hne⟩
  simp only [decide_eq_true_eq] at hle
  rcases Decidable.em (a < b) with h | h
  · exact h
  · exact absurd (String.le_antisymm hle (String.not_lt.1 h)) hne

/-- what `list` answers for app `app` -/
def Sys.listAnswer (s : Sys) (app : String) : List String :=
  if s.cfg.allowList then (s.db.namesOfApp app).mergeSort (fun a b => decide (a ≤ b)) else []

/-- **C18 (list)**: for a bound connection, `list` is answered by exactly
    `[ack id, nameplates ids]` to the sender.  When listing is allowed `ids` is strictly
    increasing w.r.t. the order on `String` (sorted, each name once) and contains exactly the
    names of the nameplate rows of the caller's app; when listing is disallowed `ids = []`.
    Nothing else changes. -/
theorem C18_list_answer {s : Sys} {c : Nat} {x : Conn} {app : String} (t : Time) (id : Val)
    (hx : s.findConn c = some x) (happ : x.app = some app) :
    (s.step (.recv c t id .list)).out =
      [.frame c (.ack id) s.synced, .frame c (.nameplates (s.listAnswer app)) s.synced] ∧
    (s.cfg.allowList = true →
      (s.listAnswer app).Pairwise (fun a b => a < b) ∧
      ∀ n, n ∈ s.listAnswer app ↔ ∃ r ∈ s.db.nameplates, r.app = app ∧ r.name = n) ∧
    (s.cfg.allowList = false → s.listAnswer app = []) ∧
    Unchanged s (s.step (.recv c t id .list)) := by
  refine ⟨?_, ?_, ?_, ?_⟩
  · rw [step_recv]
    unfold Sys.onMessage
    rw [fresh_findConn, hx]
    simp only [happ]
    rw [← findConn_id hx]
    rfl
  · intro ha
    unfold Sys.listAnswer
    rw [if_pos ha]
    refine ⟨strictly_sorted_of_nodup _ (pairwise_ne_eraseDups _), fun n => ?_⟩
    rw [List.mem_mergeSort, mem_namesOfApp]
  · intro ha
    unfold Sys.listAnswer
    simp [ha]
  · rw [step_recv]
    unfold Sys.onMessage
    rw [fresh_findConn, hx]
    simp only [happ]
    exact ⟨⟨rfl, rfl, rfl, rfl, rfl, rfl, rfl⟩, rfl⟩

/-- non-vacuity: connection 2 of `exSys` is bound to "app"; the instance of the theorem -/
example := C18_list_answer (s := exSys) (c := 2) (x := exConn2) (app := "app") 5 .null
  (by decide) rfl
/-- the three names of "app", in `String` order ("12" < "4" < "7"), without the other app's "1" -/
example : exSys.listAnswer "app" = ["12", "4", "7"] := by
  simp [Sys.listAnswer, exSys, exDb, Chan.namesOfApp, List.eraseDups_cons, List.mergeSort]

/-! ## C17: every frame goes to an existing connection -/

/-- the connection ids an operation opens -/
def Op.opens : Op → List Nat
  | .connect c => [c]
  | .crashIn _ op => op.opens
  | _ => []

theorem Good.frame_mem {ids : List Nat} {c : Nat} {f : Frame} {b : Bool}
    (h : Good ids (.frame c f b)) : c ∈ ids := by
  cases f <;> simp only [Good] at h <;> first | exact h | exact h.1

private theorem frames_stepPlain (s : Sys) (op : Op) :
    ∀ c f b, .frame c f b ∈ (({ s with out := [], snaps := [] } : Sys).stepPlain op).out →
      c ∈ s.conns.map (·.id) ∨ c ∈ op.opens := by
  intro c' f b h
  cases op with
  | connect c =>
    cases List.mem_singleton.1 h
    exact Or.inr List.mem_cons_self
  | recv c t id cmd =>
    left
    change Event.frame c' f b ∈ (s.step (.recv c t id cmd)).out at h
    cases hx : s.findConn c with
    | none => rw [recv_no_conn t id cmd hx] at h; cases h
    | some x =>
      have hc : c ∈ s.conns.map (·.id) := List.mem_map.2 ⟨x, findConn_mem hx, findConn_id hx⟩
      cases hr : rejectText x cmd with
      | some text =>
        rw [(rejected_step hx hr).1] at h
        exact (frame_mem_rejected h).1 ▸ hc
      | none =>
        obtain ⟨l, hl, hg⟩ := accepted_step t id hx hr
        rw [hl] at h
        rcases List.mem_cons.1 h with h | h
        · cases h; exact hc
        · exact (hg _ h).frame_mem
  | sweep now fault =>
    obtain ⟨l, hl, hn⟩ := Sys.expire_notFrame (s := { s with out := [], snaps := [] }) (now := now)
      (fault := fault)
    change Event.frame c' f b ∈ (Sys.expire _ now fault).out at h
    rw [hl] at h
    exact (hn _ h).elim
  | drop c => cases h
  | restart t => cases h
  | crashIn k op => cases h

/-- **C17 (frames are addressed)**: every frame a step emits goes to a connection that exists
    before the step or that the step opens; i.e. every event is such a frame or a
    commit / internal / fired event. -/
theorem C17_frames_typed (s : Sys) (op : Op) :
    ∀ c f b, .frame c f b ∈ (s.step op).out → c ∈ s.conns.map (·.id) ∨ c ∈ op.opens := by
  intro c f b h
  have key := frames_stepPlain s
  cases op with
  | crashIn k op => exact key op c f b (Sys.step_crash_out_subset s k op h)
  | connect c' => exact key _ c f b h
  | recv c' t id cmd => exact key _ c f b h
  | drop c' => exact key _ c f b h
  | sweep now fault => exact key _ c f b h
  | restart t => exact key _ c f b h

example : (exSys.step (.recv 2 5 .null (.add (some (.str "ph")) (some (.str "body"))))).out =
    [.frame 2 (.ack .null) true, .commit .chan,
     .frame 2 (.message "s1" (.str "ph") (.str "body") 5 .null) true] := by decide +kernel

#print axioms rejected_iff
#print axioms Rejected.unique
#print axioms C17_welcome
#print axioms C17_ack_first
#print axioms C17_ping
#print axioms C17_validation_error
#print axioms C17_validation_error_private
#print axioms C17_validation_complete
#print axioms C17_frames_typed
#print axioms C18_list_answer
#print axioms recv_no_conn

end Wormhole
