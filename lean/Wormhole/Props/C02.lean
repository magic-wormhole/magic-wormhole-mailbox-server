/-
  C02 — "Each added message reaches every subscribed connection exactly once".

  * `C02_fanout_exact`   the exact output of an accepted `add`: ack, one commit, and one `message`
                         frame per connection of `listeners a m`, in connection order;
                         `C02_exactly_once`, `C02_no_other`, `C02_unmodified` are read off it;
  * `C02_listeners_*`    step-local facts: who enters `listeners a m` (`open` answered ok: exactly
                         the opener), who leaves (own accepted `close`; `drop`; restart / crash:
                         everybody; deletion of the mailbox by a `close`: everybody on it), and that
                         NO other step -- in particular no sweep and no `bind` -- changes any
                         `listeners a m`; a sweep never deletes a mailbox that has a listener;
  * `subsLog`, `C02_subscribers`   `listeners a m` as a ghost over the history.
  Everything is for every state satisfying `GSys.GInv`: any number of connections, apps, mailboxes.
-/
import Wormhole.Inv.Main
import Wormhole.Inv.MsgConns
import Wormhole.Props.C01

namespace Wormhole
open Sys

/-- **C02 (fan-out)**: a non-rejected `add` by connection `c` (bound to `(a, σ)`, holding the handle
    of `m`) outputs exactly: the ack, the commit of the stored row, and then one
    `message σ phase body t id` frame per connection of `listeners a m` -- in connection order,
    each sent with nothing uncommitted.  Connection ids are unique, so every listener is listed
    once; the sender is among them. -/
theorem C02_fanout_exact {g : GSys} (hI : g.GInv) {c : Nat} {x : Conn} {a σ m : String} (t : Time)
    (id ph bd : Val) (hx : g.sys.findConn c = some x) (ha : x.app = some a) (hσ : x.side = some σ)
    (hm : x.mailbox = some m) :
    (g.step (.recv c t id (.add (some ph) (some bd)))).sys.out =
      [.frame c (.ack id) true, .commit .chan] ++
        (g.sys.listeners a m).map (fun c' => Event.frame c' (.message σ ph bd t id) true) ∧
    (g.sys.listeners a m).Pairwise (· ≠ ·) ∧
    c ∈ g.sys.listeners a m := by
  have e := Sys.onMessage_add_eq (s := { g.sys with out := [], snaps := [] }) (t := t) (id := id) (ph := ph)
    (bd := bd) hI.synced hx ha hm
  refine ⟨?_, listeners_pairwise hI.conn.ids a m, ?_⟩
  · show (Sys.onMessage _ c t id _).out = _
    rw [e, hσ]
    rfl
  · obtain ⟨hl, _⟩ := hI.conn.handle x (findConn_mem hx) m hm
    exact mem_listeners_iff.2 ⟨x, findConn_mem hx, findConn_id hx, isL_iff.2 ⟨hl, ha, hm⟩⟩

/-- **exactly once**: the frame for a subscriber occurs exactly once in the output -/
theorem C02_exactly_once {g : GSys} (hI : g.GInv) {c : Nat} {x : Conn} {a σ m : String} (t : Time)
    (id ph bd : Val) (hx : g.sys.findConn c = some x) (ha : x.app = some a) (hσ : x.side = some σ)
    (hm : x.mailbox = some m) {c' : Nat} (hc' : c' ∈ g.sys.listeners a m) :
    (g.step (.recv c t id (.add (some ph) (some bd)))).sys.out.count
      (Event.frame c' (.message σ ph bd t id) true) = 1 := by
  obtain ⟨ho, hp, _⟩ := C02_fanout_exact hI t id ph bd hx ha hσ hm
  rw [ho, List.count_append]
  have h1 : List.count (Event.frame c' (.message σ ph bd t id) true) [.frame c (.ack id) true, .commit .chan] = 0 := by
    rw [List.count_eq_zero]; simp
  have hnd : ((g.sys.listeners a m).map (fun c' => Event.frame c' (.message σ ph bd t id) true)).Nodup := by
    unfold List.Nodup
    rw [List.pairwise_map]
    exact hp.imp (fun h he => h (by injection he))
  rw [h1, hnd.count, if_pos (List.mem_map.2 ⟨c', hc', rfl⟩)]

/-- **nobody else, nothing else**: every `message` frame of the step goes to a subscriber of
    `(a, m)` and is the one frame described in `C02_unmodified` -/
theorem C02_no_other {g : GSys} (hI : g.GInv) {c : Nat} {x : Conn} {a σ m : String} (t : Time)
    (id ph bd : Val) (hx : g.sys.findConn c = some x) (ha : x.app = some a) (hσ : x.side = some σ)
    (hm : x.mailbox = some m) {e : Event}
    (he : e ∈ (g.step (.recv c t id (.add (some ph) (some bd)))).sys.out) (hmsg : e.isMessage = true) :
    ∃ c' ∈ g.sys.listeners a m, e = .frame c' (.message σ ph bd t id) true := by
  obtain ⟨ho, _, _⟩ := C02_fanout_exact hI t id ph bd hx ha hσ hm
  rw [ho] at he
  simp only [List.mem_append, List.mem_cons, List.mem_map, List.not_mem_nil, or_false] at he
  rcases he with (rfl | rfl) | ⟨c', hc', rfl⟩
  · cases hmsg
  · cases hmsg
  · exact ⟨c', hc', rfl⟩

/-- **C02 (unmodified, stamped with the binder's side)**: every frame delivered for an accepted
    `add` carries phase, body and id EXACTLY as they stand in the command (no TEXT affinity: compare
    `C01_add_appends`, where the stored row has `toText` of them), the server time of the step, and
    as `side` the side the ADDING connection bound to.

    A `side` key inside the `add` command cannot influence this: the model's `Cmd.add` has no
    side field at all, because the decoder (harness/translate, mirroring `handle_add`, which reads
    `self._side` and never `msg["side"]`) drops it; that the code behaves like the model on
    commands carrying a spoofed `side` is checked on the implementation by the correspondence
    runner (generator profile "add carrying a spoofed side key"), not proved here. -/
theorem C02_unmodified {g : GSys} (hI : g.GInv) {c : Nat} {x : Conn} {a σ m : String} (t : Time)
    (id ph bd : Val) (hx : g.sys.findConn c = some x) (ha : x.app = some a) (hσ : x.side = some σ)
    (hm : x.mailbox = some m) {c' : Nat} {sd : String} {ph' bd' : Val} {rx : Time} {id' : Val} {b : Bool}
    (he : Event.frame c' (.message sd ph' bd' rx id') b ∈
      (g.step (.recv c t id (.add (some ph) (some bd)))).sys.out) :
    sd = σ ∧ ph' = ph ∧ bd' = bd ∧ rx = t ∧ id' = id ∧ b = true ∧ c' ∈ g.sys.listeners a m := by
  obtain ⟨c'', hc'', e⟩ := C02_no_other hI t id ph bd hx ha hσ hm he rfl
  injection e with e1 e2 e3
  injection e2 with f1 f2 f3 f4 f5
  subst e1
  exact ⟨f1, f2, f3, f4, f5, e3, hc''⟩

theorem step_recv_sys (g : GSys) (c : Nat) (t : Time) (id : Val) (cmd : Cmd) :
    (g.step (.recv c t id cmd)).sys = ({ g.sys with out := [], snaps := [] } : Sys).onMessage c t id cmd := rfl

/-- the mailbox row of a subscription exists (the handle is dropped when the mailbox is deleted) -/
theorem listeners_present {g : GSys} (hI : g.GInv) {a m : String} {c : Nat} (hc : c ∈ g.sys.listeners a m) :
    (a, m) ∈ g.sys.db.mbKeys := by
  obtain ⟨x, hx, _, hl⟩ := mem_listeners_iff.1 hc
  rw [isL_iff] at hl
  obtain ⟨_, a', ha', r, hr, h1, h2⟩ := hI.conn.handle x hx m hl.2.2
  rw [hl.2.1] at ha'
  cases ha'
  exact Chan.mem_mbKeys.2 ⟨r, hr, h2, h1⟩

theorem not_listener_of_no_handle {g : GSys} (hI : g.GInv) {c : Nat} {x : Conn}
    (hx : g.sys.findConn c = some x) (hm : x.mailbox = none) (a m : String) : c ∉ g.sys.listeners a m := by
  intro hc
  obtain ⟨y, hy, hid, hl⟩ := mem_listeners_iff.1 hc
  have : y = x := Chan.eq_of_pairwise_ne (f := Conn.id) hI.conn.ids hy (findConn_mem hx)
    (hid.trans (findConn_id hx).symm)
  subst this
  rw [isL_iff, hm] at hl
  exact absurd hl.2.2 (by simp)

/-- `connect`: nobody enters or leaves -/
theorem C02_listeners_connect (g : GSys) (c : Nat) (a m : String) :
    (g.step (.connect c)).sys.listeners a m = g.sys.listeners a m := by
  show (List.filter _ (g.sys.conns ++ [({ id := c } : Conn)])).map _ = _
  rw [List.filter_append]
  simp [Sys.listeners]

/-- `drop c`: exactly `c` leaves (every list it was on) -/
theorem C02_listeners_drop (g : GSys) (c : Nat) (a m : String) :
    (g.step (.drop c)).sys.listeners a m = (g.sys.listeners a m).filter (· ≠ c) := by
  show (List.filter _ (g.sys.conns.filter (fun x => ¬ x.id = c))).map _ = _
  rw [Sys.listeners, List.filter_map, List.filter_filter, List.filter_filter]
  congr 1
  apply List.filter_congr
  intro x _
  simp [Bool.and_comm]

/-- `restart`: everybody leaves -/
theorem C02_listeners_restart (g : GSys) (t : Time) (a m : String) :
    (g.step (.restart t)).sys.listeners a m = [] := rfl

/-- a crash (at any point of any operation): everybody leaves -/
theorem C02_listeners_crash (g : GSys) (k : Nat) (op : Op) (a m : String) :
    (g.step (.crashIn k op)).sys.listeners a m = [] := by
  have : (g.step (.crashIn k op)).sys.conns = [] := by
    simp only [GSys.step, Sys.step]
    cases k with
    | zero => rfl
    | succ k => split <;> rfl
  simp [Sys.listeners, this]

/-- **a sweep changes no subscription list** (registry independence: on the repaired tree a
    subscription does not hang off an object that `prune_all_apps` may drop), whether or not it
    faults -/
theorem C02_listeners_sweep (g : GSys) (now : Time) (fault : Bool) (a m : String) :
    (g.step (.sweep now fault)).sys.listeners a m = g.sys.listeners a m :=
  listeners_congr (expire_conns _ now fault) a m

/-- **a sweep never deletes a mailbox that has a listener**: `prune` stamps every mailbox with a
    listener `updated := now`, and only rows with `updated ≤ now - expirationTicks` are old
    (`0 < Generated.expirationTicks`, by `decide` on the name); so the row `(a, m)` is still there
    (and, by `C01_frame_messages`, so are its messages) -/
theorem C02_sweep_keeps_listened {g : GSys} (hI : g.GInv) (now : Time) (fault : Bool) {a m : String}
    (hl : g.sys.listeners a m ≠ []) :
    ((g.step (.sweep now fault)).sys.db.findMailbox a m).isSome ∧
    (g.step (.sweep now fault)).sys.db.messagesOf a m = g.sys.db.messagesOf a m := by
  have hna : g.sys.addRowOf (Op.sweep now fault).plain = none := rfl
  obtain ⟨c, hc⟩ := List.exists_mem_of_ne_nil _ hl
  have hsome := Chan.findMailbox_isSome_iff.2
    ((Sys.step_tr hI.synced hI.cinv.toPInv.uniqIds (.sweep now fault) hna).mem_keys (listeners_present hI hc) hl)
  refine ⟨hsome, (C01_frame_messages hI (.sweep now fault) a m ?_).1 hsome⟩
  rintro ⟨r, hr, _⟩
  rw [hna] at hr; cases hr

/-- **every command other than `bind` / `open` / `close`** -- `ping`, `list`, `allocate`, `claim`,
    `release`, `add`, unknown or untyped objects, accepted or refused, on any connection -- changes
    no subscription list -/
theorem C02_listeners_other (g : GSys) (c : Nat) (t : Time) (id : Val) {cmd : Cmd}
    (hc : cmd.touchesSubs = false) (a m : String) :
    (g.step (.recv c t id cmd)).sys.listeners a m = g.sys.listeners a m :=
  (Sys.onMessage_keepL (s := { g.sys with out := [], snaps := [] }) hc).listeners a m

theorem C02_listeners_no_conn (g : GSys) {c : Nat} (t : Time) (id : Val) (cmd : Cmd)
    (hx : g.sys.findConn c = none) (a m : String) :
    (g.step (.recv c t id cmd)).sys.listeners a m = g.sys.listeners a m := by
  have : (g.step (.recv c t id cmd)).sys = ({ g.sys with out := [], snaps := [] } : Sys) := by
    show Sys.onMessage _ c t id cmd = _
    unfold Sys.onMessage
    rw [show ({ g.sys with out := [], snaps := [] } : Sys).findConn c = none from hx]
  rw [this]; rfl

/-- **`bind` changes no subscription list** (the subscription of a connection does not depend on
    when it, or anybody else, bound) -/
theorem C02_listeners_bind {g : GSys} (hI : g.GInv) (c : Nat) (t : Time) (id : Val) (ap sd i v)
    (a m : String) :
    (g.step (.recv c t id (.bind ap sd i v))).sys.listeners a m = g.sys.listeners a m := by
  cases hx : g.sys.findConn c with
  | none => exact C02_listeners_no_conn g t id _ hx a m
  | some x =>
    rcases Sys.onMessage_bind_conns (s := { g.sys with out := [], snaps := [] }) (t := t) (id := id)
      (a := ap) (sd := sd) (i := i) (v := v) (show ({ g.sys with out := [], snaps := [] } : Sys).findConn c = some x from hx)
      with h | ⟨hxa, a', sd', h⟩
    · exact listeners_congr h a m
    · -- the record was unbound, hence held no handle, hence is on no list before or after
      have hxm : x.mailbox = none := by
        cases hm : x.mailbox with
        | none => rfl
        | some mb =>
          obtain ⟨_, a'', ha'', _⟩ := hI.conn.handle x (findConn_mem hx) mb hm
          rw [hxa] at ha''; cases ha''
      rw [step_recv_sys, listeners_of_map (s := { g.sys with out := [], snaps := [] }) _ h
        (fun y _ => by show (if y.id = c then _ else y).id = y.id; split <;> rfl) a m]
      show _ = g.sys.listeners a m
      rw [listeners_eq]
      congr 1
      apply List.filter_congr
      intro y hy
      show isL a m (if y.id = c then _ else y) = isL a m y
      split
      · rename_i hyc
        have : y = x := Chan.eq_of_pairwise_ne (f := Conn.id) hI.conn.ids hy (findConn_mem hx)
          (hyc.trans (findConn_id hx).symm)
        subst this
        simp [isL, hxm]
      · rfl

/-- **`open`: exactly the opener enters, exactly the list of the opened mailbox** -- and only when
    the command is accepted and `open_mailbox` answers ok; otherwise (refused, crowded,
    IntegrityError) no list changes -/
theorem C02_listeners_open {g : GSys} (hI : g.GInv) {c : Nat} {x : Conn} (t : Time) (id : Val)
    (mailbox : Option String) (hx : g.sys.findConn c = some x) (a m : String) (c' : Nat) :
    c' ∈ (g.step (.recv c t id (.open_ mailbox))).sys.listeners a m ↔
      c' ∈ g.sys.listeners a m ∨
      (c' = c ∧ x.app = some a ∧ mailbox = some m ∧ x.mailbox = none ∧
        g.sys.db.openRes a m (x.side.getD "") = .ok) := by
  have hx0 : ({ g.sys with out := [], snaps := [] } : Sys).findConn c = some x := hx
  by_cases hacc : ∃ a' mb, x.app = some a' ∧ mailbox = some mb ∧ x.mailbox = none ∧
      g.sys.db.openRes a' mb (x.side.getD "") = .ok
  case neg =>
    -- not accepted-and-ok: no list changes
    have e : (g.step (.recv c t id (.open_ mailbox))).sys.listeners a m = g.sys.listeners a m := by
      rcases Sys.onMessage_open_conns (t := t) (id := id) (mailbox := mailbox) hx0 with h | ⟨a', mb, h1, h2, h3, h4, _⟩
      · exact h.listeners a m
      · exact absurd ⟨a', mb, h1, h2, h3, h4⟩ hacc
    rw [e]
    exact ⟨.inl, fun h => h.elim (fun h => h) fun ⟨_, h1, h2, h3, h4⟩ => absurd ⟨a, m, h1, h2, h3, h4⟩ hacc⟩
  case pos =>
    obtain ⟨a', mb, ha', hmb, hxm, hok⟩ := hacc
    subst hmb
    have h := (Sys.onMessage_open_spec (s := { g.sys with out := [], snaps := [] }) (t := t) (id := id) (m := mb)
      hI.synced hx0 ha' hxm hok).2.1
    have hcl : ∀ y ∈ g.sys.conns, y.id = c → y = x := fun y hy hyc =>
      Chan.eq_of_pairwise_ne (f := Conn.id) hI.conn.ids hy (findConn_mem hx) (hyc.trans (findConn_id hx).symm)
    have hmap : (g.step (.recv c t id (.open_ (some mb)))).sys.conns = g.sys.conns.map
        (fun y => if y.id = c then { y with mailboxId := some mb, mailbox := some mb, listening := true } else y) := by
      show (Sys.onMessage _ c t id (.open_ (some mb))).conns = _
      rw [h]
      simp only [Sys.updConn, List.map_map]
      apply List.map_congr_left
      intro y _
      by_cases hy : y.id = c <;> simp [hy]
    rw [listeners_of_map (s := g.sys) _ hmap (fun y _ => by split <;> rfl) a m, mem_listeners_iff]
    simp only [List.mem_map, List.mem_filter]
    constructor
    · rintro ⟨y, ⟨hy, hl⟩, rfl⟩
      by_cases hyc : y.id = c
      · right
        have := hcl y hy hyc
        subst this
        rw [if_pos hyc, isL_iff] at hl
        simp only at hl
        obtain ⟨_, h1, h2⟩ := hl
        cases h2
        rw [ha'] at h1; cases h1
        exact ⟨hyc, ha', rfl, hxm, hok⟩
      · left
        rw [if_neg hyc] at hl
        exact ⟨y, hy, rfl, hl⟩
    · rintro (⟨y, hy, rfl, hl⟩ | ⟨rfl, h1, h2, _, _⟩)
      · have hyc : y.id ≠ c := by
          intro hyc
          have := hcl y hy hyc
          subst this
          rw [isL_iff, hxm] at hl
          exact absurd hl.2.2 (by simp)
        exact ⟨y, ⟨hy, by rw [if_neg hyc]; exact hl⟩, rfl⟩
      · cases h2
        rw [ha'] at h1; cases h1
        refine ⟨x, ⟨findConn_mem hx, ?_⟩, findConn_id hx⟩
        rw [if_pos (findConn_id hx)]
        simp [isL, ha']

/-- **`close`**: an accepted `close` by `c` removes `c` from the list it was on; if it deletes the
    mailbox (last opened side), everybody leaves that mailbox's list (the stop callbacks), and no
    row with that id is left; nobody else is affected.  A refused `close` changes nothing. -/
theorem C02_listeners_close {g : GSys} (hI : g.GInv) {c : Nat} {x : Conn} (t : Time) (id : Val)
    (mb : Option String) (mood : Option String) (hx : g.sys.findConn c = some x) :
    (rejectText x (.close mb mood) ≠ none ∧
      ∀ a m, (g.step (.recv c t id (.close mb mood))).sys.listeners a m = g.sys.listeners a m) ∨
    (rejectText x (.close mb mood) = none ∧ ∃ (ax : String) (stopped : Bool) (h : String), x.app = some ax ∧
      (∀ a m c', c' ∈ (g.step (.recv c t id (.close mb mood))).sys.listeners a m ↔
        c' ∈ g.sys.listeners a m ∧ c' ≠ c ∧ ¬ (stopped = true ∧ a = ax ∧ m = h)) ∧
      (stopped = true → ∀ k ∈ (g.step (.recv c t id (.close mb mood))).sys.db.mbKeys, ¬ k.2 = h)) := by
  rcases Sys.onMessage_close_conns (s := { g.sys with out := [], snaps := [] }) (t := t) (id := id)
    (m := mb) (mood := mood) (show ({ g.sys with out := [], snaps := [] } : Sys).findConn c = some x from hx)
    with ⟨hrej | hxm, hk⟩ | ⟨hacc, ax, stopped, h, hax, hsh, hst⟩
  · exact .inl ⟨hrej, fun a m => hk.listeners a m⟩
  · -- accepted but answered crowded / IntegrityError: `c` held no handle, nothing changes
    cases hr : rejectText x (.close mb mood) with
    | some text => exact .inl ⟨by simp, fun a m => hk.listeners a m⟩
    | none =>
      obtain ⟨⟨ax, hax⟩, _⟩ := Sys.needBind_eq_none hr
      refine .inr ⟨rfl, ax, false, "", hax, ?_, by simp⟩
      intro a m c'
      have e : (g.step (.recv c t id (.close mb mood))).sys.listeners a m = g.sys.listeners a m := hk.listeners a m
      rw [e]
      constructor
      · intro hc'
        refine ⟨hc', ?_, by simp⟩
        rintro rfl
        exact not_listener_of_no_handle hI hx hxm a m hc'
      · exact fun h => h.1
  · exact .inr ⟨hacc, ax, stopped, h, hax, fun a m c' => hsh.listeners a m c', hst⟩

/-- what an operation does to the subscriber set of `(a, m)`, read off the operation and the
    state it is applied to -/
inductive SubChange where
  | keep
  | enter (c : Nat)
  | leave (c : Nat)
  | reset
  deriving DecidableEq, Repr

/-- * `enter c`: a non-rejected `open` of `m` by `c` (bound to app `a`, no handle yet) that
      `open_mailbox` answers ok;
    * `leave c`: `c`'s own accepted `close`, or `c`'s `drop`;
    * `reset`: a restart or a crash;
    * `keep`: everything else -- sweeps, binds, every other command of every connection. -/
def subChange (s : Sys) (a m : String) : Op → SubChange
  | .crashIn _ _ => .reset
  | .restart _ => .reset
  | .drop c => .leave c
  | .recv c _ _ (.open_ (some m')) =>
    match s.findConn c with
    | some x =>
      if x.app = some a ∧ m' = m ∧ x.mailbox = none ∧ s.db.openRes a m (x.side.getD "") = .ok then .enter c
      else .keep
    | none => .keep
  | .recv c _ _ (.close mb mood) =>
    match s.findConn c with
    | some x => if rejectText x (.close mb mood) = none then .leave c else .keep
    | none => .keep
  | _ => .keep

/-- one step of the ghost subscriber set of `(a, m)`: emptied whenever the mailbox row `(a, m)` is
    absent after the step (deletion runs the stop callbacks) -/
def subsStep (a m : String) (s : Sys) (op : Op) (subs : List Nat) : List Nat :=
  if (s.step op).db.findMailbox a m = none then []
  else match subChange s a m op with
    | .keep => subs
    | .enter c => subs ++ [c]
    | .leave c => subs.filter (· ≠ c)
    | .reset => []

def subsRun (a m : String) : Sys → List Op → List Nat → List Nat
  | _, [], l => l
  | s, op :: rest, l => subsRun a m (s.step op) rest (subsStep a m s op l)

/-- the ghost subscriber set of `(a, m)` after the history `ops` from the initial state: the
    connections whose last accepted-and-ok `open` of `m` under app `a` has not been followed by
    their own accepted `close`, their `drop`, a restart / crash, or a step after which the mailbox
    row `(a, m)` was absent -/
def subsLog (a m : String) (cfg : Cfg) (rb : Time) (ops : List Op) : List Nat :=
  subsRun a m (GSys.init cfg rb).sys ops []

/-- one step keeps "`listeners a m` = ghost" (as sets; `listeners` is in connection order) -/
theorem subsStep_inv {g : GSys} (hI : g.GInv) (op : Op) (hI' : (g.step op).GInv) (a m : String)
    (subs : List Nat) (h : ∀ c, c ∈ g.sys.listeners a m ↔ c ∈ subs) :
    ∀ c, c ∈ (g.step op).sys.listeners a m ↔ c ∈ subsStep a m g.sys op subs := by
  intro c'
  unfold subsStep
  split
  · rename_i habs
    constructor
    · intro hc
      have := listeners_present hI' hc
      rw [Chan.findMailbox_eq_none_iff] at habs
      exact absurd this habs
    · intro hc; simp at hc
  · rename_i hpres
    have hkey : (a, m) ∈ (g.step op).sys.db.mbKeys := by
      apply Classical.byContradiction
      intro hn
      exact hpres (Chan.findMailbox_eq_none_iff.2 hn)
    cases op with
    | connect c => simp only [subChange]; rw [C02_listeners_connect]; exact h c'
    | drop c =>
      simp only [subChange]
      rw [C02_listeners_drop, List.mem_filter, List.mem_filter, h c']
    | restart t => simp only [subChange]; rw [C02_listeners_restart]
    | crashIn k op' => simp only [subChange]; rw [C02_listeners_crash]
    | sweep now fault => simp only [subChange]; rw [C02_listeners_sweep]; exact h c'
    | recv c t id cmd =>
      cases hx : g.sys.findConn c with
      | none =>
        rw [C02_listeners_no_conn g t id cmd hx]
        have : subChange g.sys a m (.recv c t id cmd) = .keep := by
          unfold subChange
          split <;> simp_all
        rw [this]; exact h c'
      | some x =>
        by_cases hts : cmd.touchesSubs = false
        · rw [C02_listeners_other g c t id hts]
          have : subChange g.sys a m (.recv c t id cmd) = .keep := by
            unfold subChange
            split <;> simp_all [Cmd.touchesSubs]
          rw [this]; exact h c'
        · cases cmd with
          | bind ap sd i v =>
            rw [C02_listeners_bind hI]
            simp only [subChange]; exact h c'
          | open_ mailbox =>
            rw [C02_listeners_open hI t id mailbox hx a m c', h c']
            cases mailbox with
            | none => simp [subChange]
            | some m' =>
              by_cases hc : x.app = some a ∧ m' = m ∧ x.mailbox = none ∧
                  g.sys.db.openRes a m (x.side.getD "") = .ok
              · obtain ⟨h1, rfl, h3, h4⟩ := hc
                simp [subChange, hx, h1, h3, h4]
              · simp [subChange, hx, hc]
          | close mb mood =>
            simp only [subChange, hx]
            rcases C02_listeners_close hI t id mb mood hx with ⟨hrej, hsame⟩ | ⟨hacc, ax, stopped, hh, hax, hl, hst⟩
            · rw [if_neg hrej, hsame a m]; exact h c'
            · -- the row `(a, m)` is there afterwards, so it is not the mailbox the close deleted
              have hns : ¬ (stopped = true ∧ a = ax ∧ m = hh) := by
                rintro ⟨hs, rfl, rfl⟩
                exact hst hs (a, m) hkey rfl
              rw [if_pos hacc, hl a m c', List.mem_filter, h c']
              simp [hns]
          | _ => simp [Cmd.touchesSubs] at hts

/-- **C02 (subscribers)**: after every well-formed history, `listeners a m` is exactly the ghost
    subscriber set.  `hreach` is `GSys.Reach.ginv`. -/
theorem C02_subscribers_invariant (hreach : ∀ g : GSys, g.Reach → g.GInv) (a m : String) (ops : List Op) :
    ∀ {g : GSys}, g.Reach → g.WF ops → ∀ (subs : List Nat),
      (∀ c, c ∈ g.sys.listeners a m ↔ c ∈ subs) →
      ∀ c, c ∈ (g.run ops).sys.listeners a m ↔ c ∈ subsRun a m g.sys ops subs := by
  induction ops with
  | nil => intro g _ _ subs h; exact h
  | cons op rest ih =>
    intro g hg hwf subs h
    have hg' : (g.step op).Reach := .step op hg hwf.1
    exact ih hg' hwf.2 _ (subsStep_inv (hreach g hg) op (hreach _ hg') a m subs h)

theorem C02_subscribers (hreach : ∀ g : GSys, g.Reach → g.GInv) (cfg : Cfg) (rb : Time) (ops : List Op)
    (hwf : (GSys.init cfg rb).WF ops) (a m : String) (c : Nat) :
    c ∈ ((GSys.init cfg rb).run ops).sys.listeners a m ↔ c ∈ subsLog a m cfg rb ops :=
  C02_subscribers_invariant hreach a m ops (.init cfg rb) hwf [] (by simp [GSys.init, Sys.listeners]) c

/-- **C02, history form**: after any well-formed history, an accepted `add` on `(a, m)` is delivered
    -- as the one frame `message σ phase body t id`, with nothing uncommitted -- to exactly the ghost
    subscribers of `(a, m)`, each exactly once, and no other `message` frame is sent to anybody -/
theorem C02_delivery (hreach : ∀ g : GSys, g.Reach → g.GInv) (cfg : Cfg) (rb : Time) (ops : List Op)
    (hwf : (GSys.init cfg rb).WF ops) {c : Nat} {x : Conn} {a σ m : String} (t : Time) (id ph bd : Val)
    (hx : ((GSys.init cfg rb).run ops).sys.findConn c = some x) (ha : x.app = some a)
    (hσ : x.side = some σ) (hm : x.mailbox = some m) :
    let out := (((GSys.init cfg rb).run ops).step (.recv c t id (.add (some ph) (some bd)))).sys.out
    (∀ c', c' ∈ subsLog a m cfg rb ops → out.count (Event.frame c' (.message σ ph bd t id) true) = 1) ∧
    (∀ e ∈ out, e.isMessage = true → ∃ c' ∈ subsLog a m cfg rb ops, e = .frame c' (.message σ ph bd t id) true) ∧
    c ∈ subsLog a m cfg rb ops := by
  have hI := hreach _ (GSys.reach_run (.init cfg rb) ops hwf)
  have hsub := C02_subscribers hreach cfg rb ops hwf a m
  refine ⟨?_, ?_, ?_⟩
  · intro c' hc'
    exact C02_exactly_once hI t id ph bd hx ha hσ hm ((hsub c').2 hc')
  · intro e he hmsg
    obtain ⟨c', hc', rfl⟩ := C02_no_other hI t id ph bd hx ha hσ hm he hmsg
    exact ⟨c', (hsub c').1 hc', rfl⟩
  · exact (hsub c).1 (C02_fanout_exact hI t id ph bd hx ha hσ hm).2.2

/-! ## non-vacuity (the state of `C01Ex`: three subscribers of ("A","mA") of which connection 1 is
    the sender, one subscriber of the identical ("B","mB"), one bound connection without
    subscription, one unbound connection) -/

namespace C02Ex
open C01Ex

example : g.sys.listeners "A" "mA" = [1, 2, 3] ∧ g.sys.listeners "B" "mB" = [4] := by decide

example := C02_fanout_exact ginv (c := 1) (x := x1) (a := "A") (σ := "s1") (m := "mA") 20 (.int 7)
  (.str "ph") (.str "bd") (by decide) rfl rfl rfl

/-- the sender and the two other subscribers get the frame (numeric id NOT coerced), nobody else -/
example : (g.step (.recv 1 20 (.int 7) (.add (some (.str "ph")) (some (.str "bd"))))).sys.out =
    [.frame 1 (.ack (.int 7)) true, .commit .chan,
     .frame 1 (.message "s1" (.str "ph") (.str "bd") 20 (.int 7)) true,
     .frame 2 (.message "s1" (.str "ph") (.str "bd") 20 (.int 7)) true,
     .frame 3 (.message "s1" (.str "ph") (.str "bd") 20 (.int 7)) true] := by decide +kernel

/-- while the stored row has the id coerced to text (C01) -/
example : (g.step (.recv 1 20 (.int 7) (.add (some (.str "ph")) (some (.str "bd"))))).sys.db.messages.getLast? =
    some ⟨"A", "mA", "s1", .str "ph", .str "bd", 20, .str "7"⟩ := by decide +kernel

example := C02_sweep_keeps_listened ginv 100000 false (a := "B") (m := "mB") (by decide)

/-- connection 4 closes ("B","mB") (last opened side): the mailbox is deleted, its list is empty,
    the list of ("A","mA") is untouched -/
example : (g.step (.recv 4 20 .null (.close none none))).sys.listeners "B" "mB" = [] ∧
    (g.step (.recv 4 20 .null (.close none none))).sys.listeners "A" "mA" = [1, 2, 3] := by decide +kernel

/-- connection 2 closes ("A","mA"): side "s1" is still open, 1 and 3 stay subscribed -/
example : (g.step (.recv 2 20 .null (.close none none))).sys.listeners "A" "mA" = [1, 3] := by decide +kernel

/-- connection 5 opens "mA": it enters, the others stay -/
example : ∀ c', c' ∈ (g.step (.recv 5 20 .null (.open_ (some "mA")))).sys.listeners "A" "mA" ↔
    c' ∈ [1, 2, 3] ∨ c' = 5 := by
  intro c'
  rw [C02_listeners_open ginv (c := 5) (x := x5) 20 .null (some "mA") (by decide) "A" "mA" c']
  rw [show g.sys.listeners "A" "mA" = [1, 2, 3] by decide]
  constructor
  · rintro (h | ⟨h, _⟩)
    · exact .inl h
    · exact .inr h
  · rintro (h | h)
    · exact .inl h
    · exact .inr ⟨h, rfl, rfl, rfl, by decide⟩

/-- the ghost over a history from the initial state: 1 and 2 subscribe, a sweep runs, 1 closes -/
def hist : List Op :=
  [.connect 1, .recv 1 1 .null (.bind (some "A") (some "s1") none none),
   .recv 1 2 .null (.open_ (some "m")),
   .connect 2, .recv 2 3 .null (.bind (some "A") (some "s2") none none),
   .recv 2 4 .null (.open_ (some "m")), .sweep 9000 false,
   .recv 1 9001 .null (.close none none)]

example : subsLog "A" "m" {} 0 (hist.take 7) = [1, 2] ∧ subsLog "A" "m" {} 0 hist = [2] := by decide +kernel

end C02Ex

/-! ## the history theorems with `GSys.Reach.ginv` plugged in -/

theorem C02_subscribers' (cfg : Cfg) (rb : Time) (ops : List Op) (hwf : (GSys.init cfg rb).WF ops)
    (a m : String) (c : Nat) :
    c ∈ ((GSys.init cfg rb).run ops).sys.listeners a m ↔ c ∈ subsLog a m cfg rb ops :=
  C02_subscribers (fun _ h => h.ginv) cfg rb ops hwf a m c

#print axioms C02_fanout_exact
#print axioms C02_exactly_once
#print axioms C02_no_other
#print axioms C02_unmodified
#print axioms C02_listeners_connect
#print axioms C02_listeners_drop
#print axioms C02_listeners_restart
#print axioms C02_listeners_crash
#print axioms C02_listeners_sweep
#print axioms C02_sweep_keeps_listened
#print axioms C02_listeners_other
#print axioms C02_listeners_bind
#print axioms C02_listeners_open
#print axioms C02_listeners_close
#print axioms C02_subscribers_invariant
#print axioms C02_subscribers
#print axioms C02_delivery
#print axioms C02_subscribers'

end Wormhole
