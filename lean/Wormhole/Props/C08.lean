/-
  C08 — "A mailbox lives until its last open side closes, and close always completes".

  All step theorems are for EVERY state satisfying the invariant `GSys.GInv` (no reachability
  hypothesis, no bounds) and every input.  `Sys.HandleRow` ("a connection that holds a mailbox handle
  has a side row in that mailbox") is an invariant of reachable states that is not part of `GInv`;
  it is proved to be one in Props/C05.lean (`C05.handleRow_step`, `C05.handleRow_reach`) and is taken as an
  explicit hypothesis where a `close` over a held handle is concerned (`C08_close_spec_reach` discharges it
  for reachable states).

  `C08_close_spec` with its readable consequences `C08_close_keeps` / `C08_close_frame`;
  `C08_open_side_stays` and `C08_alive_while_open`; the repeated close, `C08_reclose_gone` and
  `C08_reclose_survives_partial` (K-close-touch, K-crowded-rejoin, with counterexamples).
-/
import Wormhole.Inv.MbClaim
import Wormhole.Inv.Main
import Wormhole.Props.C05

namespace Wormhole
namespace C08
open Sys

theorem findConn_closeConns {cs : List Conn} {c : Nat} {x : Conn}
    (h : cs.find? (fun y => y.id = c) = some x) :
    (closeConns cs c).find? (fun y => y.id = c) = some (closerUpd x) := by
  have hid : x.id = c := by simpa using List.find?_some h
  unfold closeConns
  rw [find?_map_id (by intro y; split <;> rfl), h]
  simp [hid]

theorem findConn_closeConnsDel {cs : List Conn} {c : Nat} {x : Conn} (app mb : String)
    (h : cs.find? (fun y => y.id = c) = some x) :
    (closeConnsDel cs c app mb).find? (fun y => y.id = c) = some (closerUpd x) := by
  have hid : x.id = c := by simpa using List.find?_some h
  unfold closeConnsDel
  rw [find?_map_id (by intro y; split <;> (try split) <;> rfl), h]
  simp [hid]

theorem mem_closeConns_of_ne {cs : List Conn} {c : Nat} {y : Conn} (hy : y ∈ cs) (hne : y.id ≠ c) :
    y ∈ closeConns cs c := by
  unfold closeConns
  exact List.mem_map.2 ⟨y, hy, by simp [hne]⟩

theorem mem_closeConnsDel_of_ne {cs : List Conn} {c : Nat} {app mb : String} {y : Conn} (hy : y ∈ cs)
    (hne : y.id ≠ c) :
    (if y.listening ∧ y.app = some app ∧ y.mailbox = some mb
      then { y with mailbox := none, listening := false } else y) ∈ closeConnsDel cs c app mb := by
  unfold closeConnsDel
  exact List.mem_map.2 ⟨y, hy, by simp [hne]⟩

/-- the hypotheses shared by the theorems about one `close`: connection `c` has record `x`, is
    bound to `app`, validation lets `close m mood` through, and the close acts on mailbox `tgt`
    (the handle if `x` holds one, else the `mailbox` key, else the remembered name) -/
structure CloseCase (s : Sys) (c : Nat) (x : Conn) (m mood : Option String) (app tgt : String) : Prop where
  conn : s.findConn c = some x
  valid : rejectText x (.close m mood) = none
  bound : x.app = some app
  target : x.closeTarget m = some tgt

/-- the close goes through: it is not answered IntegrityError (K-global-mailbox-id) or `crowded`
    (both possible only when the connection holds no handle and `open_mailbox` runs first) -/
def Proceeds (s : Sys) (x : Conn) (app tgt : String) (t : Time) : Prop :=
  ¬ (x.mailbox = none ∧
      (s.db.Clash app tgt ∨ ((closePre s x app tgt t).mbSidesOf tgt).length > 2))

/-- **C08 (close, exactly).**  A `close` that passes validation and is not refused as crowded:
    * output: exactly `ack id`, effective commits, `closed` — all frames sent with nothing uncommitted;
    * the closing connection ends with no handle, not listening, `didClose = true`, all its other
      fields as before;
    * if some OTHER side of the mailbox is still open: the database is that after the implicit
      open (`closePre`; the database itself if the connection held a handle) with the one side row
      (tgt, side) set to `opened := false, mood := mood` — nothing else; no other connection
      record and no usage row changes;
    * otherwise: the database is `dropMailbox` of the ORIGINAL database (mailbox row, its side
      rows, its messages, the nameplates of `app` pointing at it and their side rows removed, every
      other row of every table kept — `C08_close_frame`); the connections that were subscribed to
      it lose handle and subscription, every other record is unchanged; with a usage database one
      mailbox row and one nameplate row per deleted nameplate are appended (`CloseUsage`). -/
theorem C08_close_spec {g : GSys} (hI : g.GInv) (hH : g.sys.HandleRow)
    {c : Nat} {x : Conn} {m mood : Option String} {app tgt : String}
    (hc : CloseCase g.sys c x m mood app tgt) (t : Time) (id : Val)
    (hgo : Proceeds g.sys x app tgt t) :
    (∃ commits, (∀ e ∈ commits, IsCommit e) ∧
      (g.sys.step (.recv c t id (.close m mood))).out =
        .frame c (.ack id) true :: (commits ++ [.frame c .closed true])) ∧
    (g.sys.step (.recv c t id (.close m mood))).Synced ∧
    (g.sys.step (.recv c t id (.close m mood))).cfg = g.sys.cfg ∧
    (g.sys.step (.recv c t id (.close m mood))).findConn c = some (closerUpd x) ∧
    (g.sys.db.OtherOpen tgt (x.side.getD "") →
      (g.sys.step (.recv c t id (.close m mood))).db =
        (closePre g.sys x app tgt t).closeSide tgt (x.side.getD "") mood ∧
      (g.sys.step (.recv c t id (.close m mood))).conns = closeConns g.sys.conns c ∧
      (g.sys.step (.recv c t id (.close m mood))).udb = g.sys.udb) ∧
    (¬ g.sys.db.OtherOpen tgt (x.side.getD "") →
      (g.sys.step (.recv c t id (.close m mood))).db = g.sys.db.dropMailbox app tgt ∧
      (g.sys.step (.recv c t id (.close m mood))).conns = closeConnsDel g.sys.conns c app tgt ∧
      CloseUsage g.sys (g.sys.step (.recv c t id (.close m mood))) app tgt) := by
  obtain ⟨hx, hr, happ, htg⟩ := hc
  obtain ⟨_, _, hclosed⟩ := close_step hI.cinv.toPInv hI.cinv.npHasSide hI.synced hx hr happ htg t id
  obtain ⟨hout, hdb, hsync, hcfg, _, hsurv, hdel⟩ := hclosed hgo
  -- the mailbox row and the own side row exist in the database the close works on
  have hpre : (closePre g.sys x app tgt t).HasBox app tgt ∧
      (closePre g.sys x app tgt t).findMbSide tgt (x.side.getD "") ≠ none := by
    cases hh : x.mailbox with
    | none => exact closePre_rows g.sys app tgt t hh
    | some h =>
      obtain rfl : h = tgt := by simpa [Conn.closeTarget, hh] using htg
      rw [closePre_of_some g.sys app h t hh]
      have hxm := findConn_mem hx
      obtain ⟨_, a, ha, m0, hm0, hi, hma⟩ := hI.conn.handle x hxm h hh
      obtain rfl : a = app := Option.some.inj (ha.symm.trans happ)
      obtain ⟨r, hr0, h1, h2⟩ := hH x hxm h hh
      exact ⟨⟨m0, hm0, hma, hi⟩, fun hn => Chan.findMbSide_eq_none.1 hn r hr0 ⟨h1, h2⟩⟩
  have hoo := otherOpen_closePre g.sys (x := x) app tgt t
  rw [hdb]
  unfold Chan.closeDb
  rw [if_pos hpre]
  refine ⟨hout, hsync, hcfg, ?_, fun ho => ?_, fun ho => ?_⟩
  · unfold Sys.findConn
    by_cases ho : g.sys.db.OtherOpen tgt (x.side.getD "")
    · rw [(hsurv (fun hk => hk.2.2 (hoo.2 ho))).1]
      exact findConn_closeConns hx
    · rw [(hdel hpre.1 hpre.2 (fun hk => ho (hoo.1 hk))).1]
      exact findConn_closeConnsDel app tgt hx
  · rw [if_pos (hoo.2 ho)]
    exact ⟨rfl, hsurv (fun hk => hk.2.2 (hoo.2 ho))⟩
  · rw [if_neg (fun hk => ho (hoo.1 hk)), dropMailbox_closePre]
    exact ⟨rfl, hdel hpre.1 hpre.2 (fun hk => ho (hoo.1 hk))⟩

/-- **C08 (one side's close never removes the other side's access).**  The ordinary close (the
    connection holds the handle) while another side is open: the mailbox row, every message,
    every nameplate row and nameplate side row are literally unchanged; the side rows are those of
    before except that the closer's row now reads `opened = false, mood = mood`; every other
    connection record — handle and subscription included — is literally unchanged. -/
theorem C08_close_keeps {g : GSys} (hI : g.GInv) (hH : g.sys.HandleRow)
    {c : Nat} {x : Conn} {m mood : Option String} {app tgt : String}
    (hc : CloseCase g.sys c x m mood app tgt) (t : Time) (id : Val)
    (hheld : x.mailbox = some tgt) (hother : g.sys.db.OtherOpen tgt (x.side.getD "")) :
    (g.sys.step (.recv c t id (.close m mood))).db.mailboxes = g.sys.db.mailboxes ∧
    (g.sys.step (.recv c t id (.close m mood))).db.messages = g.sys.db.messages ∧
    (g.sys.step (.recv c t id (.close m mood))).db.nameplates = g.sys.db.nameplates ∧
    (g.sys.step (.recv c t id (.close m mood))).db.npSides = g.sys.db.npSides ∧
    (g.sys.step (.recv c t id (.close m mood))).db.nextNp = g.sys.db.nextNp ∧
    (∀ r, r ∈ (g.sys.step (.recv c t id (.close m mood))).db.mbSides ↔
      (r ∈ g.sys.db.mbSides ∧ ¬ (r.mailbox = tgt ∧ r.side = x.side.getD "")) ∨
      (∃ r0 ∈ g.sys.db.mbSides, r0.mailbox = tgt ∧ r0.side = x.side.getD "" ∧
        r = { r0 with opened := false, mood := mood })) ∧
    (∀ mb', mb' ≠ tgt →
      (g.sys.step (.recv c t id (.close m mood))).db.mbSidesOf mb' = g.sys.db.mbSidesOf mb') ∧
    (∀ y ∈ g.sys.conns, y.id ≠ c → y ∈ (g.sys.step (.recv c t id (.close m mood))).conns) ∧
    (g.sys.step (.recv c t id (.close m mood))).udb = g.sys.udb := by
  have hgo : Proceeds g.sys x app tgt t := by
    intro hk; rw [hheld] at hk; cases hk.1
  obtain ⟨_, _, _, _, hsurv, _⟩ := C08_close_spec hI hH hc t id hgo
  obtain ⟨hdb, hconns, hudb⟩ := hsurv hother
  have hpre : closePre g.sys x app tgt t = g.sys.db := by simp [closePre, hheld]
  rw [hpre] at hdb
  rw [hdb, hconns]
  refine ⟨rfl, rfl, rfl, rfl, rfl, fun r => Chan.mem_closeSide_mbSides, ?_, ?_, hudb⟩
  · intro mb' hne; exact Chan.closeSide_mbSidesOf_other _ _ _ _ hne
  · intro y hy hne; exact mem_closeConns_of_ne hy hne

/-- **C08 (the frame condition of a deleting close)**, as a statement about `dropMailbox` on a
    database satisfying `PInv` in which `mb` is not a mailbox of another app: (app, mb) is gone
    with everything that belongs to it, and every other mailbox row is still there with exactly its
    side rows and messages, every nameplate not pointing at (app, mb) is still there with exactly
    its side rows, no row appears. -/
theorem C08_close_frame {d : Chan} (hP : d.PInv) {app mb : String} (hnc : ¬ d.Clash app mb) :
    -- gone
    ¬ (d.dropMailbox app mb).HasBox app mb ∧
    (d.dropMailbox app mb).mbSidesOf mb = [] ∧
    (d.dropMailbox app mb).messagesOf app mb = [] ∧
    (d.dropMailbox app mb).nameplatesOfMailbox app mb = [] ∧
    -- every other mailbox is untouched
    (∀ m0 ∈ d.mailboxes, ¬ (m0.app = app ∧ m0.id = mb) →
      m0 ∈ (d.dropMailbox app mb).mailboxes ∧
      (d.dropMailbox app mb).mbSidesOf m0.id = d.mbSidesOf m0.id ∧
      (d.dropMailbox app mb).messagesOf m0.app m0.id = d.messagesOf m0.app m0.id) ∧
    -- every other nameplate is untouched
    (∀ n ∈ d.nameplates, ¬ (n.app = app ∧ n.mailbox = mb) →
      n ∈ (d.dropMailbox app mb).nameplates ∧
      (d.dropMailbox app mb).npSidesOf n.id = d.npSidesOf n.id) ∧
    -- nothing appears
    (∀ m0 ∈ (d.dropMailbox app mb).mailboxes, m0 ∈ d.mailboxes) ∧
    (∀ r ∈ (d.dropMailbox app mb).mbSides, r ∈ d.mbSides) ∧
    (∀ r ∈ (d.dropMailbox app mb).messages, r ∈ d.messages) ∧
    (∀ n ∈ (d.dropMailbox app mb).nameplates, n ∈ d.nameplates) ∧
    (∀ r ∈ (d.dropMailbox app mb).npSides, r ∈ d.npSides) ∧
    (d.dropMailbox app mb).nextNp = d.nextNp := by
  refine ⟨Chan.dropMailbox_not_hasBox d app mb, Chan.dropMailbox_mbSidesOf_self d app mb,
    Chan.dropMailbox_messagesOf_self d app mb, Chan.dropMailbox_nameplatesOfMailbox_self d app mb,
    ?_, ?_, ?_, ?_, ?_, ?_, ?_, rfl⟩
  · intro m0 hm0 hne
    have hid : m0.id ≠ mb := by
      intro hid
      by_cases hh : d.HasBox app mb
      · exact hne ⟨hP.app_of_id hh hm0 hid, hid⟩
      · exact hnc (Chan.clash_iff.2 ⟨⟨m0, hm0, hid⟩, hh⟩)
    exact ⟨(Chan.mem_dropMailbox_mailboxes d app mb).2 ⟨hm0, hne⟩,
      Chan.dropMailbox_mbSidesOf_other d app mb hid,
      Chan.dropMailbox_messagesOf_other d app mb (fun hk => hid hk.2)⟩
  · intro n hn hne
    exact ⟨(Chan.mem_dropMailbox_nameplates d app mb).2 ⟨hn, hne⟩,
      Chan.dropMailbox_npSidesOf_other d app mb hP.npIds hn hne⟩
  · intro m0 h; exact ((Chan.mem_dropMailbox_mailboxes d app mb).1 h).1
  · intro r h; exact ((Chan.mem_dropMailbox_mbSides d app mb).1 h).1
  · intro r h; exact ((Chan.mem_dropMailbox_messages d app mb).1 h).1
  · intro n h; exact ((Chan.mem_dropMailbox_nameplates d app mb).1 h).1
  · intro r h; exact ((Chan.mem_dropMailbox_npSides d app mb).1 h).1

/-- `C08_close_spec` for reachable states: both hypotheses on the state (`GInv`, `HandleRow`) are
    discharged (`GSys.Reach.ginv`, `C05.handleRow_reach`) -/
theorem C08_close_spec_reach {g : GSys} (hg : g.Reach)
    {c : Nat} {x : Conn} {m mood : Option String} {app tgt : String}
    (hc : CloseCase g.sys c x m mood app tgt) (t : Time) (id : Val)
    (hgo : Proceeds g.sys x app tgt t) :
    (∃ commits, (∀ e ∈ commits, IsCommit e) ∧
      (g.sys.step (.recv c t id (.close m mood))).out =
        .frame c (.ack id) true :: (commits ++ [.frame c .closed true])) ∧
    (g.sys.step (.recv c t id (.close m mood))).Synced ∧
    (g.sys.step (.recv c t id (.close m mood))).cfg = g.sys.cfg ∧
    (g.sys.step (.recv c t id (.close m mood))).findConn c = some (closerUpd x) ∧
    (g.sys.db.OtherOpen tgt (x.side.getD "") →
      (g.sys.step (.recv c t id (.close m mood))).db =
        (closePre g.sys x app tgt t).closeSide tgt (x.side.getD "") mood ∧
      (g.sys.step (.recv c t id (.close m mood))).conns = closeConns g.sys.conns c ∧
      (g.sys.step (.recv c t id (.close m mood))).udb = g.sys.udb) ∧
    (¬ g.sys.db.OtherOpen tgt (x.side.getD "") →
      (g.sys.step (.recv c t id (.close m mood))).db = g.sys.db.dropMailbox app tgt ∧
      (g.sys.step (.recv c t id (.close m mood))).conns = closeConnsDel g.sys.conns c app tgt ∧
      CloseUsage g.sys (g.sys.step (.recv c t id (.close m mood))) app tgt) :=
  C08_close_spec hg.ginv (C05.handleRow_reach hg) hc t id hgo

/-- the operation (or the operation a `crashIn` wraps) is a `close` by a connection bound to
    `app` with side `σ` that acts on mailbox `mb` -/
def ClosesSide (s : Sys) (op : Op) (app mb σ : String) : Prop :=
  ∃ c t id m mood x, op.core = .recv c t id (.close m mood) ∧ s.findConn c = some x ∧
    x.app = some app ∧ x.closeTarget m = some mb ∧ x.side.getD "" = σ

/-- **C08 (an open side stays open).**  Over every operation that is not a sweep — crashes at
    any commit point included — the row (app, mb) stays and side σ keeps it open, unless the
    operation is σ's own `close` of (app, mb). -/
theorem C08_open_side_stays {g : GSys} (hI : g.GInv) {app mb σ : String}
    (hopen : g.sys.db.OpenAt app mb σ) (op : Op) (hns : op.core.isSweep = false)
    (hnc : ¬ ClosesSide g.sys op app mb σ) :
    (g.sys.step op).db.OpenAt app mb σ := by
  have hP := hI.cinv.toPInv
  have h := step_track (s := g.sys) (op := op)
    (R := fun d => (∀ m0 ∈ d.mailboxes, m0.id = mb → m0.app = app) ∧ d.OpenAt app mb σ)
    (R' := fun d => (∀ m0 ∈ d.mailboxes, m0.id = mb → m0.app = app) ∧ d.OpenAt app mb σ)
    (hg := by
      intro d f hf ⟨h1, h2⟩
      refine ⟨?_, h2.grow hf⟩
      cases hf with
      | insMailbox r hfree =>
        intro m0 hm0 hid
        simp only [Chan.insMailbox, List.mem_append, List.mem_singleton] at hm0
        rcases hm0 with hm0 | rfl
        · exact h1 m0 hm0 hid
        · obtain ⟨m1, hm1, _, hi1⟩ := h2.1
          exact absurd (hi1.trans hid.symm) (hfree m1 hm1)
      | touch mb' t' =>
        intro m0 hm0 hid
        simp only [Chan.touch, List.mem_map] at hm0
        obtain ⟨m1, hm1, rfl⟩ := hm0
        have := h1 m1 hm1 (by rw [← hid]; split <;> rfl)
        rw [← this]; split <;> rfl
      | _ => exact h1)
    (hsub := fun _ h => h)
    (hsw := by intro hsw; rw [hns] at hsw; cases hsw)
    (hcs := by
      intro c t id x m mood app' tgt hop hx happ htg d ⟨h1, h2⟩ hh
      refine ⟨h1, h2.closeSide mood ?_⟩
      rintro ⟨rfl, hside⟩
      obtain ⟨m0, hm0, ha, hi⟩ := hh
      have : app' = app := by rw [← ha]; exact h1 m0 hm0 hi
      subst this
      exact hnc ⟨c, t, id, m, mood, x, hop, hx, happ, htg, hside⟩)
    (hdel := by
      intro c t id x m mood app' tgt _ _ _ _ d ⟨h1, h2⟩ hno
      refine ⟨?_, h2.closeDeletes app' tgt hno⟩
      intro m0 hm0 hid
      rw [Chan.closeDeletes_mailboxes, List.mem_filter] at hm0
      exact h1 m0 hm0.1 hid)
    (h1 := ⟨fun m0 hm0 hid => hP.app_of_id hopen.1 hm0 hid, hopen⟩)
    (h2 := by rw [← hI.synced.1]; exact ⟨fun m0 hm0 hid => hP.app_of_id hopen.1 hm0 hid, hopen⟩)
  exact h.2

/-- **C08 (a mailbox lives while a side has it open).**  A mailbox row that has an `opened` side
    row is still present after every operation that is not a sweep (crashes included), unless that
    operation is a `close` by a connection bound to the same app, acting on this mailbox, whose side
    is the ONLY side that still has it open.  (What a sweep may remove is property C12.) -/
theorem C08_alive_while_open {g : GSys} (hI : g.GInv) {app mb : String}
    (hrow : g.sys.db.HasBox app mb)
    (hopen : ∃ r ∈ g.sys.db.mbSides, r.mailbox = mb ∧ r.opened = true)
    (op : Op) (hns : op.core.isSweep = false) :
    (g.sys.step op).db.HasBox app mb ∨
    ∃ σ, ClosesSide g.sys op app mb σ ∧
      ∀ r ∈ g.sys.db.mbSides, r.mailbox = mb → r.opened = true → r.side = σ := by
  obtain ⟨r, hr, hm, ho⟩ := hopen
  by_cases hcl : ClosesSide g.sys op app mb r.side
  · -- the operation closes r's side: is another side open?
    by_cases hex : ∃ r' ∈ g.sys.db.mbSides, r'.mailbox = mb ∧ r'.opened = true ∧ r'.side ≠ r.side
    · obtain ⟨r', hr', hm', ho', hne⟩ := hex
      left
      refine (C08_open_side_stays hI (σ := r'.side) ⟨hrow, r', hr', hm', rfl, ho'⟩ op hns ?_).1
      rintro ⟨c, t, id, m, mood, x, hop, hx, happ, htg, hside⟩
      obtain ⟨c2, t2, id2, m2, mood2, x2, hop2, hx2, _, _, hside2⟩ := hcl
      rw [hop] at hop2
      cases hop2
      rw [hx] at hx2; cases hx2
      exact hne (hside.symm.trans hside2)
    · exact Or.inr ⟨r.side, hcl, fun r' hr' hm' ho' =>
        Classical.not_not.1 (fun hne => hex ⟨r', hr', hm', ho', hne⟩)⟩
  · exact Or.inl (C08_open_side_stays hI (σ := r.side) ⟨hrow, r, hr, hm, rfl, ho⟩ op hns hcl).1

/-- a bound connection that has not opened, claimed a handle or closed anything yet -/
structure FreshBound (x : Conn) (app : String) : Prop where
  bound : x.app = some app
  noHandle : x.mailbox = none
  noName : x.mailboxId = none
  notClosed : x.didClose = false

theorem FreshBound.closeCase {s : Sys} {c : Nat} {x : Conn} {app : String} (hf : FreshBound x app)
    (hx : s.findConn c = some x) (mb : String) (mood : Option String) :
    CloseCase s c x (some mb) mood app mb := by
  refine ⟨hx, ?_, hf.bound, ?_⟩
  · simp [rejectText, needBind, hf.bound, hf.notClosed, hf.noName]
  · simp [Conn.closeTarget, Conn.closeName, hf.noHandle]

/-- **C08 (re-close, mailbox gone).**  A `close` of a mailbox id that has no row any more (the
    mailbox was deleted by the last close, or never existed), sent on a fresh bound connection:
    answered `ack`, commits, `closed`; the channel database afterwards IS the one before (the
    mailbox row and the side row that the implicit open creates are deleted again within the
    step); only the closing connection's record changes. -/
theorem C08_reclose_gone {g : GSys} (hI : g.GInv) {c : Nat} {x : Conn} {app : String}
    (hx : g.sys.findConn c = some x) (hf : FreshBound x app) {mb : String}
    (hgone : ¬ g.sys.db.HasId mb) (mood : Option String) (t : Time) (id : Val) :
    (∃ commits, (∀ e ∈ commits, IsCommit e) ∧
      (g.sys.step (.recv c t id (.close (some mb) mood))).out =
        .frame c (.ack id) true :: (commits ++ [.frame c .closed true])) ∧
    (g.sys.step (.recv c t id (.close (some mb) mood))).db = g.sys.db ∧
    (g.sys.step (.recv c t id (.close (some mb) mood))).Synced ∧
    (g.sys.step (.recv c t id (.close (some mb) mood))).conns = closeConns g.sys.conns c := by
  have hP := hI.cinv.toPInv
  have hc := hf.closeCase hx mb mood
  have hnoside : ∀ r ∈ g.sys.db.mbSides, r.mailbox ≠ mb := by
    intro r hr hk
    obtain ⟨m0, hm0, hi⟩ := hP.msFk r hr
    exact hgone ⟨m0, hm0, hi.trans hk⟩
  have hpre := closePre_of_none g.sys app mb t hf.noHandle
  obtain ⟨hhas, hside⟩ := closePre_rows g.sys app mb t hf.noHandle
  have hgo : Proceeds g.sys x app mb t := by
    rintro ⟨_, hk | hk⟩
    · exact hgone (Chan.clash_iff.1 hk).1
    · rw [hpre, Chan.openDb_mbSidesOf] at hk
      have h0 : g.sys.db.mbSidesOf mb = [] := by
        simp only [Chan.mbSidesOf, List.filter_eq_nil_iff, decide_eq_true_eq]
        exact fun r hr => hnoside r hr
      rw [h0] at hk
      split at hk <;> simp at hk
  obtain ⟨_, _, hclosed⟩ := close_step hP hI.cinv.npHasSide hI.synced hc.conn hc.valid hc.bound hc.target t id
  obtain ⟨hout, hdb, hsync, _, _, _, hdel⟩ := hclosed hgo
  have hno : ¬ (closePre g.sys x app mb t).OtherOpen mb (x.side.getD "") := by
    rw [otherOpen_closePre]
    rintro ⟨r, hr, hk, _⟩
    exact hnoside r hr hk
  refine ⟨hout, ?_, hsync, ?_⟩
  · rw [hdb]
    unfold Chan.closeDb
    rw [if_pos ⟨hhas, hside⟩, if_neg hno, dropMailbox_closePre, Chan.dropMailbox_eq_self hP hgone]
  · rw [(hdel hhas hside hno).1]
    unfold closeConnsDel closeConns
    apply List.map_congr_left
    intro y hy
    by_cases hyc : y.id = c
    · simp [hyc]
    · simp only [hyc, if_false]
      rw [if_neg]
      rintro ⟨_, _, hk⟩
      obtain ⟨_, _, _, m0, hm0, hi, _⟩ := hI.conn.handle y hy mb hk
      exact hgone ⟨m0, hm0, hi⟩

/-- the database after a re-close that finds the mailbox alive: `updated := t` on the row
    (app, mb) and `opened := false, mood := mood` on the row (mb, side); everything else as it was -/
def recloseDb (d : Chan) (app mb side : String) (mood : Option String) (t : Time) : Chan :=
  { d with
    mailboxes := d.mailboxes.map (fun r => if r.app = app ∧ r.id = mb then { r with updated := t } else r)
    mbSides := d.mbSides.map (fun r => if r.mailbox = mb ∧ r.side = side
      then { r with opened := false, mood := mood } else r) }

/-- **C08 (re-close, mailbox alive) — PARTIAL, findings K-close-touch and K-crowded-rejoin.**
    Full statement (FALSE for the model and the code): "a repeated close by a side whose row is
    already closed, while the other side is still open, is answered `closed` and leaves the tables
    as they were".  What holds, under the guard "the mailbox has at most two side rows"
    (K-crowded-rejoin: otherwise the answer is `crowded`, `C08_reclose_crowded_counterexample`):
    the answer is `closed` and the tables are as they were EXCEPT `updated` of that one mailbox row,
    which becomes the time of the repeat (K-close-touch, `C08_reclose_touch_counterexample`), and
    the own side row's `mood` (its `opened` was already false).  No connection record other
    than the closer's and no usage row changes. -/
theorem C08_reclose_survives_partial {g : GSys} (hI : g.GInv) {c : Nat} {x : Conn} {app : String}
    (hx : g.sys.findConn c = some x) (hf : FreshBound x app) {mb : String}
    (hrow : g.sys.db.HasBox app mb)
    (hown : ∃ r ∈ g.sys.db.mbSides, r.mailbox = mb ∧ r.side = x.side.getD "")
    (hother : g.sys.db.OtherOpen mb (x.side.getD ""))
    (hguard : (g.sys.db.mbSidesOf mb).length ≤ 2)
    (mood : Option String) (t : Time) (id : Val) :
    (∃ commits, (∀ e ∈ commits, IsCommit e) ∧
      (g.sys.step (.recv c t id (.close (some mb) mood))).out =
        .frame c (.ack id) true :: (commits ++ [.frame c .closed true])) ∧
    (g.sys.step (.recv c t id (.close (some mb) mood))).db =
      recloseDb g.sys.db app mb (x.side.getD "") mood t ∧
    (g.sys.step (.recv c t id (.close (some mb) mood))).Synced ∧
    (g.sys.step (.recv c t id (.close (some mb) mood))).conns = closeConns g.sys.conns c ∧
    (g.sys.step (.recv c t id (.close (some mb) mood))).udb = g.sys.udb := by
  have hP := hI.cinv.toPInv
  have hc := hf.closeCase hx mb mood
  obtain ⟨r0, hr0, hk1, hk2⟩ := hown
  obtain ⟨r1, hr1⟩ : ∃ r1, g.sys.db.findMbSide mb (x.side.getD "") = some r1 :=
    Option.ne_none_iff_exists'.1 (fun hfs => Chan.findMbSide_eq_none.1 hfs r0 hr0 ⟨hk1, hk2⟩)
  obtain ⟨rowm, hrowm⟩ := Option.isSome_iff_exists.1 (Chan.findMailbox_isSome.2 hrow)
  have hpre := closePre_of_none g.sys app mb t hf.noHandle
  have hgo : Proceeds g.sys x app mb t := by
    rintro ⟨_, hk | hk⟩
    · exact hk.2 hrow
    · rw [hpre, Chan.openDb_mbSidesOf, hr1] at hk
      simp at hk
      omega
  obtain ⟨_, _, hclosed⟩ := close_step hP hI.cinv.npHasSide hI.synced hc.conn hc.valid hc.bound hc.target t id
  obtain ⟨hout, hdb, hsync, _, _, hsurv, _⟩ := hclosed hgo
  have hoo := (otherOpen_closePre g.sys (x := x) app mb t).2 hother
  obtain ⟨hconns, hudb⟩ := hsurv (fun hk => hk.2.2 hoo)
  refine ⟨hout, ?_, hsync, hconns, hudb⟩
  rw [hdb]
  unfold Chan.closeDb
  rw [if_pos (closePre_rows g.sys app mb t hf.noHandle), if_pos hoo, hpre]
  simp [Chan.openDb, Chan.closeSide, recloseDb, hrowm, hr1]

namespace Ex

instance (d : Chan) : Decidable d.IdsBounded := by unfold Chan.IdsBounded; infer_instance

/-- two sides have mailbox "m" of app "app" open since t = 100; side s1 holds nameplate 1 ("7")
    pointing at it; another mailbox "other" with a message and a nameplate exists -/
def db0 : Chan :=
  { nameplates := [⟨1, "app", "7", "m"⟩, ⟨2, "app", "9", "other"⟩],
    npSides := [⟨1, true, "s1", 90⟩, ⟨2, true, "s9", 95⟩],
    mailboxes := [⟨"app", "m", 100, true⟩, ⟨"app", "other", 95, true⟩],
    mbSides := [⟨"m", true, "s1", 100, none⟩, ⟨"m", true, "s2", 100, none⟩, ⟨"other", true, "s9", 95, none⟩],
    messages := [⟨"app", "m", "s1", .str "pake", .str "b", 100, .str "i"⟩,
                 ⟨"app", "other", "s9", .str "pake", .str "b", 95, .str "i"⟩],
    nextNp := 3 }

def conn1 : Conn :=
  { id := 1, app := some "app", side := some "s1", mailbox := some "m", mailboxId := some "m", listening := true }
def conn2 : Conn :=
  { id := 2, app := some "app", side := some "s2", mailbox := some "m", mailboxId := some "m", listening := true }
/-- a fresh bound connection of side s1 -/
def conn3 : Conn := { id := 3, app := some "app", side := some "s1" }

def sys0 : Sys := { db := db0, disk := db0, conns := [conn1, conn2, conn3] }
def g0 : GSys := ⟨sys0, 100, ["m", "other"]⟩

theorem g0_ginv : g0.GInv where
  cinv := ⟨by constructor <;> decide, by decide⟩
  conn := by constructor <;> decide
  synced := ⟨rfl, rfl⟩
  used := by decide
  usedConn := by decide
  clockMb := by decide

theorem g0_handleRow : g0.sys.HandleRow := by
  intro y hy mb hm
  simp only [g0, sys0, List.mem_cons, List.not_mem_nil, or_false] at hy
  rcases hy with rfl | rfl | rfl
  · cases hm; exact ⟨⟨"m", true, "s1", 100, none⟩, by decide, rfl, rfl⟩
  · cases hm; exact ⟨⟨"m", true, "s2", 100, none⟩, by decide, rfl, rfl⟩
  · cases hm

/-- s1 closes while s2 is open: hypotheses of `C08_close_spec` / `C08_close_keeps` -/
example : CloseCase g0.sys 1 conn1 (some "m") (some "happy") "app" "m" ∧
    Proceeds g0.sys conn1 "app" "m" 200 ∧ g0.sys.db.OtherOpen "m" "s1" := by
  refine ⟨⟨by decide, by decide, rfl, by decide⟩, ?_, by decide⟩
  intro hk; cases hk.1

/-- ... and the evaluated outcome: `ack, commit, closed`; s2's row, the message and the nameplate
    are still there -/
example : (g0.sys.step (.recv 1 200 (.int 5) (.close (some "m") (some "happy")))).out =
      [.frame 1 (.ack (.int 5)) true, .commit .chan, .frame 1 .closed true] ∧
    (g0.sys.step (.recv 1 200 (.int 5) (.close (some "m") (some "happy")))).db =
      { db0 with mbSides := [⟨"m", false, "s1", 100, some "happy"⟩, ⟨"m", true, "s2", 100, none⟩,
                             ⟨"other", true, "s9", 95, none⟩] } := by
  decide +kernel

/-- the state after s1's close: the start of the re-close examples -/
def sys1 : Sys :=
  { sys0 with
    db := { db0 with mbSides := [⟨"m", false, "s1", 100, some "happy"⟩, ⟨"m", true, "s2", 100, none⟩,
                                 ⟨"other", true, "s9", 95, none⟩] }
    disk := { db0 with mbSides := [⟨"m", false, "s1", 100, some "happy"⟩, ⟨"m", true, "s2", 100, none⟩,
                                 ⟨"other", true, "s9", 95, none⟩] }
    conns := [closerUpd conn1, conn2, conn3] }
def g1 : GSys := ⟨sys1, 200, ["m", "other"]⟩

theorem g1_ginv : g1.GInv where
  cinv := ⟨by constructor <;> decide, by decide⟩
  conn := by constructor <;> decide
  synced := ⟨rfl, rfl⟩
  used := by decide
  usedConn := by decide
  clockMb := by decide

/-- hypotheses of `C08_reclose_survives_partial` hold in `g1` for connection 3 (side s1 again) -/
example : g1.sys.findConn 3 = some conn3 ∧ FreshBound conn3 "app" ∧ g1.sys.db.HasBox "app" "m" ∧
    (∃ r ∈ g1.sys.db.mbSides, r.mailbox = "m" ∧ r.side = conn3.side.getD "") ∧
    g1.sys.db.OtherOpen "m" (conn3.side.getD "") ∧ (g1.sys.db.mbSidesOf "m").length ≤ 2 :=
  ⟨by decide, ⟨rfl, rfl, rfl, rfl⟩, by decide, by decide, by decide, by decide⟩

/-- **K-close-touch**: the repeated close (at t = 300) is answered `closed`, but the channel
    database is NOT what it was: `mailboxes.updated` of "m" went from 100 to 300. -/
theorem C08_reclose_touch_counterexample :
    (g1.sys.step (.recv 3 300 (.int 6) (.close (some "m") (some "happy")))).out =
      [.frame 3 (.ack (.int 6)) true, .commit .chan, .frame 3 .closed true] ∧
    (g1.sys.step (.recv 3 300 (.int 6) (.close (some "m") (some "happy")))).db ≠ g1.sys.db ∧
    (g1.sys.step (.recv 3 300 (.int 6) (.close (some "m") (some "happy")))).db =
      { g1.sys.db with mailboxes := [⟨"app", "m", 300, true⟩, ⟨"app", "other", 95, true⟩] } := by
  decide +kernel

/-- a third side s3 has touched "m" meanwhile (it was answered `crowded`, its row stays) -/
def sys2 : Sys :=
  { sys1 with
    db := { sys1.db with mbSides := sys1.db.mbSides ++ [⟨"m", true, "s3", 250, none⟩] }
    disk := { sys1.db with mbSides := sys1.db.mbSides ++ [⟨"m", true, "s3", 250, none⟩] } }
def g2 : GSys := ⟨sys2, 250, ["m", "other"]⟩

theorem g2_ginv : g2.GInv where
  cinv := ⟨by constructor <;> decide, by decide⟩
  conn := by constructor <;> decide
  synced := ⟨rfl, rfl⟩
  used := by decide
  usedConn := by decide
  clockMb := by decide

/-- **K-crowded-rejoin**: all hypotheses of `C08_reclose_survives_partial` except the guard hold in `g2`, and
    the repeated close of side s1 — one of the first two sides — is answered `crowded`, not `closed`. -/
theorem C08_reclose_crowded_counterexample :
    g2.sys.findConn 3 = some conn3 ∧ g2.sys.db.HasBox "app" "m" ∧
    (∃ r ∈ g2.sys.db.mbSides, r.mailbox = "m" ∧ r.side = conn3.side.getD "") ∧
    g2.sys.db.OtherOpen "m" (conn3.side.getD "") ∧ ¬ (g2.sys.db.mbSidesOf "m").length ≤ 2 ∧
    (g2.sys.step (.recv 3 300 (.int 6) (.close (some "m") (some "happy")))).out =
      [.frame 3 (.ack (.int 6)) true, .commit .chan, .frame 3 (.error "crowded") true] := by
  decide +kernel

/-- `C08_reclose_gone`: hypotheses hold for a name that is not in the database, and the evaluated
    step leaves the channel database as it was (three commits: the implicit open, the UPDATE of the
    side row, the deletion) -/
example : g1.sys.findConn 3 = some conn3 ∧ FreshBound conn3 "app" ∧ ¬ g1.sys.db.HasId "gone" :=
  ⟨by decide, ⟨rfl, rfl, rfl, rfl⟩, by decide⟩

example : (g1.sys.step (.recv 3 300 (.int 6) (.close (some "gone") none))).out =
      [.frame 3 (.ack (.int 6)) true, .commit .chan, .commit .chan, .commit .chan, .frame 3 .closed true] ∧
    (g1.sys.step (.recv 3 300 (.int 6) (.close (some "gone") none))).db = g1.sys.db := by
  decide +kernel

/-- `C08_close_frame` / the deleting case: s2 closes last in `g1`; mailbox "m", its two side rows,
    its message, nameplate 1 and its side row go; everything about "other" stays -/
example : CloseCase g1.sys 2 conn2 none none "app" "m" ∧ ¬ g1.sys.db.OtherOpen "m" "s2" ∧
    ¬ g1.sys.db.Clash "app" "m" :=
  ⟨⟨by decide, by decide, rfl, by decide⟩, by decide, by decide⟩

example : (g1.sys.step (.recv 2 300 (.int 7) (.close none none))).db =
      { nameplates := [⟨2, "app", "9", "other"⟩], npSides := [⟨2, true, "s9", 95⟩],
        mailboxes := [⟨"app", "other", 95, true⟩], mbSides := [⟨"other", true, "s9", 95, none⟩],
        messages := [⟨"app", "other", "s9", .str "pake", .str "b", 95, .str "i"⟩], nextNp := 3 } ∧
    (g1.sys.step (.recv 2 300 (.int 7) (.close none none))).db = g1.sys.db.dropMailbox "app" "m" := by
  decide +kernel

/-- `C08_alive_while_open`: hypotheses hold in `g0` for every non-sweep operation -/
example : g0.sys.db.HasBox "app" "m" ∧ (∃ r ∈ g0.sys.db.mbSides, r.mailbox = "m" ∧ r.opened = true) ∧
    (Op.crashIn 1 (.recv 1 200 .null (.close none none))).core.isSweep = false :=
  ⟨by decide, by decide, rfl⟩

/-- the exception of `C08_alive_while_open` is real: in `g1` side s2 is the only open side, its
    close removes the row -/
example : ¬ (g1.sys.step (.recv 2 300 (.int 7) (.close none none))).db.HasBox "app" "m" := by
  decide +kernel

end Ex

end C08
end Wormhole

#print axioms Wormhole.C08.C08_close_spec
#print axioms Wormhole.C08.C08_close_spec_reach
#print axioms Wormhole.C08.C08_close_keeps
#print axioms Wormhole.C08.C08_close_frame
#print axioms Wormhole.C08.C08_open_side_stays
#print axioms Wormhole.C08.C08_alive_while_open
#print axioms Wormhole.C08.C08_reclose_gone
#print axioms Wormhole.C08.C08_reclose_survives_partial
#print axioms Wormhole.C08.Ex.C08_reclose_touch_counterexample
#print axioms Wormhole.C08.Ex.C08_reclose_crowded_counterexample
