/-
  A small imperative language for the methods of `Mailbox` / `AppNamespace` in server.py that are straight-line code
  over SQL statements, and its meaning on the model's state.

  `harness/translate_srv.py` translates (regenerated on every run, GeneratedSrv.lean) the body of each such method:
  every `db.execute(…)` appears as the NAME the SQL translator gave that statement (GeneratedSql.lean) with its
  argument tuple translated expression by expression, so that the value bound to the i-th `?` is the value the program
  computed for the i-th expression (the data flow `row = …fetchone(); npid = row["id"]; …(npid, side)` is the
  program's, not the model's).  The meaning of a named statement is `stmtSem`: the one table that pairs a statement
  name with a primitive of Store.lean; `Tie/SrvStmts.lean` proves, entry by entry, that the primitive IS the meaning
  (Sql.lean) of the regenerated statement of that name on positional arguments.
  Also: `.fetchone()` / `.fetchall()` / `.lastrowid`, `row["col"]`, `if`, `not`, `len(rows) > n`,
  `[1 for r in rows if r["col"]]` used as a test, `db.commit()`, calls of sibling methods, `raise`, `return`.
  The registry of `Mailbox` objects (`self._mailboxes[…]`), `assert isinstance(…)` and logging are not part of the
  object-free model: the translator drops those statements and lists what it dropped in the generated file (that the
  registry is unobservable is `Reg_refines_Sys`, Props/Reg.lean; the types asserted are the model's types).
  After each definition: what it does on each form of input, in the shape a run rewrites with.
  No Mathlib; executable.
-/
import Wormhole.Core
import Wormhole.Sql
import Wormhole.PySum
import Wormhole.Tie.Lookup

namespace Wormhole
namespace PySrv
open Wormhole.Sql

/-- a fetched row (a dict, by `dict_factory` of database.py) -/
inductive RowV where
  | np (r : Nameplate)
  | nps (r : NpSide)
  | mb (r : MailboxRow)
  | mbs (r : MbSide)
  | msg (r : Message)
  | app (a : String)            -- a row of `SELECT DISTINCT app_id FROM …`
  | name (n : String)           -- a row of `SELECT DISTINCT name FROM nameplates …`
  deriving Repr, DecidableEq

/-- the dict: column name -> value -/
def RowV.toRow : RowV → Row
  | .np r => r.toRow
  | .nps r => r.toRow
  | .mb r => r.toRow
  | .mbs r => r.toRow
  | .msg r => r.toRow
  | .app a => [("app_id", .text a)]
  | .name n => [("name", .text n)]

inductive SV where
  | none
  | bool (b : Bool)
  | str (s : String)
  | int (i : Int)
  | val (v : Val)               -- a JSON scalar of a client message (phase / body / msg_id)
  | msg (side : String) (phase body : Val) (rx : Int) (id : Val)   -- a SidedMessage
  | row (r : RowV)
  | rows (l : List RowV)
  | usage (fields : List (String × PySum.SV))   -- a `Usage(started=…, …)` namedtuple
  | cv (impl version : Option String)           -- the `client_version` pair of a `bind`
  | msgs (l : List (String × Val × Val × Int × Val))   -- a list of SidedMessage (side, phase, body, server_rx, msg_id)
  | strs (l : List String)                      -- a Python set of strings, as the list of what was added (duplicates kept)
  | appRef (a : String)                         -- the AppNamespace of app `a` (`self.get_app(a)`)
  deriving Repr, DecidableEq

def SV.ofCell : Cell → SV
  | .null => .none
  | .int i => .int i
  | .text s => .str s
  | .bool b => .bool b

/-- the value sqlite3 binds for a Python value -/
def SV.toCell : SV → Cell
  | .none => .null
  | .bool b => .bool b
  | .str s => .text s
  | .int i => .int i
  | .val v => ofVal v
  | .msg .. => .null
  | .row _ => .null
  | .rows _ => .null
  | .usage _ => .null
  | .cv .. => .null
  | .msgs _ => .null
  | .strs _ => .null
  | .appRef _ => .null

inductive XE where
  | none_ | true_ | false_
  | int (i : Int)
  | param (p : String)                 -- a parameter of the method
  | msgField (e : XE) (f : String)     -- sm.side / sm.phase / … of a SidedMessage
  | attr (e : XE) (f : String)         -- u.started / u.result / … of a Usage
  | index (e : XE) (i : Nat)           -- client_version[0] / client_version[1]
  | mul (a b : XE)
  /-- `sum(app.count_listeners() for app in self._apps.values())` (Server.dump_stats): the subscribed connections -/
  | listenerCount
  /-- `self.get_app(e)`: the namespace of that app (the registry of namespaces is Reg.lean's) -/
  | appObj (e : XE)
  /-- `[]` returned as an (empty) collection of names -/
  | emptyStrs
  /-- `set([row["col"] for row in rows])` -/
  | colSet (e : XE) (col : String)
  /-- `SidedMessage(side=…, phase=…, body=…, server_rx=…, msg_id=…)` -/
  | mkMsg (side phase body rx id : XE)
  | floordiv (a b : XE)
  | var (v : String)                   -- a local
  | selfAttr (a : String)              -- self._app_id / self._mailbox_id / self._usage_db
  | field (e : XE) (col : String)      -- e["col"]
  | not_ (e : XE)
  | len (e : XE)
  | gt (a b : XE)
  | filterField (e : XE) (col : String)  -- [… for r in e if r["col"]]  (only its truthiness is used)
  | anyField (e : XE) (col : String)     -- any([r["col"] for r in e])
  | freshMailboxId                     -- generate_mailbox_id()
  | mailboxObj (e : XE)                -- self._mailboxes[e]: the object IS its id in the object-free model
  deriving Repr

inductive Fetch where
  | one | all | lastrowid | nothing
  deriving Repr, DecidableEq

inductive XS where
  | assign (v : String) (e : XE)
  | exec (into : Option String) (fetch : Fetch) (stmt : String) (args : List XE)
  | if_ (c : XE) (t e : List XS)
  /-- `[v =] <target>.<meth>(args)`: a sibling method; `target` = the Mailbox object a method of Mailbox is called on -/
  | call (into : Option String) (meth : String) (target : Option XE) (args : List XE)
  /-- `for v in X.execute(stmt, args).fetchall(): body` -/
  | forExec (v : String) (stmt : String) (args : List XE) (body : List XS)
  /-- `v = set()` -/
  | setNew (v : String)
  /-- `v.add(e)` -/
  | setAdd (v : String) (e : XE)
  /-- `for v in sorted(self.<meth>(args)): body` over a set of strings: distinct elements, in `≤` order -/
  | forSortedCall (v : String) (meth : String) (args : List XE) (body : List XS)
  /-- `v = []` -/
  | listNew (v : String)
  /-- `v.append(e)` -/
  | listAppend (v : String) (e : XE)
  /-- `for (send_f, stop_f) in self._listeners.values(): stop_f()` + `self._listeners = {}` (Mailbox.close) -/
  | stopListeners
  | commit
  | ucommit
  | raise_ (cls : String)
  | ret (e : XE)
  deriving Repr

mutual
/-- the statement names a statement mentions -/
def XS.stmts : XS → List String
  | .exec _ _ n _ => [n]
  | .if_ _ t e => XS.stmtsL t ++ XS.stmtsL e
  | .forExec _ n _ b => n :: XS.stmtsL b
  | .forSortedCall _ _ _ b => XS.stmtsL b
  | _ => []
def XS.stmtsL : List XS → List String
  | [] => []
  | x :: r => x.stmts ++ XS.stmtsL r
end

mutual
/-- the methods a statement calls -/
def XS.calls : XS → List String
  | .call _ m _ _ => [m]
  | .if_ _ t e => XS.callsL t ++ XS.callsL e
  | .forExec _ _ _ b => XS.callsL b
  | .forSortedCall _ m _ b => m :: XS.callsL b
  | _ => []
def XS.callsL : List XS → List String
  | [] => []
  | x :: r => x.calls ++ XS.callsL r
end

structure Method where
  params : List String
  body : List XS
  deriving Repr

/-- the object a method runs on and the inputs of the step -/
structure Ctx where
  app : String
  mailbox : String := ""      -- `self._mailbox_id` (methods of Mailbox)
  fresh : String := ""        -- what `generate_mailbox_id()` returns
  pick : Nat := 0             -- resolves `random.choice` in `_find_available_nameplate_id`
  draws : List Nat := []      -- the results of `random.randrange` there
  params : List (String × SV) := []

abbrev Env := List (String × SV)

def truthy : SV → Bool
  | .none => false
  | .bool b => b
  | .str s => s ≠ ""
  | .int i => i ≠ 0
  | .val v => (match v with | .null => false | .str s => s ≠ "" | .int i => i ≠ 0)
  | .msg .. => true
  | .row r => !r.toRow.isEmpty
  | .rows l => !l.isEmpty
  | .usage _ => true
  | .cv .. => true
  | .msgs l => !l.isEmpty
  | .strs l => !l.isEmpty
  | .appRef _ => true

/-- a stored scalar (NULL / text / integer) read back from a row -/
def svVal : SV → Option Val
  | .none => some .null
  | .str x => some (.str x)
  | .int i => some (.int i)
  | .val v => some v
  | _ => Option.none

def optStrSV : Option String → SV
  | some x => .str x
  | Option.none => .none

/-- a string-or-None value -/
def optOfSV : SV → Option (Option String)
  | .none => some Option.none
  | .str x => some (some x)
  | _ => Option.none

@[simp] theorem optOfSV_optStrSV (o : Option String) : optOfSV (optStrSV o) = some o := by cases o <;> rfl

/-- a field of a `Usage` as a Python value -/
def ofSummV : PySum.SV → SV
  | .none => .none
  | .int i => .int i
  | .str s => .str s
  | .bool b => .bool b
  | _ => .none

def rowField (r : RowV) (col : String) : SV := SV.ofCell (r.toRow.get col)

/-- `row[col]` when it is a string -/
def strOfField (col : String) (r : RowV) : Option String :=
  match rowField r col with
  | .str a => some a
  | _ => Option.none

/-- `a = k`, not `a == k`: between literals `simp` decides it from the first differing character; `==` the kernel
    evaluates on both strings -/
@[simp high] theorem lookup_cons_str {β} (a k : String) (b : β) (es : List (String × β)) :
    List.lookup a ((k, b) :: es) = if a = k then some b else List.lookup a es :=
  Tie.lookup_cons_eq a k b es

/-! The columns the translated bodies read. -/
section columns
attribute [local simp] rowField RowV.toRow Row.get SV.ofCell Nameplate.toRow NpSide.toRow MailboxRow.toRow MbSide.toRow
  Message.toRow

@[simp] theorem rowField_np_id (r : Nameplate) : rowField (.np r) "id" = .int r.id := by simp
@[simp] theorem rowField_np_mailbox_id (r : Nameplate) : rowField (.np r) "mailbox_id" = .str r.mailbox := by simp
@[simp] theorem rowField_nps_claimed (r : NpSide) : rowField (.nps r) "claimed" = .bool r.claimed := by simp
@[simp] theorem rowField_mb_for_nameplate (r : MailboxRow) : rowField (.mb r) "for_nameplate" = .bool r.forNp := by simp
@[simp] theorem rowField_mbs_opened (r : MbSide) : rowField (.mbs r) "opened" = .bool r.opened := by simp
@[simp] theorem rowField_msg_side (r : Message) : rowField (.msg r) "side" = .str r.side := by simp
@[simp] theorem rowField_msg_phase (r : Message) : rowField (.msg r) "phase" = .ofCell (ofVal r.phase) := by simp
@[simp] theorem rowField_msg_body (r : Message) : rowField (.msg r) "body" = .ofCell (ofVal r.body) := by simp
@[simp] theorem rowField_msg_server_rx (r : Message) : rowField (.msg r) "server_rx" = .int r.rx := by simp
@[simp] theorem rowField_msg_msg_id (r : Message) : rowField (.msg r) "msg_id" = .ofCell (ofVal r.msgId) := by simp
@[simp] theorem rowField_app_app_id (a : String) : rowField (.app a) "app_id" = .str a := by simp

end columns

@[simp] theorem strOfField_name (n : String) : strOfField "name" (.name n) = some n := rfl

@[simp] theorem svVal_ofCell_ofVal (v : Val) : svVal (SV.ofCell (ofVal v)) = some v := by
  cases v <;> rfl

@[simp] theorem truthy_none : truthy .none = false := rfl

@[simp] theorem truthy_bool (b : Bool) : truthy (.bool b) = b := rfl

/-- a fetched row is never an empty dict -/
@[simp] theorem truthy_row (r : RowV) : truthy (.row r) = true := by
  cases r <;> rfl

def eval (ctx : Ctx) (s : Sys) (env : Env) : XE → SV
  | .none_ => .none
  | .true_ => .bool true
  | .false_ => .bool false
  | .int i => .int i
  | .param p => (ctx.params.lookup p).getD .none
  | .var v => (env.lookup v).getD .none
  | .selfAttr a =>
    if a = "_app_id" then .str ctx.app else if a = "_mailbox_id" then .str ctx.mailbox
    else if a = "_usage_db" then .bool s.cfg.usage
    else if a = "_allow_list" then .bool s.cfg.allowList
    else if a = "_blur_usage" then (match s.blurTicks with | some B => .int B | Option.none => .none)   -- in ticks, like the times
    -- `Server._blur_usage` as `dump_stats` STORES it (seconds, no arithmetic with times)
    else if a = "_blur_usage_raw" then (match s.cfg.blur with | some b => .int b | Option.none => .none)
    else .none
  | .msgField e f => (match eval ctx s env e with
    | .msg side phase body rx id =>
      if f = "side" then .str side else if f = "phase" then .val phase else if f = "body" then .val body
      else if f = "server_rx" then .int rx else if f = "msg_id" then .val id else .none
    | _ => .none)
  | .index e i => (match eval ctx s env e with
    | .cv impl version => if i = 0 then optStrSV impl else if i = 1 then optStrSV version else .none
    | _ => .none)
  | .listenerCount => .int ((s.conns.filter (·.listening)).length : Nat)
  | .appObj e => (match eval ctx s env e with | .str a => .appRef a | _ => .none)
  | .emptyStrs => .strs []
  | .colSet e col => (match eval ctx s env e with
    | .rows l => .strs (l.filterMap (strOfField col))
    | _ => .none)
  | .mkMsg side phase body rx id =>
    (match eval ctx s env side, svVal (eval ctx s env phase), svVal (eval ctx s env body), eval ctx s env rx,
        svVal (eval ctx s env id) with
     | .str sd, some p, some b, .int t, some i => .msg sd p b t i
     | _, _, _, _, _ => .none)
  | .mul a b => (match eval ctx s env a, eval ctx s env b with
    | .int x, .int y => .int (x * y)
    | _, _ => .none)
  | .floordiv a b => (match eval ctx s env a, eval ctx s env b with
    | .int x, .int y => .int (x / y)
    | _, _ => .none)
  | .attr e f => (match eval ctx s env e with
    | .usage u => (match u.lookup f with | some v => ofSummV v | Option.none => .none)
    | _ => .none)
  | .field e col => match eval ctx s env e with
    | .row r => rowField r col
    | _ => .none
  | .not_ e => .bool (!truthy (eval ctx s env e))
  | .len e => match eval ctx s env e with
    | .rows l => .int l.length
    | _ => .none
  | .gt a b => match eval ctx s env a, eval ctx s env b with
    | .int x, .int y => .bool (decide (x > y))
    | _, _ => .none
  | .filterField e col => match eval ctx s env e with
    | .rows l => .rows (l.filter (fun r => truthy (rowField r col)))
    | _ => .none
  | .anyField e col => match eval ctx s env e with
    | .rows l => .bool (l.any (fun r => truthy (rowField r col)))
    | _ => .none
  | .freshMailboxId => .str ctx.fresh
  | .mailboxObj e => eval ctx s env e

/-- what a statement / a call gives back -/
inductive ExecRes where
  | ok (s : Sys) (v : SV)
  | raised (s : Sys) (cls : String)

def optRow (f : α → RowV) (o : Option α) : SV := match o with | some r => .row (f r) | Option.none => .none

def asNat (i : Int) : Nat := i.toNat

@[simp] theorem asNat_natCast (n : Nat) : asNat (n : Int) = n := by simp [asNat]

/-- the INSERT of `log_client_version` -/
def logClientStmt (s : Sys) (args : List SV) : ExecRes :=
  match args with
  | [.str app, .str side, .int t, i, v] =>
    (match optOfSV i, optOfSV v with
     | some impl, some version =>
       .ok (s.modUdb (fun d => { d with clients := d.clients ++ [⟨app, side, t, impl, version⟩] })) .none
     | _, _ => .raised s "TypeError")
  | _ => .raised s "TypeError"

/-- the SELECT of `get_messages`: the stored messages of the mailbox in `server_rx` order -/
def getMessagesStmt (s : Sys) (args : List SV) : ExecRes :=
  match args with
  | [.str app, .str mb] =>
    .ok s (.rows (((s.db.messagesOf app mb).mergeSort (fun a b => decide (a.rx ≤ b.rx))).map .msg))
  | _ => .raised s "TypeError"

/-- `SELECT DISTINCT app_id FROM <table>` (`col` = that table's app_id column) -/
def allAppsStmt (s : Sys) (col : List String) (args : List SV) : ExecRes :=
  match args with
  | [] => .ok s (.rows (col.eraseDups.map .app))
  | _ => .raised s "TypeError"

/-- `SELECT DISTINCT name FROM nameplates WHERE app_id=?` -/
def namesStmt (s : Sys) (args : List SV) : ExecRes :=
  match args with
  | [.str app] => .ok s (.rows ((s.db.namesOfApp app).map .name))
  | _ => .raised s "TypeError"

/-- `DELETE FROM current` -/
def dumpDeleteStmt (s : Sys) (args : List SV) : ExecRes :=
  match args with
  | [] => .ok (s.modUdb (fun d => { d with current := [] })) .none
  | _ => .raised s "TypeError"

def optNatOfSV : SV → Option (Option Nat)
  | .none => some Option.none
  | .int i => some (some (asNat i))
  | _ => Option.none

/-- the INSERT of the one status row -/
def dumpInsertStmt (s : Sys) (args : List SV) : ExecRes :=
  match args with
  | [.int rebooted, .int now, b, .int k] =>
    (match optNatOfSV b with
     | some blur => .ok (s.modUdb (fun d => { d with current := d.current ++ [⟨rebooted, now, blur, asNat k⟩] })) .none
     | Option.none => .raised s "TypeError")
  | _ => .raised s "TypeError"

/-- **the statement table**: the model primitive (Store.lean) each named statement of server.py is; a SELECT gives its
    row(s) (`fetchone()` of an empty result is `None`), an INSERT its `lastrowid` where the program uses it.
    `Tie/SrvStmts.lean`: entry by entry, primitive = meaning of the regenerated SQL of that name. -/
def stmtSem (s : Sys) (stmt : String) (args : List SV) : ExecRes :=
  -- Mailbox.open
  if stmt = "Mailbox_open__select_mailbox_sides_0" then
    (match args with | [.str mb, .str side] => .ok s (optRow .mbs (s.db.findMbSide mb side)) | _ => .raised s "TypeError")
  else if stmt = "Mailbox_open__insert_mailbox_sides_0" then
    (match args with
     | [.str mb, .bool op, .str side, .int t] => .ok (s.modDb (·.insMbSide ⟨mb, op, side, t, Option.none⟩)) .none
     | _ => .raised s "TypeError")
  else if stmt = "Mailbox__touch__update_mailboxes_0" then
    (match args with | [.int t, .str mb] => .ok (s.modDb (·.touch mb t)) .none | _ => .raised s "TypeError")
  else if stmt = "Mailbox__add_message__insert_messages_0" then
    (match args with
     | [.str app, .str mb, .str side, .val phase, .val body, .int t, .val id] =>
       .ok (s.modDb (·.insMessage ⟨app, mb, side, phase.toText, body.toText, t, id.toText⟩)) .none
     | _ => .raised s "TypeError")
  -- AppNamespace._add_mailbox
  else if stmt = "AppNamespace__add_mailbox__select_mailboxes_0" then
    (match args with | [.str app, .str mb] => .ok s (optRow .mb (s.db.findMailbox app mb)) | _ => .raised s "TypeError")
  else if stmt = "AppNamespace__add_mailbox__insert_mailboxes_0" then
    (match args with
     | [.str app, .str mb, .bool forNp, .int t] =>
       -- `mailboxes.id` is the PRIMARY KEY: SQLite refuses an id that exists (under another app); constraints are
       -- not part of Sql.lean, this branch is the model's (finding K-global-mailbox-id, dynamic tie)
       (match s.db.findMailboxById mb with
        | some _ => .raised s "IntegrityError"
        | Option.none => .ok (s.modDb (·.insMailbox ⟨app, mb, t, forNp⟩)) .none)
     | _ => .raised s "TypeError")
  -- AppNamespace.open_mailbox
  else if stmt = "AppNamespace_open_mailbox__select_mailbox_sides_0" then
    (match args with | [.str mb] => .ok s (.rows ((s.db.mbSidesOf mb).map .mbs)) | _ => .raised s "TypeError")
  -- AppNamespace.claim_nameplate
  else if stmt = "AppNamespace_claim_nameplate__select_nameplates_0" then
    (match args with | [.str app, .str name] => .ok s (optRow .np (s.db.findNameplate app name)) | _ => .raised s "TypeError")
  else if stmt = "AppNamespace_claim_nameplate__insert_nameplates_0" then
    (match args with
     | [.str app, .str name, .str mb] => .ok (s.modDb (·.insNameplate app name mb)) (.int s.db.nextNp)
     | _ => .raised s "TypeError")
  else if stmt = "AppNamespace_claim_nameplate__select_nameplate_sides_0" then
    (match args with
     | [.int npid, .str side] => .ok s (optRow .nps (s.db.findNpSide (asNat npid) side))
     | _ => .raised s "TypeError")
  else if stmt = "AppNamespace_claim_nameplate__insert_nameplate_sides_0" then
    (match args with
     | [.int npid, .bool cl, .str side, .int t] => .ok (s.modDb (·.insNpSide ⟨asNat npid, cl, side, t⟩)) .none
     | _ => .raised s "TypeError")
  else if stmt = "AppNamespace_claim_nameplate__select_nameplate_sides_1" then
    (match args with | [.int npid] => .ok s (.rows ((s.db.npSidesOf (asNat npid)).map .nps)) | _ => .raised s "TypeError")
  -- AppNamespace.release_nameplate
  else if stmt = "AppNamespace_release_nameplate__select_nameplates_0" then
    (match args with | [.str app, .str name] => .ok s (optRow .np (s.db.findNameplate app name)) | _ => .raised s "TypeError")
  else if stmt = "AppNamespace_release_nameplate__select_nameplate_sides_0" then
    (match args with
     | [.int npid, .str side] => .ok s (optRow .nps (s.db.findNpSide (asNat npid) side))
     | _ => .raised s "TypeError")
  else if stmt = "AppNamespace_release_nameplate__update_nameplate_sides_0" then
    (match args with
     | [.bool false, .int npid, .str side] => .ok (s.modDb (·.unclaim (asNat npid) side)) .none
     | _ => .raised s "TypeError")
  else if stmt = "AppNamespace_release_nameplate__select_nameplate_sides_1" then
    (match args with | [.int npid] => .ok s (.rows ((s.db.npSidesOf (asNat npid)).map .nps)) | _ => .raised s "TypeError")
  else if stmt = "AppNamespace_release_nameplate__delete_nameplate_sides_0" then
    (match args with | [.int npid] => .ok (s.modDb (·.delNpSidesOf (asNat npid))) .none | _ => .raised s "TypeError")
  else if stmt = "AppNamespace_release_nameplate__delete_nameplates_0" then
    (match args with | [.int npid] => .ok (s.modDb (·.delNameplate (asNat npid))) .none | _ => .raised s "TypeError")
  -- Mailbox.close
  else if stmt = "Mailbox_close__select_mailboxes_0" then
    (match args with | [.str app, .str mb] => .ok s (optRow .mb (s.db.findMailbox app mb)) | _ => .raised s "TypeError")
  else if stmt = "Mailbox_close__select_mailbox_sides_0" then
    (match args with | [.str mb, .str side] => .ok s (optRow .mbs (s.db.findMbSide mb side)) | _ => .raised s "TypeError")
  else if stmt = "Mailbox_close__update_mailbox_sides_0" then
    (match args with
     | [.bool false, .none, .str mb, .str side] => .ok (s.modDb (·.closeSide mb side Option.none)) .none
     | [.bool false, .str mood, .str mb, .str side] => .ok (s.modDb (·.closeSide mb side (some mood))) .none
     | _ => .raised s "TypeError")
  else if stmt = "Mailbox_close__select_mailbox_sides_1" then
    (match args with | [.str mb] => .ok s (.rows ((s.db.mbSidesOf mb).map .mbs)) | _ => .raised s "TypeError")
  else if stmt = "Mailbox_close__select_nameplates_0" then
    (match args with
     | [.str app, .str mb] => .ok s (.rows ((s.db.nameplatesOfMailbox app mb).map .np))
     | _ => .raised s "TypeError")
  else if stmt = "Mailbox_close__select_nameplate_sides_0" then
    (match args with | [.int npid] => .ok s (.rows ((s.db.npSidesOf (asNat npid)).map .nps)) | _ => .raised s "TypeError")
  else if stmt = "Mailbox_close__delete_nameplate_sides_0" then
    (match args with | [.str app, .str mb] => .ok (s.modDb (·.delNpSidesOfMailbox app mb)) .none | _ => .raised s "TypeError")
  else if stmt = "Mailbox_close__delete_nameplates_0" then
    (match args with | [.str app, .str mb] => .ok (s.modDb (·.delNameplatesOfMailbox app mb)) .none | _ => .raised s "TypeError")
  else if stmt = "Mailbox_close__delete_messages_0" then
    (match args with | [.str mb] => .ok (s.modDb (·.delMessagesOf mb)) .none | _ => .raised s "TypeError")
  else if stmt = "Mailbox_close__delete_mailbox_sides_0" then
    (match args with | [.str mb] => .ok (s.modDb (·.delMbSidesOf mb)) .none | _ => .raised s "TypeError")
  else if stmt = "Mailbox_close__delete_mailboxes_0" then
    (match args with | [.str mb] => .ok (s.modDb (·.delMailbox mb)) .none | _ => .raised s "TypeError")
  -- the usage database (`_summarize_*_and_store`)
  else if stmt = "AppNamespace__summarize_nameplate_and_store__insert_nameplates_0" then
    (match args with
     | [.str app, .int started, .int total, .none, .str result] =>
       .ok (s.modUdb (fun d => { d with nameplates := d.nameplates ++ [⟨app, started, Option.none, total, result⟩] })) .none
     | [.str app, .int started, .int total, .int w, .str result] =>
       .ok (s.modUdb (fun d => { d with nameplates := d.nameplates ++ [⟨app, started, some w, total, result⟩] })) .none
     | _ => .raised s "TypeError")
  else if stmt = "AppNamespace__summarize_mailbox_and_store__insert_mailboxes_0" then
    (match args with
     | [.str app, .bool forNp, .int started, .int total, .none, .str result] =>
       .ok (s.modUdb (fun d => { d with mailboxes := d.mailboxes ++ [⟨app, forNp, started, total, Option.none, result⟩] })) .none
     | [.str app, .bool forNp, .int started, .int total, .int w, .str result] =>
       .ok (s.modUdb (fun d => { d with mailboxes := d.mailboxes ++ [⟨app, forNp, started, total, some w, result⟩] })) .none
     | _ => .raised s "TypeError")
  else if stmt = "AppNamespace_log_client_version__insert_client_versions_0" then logClientStmt s args
  else if stmt = "Mailbox_get_messages__select_messages_0" then getMessagesStmt s args
  else if stmt = "Server_get_all_apps__select_nameplates_0" then allAppsStmt s (s.db.nameplates.map (·.app)) args
  else if stmt = "Server_get_all_apps__select_mailboxes_0" then allAppsStmt s (s.db.mailboxes.map (·.app)) args
  else if stmt = "Server_get_all_apps__select_messages_0" then allAppsStmt s (s.db.messages.map (·.app)) args
  else if stmt = "AppNamespace__get_nameplate_ids__select_nameplates_0" then namesStmt s args
  else if stmt = "Server_dump_stats__delete_current_0" then dumpDeleteStmt s args
  else if stmt = "Server_dump_stats__insert_current_0" then dumpInsertStmt s args
  else .raised s "NotInTable"

/-! An entry is looked up by `stmtSem.eq_def` (not `stmtSem`: Lean would first derive an equation for every path
    through the table); the entries that are named functions, the last ones, are stated and apply first: -/
attribute [simp low] stmtSem.eq_def

section entries
variable (s : Sys) (args : List SV)

@[simp] theorem stmtSem_log_client_version :
    stmtSem s "AppNamespace_log_client_version__insert_client_versions_0" args = logClientStmt s args := by
  simp

@[simp] theorem stmtSem_get_messages : stmtSem s "Mailbox_get_messages__select_messages_0" args = getMessagesStmt s args := by
  simp

@[simp] theorem stmtSem_all_np :
    stmtSem s "Server_get_all_apps__select_nameplates_0" args = allAppsStmt s (s.db.nameplates.map (·.app)) args := by
  simp

@[simp] theorem stmtSem_all_mb :
    stmtSem s "Server_get_all_apps__select_mailboxes_0" args = allAppsStmt s (s.db.mailboxes.map (·.app)) args := by
  simp

@[simp] theorem stmtSem_all_msg :
    stmtSem s "Server_get_all_apps__select_messages_0" args = allAppsStmt s (s.db.messages.map (·.app)) args := by
  simp

@[simp] theorem stmtSem_names :
    stmtSem s "AppNamespace__get_nameplate_ids__select_nameplates_0" args = namesStmt s args := by
  simp

@[simp] theorem stmtSem_dump_delete : stmtSem s "Server_dump_stats__delete_current_0" args = dumpDeleteStmt s args := by
  simp

@[simp] theorem stmtSem_dump_insert : stmtSem s "Server_dump_stats__insert_current_0" args = dumpInsertStmt s args := by
  simp

end entries

/-- what `cursor.<fetch>` of a statement's result is -/
def fetched (f : Fetch) (v : SV) : SV :=
  match f with
  | .nothing => .none
  | _ => v

structure St where
  s : Sys
  env : Env

inductive Res where
  | normal (st : St)
  | ret (s : Sys) (v : SV)
  | exc (s : Sys) (cls : String)

def setVar (env : Env) (v : String) (x : SV) : Env := (v, x) :: env.filter (fun p => p.1 ≠ v)

theorem lookup_filter_ne (env : Env) (v w : String) (h : w ≠ v) :
    List.lookup w (env.filter (fun p => p.1 ≠ v)) = List.lookup w env := by
  induction env with
  | nil => rfl
  | cons p rest ih =>
    obtain ⟨k, x⟩ := p
    by_cases hk : k = v
    · subst hk; simpa [List.filter, h] using ih
    · by_cases hw : w = k
      · simp [List.filter, hk, hw]
      · simpa [List.filter, hk, hw] using ih

@[simp] theorem lookup_setVar_ne (env : Env) (v w : String) (x : SV) (h : w ≠ v) :
    (setVar env v x).lookup w = env.lookup w := by
  have h1 : (w == v) = false := by simpa using h
  simp only [setVar, List.lookup, h1]
  exact lookup_filter_ne env v w h

@[simp] theorem lookup_setVar_eq (env : Env) (v : String) (x : SV) : (setVar env v x).lookup v = some x := by
  simp [setVar]

def bindInto (st : St) (into : Option String) (s : Sys) (v : SV) : St :=
  match into with
  | some x => ⟨s, setVar st.env x v⟩
  | Option.none => ⟨s, st.env⟩

/-- how calls of sibling methods are resolved: method name, the context of the callee (`self` of the callee: the
    caller's, or the Mailbox object the method is called on), argument values -/
abbrev Callee := String → Ctx → List SV → Sys → ExecRes

/-- `self` of the callee -/
def calleeCtx (ctx : Ctx) (target : Option SV) : Ctx :=
  match target with
  | some (.str m) => { ctx with mailbox := m }
  | some (.appRef a) => { ctx with app := a }
  | _ => ctx

/-- one iteration of a `for` loop (`run` = the loop body): an exception or a `return` ends the loop -/
def loopStepWith (run : St → Res) (v : String) (acc : Res) (r : RowV) : Res :=
  match acc with
  | .normal st' => run ⟨st'.s, setVar st'.env v (.row r)⟩
  | other => other

def loopStepStr (run : St → Res) (v : String) (acc : Res) (a : String) : Res :=
  match acc with
  | .normal st' => run ⟨st'.s, setVar st'.env v (.str a)⟩
  | other => other

/-- the elements of a set of strings in the order `sorted()` gives -/
def sortedSet (l : List String) : List String := l.eraseDups.mergeSort (fun a b => decide (a ≤ b))

mutual
def execS (callee : Callee) (ctx : Ctx) : XS → St → Res
  | .assign v e, st => .normal ⟨st.s, setVar st.env v (eval ctx st.s st.env e)⟩
  | .exec into f stmt args, st =>
    (match stmtSem st.s stmt (args.map (eval ctx st.s st.env)) with
     | .ok s v => .normal (bindInto st into s (fetched f v))
     | .raised s cls => .exc s cls)
  | .if_ c t e, st => if truthy (eval ctx st.s st.env c) then execL callee ctx t st else execL callee ctx e st
  | .call into meth target args, st =>
    (match callee meth (calleeCtx ctx (target.map (eval ctx st.s st.env))) (args.map (eval ctx st.s st.env)) st.s with
     | .ok s v => .normal (bindInto st into s v)
     | .raised s cls => .exc s cls)
  | .forExec v stmt args body, st =>
    (match stmtSem st.s stmt (args.map (eval ctx st.s st.env)) with
     | .ok s (.rows l) =>
       l.foldl (loopStepWith (execL callee ctx body) v) (.normal ⟨s, st.env⟩)
     | .ok s _ => .exc s "TypeError"
     | .raised s cls => .exc s cls)
  | .setNew v, st => .normal ⟨st.s, setVar st.env v (.strs [])⟩
  | .setAdd v e, st =>
    (match (st.env.lookup v).getD .none, eval ctx st.s st.env e with
     | .strs l, .str a => .normal ⟨st.s, setVar st.env v (.strs (l ++ [a]))⟩
     | _, _ => .exc st.s "TypeError")
  | .forSortedCall v meth args body, st =>
    (match callee meth ctx (args.map (eval ctx st.s st.env)) st.s with
     | .ok s (.strs l) => (sortedSet l).foldl (loopStepStr (execL callee ctx body) v) (.normal ⟨s, st.env⟩)
     | .ok s _ => .exc s "TypeError"
     | .raised s cls => .exc s cls)
  | .listNew v, st => .normal ⟨st.s, setVar st.env v (.msgs [])⟩
  | .listAppend v e, st =>
    (match (st.env.lookup v).getD .none, eval ctx st.s st.env e with
     | .msgs l, .msg sd p b t i => .normal ⟨st.s, setVar st.env v (.msgs (l ++ [(sd, p, b, t, i)]))⟩
     | _, _ => .exc st.s "TypeError")
  | .stopListeners, st => .normal ⟨st.s.stopListeners ctx.app ctx.mailbox, st.env⟩
  | .commit, st => .normal ⟨st.s.commit, st.env⟩
  | .ucommit, st => .normal ⟨st.s.ucommit, st.env⟩
  | .raise_ cls, st => .exc st.s cls
  | .ret e, st => .ret st.s (eval ctx st.s st.env e)
def execL (callee : Callee) (ctx : Ctx) : List XS → St → Res
  | [], st => .normal st
  | x :: rest, st =>
    (match execS callee ctx x st with
     | .normal st' => execL callee ctx rest st'
     | r => r)
end

/-! Running a body.  Constructs that only compute unfold by `execS`'s equations.  Those that look something up
    (statement table, callee, loop), and `execL`, are restated on `⟨s, env⟩` as propositions (`↓`: applied first):
    a silent step at the head of `match stmtSem s "…" … with …` makes the kernel compare such terms up to unfolding,
    which it does by EVALUATING the table, string comparisons included. -/
attribute [simp] eval execS bindInto fetched optRow

section steps
variable (c : Callee) (ctx : Ctx) (s : Sys) (env : Env)

@[simp] theorem execL_nil (st : St) : execL c ctx [] st = .normal st := by rw [execL]

@[simp high] theorem execL_singleton (x : XS) : execL c ctx [x] ⟨s, env⟩ = execS c ctx x ⟨s, env⟩ := by
  rw [execL]
  cases execS c ctx x ⟨s, env⟩ <;> simp only [execL_nil]

/-- (not on a variable state: it would rewrite under a `match` that is still stuck) -/
@[simp] theorem execL_cons (x : XS) (rest : List XS) :
    execL c ctx (x :: rest) ⟨s, env⟩ = (match execS c ctx x ⟨s, env⟩ with
      | .normal st' => execL c ctx rest st'
      | r => r) := by
  rw [execL]

@[simp ↓] theorem execS_exec (into : Option String) (f : Fetch) (stmt : String) (args : List XE) :
    execS c ctx (.exec into f stmt args) ⟨s, env⟩ =
      (match stmtSem s stmt (args.map (eval ctx s env)) with
       | .ok s' v => .normal (bindInto ⟨s, env⟩ into s' (fetched f v))
       | .raised s' cls => .exc s' cls) := by
  rw [execS]

@[simp ↓] theorem execS_call_self (into : Option String) (meth : String) (args : List XE) :
    execS c ctx (.call into meth Option.none args) ⟨s, env⟩ =
      (match c meth ctx (args.map (eval ctx s env)) s with
       | .ok s' v => .normal (bindInto ⟨s, env⟩ into s' v)
       | .raised s' cls => .exc s' cls) := by
  rw [execS]; rfl

@[simp ↓] theorem execS_call_on (into : Option String) (meth : String) (target : XE) (args : List XE) :
    execS c ctx (.call into meth (some target) args) ⟨s, env⟩ =
      (match c meth (calleeCtx ctx (some (eval ctx s env target))) (args.map (eval ctx s env)) s with
       | .ok s' v => .normal (bindInto ⟨s, env⟩ into s' v)
       | .raised s' cls => .exc s' cls) := by
  rw [execS]; rfl

@[simp] theorem calleeCtx_str (m : String) : calleeCtx ctx (some (.str m)) = { ctx with mailbox := m } := by
  rw [calleeCtx]

@[simp] theorem calleeCtx_appRef (a : String) : calleeCtx ctx (some (.appRef a)) = { ctx with app := a } := by
  rw [calleeCtx]

@[simp ↓] theorem execS_forExec (v stmt : String) (args : List XE) (body : List XS) :
    execS c ctx (.forExec v stmt args body) ⟨s, env⟩ =
      (match stmtSem s stmt (args.map (eval ctx s env)) with
       | .ok s' (.rows l) => l.foldl (loopStepWith (execL c ctx body) v) (.normal ⟨s', env⟩)
       | .ok s' _ => .exc s' "TypeError"
       | .raised s' cls => .exc s' cls) := by
  rw [execS]

@[simp ↓] theorem execS_forSortedCall (v meth : String) (args : List XE) (body : List XS) :
    execS c ctx (.forSortedCall v meth args body) ⟨s, env⟩ =
      (match c meth ctx (args.map (eval ctx s env)) s with
       | .ok s' (.strs l) => (sortedSet l).foldl (loopStepStr (execL c ctx body) v) (.normal ⟨s', env⟩)
       | .ok s' _ => .exc s' "TypeError"
       | .raised s' cls => .exc s' cls) := by
  rw [execS]

@[simp] theorem loopStepWith_normal (run : St → Res) (v : String) (r : RowV) :
    loopStepWith run v (.normal ⟨s, env⟩) r = run ⟨s, setVar env v (.row r)⟩ := by
  rw [loopStepWith]

@[simp] theorem loopStepStr_normal (run : St → Res) (v a : String) :
    loopStepStr run v (.normal ⟨s, env⟩) a = run ⟨s, setVar env v (.str a)⟩ := by
  rw [loopStepStr]

end steps

theorem execL_append (c : Callee) (ctx : Ctx) (a b : List XS) (st : St) :
    execL c ctx (a ++ b) st = (match execL c ctx a st with
      | .normal st' => execL c ctx b st'
      | r => r) := by
  induction a generalizing st with
  | nil => rfl
  | cons x rest ih =>
    simp only [List.cons_append, execL]
    cases execS c ctx x st <;> simp [ih]

/-- the rest of the body goes into both branches, so a run never continues on an unknown state (`↓`: before `execL_cons`) -/
@[simp ↓] theorem execL_if (c : Callee) (ctx : Ctx) (cond : XE) (t e rest : List XS) (s : Sys) (env : Env) :
    execL c ctx (.if_ cond t e :: rest) ⟨s, env⟩ =
      if truthy (eval ctx s env cond) then execL c ctx (t ++ rest) ⟨s, env⟩ else execL c ctx (e ++ rest) ⟨s, env⟩ := by
  cases h : truthy (eval ctx s env cond) <;> simp [-eval, execL_append, h]

@[simp] theorem foldl_loopStepWith_exc (run : St → Res) (v : String) (l : List RowV) (s : Sys) (cls : String) :
    l.foldl (loopStepWith run v) (.exc s cls) = .exc s cls := by
  induction l with
  | nil => rfl
  | cons a as ih => exact ih

@[simp] theorem foldl_loopStepStr_exc (run : St → Res) (v : String) (l : List String) (s : Sys) (cls : String) :
    l.foldl (loopStepStr run v) (.exc s cls) = .exc s cls := by
  induction l with
  | nil => rfl
  | cons a as ih => exact ih

/-- how a body ends: falling off the end returns `None` -/
def finish : Res → ExecRes
  | .normal st => .ok st.s .none
  | .ret s v => .ok s v
  | .exc s cls => .raised s cls

@[simp] theorem finish_normal (st : St) : finish (.normal st) = .ok st.s .none := rfl
@[simp] theorem finish_ret (s : Sys) (v : SV) : finish (.ret s v) = .ok s v := rfl
@[simp] theorem finish_exc (s : Sys) (cls : String) : finish (.exc s cls) = .raised s cls := rfl

/-- an undecided condition stays an `if`, to be matched with the model function's own -/
@[simp] theorem finish_ite (c : Prop) [Decidable c] (a b : Res) :
    finish (if c then a else b) = if c then finish a else finish b := apply_ite ..

/-- run a method -/
def runMethod (callee : Callee) (m : Method) (ctx : Ctx) (args : List SV) (s : Sys) : ExecRes :=
  finish (execL callee { ctx with params := m.params.zip args } m.body ⟨s, []⟩)

/-- the NpSide rows of a `fetchall()` result -/
def npSideRows (l : List RowV) : List NpSide := l.filterMap (fun r => match r with | .nps x => some x | _ => Option.none)

/-- the MbSide rows of a `fetchall()` result -/
def mbSideRows (l : List RowV) : List MbSide := l.filterMap (fun r => match r with | .mbs x => some x | _ => Option.none)

/-- methods that are primitives here: `_summarize_mailbox_and_store(for_nameplate, side_rows, delete_time, pruned)` is
    `storeMailboxUsage`; `_summarize_nameplate_and_store(side_rows, delete_time, pruned)` is
    `storeNameplateUsage` (its summary function is tied in Tie/Summ.lean, its INSERT in Tie/UsageSql.lean);
    `false` = the IndexError of an empty `side_rows` -/
def callee0 : Callee := fun meth ctx args s =>
  if meth = "AppNamespace._summarize_nameplate_and_store" then
    (match args with
     | [.rows l, .int t, .bool pruned] =>
       (match s.storeNameplateUsage ctx.app (npSideRows l) t pruned with
        | (s1, true) => .ok s1 .none
        | (s1, false) => .raised s1 "IndexError")
     | _ => .raised s "TypeError")
  else if meth = "AppNamespace._summarize_mailbox_and_store" then
    (match args with
     | [.bool forNp, .rows l, .int t, .bool pruned] => .ok (s.storeMailboxUsage ctx.app forNp (mbSideRows l) t pruned) .none
     | _ => .raised s "TypeError")
  else .raised s "NoSuchMethod"

end PySrv
end Wormhole
