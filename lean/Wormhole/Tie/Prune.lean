/-
  server.py `AppNamespace.prune`, `Server.get_all_apps`.
-/
import Wormhole.Tie.Defs

namespace Wormhole.Tie
open Wormhole Wormhole.Sql Wormhole.GenSql

theorem prune_select_mailboxes (d : Chan) (app : String) :
    SelectIs AppNamespace_prune__select_mailboxes_0 .chan [("self._app_id", .text app)] d.tables
      ((d.mailboxesOfApp app).map MailboxRow.toRow) :=
  select_star d.mailboxes_table fun r => by tie_simp [MailboxRow.toRow]

theorem prune_select_nameplates (d : Chan) (app : String) :
    SelectIs AppNamespace_prune__select_nameplates_0 .chan [("self._app_id", .text app)] d.tables
      ((d.nameplatesOfApp app).map Nameplate.toRow) :=
  select_star d.nameplates_table fun r => by tie_simp [Nameplate.toRow]

theorem prune_select_nameplate_sides (d : Chan) (npid : Nat) :
    SelectIs AppNamespace_prune__select_nameplate_sides_0 .chan [("npid", .int npid)] d.tables
      ((d.npSidesOf npid).map NpSide.toRow) :=
  select_star d.npSides_table fun r => by tie_simp [NpSide.toRow]

theorem prune_delete_nameplate_sides (d : Chan) (npid : Nat) :
    ChanWriteIs AppNamespace_prune__delete_nameplate_sides_0 [("npid", .int npid)] d (d.delNpSidesOf npid) :=
  chan_delete d.npSides_table fun r => by tie_simp [NpSide.toRow]

theorem prune_delete_nameplate (d : Chan) (npid : Nat) :
    ChanWriteIs AppNamespace_prune__delete_nameplates_0 [("npid", .int npid)] d (d.delNameplate npid) :=
  chan_delete d.nameplates_table fun r => by tie_simp [Nameplate.toRow]

/-- the re-read of the mailbox row (for `for_nameplate`) is a look-up by the bare id -/
theorem prune_select_mailbox (d : Chan) (mb : String) :
    SelectIs AppNamespace_prune__select_mailboxes_1 .chan [("mailbox_id", .text mb)] d.tables
      ((d.mailboxes.filter (fun r => r.id = mb)).map MailboxRow.toRow) :=
  select_star d.mailboxes_table fun r => by tie_simp [MailboxRow.toRow]

theorem findMailboxById_fetchone (d : Chan) (mb : String) :
    ((d.mailboxes.filter (fun r => r.id = mb)).map MailboxRow.toRow).head?
      = (d.findMailboxById mb).map MailboxRow.toRow := by
  simp [Chan.findMailboxById, List.head?_map, List.head?_filter]

theorem prune_select_mailbox_sides (d : Chan) (mb : String) :
    SelectIs AppNamespace_prune__select_mailbox_sides_0 .chan [("mailbox_id", .text mb)] d.tables
      ((d.mbSidesOf mb).map MbSide.toRow) :=
  select_star d.mbSides_table fun r => by tie_simp [MbSide.toRow]

theorem prune_delete_messages (d : Chan) (mb : String) :
    ChanWriteIs AppNamespace_prune__delete_messages_0 [("mailbox_id", .text mb)] d (d.delMessagesOf mb) :=
  chan_delete d.messages_table fun r => by
    tie_simp [Message.toRow]

theorem prune_delete_mailbox_sides (d : Chan) (mb : String) :
    ChanWriteIs AppNamespace_prune__delete_mailbox_sides_0 [("mailbox_id", .text mb)] d (d.delMbSidesOf mb) :=
  chan_delete d.mbSides_table fun r => by
    tie_simp [MbSide.toRow]

theorem prune_delete_mailbox (d : Chan) (mb : String) :
    ChanWriteIs AppNamespace_prune__delete_mailboxes_0 [("mailbox_id", .text mb)] d (d.delMailbox mb) :=
  chan_delete d.mailboxes_table fun r => by
    tie_simp [MailboxRow.toRow]

/-! `get_all_apps`: the three `SELECT DISTINCT app_id` scans -/

theorem all_apps_nameplates (d : Chan) :
    SelectIs Server_get_all_apps__select_nameplates_0 .chan [] d.tables
      ((d.nameplates.map (·.app)).eraseDups.map (fun a => [("app_id", .text a)])) :=
  select_distinct_all d.nameplates_table fun r => by tie_simp [Nameplate.toRow]

theorem all_apps_mailboxes (d : Chan) :
    SelectIs Server_get_all_apps__select_mailboxes_0 .chan [] d.tables
      ((d.mailboxes.map (·.app)).eraseDups.map (fun a => [("app_id", .text a)])) :=
  select_distinct_all d.mailboxes_table fun r => by tie_simp [MailboxRow.toRow]

theorem all_apps_messages (d : Chan) :
    SelectIs Server_get_all_apps__select_messages_0 .chan [] d.tables
      ((d.messages.map (·.app)).eraseDups.map (fun a => [("app_id", .text a)])) :=
  select_distinct_all d.messages_table fun r => by tie_simp [Message.toRow]

end Wormhole.Tie
