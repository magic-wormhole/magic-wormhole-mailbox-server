/-
  server.py `Mailbox.open`, `Mailbox._touch`, `AppNamespace._add_mailbox`, `AppNamespace.open_mailbox`:
  every SQL statement of the current source means the primitive the model uses in its place.
-/
import Wormhole.Tie.Defs

namespace Wormhole.Tie
open Wormhole Wormhole.Sql Wormhole.GenSql

/-- `Mailbox.open`: the look-up of the caller's side row -/
theorem Mailbox_open_select (d : Chan) (mb side : String) :
    SelectIs Mailbox_open__select_mailbox_sides_0 .chan [("self._mailbox_id", .text mb), ("side", .text side)] d.tables
      ((d.mbSides.filter (fun r => r.mailbox = mb ∧ r.side = side)).map MbSide.toRow) :=
  select_star d.mbSides_table fun r => by tie_simp [MbSide.toRow]

/-- … of which `.fetchone()` is `findMbSide` -/
theorem findMbSide_fetchone (d : Chan) (mb side : String) :
    ((d.mbSides.filter (fun r => r.mailbox = mb ∧ r.side = side)).map MbSide.toRow).head?
      = (d.findMbSide mb side).map MbSide.toRow := by
  simp [Chan.findMbSide, List.head?_map, List.head?_filter]

/-- `Mailbox.open`: the INSERT of a new side row is `insMbSide ⟨mb, true, side, when, none⟩` -/
theorem Mailbox_open_insert (d : Chan) (mb side : String) (t : Time) :
    ChanWriteIs Mailbox_open__insert_mailbox_sides_0
      [("self._mailbox_id", .text mb), ("side", .text side), ("when", .int t)] d
      (d.insMbSide ⟨mb, true, side, t, none⟩) :=
  chan_insert d.mbSides_table (by tie_simp [MbSide.toRow])

/-- `Mailbox._touch` is `touch mb when` -/
theorem Mailbox_touch_update (d : Chan) (mb : String) (t : Time) :
    ChanWriteIs Mailbox__touch__update_mailboxes_0 [("when", .int t), ("self._mailbox_id", .text mb)] d (d.touch mb t) :=
  chan_update d.mailboxes_table (fun r => by tie_simp [MailboxRow.toRow]) fun r => by tie_simp [MailboxRow.toRow]

/-- `_add_mailbox`: the look-up of the mailbox row -/
theorem add_mailbox_select (d : Chan) (app mb : String) :
    SelectIs AppNamespace__add_mailbox__select_mailboxes_0 .chan [("self._app_id", .text app), ("mailbox_id", .text mb)] d.tables
      ((d.mailboxes.filter (fun r => r.app = app ∧ r.id = mb)).map MailboxRow.toRow) :=
  select_star d.mailboxes_table fun r => by tie_simp [MailboxRow.toRow]

theorem findMailbox_fetchone (d : Chan) (app mb : String) :
    ((d.mailboxes.filter (fun r => r.app = app ∧ r.id = mb)).map MailboxRow.toRow).head?
      = (d.findMailbox app mb).map MailboxRow.toRow := by
  simp [Chan.findMailbox, List.head?_map, List.head?_filter]

/-- `_add_mailbox`: the INSERT is `insMailbox ⟨app, mb, when, for_nameplate⟩` -/
theorem add_mailbox_insert (d : Chan) (app mb : String) (forNp : Bool) (t : Time) :
    ChanWriteIs AppNamespace__add_mailbox__insert_mailboxes_0
      [("self._app_id", .text app), ("mailbox_id", .text mb), ("for_nameplate", .bool forNp), ("when", .int t)] d
      (d.insMailbox ⟨app, mb, t, forNp⟩) :=
  chan_insert d.mailboxes_table (by tie_simp [MailboxRow.toRow])

/-- `open_mailbox`: the count of side rows reads `mbSidesOf` -/
theorem open_mailbox_select (d : Chan) (mb : String) :
    SelectIs AppNamespace_open_mailbox__select_mailbox_sides_0 .chan [("mailbox_id", .text mb)] d.tables
      ((d.mbSidesOf mb).map MbSide.toRow) :=
  select_star d.mbSides_table fun r => by tie_simp [MbSide.toRow]

end Wormhole.Tie
