/-
  The two remaining methods the websocket handlers call - `AppNamespace.allocate_nameplate`, `Mailbox.add_message` -
  regenerated and equal to the model's: their callees are the generated bodies of Tie/Srv.lean; the two primitives
  left at this level are `_find_available_nameplate_id` (= `Sys.findAvailable`; its ranges and constants are
  regenerated by translate.py, the search loop is hand-modelled and C04's oracle runs on the implementation) and
  `broadcast_message` (= `Sys.broadcast`: the listener table is the model's connection records).
-/
import Wormhole.PyWs
import Wormhole.Tie.Srv
import Wormhole.Tie.SrvSumm

namespace Wormhole.PySrv
open Wormhole Wormhole.GenSrv

def calleeTop : Callee := fun meth ctx args s =>
  if meth = "AppNamespace._find_available_nameplate_id" then
    (match args with
     | [] => (match Sys.findAvailable (s.db.namesOfApp ctx.app) ctx.pick ctx.draws with
        | some name => .ok s (.str name)
        | none => .raised s "ValueError")
     | _ => .raised s "TypeError")
  else if meth = "Mailbox.broadcast_message" then
    (match args with
     | [.msg side p b t i] => .ok (s.broadcast ctx.app ctx.mailbox (.message side p b t i)) .none
     | _ => .raised s "TypeError")
  else if meth = "AppNamespace.claim_nameplate" then runMethod callee3 AppNamespace_claim_nameplate ctx args s
  else if meth = "Mailbox._add_message" then runMethod callee1 Mailbox_add_message ctx args s
  else if meth = "Mailbox.get_messages" then runMethod callee0 Mailbox_get_messages ctx args s
  else if meth = "AppNamespace._get_nameplate_ids" then runMethod callee0 AppNamespace_get_nameplate_ids ctx args s
  else .raised s "NoSuchMethod"

@[simp] theorem calleeTop_find_available (ctx : Ctx) (s : Sys) :
    calleeTop "AppNamespace._find_available_nameplate_id" ctx [] s =
      (match Sys.findAvailable (s.db.namesOfApp ctx.app) ctx.pick ctx.draws with
       | some name => .ok s (.str name)
       | none => .raised s "ValueError") := by
  unfold calleeTop; simp

@[simp] theorem calleeTop_broadcast (ctx : Ctx) (side : String) (p b : Val) (t : Time) (i : Val) (s : Sys) :
    calleeTop "Mailbox.broadcast_message" ctx [.msg side p b t i] s
      = .ok (s.broadcast ctx.app ctx.mailbox (.message side p b t i)) .none := by
  unfold calleeTop; simp

@[simp] theorem calleeTop_claim (ctx : Ctx) (name side : String) (t : Time) (s : Sys) :
    calleeTop "AppNamespace.claim_nameplate" ctx [.str name, .str side, .int t] s
      = ofClaim (s.claimNameplate ctx.app name side t ctx.fresh) := by
  unfold calleeTop; simp [claim_nameplate_eq]

@[simp] theorem calleeTop_add_message (ctx : Ctx) (side : String) (phase body : Val) (t : Time) (id : Val) (s : Sys) :
    calleeTop "Mailbox._add_message" ctx [.msg side phase body t id] s
      = .ok (s.addMessage ctx.app ctx.mailbox side phase body t id) .none := by
  unfold calleeTop; simp [add_message_eq]

/-- `allocate_nameplate(side, when)`: find a free name, claim it, return the NAME -/
theorem allocate_nameplate_eq (ctx : Ctx) (side : String) (t : Time) (s : Sys) :
    runMethod calleeTop AppNamespace_allocate_nameplate ctx [.str side, .int t] s =
      (match Sys.findAvailable (s.db.namesOfApp ctx.app) ctx.pick ctx.draws with
       | none => .raised s "ValueError"
       | some name => (match ofClaim (s.claimNameplate ctx.app name side t ctx.fresh) with
          | .ok s1 _ => .ok s1 (.str name)
          | .raised s1 cls => .raised s1 cls)) := by
  unfold runMethod
  cases hf : Sys.findAvailable (s.db.namesOfApp ctx.app) ctx.pick ctx.draws with
  | none => simp [AppNamespace_allocate_nameplate, hf]
  | some name =>
    simp [AppNamespace_allocate_nameplate, hf]
    cases ofClaim (s.claimNameplate ctx.app name side t ctx.fresh) <;> simp

/-- `add_message(sm)`: store, then broadcast to the listeners -/
theorem add_message_pub_eq (ctx : Ctx) (side : String) (phase body : Val) (t : Time) (id : Val) (s : Sys) :
    runMethod calleeTop Mailbox_add_message_pub ctx [.msg side phase body t id] s
      = .ok ((s.addMessage ctx.app ctx.mailbox side phase body t id).broadcast ctx.app ctx.mailbox
          (.message side phase body t id)) .none := by
  simp [runMethod, Mailbox_add_message_pub]

/-- `log_client_version(server_rx, side, client_version)`: the blur of the connect time and the INSERT into
    `client_versions` are the source's (C16's third place where a time is blurred; the other two are Tie/Summ.lean).
    `hB`: a blur interval in effect is never 0 (`Sys.blurTicks`; `blurTicks_ne` of Tie/SrvSumm.lean) -/
theorem log_client_version_eq (c : Callee) (ctx : Ctx) (t : Time) (side : String) (impl version : Option String) (s : Sys)
    (hB : ∀ b, s.blurTicks = some b → b ≠ 0) :
    runMethod c AppNamespace_log_client_version ctx [.int t, .str side, .cv impl version] s
      = .ok (s.logClientVersion ctx.app side t impl version) .none := by
  cases hb : s.blurTicks with
  | none =>
    cases hu : s.cfg.usage <;>
    simp [runMethod, AppNamespace_log_client_version, hb, hu, logClientStmt, Sys.logClientVersion, Sys.blurTime]
  | some B =>
    have hB0 := hB B hb
    cases hu : s.cfg.usage <;>
    simp [runMethod, AppNamespace_log_client_version, hb, hu, truthy, logClientStmt, Sys.logClientVersion, Sys.blurTime,
      hB0]

def msgTuple (m : Message) : String × Val × Val × Int × Val := (m.side, m.phase, m.body, m.rx, m.msgId)

def gmLoopBody : List XS :=
  [.assign "sm" (.mkMsg (.field (.var "row") "side") (.field (.var "row") "phase") (.field (.var "row") "body")
      (.field (.var "row") "server_rx") (.field (.var "row") "msg_id")),
   .listAppend "messages" (.var "sm")]

theorem gm_loop_eq (c : Callee) (ctx : Ctx) (s : Sys) (l : List Message) :
    ∀ (env : Env) (acc : List (String × Val × Val × Int × Val)), env.lookup "messages" = some (.msgs acc) →
      ∃ env', (l.map RowV.msg).foldl (loopStep c ctx gmLoopBody "row") (.normal ⟨s, env⟩) = .normal ⟨s, env'⟩ ∧
        env'.lookup "messages" = some (.msgs (acc ++ l.map msgTuple)) := by
  induction l with
  | nil => intro env acc h; exact ⟨env, rfl, by simpa using h⟩
  | cons m rest ih =>
    intro env acc h
    have hstep : loopStep c ctx gmLoopBody "row" (.normal ⟨s, env⟩) (.msg m)
        = .normal ⟨s, setVar (setVar (setVar env "row" (.row (.msg m))) "sm" (.msg m.side m.phase m.body m.rx m.msgId))
            "messages" (.msgs (acc ++ [msgTuple m]))⟩ := by
      simp [loopStep, gmLoopBody, h, msgTuple]
    simp only [List.map, List.foldl]
    rw [hstep]
    obtain ⟨env', h1, h2⟩ := ih _ (acc ++ [msgTuple m]) (lookup_setVar_eq _ _ _)
    exact ⟨env', h1, by simpa [List.append_assoc] using h2⟩

/-- `get_messages()`: the stored messages of the mailbox in `server_rx` order, as SidedMessages -/
theorem get_messages_eq (c : Callee) (ctx : Ctx) (s : Sys) :
    runMethod c Mailbox_get_messages ctx [] s
      = .ok s (.msgs (((s.db.messagesOf ctx.app ctx.mailbox).mergeSort (fun a b => decide (a.rx ≤ b.rx))).map msgTuple)) := by
  unfold runMethod
  obtain ⟨env', h1, h2⟩ := gm_loop_eq c { ctx with params := [] } s
    ((s.db.messagesOf ctx.app ctx.mailbox).mergeSort (fun a b => decide (a.rx ≤ b.rx)))
    (setVar [] "messages" (.msgs [])) [] (lookup_setVar_eq _ _ _)
  have hb : Mailbox_get_messages.body = [.listNew "messages",
      .forExec "row" "Mailbox_get_messages__select_messages_0" [.selfAttr "_app_id", .selfAttr "_mailbox_id"] gmLoopBody,
      .ret (.var "messages")] := rfl
  have hp : Mailbox_get_messages.params = [] := rfl
  rw [hb, hp]
  simp only [loopStep] at h1
  simp [getMessagesStmt, h1, h2]

@[simp] theorem calleeTop_get_messages (ctx : Ctx) (s : Sys) :
    calleeTop "Mailbox.get_messages" ctx [] s
      = .ok s (.msgs (((s.db.messagesOf ctx.app ctx.mailbox).mergeSort (fun a b => decide (a.rx ≤ b.rx))).map msgTuple)) := by
  unfold calleeTop; simp [get_messages_eq]

/-- `add_listener(handle, send_f, stop_f)` returns `get_messages()` (the listener table itself is the model's connection
    records: the entry `self._listeners[handle] = (send_f, stop_f)` is what PyWs.listenReplay's flags stand for) -/
theorem add_listener_eq (ctx : Ctx) (h sf st : SV) (s : Sys) :
    runMethod calleeTop Mailbox_add_listener ctx [h, sf, st] s
      = .ok s (.msgs (((s.db.messagesOf ctx.app ctx.mailbox).mergeSort (fun a b => decide (a.rx ≤ b.rx))).map msgTuple)) := by
  simp [runMethod, Mailbox_add_listener]

theorem names_filterMap (l : List String) : l.filterMap (strOfField "name" ∘ RowV.name) = l := by
  induction l with
  | nil => rfl
  | cons a as ih => simp [ih]

/-- `_get_nameplate_ids()`: the distinct names of the app's nameplates -/
theorem get_nameplate_ids_priv_eq (c : Callee) (ctx : Ctx) (s : Sys) :
    runMethod c AppNamespace_get_nameplate_ids ctx [] s = .ok s (.strs (s.db.namesOfApp ctx.app)) := by
  simp [runMethod, AppNamespace_get_nameplate_ids, namesStmt, names_filterMap]

@[simp] theorem calleeTop_get_nameplate_ids (ctx : Ctx) (s : Sys) :
    calleeTop "AppNamespace._get_nameplate_ids" ctx [] s = .ok s (.strs (s.db.namesOfApp ctx.app)) := by
  unfold calleeTop; simp [get_nameplate_ids_priv_eq]

/-- `get_nameplate_ids()`: nothing when listing is disallowed -/
theorem get_nameplate_ids_eq (ctx : Ctx) (s : Sys) :
    runMethod calleeTop AppNamespace_get_nameplate_ids_pub ctx [] s
      = .ok s (.strs (if s.cfg.allowList then s.db.namesOfApp ctx.app else [])) := by
  cases ha : s.cfg.allowList <;> simp [runMethod, AppNamespace_get_nameplate_ids_pub, ha]

/-- `Server.dump_stats(now, rebooted)` (called by the regenerated `expire()`, Tie/Tap.lean, with the start-up time) IS
    `Sys.dumpStats`: the one status row, its four fields in their columns, the usage commit; nothing without a usage DB -/
theorem dump_stats_eq (c : Callee) (ctx : Ctx) (now : Time) (s : Sys) :
    runMethod c Server_dump_stats ctx [.int now, .int s.rebooted] s = .ok (s.dumpStats now) .none := by
  cases hu : s.cfg.usage <;> cases hb : s.cfg.blur <;>
    simp [runMethod, Server_dump_stats, hu, hb, dumpDeleteStmt, dumpInsertStmt, optNatOfSV, Sys.dumpStats, Sys.modUdb]

end Wormhole.PySrv

namespace Wormhole.Tie
open Wormhole Wormhole.PySrv Wormhole.GenSrv

/-- the websocket interpreter's `allocate_nameplate` IS the generated body -/
theorem table_allocate (s : Sys) (ctx : PyWs.Ctx) (app side : String) :
    PyWs.callAllocate s ctx app [.str side, .time]
      = (match runMethod calleeTop AppNamespace_allocate_nameplate
            { app := app, fresh := ctx.fresh, pick := ctx.pick, draws := ctx.draws } [.str side, .int ctx.t] s with
         | .ok s1 (.str n) => .ret s1 (.str n)
         | .ok s1 _ => .ret s1 .none
         | .raised s1 cls => .raised s1 cls) := by
  rw [allocate_nameplate_eq]
  simp only [PyWs.callAllocate]
  cases Sys.findAvailable (s.db.namesOfApp app) ctx.pick ctx.draws with
  | none => rfl
  | some name =>
    simp only []
    rcases s.claimNameplate app name side ctx.t ctx.fresh with ⟨s1, r⟩
    cases r <;> simp [PyWs.claimRes, ofClaim]

/-- … and its `Mailbox.add_message` too (`table_add_message` of Tie/SrvWs.lean covered the storing half) -/
theorem table_add_message_pub (s : Sys) (ctx : PyWs.Ctx) (app h side : String) (ph bd id : PyWs.PV) (p b i : Val)
    (hp : ph.toVal? = some p) (hb : bd.toVal? = some b) (hi : id.toVal? = some i) :
    PyWs.callAddMessage s ctx app (some h) [.str side, ph, bd, .time, id]
      = (match runMethod calleeTop Mailbox_add_message_pub { app := app, mailbox := h } [.msg side p b ctx.t i] s with
         | .ok s1 _ => .ret s1 .none
         | .raised s1 cls => .raised s1 cls) := by
  rw [add_message_pub_eq]
  simp [PyWs.callAddMessage, hp, hb, hi]

/-- the replay of `handle_open` (`for sm in self._mailbox.add_listener(…): send_f(sm)`, `Sys.replay` in PyWs.listenReplay)
    sends exactly the list the generated `add_listener` / `get_messages` return, in that order -/
theorem table_replay (s : Sys) (c : Nat) (app mb : String) :
    s.replay c app mb =
      (((s.db.messagesOf app mb).mergeSort (fun a b => decide (a.rx ≤ b.rx))).map msgTuple).foldl
        (fun s m => s.send c (.message m.1 m.2.1 m.2.2.1 m.2.2.2.1 m.2.2.2.2)) s := by
  simp [Sys.replay, List.foldl_map, msgTuple]

/-- … and its `get_nameplate_ids` (handle_list; also what `_find_available_nameplate_id` must NOT use: it reads the private
    accessor, which ignores the listing option - C04_allocate_spec_reach, seeds C17n / C18m) -/
theorem table_list (s : Sys) (ctx : PyWs.Ctx) (app : String) (held : Option String) :
    PyWs.callMethod s ctx app held "_app" "get_nameplate_ids" []
      = (match runMethod calleeTop AppNamespace_get_nameplate_ids_pub { app := app } [] s with
         | .ok s1 (.strs l) => .ret s1 (.strs l)
         | .ok s1 _ => .ret s1 .none
         | .raised s1 cls => .raised s1 cls) := by
  rw [get_nameplate_ids_eq]
  simp [PyWs.callMethod]

/-- … and its `log_client_version` (handle_bind) -/
theorem table_log_client_version (s : Sys) (ctx : PyWs.Ctx) (app side : String) (cv : PyWs.PV)
    (impl version : Option String) (hcv : PyWs.cvOf cv = some (impl, version)) :
    PyWs.callLogClientVersion s ctx app [.time, .str side, cv]
      = (match runMethod callee0 AppNamespace_log_client_version { app := app }
            [.int ctx.t, .str side, .cv impl version] s with
         | .ok s1 _ => .ret s1 .none
         | .raised s1 cls => .raised s1 cls) := by
  rw [log_client_version_eq _ _ _ _ _ _ _ (blurTicks_ne s)]
  simp [PyWs.callLogClientVersion, hcv]

end Wormhole.Tie
