/-
  Completeness of the SQL tie: the statements embedded in the CURRENT server.py are exactly the ones
  for which `Wormhole/Tie/*.lean` prove `primitive = meaning of the statement` (one theorem each).
  A statement added to, removed from or moved inside server.py changes the regenerated list and
  `all_statements_tied` no longer checks; a changed statement keeps its name and breaks its own theorem instead.
-/
import Wormhole.Tie.MailboxOpen
import Wormhole.Tie.Messages
import Wormhole.Tie.MailboxClose
import Wormhole.Tie.Claim
import Wormhole.Tie.Release
import Wormhole.Tie.Prune
import Wormhole.Tie.UsageSql

namespace Wormhole.Tie
open Wormhole Wormhole.Sql

/-- the embedded statements of server.py, by name, in source order -/
theorem all_statements_tied :
    GenSql.all.map (·.1) = [
      "Mailbox_open__select_mailbox_sides_0",
      "Mailbox_open__insert_mailbox_sides_0",
      "Mailbox__touch__update_mailboxes_0",
      "Mailbox_get_messages__select_messages_0",
      "Mailbox__add_message__insert_messages_0",
      "Mailbox_close__select_mailboxes_0",
      "Mailbox_close__select_mailbox_sides_0",
      "Mailbox_close__update_mailbox_sides_0",
      "Mailbox_close__select_mailbox_sides_1",
      "Mailbox_close__select_nameplates_0",
      "Mailbox_close__select_nameplate_sides_0",
      "Mailbox_close__delete_nameplate_sides_0",
      "Mailbox_close__delete_nameplates_0",
      "Mailbox_close__delete_messages_0",
      "Mailbox_close__delete_mailbox_sides_0",
      "Mailbox_close__delete_mailboxes_0",
      "AppNamespace_log_client_version__insert_client_versions_0",
      "AppNamespace__get_nameplate_ids__select_nameplates_0",
      "AppNamespace_claim_nameplate__select_nameplates_0",
      "AppNamespace_claim_nameplate__insert_nameplates_0",
      "AppNamespace_claim_nameplate__select_nameplate_sides_0",
      "AppNamespace_claim_nameplate__insert_nameplate_sides_0",
      "AppNamespace_claim_nameplate__select_nameplate_sides_1",
      "AppNamespace_release_nameplate__select_nameplates_0",
      "AppNamespace_release_nameplate__select_nameplate_sides_0",
      "AppNamespace_release_nameplate__update_nameplate_sides_0",
      "AppNamespace_release_nameplate__select_nameplate_sides_1",
      "AppNamespace_release_nameplate__delete_nameplate_sides_0",
      "AppNamespace_release_nameplate__delete_nameplates_0",
      "AppNamespace__summarize_nameplate_and_store__insert_nameplates_0",
      "AppNamespace__add_mailbox__select_mailboxes_0",
      "AppNamespace__add_mailbox__insert_mailboxes_0",
      "AppNamespace_open_mailbox__select_mailbox_sides_0",
      "AppNamespace__summarize_mailbox_and_store__insert_mailboxes_0",
      "AppNamespace_prune__select_mailboxes_0",
      "AppNamespace_prune__select_nameplates_0",
      "AppNamespace_prune__select_nameplate_sides_0",
      "AppNamespace_prune__delete_nameplate_sides_0",
      "AppNamespace_prune__delete_nameplates_0",
      "AppNamespace_prune__select_mailboxes_1",
      "AppNamespace_prune__select_mailbox_sides_0",
      "AppNamespace_prune__delete_messages_0",
      "AppNamespace_prune__delete_mailbox_sides_0",
      "AppNamespace_prune__delete_mailboxes_0",
      "Server_get_all_apps__select_nameplates_0",
      "Server_get_all_apps__select_mailboxes_0",
      "Server_get_all_apps__select_messages_0",
      "Server_dump_stats__delete_current_0",
      "Server_dump_stats__insert_current_0"] := rfl

/-- every statement runs on the database its tie theorem says (channel statements never touch the
    usage database and vice versa): the usage statements are exactly these five -/
theorem usage_statements :
    (GenSql.all.filter (fun p => p.2.db = .usage)).map (·.1) = [
      "AppNamespace_log_client_version__insert_client_versions_0",
      "AppNamespace__summarize_nameplate_and_store__insert_nameplates_0",
      "AppNamespace__summarize_mailbox_and_store__insert_mailboxes_0",
      "Server_dump_stats__delete_current_0",
      "Server_dump_stats__insert_current_0"] := rfl

end Wormhole.Tie
