/-
  The validation layer of the CURRENT server_websocket.py (GeneratedWs.lean, regenerated on every run)
  decides exactly as the model does: for every connection record and every JSON object of the decoder's
  domain, the error text with which the generated guard lists refuse the object is `rejectText` of the
  decoded command - the function by which Props/C17.lean characterises the model's `onMessage`
  (`rejected_step`, `C17_validation_error`, `C17_validation_complete`).
-/
import Wormhole.GeneratedWs
import Wormhole.Props.C17
import Wormhole.Tie.Lookup

namespace Wormhole.Tie
open Wormhole Wormhole.WsGuards

theorem mtypeOf_cases (ty : JVal) :
    (mtypeOf ty = .ping ∧ ty = .str "ping") ∨ (mtypeOf ty = .bind ∧ ty = .str "bind") ∨
    (mtypeOf ty = .list ∧ ty = .str "list") ∨ (mtypeOf ty = .allocate ∧ ty = .str "allocate") ∨
    (mtypeOf ty = .claim ∧ ty = .str "claim") ∨ (mtypeOf ty = .release ∧ ty = .str "release") ∨
    (mtypeOf ty = .open_ ∧ ty = .str "open") ∨ (mtypeOf ty = .add ∧ ty = .str "add") ∨
    (mtypeOf ty = .close ∧ ty = .str "close") ∨
    (mtypeOf ty = .unknown ∧ ty ≠ .str "ping" ∧ ty ≠ .str "bind" ∧ ty ≠ .str "list" ∧ ty ≠ .str "allocate" ∧
      ty ≠ .str "claim" ∧ ty ≠ .str "release" ∧ ty ≠ .str "open" ∧ ty ≠ .str "add" ∧ ty ≠ .str "close") := by
  cases ty with
  | str s =>
    -- walk the comparisons of `mtypeOf` in its order, rewriting with each answer (nothing is evaluated)
    generalize hm : mtypeOf (.str s) = k
    rw [mtypeOf] at hm
    by_cases h1 : s = "ping"
    · exact Or.inl ⟨hm.symm.trans (if_pos h1), congrArg _ h1⟩
    rw [if_neg h1] at hm
    refine Or.inr ?_
    by_cases h2 : s = "bind"
    · exact Or.inl ⟨hm.symm.trans (if_pos h2), congrArg _ h2⟩
    rw [if_neg h2] at hm
    refine Or.inr ?_
    by_cases h3 : s = "list"
    · exact Or.inl ⟨hm.symm.trans (if_pos h3), congrArg _ h3⟩
    rw [if_neg h3] at hm
    refine Or.inr ?_
    by_cases h4 : s = "allocate"
    · exact Or.inl ⟨hm.symm.trans (if_pos h4), congrArg _ h4⟩
    rw [if_neg h4] at hm
    refine Or.inr ?_
    by_cases h5 : s = "claim"
    · exact Or.inl ⟨hm.symm.trans (if_pos h5), congrArg _ h5⟩
    rw [if_neg h5] at hm
    refine Or.inr ?_
    by_cases h6 : s = "release"
    · exact Or.inl ⟨hm.symm.trans (if_pos h6), congrArg _ h6⟩
    rw [if_neg h6] at hm
    refine Or.inr ?_
    by_cases h7 : s = "open"
    · exact Or.inl ⟨hm.symm.trans (if_pos h7), congrArg _ h7⟩
    rw [if_neg h7] at hm
    refine Or.inr ?_
    by_cases h8 : s = "add"
    · exact Or.inl ⟨hm.symm.trans (if_pos h8), congrArg _ h8⟩
    rw [if_neg h8] at hm
    refine Or.inr ?_
    by_cases h9 : s = "close"
    · exact Or.inl ⟨hm.symm.trans (if_pos h9), congrArg _ h9⟩
    rw [if_neg h9] at hm
    refine Or.inr ?_
    subst hm
    simp [h1, h2, h3, h4, h5, h6, h7, h8, h9]
  | _ => simp [mtypeOf]

/-- an object with "type" `ty` that the decoder accepts, and the command it decodes to: the look-ups `decodeOf` makes for
    that type, with what they returned -/
inductive Decoded (o : JObj) (pick : Nat) (draws : List Nat) (fresh : String) : JVal → Cmd → Prop
  | ping {v} (hv : fieldVal (jget o "ping") = some v) : Decoded o pick draws fresh (.str "ping") (.ping v)
  | bind {a sd i v} (ha : fieldStr (jget o "appid") = some a) (hs : fieldStr (jget o "side") = some sd)
      (hcv : fieldCv (jget o "client_version") = some (i, v)) : Decoded o pick draws fresh (.str "bind") (.bind a sd i v)
  | list : Decoded o pick draws fresh (.str "list") .list
  | allocate : Decoded o pick draws fresh (.str "allocate") (.allocate pick draws fresh)
  | claim {n} (hn : fieldStr (jget o "nameplate") = some n) : Decoded o pick draws fresh (.str "claim") (.claim n fresh)
  | release {n} (hn : fieldStr (jget o "nameplate") = some n) : Decoded o pick draws fresh (.str "release") (.release n)
  | open_ {m} (hm : fieldStr (jget o "mailbox") = some m) : Decoded o pick draws fresh (.str "open") (.open_ m)
  | add {ph bd} (hp : fieldVal (jget o "phase") = some ph) (hb : fieldVal (jget o "body") = some bd) :
      Decoded o pick draws fresh (.str "add") (.add ph bd)
  | close {m mood} (hm : fieldStr (jget o "mailbox") = some m) (hmood : fieldMood (jget o "mood") = some mood) :
      Decoded o pick draws fresh (.str "close") (.close m mood)
  | unknown {ty} (h1 : ty ≠ .str "ping") (h2 : ty ≠ .str "bind") (h3 : ty ≠ .str "list") (h4 : ty ≠ .str "allocate")
      (h5 : ty ≠ .str "claim") (h6 : ty ≠ .str "release") (h7 : ty ≠ .str "open") (h8 : ty ≠ .str "add")
      (h9 : ty ≠ .str "close") : Decoded o pick draws fresh ty .unknown

theorem decodeCmd_inv {o : JObj} {pick : Nat} {draws : List Nat} {fresh : String} {cmd : Cmd}
    (h : decodeCmd o pick draws fresh = some cmd) :
    (jget o "type" = none ∧ cmd = .noType) ∨
    ∃ ty idv, jget o "type" = some ty ∧ fieldId (jget o "id") = some idv ∧ Decoded o pick draws fresh ty cmd := by
  unfold decodeCmd decodeOf at h
  cases hty : jget o "type" with
  | none => exact Or.inl ⟨rfl, by simpa [hty] using h.symm⟩
  | some ty =>
    simp only [hty] at h
    cases hid : fieldId (jget o "id") with
    | none => simp [hid] at h
    | some idv =>
      simp only [hid] at h
      refine Or.inr ⟨ty, idv, rfl, rfl, ?_⟩
      rcases mtypeOf_cases ty with ⟨hm, rfl⟩ | ⟨hm, rfl⟩ | ⟨hm, rfl⟩ | ⟨hm, rfl⟩ | ⟨hm, rfl⟩ | ⟨hm, rfl⟩ | ⟨hm, rfl⟩ |
        ⟨hm, rfl⟩ | ⟨hm, rfl⟩ | ⟨hm, h1, h2, h3, h4, h5, h6, h7, h8, h9⟩
      all_goals simp only [hm] at h
      · obtain ⟨v, hv, rfl⟩ := Option.map_eq_some_iff.1 h
        exact .ping hv
      · cases ha : fieldStr (jget o "appid") with
        | none => simp [ha] at h
        | some a =>
          cases hs : fieldStr (jget o "side") with
          | none => simp [ha, hs] at h
          | some sd =>
            cases hcv : fieldCv (jget o "client_version") with
            | none => simp [ha, hs, hcv] at h
            | some iv =>
              simp [ha, hs, hcv] at h
              exact h ▸ .bind ha hs hcv
      · simp at h
        exact h ▸ .list
      · simp at h
        exact h ▸ .allocate
      · obtain ⟨n, hn, rfl⟩ := Option.map_eq_some_iff.1 h
        exact .claim hn
      · obtain ⟨n, hn, rfl⟩ := Option.map_eq_some_iff.1 h
        exact .release hn
      · obtain ⟨n, hn, rfl⟩ := Option.map_eq_some_iff.1 h
        exact .open_ hn
      · cases hp : fieldVal (jget o "phase") with
        | none => simp [hp] at h
        | some ph =>
          cases hb : fieldVal (jget o "body") with
          | none => simp [hp, hb] at h
          | some bd =>
            simp [hp, hb] at h
            exact h.2 ▸ .add hp hb
      · cases hn : fieldStr (jget o "mailbox") with
        | none => simp [hn] at h
        | some n =>
          cases hmood : fieldMood (jget o "mood") with
          | none => simp [hn, hmood] at h
          | some mood =>
            simp [hn, hmood] at h
            exact h ▸ .close hn hmood
      · simp at h
        exact h ▸ .unknown h1 h2 h3 h4 h5 h6 h7 h8 h9

theorem fieldVal_present {j : Option JVal} {v : Option Val} (h : fieldVal j = some v) : j.isSome = v.isSome := by
  cases j with
  | none => simp [fieldVal] at h; simp [← h]
  | some w =>
    simp [fieldVal] at h
    obtain ⟨u, _, rfl⟩ := h
    rfl

theorem fieldStr_inv {j : Option JVal} {n : Option String} (h : fieldStr j = some n) : j = n.map .str := by
  cases j with
  | none => simp [fieldStr] at h; simp [← h]
  | some v => cases v <;> simp [fieldStr] at h; simp [← h]

/-- `self._app` / `self._mailbox` as a truth value (`p`: the field is `none`) -/
theorem isTruthy_obj (p : Prop) [Decidable p] : isTruthy (if p then PV.none else PV.obj) = !decide p := by
  by_cases h : p <;> simp [h, isTruthy]

theorem isTruthy_bool (b : Bool) : isTruthy (.bool b) = b := rfl

theorem bound_fires (x : Conn) (o : JObj) :
    isTruthy (GE.eval x o (.or_ (.attr "_app") (.attr "_side"))) =
      decide (x.app ≠ none ∨ (x.side ≠ none ∧ x.side ≠ some "")) := by
  cases hxa : x.app <;> cases hxs : x.side <;> simp [GE.eval, attrOf, isTruthy, WsGuards.ofOptStr, hxa, hxs]

section
attribute [local simp] reject firstGuard GenWs.onMessage GenWs.handlers Guard.fires Cond.holds attrOf ofJson
  WsGuards.ofOptStr typeIs rejectText needBind lookup_cons_eq isTruthy_obj isTruthy_bool Option.isSome_iff_ne_none

theorem reject_eq_rejectText (x : Conn) (o : JObj) (pick : Nat) (draws : List Nat) (fresh : String) (cmd : Cmd)
    (h : decodeCmd o pick draws fresh = some cmd) :
    reject GenWs.handlers x o GenWs.onMessage = rejectText x cmd := by
  rcases decodeCmd_inv h with ⟨hty, rfl⟩ | ⟨ty, idv, hty, -, hc⟩
  · simp [hty]
  cases hc with
  | @ping v hv =>
    have hp := fieldVal_present hv
    cases v <;> simp at hp <;> simp [hty, hp]
  | bind ha hs => simp [hty, bound_fires, fieldStr_inv ha, fieldStr_inv hs]
  | list => simp [hty, GE.eval]
  | allocate => simp [hty, GE.eval]
  | claim hn => simp [hty, GE.eval, fieldStr_inv hn]
  | @release n hn => cases n <;> cases hnp : x.nameplateId <;> simp [hty, GE.eval, fieldStr_inv hn, hnp]
  | open_ hm => simp [hty, GE.eval, fieldStr_inv hm]
  | @add ph bd hp hb =>
    have h1 := fieldVal_present hp
    have h2 := fieldVal_present hb
    cases ph <;> cases bd <;> simp at h1 h2 <;> simp [hty, GE.eval, h1, h2]
  | @close m _ hm => cases m <;> cases hmi : x.mailboxId <;> simp [hty, GE.eval, fieldStr_inv hm, hmi]
  | unknown h1 h2 h3 h4 h5 h6 h7 h8 h9 => simp [hty, GE.eval, h1, h2, h3, h4, h5, h6, h7, h8, h9]

end

/-- the `ack` is sent iff the object has a "type" key (the generated list has `.ack` right after that check) -/
theorem acked_iff_type (x : Conn) (o : JObj) :
    acked GenWs.handlers x o GenWs.onMessage = (jget o "type").isSome := by
  cases h : jget o "type" <;> simp [acked, GenWs.onMessage, Guard.fires, Cond.holds, h]

/-- **C17 on the source's own checks**: when the validation layer of the current server_websocket.py (as translated)
    refuses a received object with `text`, the step of the model emits exactly `[ack?, error text]` to the sender and
    leaves the whole state unchanged. -/
theorem source_validation_error {s : Sys} {c : Nat} {x : Conn} (t : Time) (o : JObj) (pick : Nat) (draws : List Nat)
    (fresh : String) {cmd : Cmd} {text : String} (hx : s.findConn c = some x)
    (hd : decodeCmd o pick draws fresh = some cmd)
    (hr : reject GenWs.handlers x o GenWs.onMessage = some text) :
    (s.step (.recv c t (decodeId o) cmd)).out =
      (if cmd = .noType then [] else [.frame c (.ack (decodeId o)) s.synced]) ++ [.frame c (.error text) s.synced] ∧
    Unchanged s (s.step (.recv c t (decodeId o) cmd)) :=
  C17_validation_error t (decodeId o) hx
    (rejected_of_rejectText (by rw [← reject_eq_rejectText x o pick draws fresh cmd hd]; exact hr))

/-- conversely, every `error` frame of the model other than the two raised by the database layer is a refusal by
    the source's own checks, with that text -/
theorem source_validation_complete {s : Sys} {c : Nat} {t : Time} (o : JObj) (pick : Nat) (draws : List Nat)
    (fresh : String) {cmd : Cmd} {c' : Nat} {text : String} {b : Bool}
    (hd : decodeCmd o pick draws fresh = some cmd)
    (h : .frame c' (.error text) b ∈ (s.step (.recv c t (decodeId o) cmd)).out)
    (h1 : text ≠ "crowded") (h2 : text ≠ "reclaimed") :
    c' = c ∧ ∃ x, s.findConn c = some x ∧ reject GenWs.handlers x o GenWs.onMessage = some text := by
  obtain ⟨hc, x, hx, hr⟩ := C17_validation_complete h h1 h2
  exact ⟨hc, x, hx, by rw [reject_eq_rejectText x o pick draws fresh cmd hd]; exact rejectText_of_rejected hr⟩

/-- non-vacuity: a second claim on a connection that claimed is refused by the generated checks -/
example : reject GenWs.handlers { id := 2, app := some "a", side := some "s", didClaim := true }
    [("type", .str "claim"), ("nameplate", .str "7")] GenWs.onMessage = some "only one claim per connection" := by
  decide +kernel
example : reject GenWs.handlers { id := 2, app := some "a", side := some "s" }
    [("type", .str "claim"), ("nameplate", .str "7")] GenWs.onMessage = none := by decide +kernel
example : reject GenWs.handlers { id := 2 } [("type", .str "list")] GenWs.onMessage = some "must bind first" := by
  decide +kernel

end Wormhole.Tie
