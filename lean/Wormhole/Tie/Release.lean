/-
  server.py `AppNamespace.release_nameplate`.
-/
import Wormhole.Tie.Defs

namespace Wormhole.Tie
open Wormhole Wormhole.Sql Wormhole.GenSql

theorem release_select_nameplate (d : Chan) (app name : String) :
    SelectIs AppNamespace_release_nameplate__select_nameplates_0 .chan [("self._app_id", .text app), ("name", .text name)] d.tables
      ((d.nameplates.filter (fun r => r.app = app ∧ r.name = name)).map Nameplate.toRow) :=
  select_star d.nameplates_table fun r => by tie_simp [Nameplate.toRow]

theorem release_select_side (d : Chan) (npid : Nat) (side : String) :
    SelectIs AppNamespace_release_nameplate__select_nameplate_sides_0 .chan [("npid", .int npid), ("side", .text side)] d.tables
      ((d.npSides.filter (fun r => r.npid = npid ∧ r.side = side)).map NpSide.toRow) :=
  select_star d.npSides_table fun r => by tie_simp [NpSide.toRow]

/-- the UPDATE is `unclaim npid side` -/
theorem release_update_side (d : Chan) (npid : Nat) (side : String) :
    ChanWriteIs AppNamespace_release_nameplate__update_nameplate_sides_0
      [("npid", .int npid), ("side", .text side)] d (d.unclaim npid side) :=
  chan_update d.npSides_table (fun r => by tie_simp [NpSide.toRow]) fun r => by tie_simp [NpSide.toRow]

theorem release_select_sides (d : Chan) (npid : Nat) :
    SelectIs AppNamespace_release_nameplate__select_nameplate_sides_1 .chan [("npid", .int npid)] d.tables
      ((d.npSidesOf npid).map NpSide.toRow) :=
  select_star d.npSides_table fun r => by tie_simp [NpSide.toRow]

theorem release_delete_sides (d : Chan) (npid : Nat) :
    ChanWriteIs AppNamespace_release_nameplate__delete_nameplate_sides_0 [("npid", .int npid)] d (d.delNpSidesOf npid) :=
  chan_delete d.npSides_table fun r => by tie_simp [NpSide.toRow]

theorem release_delete_nameplate (d : Chan) (npid : Nat) :
    ChanWriteIs AppNamespace_release_nameplate__delete_nameplates_0 [("npid", .int npid)] d (d.delNameplate npid) :=
  chan_delete d.nameplates_table fun r => by
    tie_simp [Nameplate.toRow]

end Wormhole.Tie
