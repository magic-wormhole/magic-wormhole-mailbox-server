/-
  server.py `Mailbox.close`: every SQL statement of the current source means the primitive that
  `Core.mailboxClose` uses in its place.
-/
import Wormhole.Tie.Defs

namespace Wormhole.Tie
open Wormhole Wormhole.Sql Wormhole.GenSql

theorem close_select_mailbox (d : Chan) (app mb : String) :
    SelectIs Mailbox_close__select_mailboxes_0 .chan [("self._app_id", .text app), ("self._mailbox_id", .text mb)] d.tables
      ((d.mailboxes.filter (fun r => r.app = app ∧ r.id = mb)).map MailboxRow.toRow) :=
  select_star d.mailboxes_table fun r => by tie_simp [MailboxRow.toRow]

theorem close_select_side (d : Chan) (mb side : String) :
    SelectIs Mailbox_close__select_mailbox_sides_0 .chan [("self._mailbox_id", .text mb), ("side", .text side)] d.tables
      ((d.mbSides.filter (fun r => r.mailbox = mb ∧ r.side = side)).map MbSide.toRow) :=
  select_star d.mbSides_table fun r => by tie_simp [MbSide.toRow]

/-- the UPDATE is `closeSide mb side mood` -/
theorem close_update_side (d : Chan) (mb side : String) (mood : Option String) :
    ChanWriteIs Mailbox_close__update_mailbox_sides_0
      [("mood", ofOptStr mood), ("self._mailbox_id", .text mb), ("side", .text side)] d (d.closeSide mb side mood) :=
  chan_update d.mbSides_table (fun r => by tie_simp [MbSide.toRow]) fun r => by tie_simp [MbSide.toRow]

theorem close_select_sides (d : Chan) (mb : String) :
    SelectIs Mailbox_close__select_mailbox_sides_1 .chan [("self._mailbox_id", .text mb)] d.tables
      ((d.mbSidesOf mb).map MbSide.toRow) :=
  select_star d.mbSides_table fun r => by tie_simp [MbSide.toRow]

theorem close_select_nameplates (d : Chan) (app mb : String) :
    SelectIs Mailbox_close__select_nameplates_0 .chan [("self._app_id", .text app), ("self._mailbox_id", .text mb)] d.tables
      ((d.nameplatesOfMailbox app mb).map Nameplate.toRow) :=
  select_star d.nameplates_table fun r => by tie_simp [Nameplate.toRow]

theorem close_select_nameplate_sides (d : Chan) (npid : Nat) :
    SelectIs Mailbox_close__select_nameplate_sides_0 .chan [("np_row['id']", .int npid)] d.tables
      ((d.npSidesOf npid).map NpSide.toRow) :=
  select_star d.npSides_table fun r => by tie_simp [NpSide.toRow]

/-- repair A: the side rows deleted are those of the nameplates of THIS app that point at THIS mailbox -/
theorem close_delete_nameplate_sides (d : Chan) (app mb : String) :
    ChanWriteIs Mailbox_close__delete_nameplate_sides_0
      [("self._app_id", .text app), ("self._mailbox_id", .text mb)] d (d.delNpSidesOfMailbox app mb) :=
  chan_delete d.npSides_table fun r => by
    rw [Bool.eq_iff_iff, decide_eq_true_iff]
    tie_simp [NpSide.toRow, Nameplate.toRow, d.nameplates_table.read, Function.comp_def, Chan.nameplatesOfMailbox]
    exact ⟨fun ⟨x, hx, ⟨ha, hm⟩, he⟩ => ⟨x, ⟨hx, ha, hm⟩, he.symm⟩, fun ⟨x, ⟨hx, ha, hm⟩, he⟩ => ⟨x, hx, ⟨ha, hm⟩, he.symm⟩⟩

theorem close_delete_nameplates (d : Chan) (app mb : String) :
    ChanWriteIs Mailbox_close__delete_nameplates_0
      [("self._app_id", .text app), ("self._mailbox_id", .text mb)] d (d.delNameplatesOfMailbox app mb) :=
  chan_delete d.nameplates_table fun r => by
    tie_simp [Nameplate.toRow]

theorem close_delete_messages (d : Chan) (mb : String) :
    ChanWriteIs Mailbox_close__delete_messages_0 [("self._mailbox_id", .text mb)] d (d.delMessagesOf mb) :=
  chan_delete d.messages_table fun r => by
    tie_simp [Message.toRow]

theorem close_delete_mailbox_sides (d : Chan) (mb : String) :
    ChanWriteIs Mailbox_close__delete_mailbox_sides_0 [("self._mailbox_id", .text mb)] d (d.delMbSidesOf mb) :=
  chan_delete d.mbSides_table fun r => by
    tie_simp [MbSide.toRow]

theorem close_delete_mailbox (d : Chan) (mb : String) :
    ChanWriteIs Mailbox_close__delete_mailboxes_0 [("self._mailbox_id", .text mb)] d (d.delMailbox mb) :=
  chan_delete d.mailboxes_table fun r => by
    tie_simp [MailboxRow.toRow]

end Wormhole.Tie
