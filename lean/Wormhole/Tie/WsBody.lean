/-
  The bodies of the handlers of the CURRENT server_websocket.py (GeneratedWsBody.lean, regenerated on every
  run), run by the interpreter of PyWs.lean, ARE the model's handler functions of Ws.lean - for every state,
  every connection and every received object of the decoder's domain.

  A body is run once, by one equation per statement form; a guard `if c: raise Error(..)` stays an `if`-term
  (`thenRun_ite`), so the result has the shape of the model's handler before the outcome of the `Core` call is split.
-/
import Wormhole.GeneratedWsBody
import Wormhole.Props.C17
import Wormhole.Inv.MsgDb
import Wormhole.Tie.WsReject

namespace Wormhole.Tie
open Wormhole Wormhole.PyWs

@[simp] theorem setAttr_id (y : Conn) (a : String) (v : PV) : (setAttr y a v).id = y.id := by
  simp only [setAttr, apply_ite Conn.id, ite_self]

theorem findConn_updConn (s : Sys) (c : Nat) {f : Conn → Conn} (hf : ∀ y, (f y).id = y.id) :
    (s.updConn c f).findConn c = (s.findConn c).map f := by
  unfold Sys.findConn Sys.updConn
  induction s.conns with
  | nil => rfl
  | cons y ys ih =>
    by_cases hy : y.id = c
    · simp [hy, hf]
    · simpa [hy] using ih

theorem findConn_congr {s s' : Sys} (h : s'.conns = s.conns) (c : Nat) : s'.findConn c = s.findConn c := by
  unfold Sys.findConn; rw [h]

theorem updConn_updConn (s : Sys) (c : Nat) (f g : Conn → Conn) (hf : ∀ y, (f y).id = y.id) :
    (s.updConn c f).updConn c g = s.updConn c (fun y => g (f y)) := by
  unfold Sys.updConn
  simp only [List.map_map]
  congr 1
  apply List.map_congr_left
  intro y _
  by_cases hy : y.id = c <;> simp [hy, hf]

/-- what `onMessage` does with the outcome of a handler body -/
def finish (ctx : Ctx) (st : St) : Sys :=
  match st.out with
  | .running => st.s
  | .error text => st.s.sendError ctx.c text
  | .exc cls => st.s.internalErr ctx.c cls

/-- the rest of a block runs only from a state that has not raised -/
def thenRun (ctx : Ctx) (st : St) (rest : List PS) : St :=
  match st.out with
  | .running => execL ctx st rest
  | _ => st

/-- the `except` clauses of a `try`, applied to the state its body ended in -/
def handled (handlers : List (String × String)) (st : St) : St :=
  match st.out with
  | .exc cls => (match handlers.lookup cls with | some text => { st with out := .error text } | none => st)
  | _ => st

section steps
variable (ctx : Ctx) (s : Sys) (env : List (String × PV)) (fns : List (String × Closure)) (st : St) (rest : List PS)

theorem runHandler_eq (body : List PS) :
    runHandler body ctx s = finish ctx (execL ctx ⟨s, [], .running, []⟩ body) := rfl

theorem execL_nil : execL ctx st [] = st := by simp only [execL]

theorem execL_cons (p : PS) : execL ctx st (p :: rest) = thenRun ctx (execS ctx st p) rest := by
  cases h : (execS ctx st p).out <;> simp [execL, thenRun, h]

theorem execL_append : ∀ (l1 l2 : List PS) (st : St), st.out = .running →
    execL ctx st (l1 ++ l2) = thenRun ctx (execL ctx st l1) l2
  | [], l2, st, h => by simp [thenRun, h, execL_nil]
  | p :: l1, l2, st, h => by
    simp only [List.cons_append, execL_cons]
    cases hp : (execS ctx st p).out with
    | running => simp only [thenRun, hp]; exact execL_append l1 l2 _ hp
    | error text => simp [thenRun, hp]
    | exc cls => simp [thenRun, hp]

theorem thenRun_nil : thenRun ctx st [] = st := by
  cases h : st.out <;> simp [thenRun, h, execL_nil]

theorem thenRun_running : thenRun ctx ⟨s, env, .running, fns⟩ rest = execL ctx ⟨s, env, .running, fns⟩ rest := rfl
theorem thenRun_error (text : String) :
    thenRun ctx ⟨s, env, .error text, fns⟩ rest = ⟨s, env, .error text, fns⟩ := rfl
theorem thenRun_exc (cls : String) : thenRun ctx ⟨s, env, .exc cls, fns⟩ rest = ⟨s, env, .exc cls, fns⟩ := rfl

theorem thenRun_ite (b : Prop) [Decidable b] (A B : St) :
    thenRun ctx (if b then A else B) rest = if b then thenRun ctx A rest else thenRun ctx B rest := by
  split <;> rfl

theorem finish_ite (b : Prop) [Decidable b] (A B : St) :
    finish ctx (if b then A else B) = if b then finish ctx A else finish ctx B := by
  split <;> rfl

theorem finish_running : finish ctx ⟨s, env, .running, fns⟩ = s := rfl
theorem finish_error (text : String) : finish ctx ⟨s, env, .error text, fns⟩ = s.sendError ctx.c text := rfl
theorem finish_exc (cls : String) : finish ctx ⟨s, env, .exc cls, fns⟩ = s.internalErr ctx.c cls := rfl

theorem handled_running (hs : List (String × String)) :
    handled hs ⟨s, env, .running, fns⟩ = ⟨s, env, .running, fns⟩ := rfl
theorem handled_exc (hs : List (String × String)) (cls : String) :
    handled hs ⟨s, env, .exc cls, fns⟩ =
      match hs.lookup cls with
      | some text => ⟨s, env, .error text, fns⟩
      | none => ⟨s, env, .exc cls, fns⟩ := rfl

/- `execS` by statement form: `simp [execS]` unfolds `try_` with the run of its body copied five times, and does so
   before it tries any lemma. -/

theorem execS_raise (text : String) : execS ctx st (.raise_ text) = { st with out := .error text } := by
  simp only [execS]

theorem execS_assert : execS ctx st .assert_ = st := by simp only [execS]

theorem execS_if (c : PE) (t e : List PS) :
    execS ctx st (.if_ c t e) =
      if isTruthy (eval (st.conn ctx) ctx st.env c) then execL ctx st t else execL ctx st e := by
  simp only [execS]

theorem execS_setAttr (a : String) (e : PE) :
    execS ctx st (.setAttr a e) =
      { st with s := st.s.updConn ctx.c (fun y => setAttr y a (eval (st.conn ctx) ctx st.env e)) } := by
  simp only [execS]

theorem execS_setLocal (v : String) (e : PE) :
    execS ctx st (.setLocal v e) = { st with env := (v, eval (st.conn ctx) ctx st.env e) :: st.env } := by
  simp only [execS]

theorem execS_send (ty : String) (kw : List (String × PE)) :
    execS ctx st (.send ty kw) =
      match mkFrame ty (kw.map (fun p => (p.1, eval (st.conn ctx) ctx st.env p.2))) with
      | some f => { st with s := st.s.send ctx.c f }
      | none => { st with out := .exc "TypeError" } := by
  simp only [execS]
  rfl

theorem execS_call (into : Option (Bool × String)) (recv meth : String) (args : List PE) :
    execS ctx st (.call into recv meth args) =
      match (st.conn ctx).app with
      | none => { st with out := .exc "AttributeError" }
      | some app =>
        match callMethod st.s ctx app (st.conn ctx).mailbox recv meth (args.map (eval (st.conn ctx) ctx st.env)) with
        | .raised s1 cls => { st with s := s1, out := .exc cls }
        | .ret s1 v =>
          match into with
          | none => { st with s := s1 }
          | some (true, a) => { st with s := s1.updConn ctx.c (fun y => setAttr y a v) }
          | some (false, l) => { st with s := s1, env := (l, v) :: st.env } := by
  simp only [execS]
  rfl

theorem execS_try (body : List PS) (hs : List (String × String)) :
    execS ctx st (.try_ body hs) = handled hs (execL ctx st body) := by
  simp only [execS, handled]
  cases (execL ctx st body).out <;> rfl

theorem execS_defSend (name param ty : String) (kw : List (String × String)) :
    execS ctx st (.defSend name param ty kw) = { st with fns := (name, .send param ty kw) :: st.fns } := by
  simp only [execS]

theorem execS_defStop (name : String) (resets : List (String × PE)) :
    execS ctx st (.defStop name resets) = { st with fns := (name, .stop resets) :: st.fns } := by
  simp only [execS]

theorem execS_forCall (var recv meth fn : String) (args : List PE) :
    execS ctx st (.forCall var recv meth args fn) =
      match (st.conn ctx).app with
      | none => { st with out := .exc "AttributeError" }
      | some app =>
        if recv = "_mailbox" ∧ meth = "add_listener" then
          let r := listenReplay st.s ctx app (st.conn ctx).mailbox st.fns (args.map (eval (st.conn ctx) ctx st.env)) fn
          { st with s := r.1, out := r.2 }
        else { st with out := .exc "AttributeError" } := by
  simp only [execS]
  rfl

end steps

attribute [local simp] runHandler_eq execL_nil execL_cons thenRun_nil thenRun_running thenRun_error thenRun_exc
  thenRun_ite finish_ite finish_running finish_error finish_exc handled_running handled_exc execS_raise execS_assert
  execS_if execS_setAttr execS_setLocal execS_send execS_call execS_try execS_defSend execS_defStop execS_forCall
  St.conn eval isTruthy getAttr setAttr ofOptStr PV.toBool PV.toHandle lookup_cons_eq

theorem mkFrame_pong (pv : PV) : mkFrame "pong" [("pong", pv)] = pv.toVal?.map .pong := by
  simp only [mkFrame, lookup_cons_eq, ↓reduceIte]
  cases pv with
  | json v => cases v <;> rfl
  | _ => rfl

theorem toVal_ofJson (jv : JVal) : (ofJson jv).toVal? = jv.toVal? := by cases jv <;> rfl

theorem getPV_toVal {o : JObj} {k : String} {v : Val} (h : fieldVal (jget o k) = some (some v)) :
    (getPV o k).toVal? = some v := by
  unfold getPV
  cases hj : jget o k with
  | none => simp [hj, fieldVal] at h
  | some jv => simpa [hj, fieldVal, toVal_ofJson] using h

theorem getPV_id {o : JObj} {v : Val} (h : fieldId (jget o "id") = some v) : (getPV o "id").toVal? = some v := by
  unfold getPV
  cases hj : jget o "id" with
  | none => simpa [hj, fieldId, PV.toVal?] using h
  | some jv => simpa [hj, fieldId, toVal_ofJson] using h

theorem getPV_mood {o : JObj} {k : String} {mood : Option String} (h : fieldMood (jget o k) = some mood) :
    (getPV o k).toOptStr = mood := by
  unfold getPV
  cases hj : jget o k with
  | none => simpa [hj, fieldMood, PV.toOptStr] using h
  | some v => cases v <;> simp [hj, fieldMood, JVal.toOptStr?] at h <;> simp [ofJson, PV.toOptStr, h]

theorem handle_ping_eq (s : Sys) (c : Nat) (t : Time) (msg : JObj) (pick : Nat) (draws : List Nat) (fresh : String)
    (v : Option Val) (hv : fieldVal (jget msg "ping") = some v) (body : List PS)
    (hb : GenWsBody.handle_ping = some body) :
    runHandler body ⟨c, t, msg, pick, draws, fresh⟩ s = s.handlePing c v := by
  obtain rfl : _ = body := Option.some.inj hb
  have hj := fieldVal_present hv
  cases v with
  | none => simp at hj; simp [hj, Sys.handlePing]
  | some w => simp at hj; simp [hj, mkFrame_pong, getPV_toVal hv, Sys.handlePing]

theorem handle_claim_eq (s : Sys) (c : Nat) (x : Conn) (app side : String) (t : Time) (msg : JObj) (pick : Nat)
    (draws : List Nat) (fresh : String) (n : Option String)
    (hx : s.findConn c = some x) (ha : x.app = some app) (hs : x.side = some side)
    (hn : fieldStr (jget msg "nameplate") = some n) (body : List PS)
    (hb : GenWsBody.handle_claim = some body) :
    runHandler body ⟨c, t, msg, pick, draws, fresh⟩ s = s.handleClaim x app side t n fresh := by
  obtain rfl : _ = body := Option.some.inj hb
  obtain rfl := Sys.findConn_id hx
  have hj := fieldStr_inv hn
  cases n with
  | none => simp [hj, Sys.handleClaim]
  | some name =>
    simp [getPV, ofJson, PV.toOptStr, hj, hx, ha, hs, findConn_updConn, updConn_updConn, callMethod, callClaim,
      Sys.handleClaim]
    generalize Sys.claimNameplate _ app name side t fresh = r
    obtain ⟨s3, r⟩ := r
    cases r <;> simp [claimRes, mkFrame, Sys.sendError]

theorem handle_allocate_eq (s : Sys) (c : Nat) (x : Conn) (app side : String) (t : Time) (msg : JObj) (pick : Nat)
    (draws : List Nat) (fresh : String)
    (hx : s.findConn c = some x) (ha : x.app = some app) (hs : x.side = some side) (body : List PS)
    (hb : GenWsBody.handle_allocate = some body) :
    runHandler body ⟨c, t, msg, pick, draws, fresh⟩ s = s.handleAllocate x app side t pick draws fresh := by
  obtain rfl : _ = body := Option.some.inj hb
  obtain rfl := Sys.findConn_id hx
  simp [hx, ha, hs, callMethod, callAllocate, Sys.handleAllocate]
  cases Sys.findAvailable (s.db.namesOfApp app) pick draws with
  | none => simp
  | some name =>
    simp only []
    generalize s.claimNameplate app name side t fresh = r
    obtain ⟨s3, r⟩ := r
    cases r <;> simp [claimRes, mkFrame]

theorem handle_release_eq (s : Sys) (c : Nat) (x : Conn) (app side : String) (t : Time) (msg : JObj) (pick : Nat)
    (draws : List Nat) (fresh : String) (n : Option String)
    (hx : s.findConn c = some x) (ha : x.app = some app) (hs : x.side = some side)
    (hn : fieldStr (jget msg "nameplate") = some n) (body : List PS)
    (hb : GenWsBody.handle_release = some body) :
    runHandler body ⟨c, t, msg, pick, draws, fresh⟩ s = s.handleRelease x app side t n := by
  obtain rfl : _ = body := Option.some.inj hb
  obtain rfl := Sys.findConn_id hx
  have hj := fieldStr_inv hn
  rw [Sys.handleRelease_eq]
  cases n <;> cases hnp : x.nameplateId <;>
    simp [getPV, ofJson, hj, hnp, hx, ha, hs, findConn_updConn, callMethod, callRelease, Sys.releaseWith]
  -- left: the three ways the checks settle on a name; in each, the call and the final `send`
  all_goals
    generalize Sys.releaseNameplate _ app _ side t = r
    obtain ⟨s1, ok⟩ := r
    cases ok <;> simp [boolRes, mkFrame]

theorem handle_list_eq (s : Sys) (c : Nat) (x : Conn) (app : String) (t : Time) (msg : JObj) (pick : Nat)
    (draws : List Nat) (fresh : String)
    (hx : s.findConn c = some x) (ha : x.app = some app) (body : List PS)
    (hb : GenWsBody.handle_list = some body) :
    runHandler body ⟨c, t, msg, pick, draws, fresh⟩ s = s.handleList x app := by
  obtain rfl : _ = body := Option.some.inj hb
  obtain rfl := Sys.findConn_id hx
  cases hal : s.cfg.allowList <;> simp [hx, ha, hal, callMethod, mkFrame, Sys.handleList]

theorem handle_add_eq (s : Sys) (c : Nat) (x : Conn) (app side : String) (t : Time) (msg : JObj) (pick : Nat)
    (draws : List Nat) (fresh : String) (id : Val) (ph bd : Option Val)
    (hx : s.findConn c = some x) (ha : x.app = some app) (hs : x.side = some side)
    (hid : fieldId (jget msg "id") = some id)
    (hph : fieldVal (jget msg "phase") = some ph) (hbd : fieldVal (jget msg "body") = some bd) (body : List PS)
    (hb : GenWsBody.handle_add = some body) :
    runHandler body ⟨c, t, msg, pick, draws, fresh⟩ s = s.handleAdd x app side t id ph bd := by
  obtain rfl : _ = body := Option.some.inj hb
  obtain rfl := Sys.findConn_id hx
  have hp := fieldVal_present hph
  have hb := fieldVal_present hbd
  cases hmb : x.mailbox with
  | none => simp [hx, hmb, Sys.handleAdd]
  | some mb =>
    cases ph with
    | none => simp at hp; simp [hx, hmb, hp, Sys.handleAdd]
    | some p =>
      cases bd with
      | none => simp at hp hb; simp [hx, hmb, hp, hb, Sys.handleAdd]
      | some b =>
        simp at hp hb
        simp [hx, hmb, hp, hb, ha, hs, callMethod, callAddMessage, getPV_toVal hph, getPV_toVal hbd,
          getPV_id hid, Sys.handleAdd]

theorem bound_truthy (x : Conn) (ctx : Ctx) (env : List (String × PV)) :
    isTruthy (eval x ctx env (.or_ (.attr "_app") (.attr "_side"))) =
      decide (x.app.isSome ∨ (x.side.isSome ∧ x.side ≠ some "")) := by
  cases hxa : x.app <;> cases hxs : x.side <;> simp [hxa, hxs]

theorem handle_bind_eq (s : Sys) (c : Nat) (x : Conn) (t : Time) (msg : JObj) (pick : Nat) (draws : List Nat) (fresh : String)
    (a sd i v : Option String)
    (hx : s.findConn c = some x)
    (hap : fieldStr (jget msg "appid") = some a) (hsd : fieldStr (jget msg "side") = some sd)
    (hcv : fieldCv (jget msg "client_version") = some (i, v)) (body : List PS)
    (hb : GenWsBody.handle_bind = some body) :
    runHandler body ⟨c, t, msg, pick, draws, fresh⟩ s = s.handleBind x t a sd i v := by
  obtain rfl : _ = body := Option.some.inj hb
  obtain rfl := Sys.findConn_id hx
  have hja := fieldStr_inv hap
  have hjs := fieldStr_inv hsd
  rw [runHandler_eq, execL_cons, execS_if, bound_truthy]
  cases a with
  | none => simp [hx, hja, Sys.handleBind]
  | some app =>
    cases sd with
    | none => simp [hx, hja, hjs, Sys.handleBind]
    | some side =>
      simp [getPV, ofJson, PV.toOptStr, hx, hja, hjs, findConn_updConn, updConn_updConn, callMethod, callLogClientVersion,
        Sys.handleBind]
      cases hjc : jget msg "client_version" with
      | none =>
        simp [hjc, fieldCv] at hcv
        obtain ⟨rfl, rfl⟩ := hcv
        simp [cvOf, fieldCv, JVal.toOptStr?]
      | some jc =>
        rw [hjc] at hcv
        simp [cvOf, hcv]

theorem openMailbox_findConn {S s1 : Sys} {r : Sys.OpenRes} {app mb side : String} {t : Time}
    (hr : S.openMailbox app mb side t = (s1, r)) (c : Nat) : s1.findConn c = S.findConn c := by
  have := Sys.openMailbox_conns S app mb side t
  rw [hr] at this
  exact findConn_congr this c

theorem handle_open_eq (s : Sys) (c : Nat) (x : Conn) (app side : String) (t : Time) (msg : JObj) (pick : Nat)
    (draws : List Nat) (fresh : String) (m : Option String)
    (hx : s.findConn c = some x) (ha : x.app = some app) (hs : x.side = some side)
    (hm : fieldStr (jget msg "mailbox") = some m) (body : List PS)
    (hb : GenWsBody.handle_open = some body) :
    runHandler body ⟨c, t, msg, pick, draws, fresh⟩ s = s.handleOpen x app side t m := by
  obtain rfl : _ = body := Option.some.inj hb
  obtain rfl := Sys.findConn_id hx
  have hj := fieldStr_inv hm
  cases hmb : x.mailbox with
  | some h => simp [hx, hmb, Sys.handleOpen]
  | none =>
    cases m with
    | none => simp [hj, hx, hmb, Sys.handleOpen]
    | some mb =>
      simp [getPV, ofJson, PV.toOptStr, hj, hx, hmb, ha, hs, findConn_updConn, callMethod, callOpen, Sys.handleOpen]
      generalize hr : Sys.openMailbox _ app mb side t = p
      obtain ⟨s1, r⟩ := p
      have hf := openMailbox_findConn hr x.id
      cases r <;>
        simp [openRes, hf, hx, ha, findConn_updConn, updConn_updConn, listenReplay, expectedSend, expectedStop]

/-! ### handle_close, in three stages: the checks that settle on a mailbox id, `open_mailbox` if the connection holds
    no mailbox yet, and the close proper -/

theorem updConn_congr_on (s : Sys) (c : Nat) (f g : Conn → Conn) (h : ∀ y ∈ s.conns, y.id = c → f y = g y) :
    s.updConn c f = s.updConn c g := by
  unfold Sys.updConn
  congr 1
  apply List.map_congr_left
  intro y hy
  by_cases hc : y.id = c
  · simp [hc, h y hy hc]
  · simp [hc]

theorem updConn_id (s : Sys) (c : Nat) : s.updConn c (fun y => y) = s := by
  unfold Sys.updConn
  have : (s.conns.map fun x => if x.id = c then x else x) = s.conns := by
    conv => rhs; rw [← List.map_id s.conns]
    apply List.map_congr_left; intro y _; split <;> rfl
  rw [this]

theorem uniq_updConn {s : Sys} {c : Nat} {x : Conn} {f : Conn → Conn} (_hf : ∀ y, (f y).id = y.id)
    (hu : ∀ y ∈ s.conns, y.id = c → y = x) : ∀ y ∈ (s.updConn c f).conns, y.id = c → y = f x := by
  intro y hy hc
  simp only [Sys.updConn, List.mem_map] at hy
  obtain ⟨y0, hy0, rfl⟩ := hy
  by_cases h0 : y0.id = c
  · have := hu y0 hy0 h0
    subst this
    simp [h0]
  · rw [if_neg h0] at hc
    exact absurd hc h0

/-- the two validating statements at the head of `handle_close` -/
def closeHead : List PS :=
  [.if_ (.attr "_did_close") [.raise_ "only one close per connection"] [],
   .if_ (.has "mailbox")
     [.if_ (.notNone (.attr "_mailbox_id"))
        [.if_ (.ne (.item "mailbox") (.attr "_mailbox_id")) [.raise_ "open and close must use same mailbox"] []] [],
      .setLocal "mailbox_id" (.item "mailbox")]
     [.if_ (.isNone (.attr "_mailbox_id")) [.raise_ "close without mailbox must follow open"] [],
      .setLocal "mailbox_id" (.attr "_mailbox_id")]]

/-- `if not self._mailbox: try: self._mailbox = self._app.open_mailbox(…) except CrowdedError: raise Error("crowded")` -/
def closeOpen : PS :=
  .if_ (.not_ (.attr "_mailbox"))
     [.try_ [.call (some (true, "_mailbox")) "_app" "open_mailbox" [.local_ "mailbox_id", .attr "_side", .rx]]
        [("CrowdedError", "crowded")]] []

/-- the statements of `handle_close` after the mailbox object is in hand -/
def closeTail : List PS :=
  [.if_ (.attr "_listening") [.call none "_mailbox" "remove_listener" [.self_], .setAttr "_listening" (.false_)] [],
   .setAttr "_did_close" (.true_), .call none "_mailbox" "close" [.attr "_side", .get "mood", .rx],
   .setAttr "_mailbox" (.none_), .send "closed" []]

theorem handle_close_split : GenWsBody.handle_close = some (closeHead ++ closeOpen :: closeTail) := rfl

theorem closeTail_eq (S1 : Sys) (x1 : Conn) (app side h : String) (t : Time) (msg : JObj) (pick : Nat)
    (draws : List Nat) (fresh : String) (mood : Option String) (env : List (String × PV))
    (hx : S1.findConn x1.id = some x1) (huniq : ∀ y ∈ S1.conns, y.id = x1.id → y = x1)
    (ha : x1.app = some app) (hs : x1.side = some side) (hm : x1.mailbox = some h)
    (hmood : fieldMood (jget msg "mood") = some mood) :
    finish ⟨x1.id, t, msg, pick, draws, fresh⟩
        (execL ⟨x1.id, t, msg, pick, draws, fresh⟩ ⟨S1, env, .running, []⟩ closeTail) =
      Sys.closeFinish x1 app side t mood (S1, .ok, h) := by
  have hmoodv := getPV_mood hmood
  -- a connection that is not listening skips `self._listening = False`; the model writes it all the same
  have h3 : x1.listening = false → S1.updConn x1.id (fun y => { y with didClose := true })
      = S1.updConn x1.id (fun y => { y with listening := false, didClose := true }) := by
    intro hl
    apply updConn_congr_on
    intro y hy hc
    rw [huniq y hy hc]
    simp [hl]
  cases hl : x1.listening <;>
    simp [closeTail, hx, hl, ha, hs, hm, findConn_updConn, updConn_updConn, callMethod, callClose, hmoodv, h3,
      Sys.closeFinish]
  all_goals
    generalize Sys.mailboxClose _ app h side mood t = r
    obtain ⟨s3, ok⟩ := r
    cases ok <;> simp [boolRes, mkFrame]

theorem close_go (s : Sys) (x : Conn) (app side mb : String) (t : Time) (msg : JObj) (pick : Nat)
    (draws : List Nat) (fresh : String) (mood : Option String)
    (hx : s.findConn x.id = some x) (huniq : ∀ y ∈ s.conns, y.id = x.id → y = x)
    (ha : x.app = some app) (hs : x.side = some side) (hmood : fieldMood (jget msg "mood") = some mood) :
    finish ⟨x.id, t, msg, pick, draws, fresh⟩ (thenRun ⟨x.id, t, msg, pick, draws, fresh⟩
      (execS ⟨x.id, t, msg, pick, draws, fresh⟩ ⟨s, [("mailbox_id", .str mb)], .running, []⟩ closeOpen) closeTail) =
    Sys.closeFinish x app side t mood (s.closeOpened x app side t mb) := by
  unfold Sys.closeOpened
  cases hmb : x.mailbox with
  | some h =>
    simp [closeOpen, hx, hmb]
    exact closeTail_eq s x app side h t msg pick draws fresh mood _ hx huniq ha hs hmb hmood
  | none =>
    simp [closeOpen, hx, hmb, ha, hs, callMethod, callOpen]
    generalize hr : s.openMailbox app mb side t = p
    obtain ⟨s1, r⟩ := p
    have hc1 : s1.conns = s.conns := by
      have := Sys.openMailbox_conns s app mb side t
      rw [hr] at this; exact this
    cases r with
    | crowded => simp [openRes, updConn_id, Sys.closeFinish]
    | integrity => simp [openRes, updConn_id, Sys.closeFinish]
    | ok =>
      simp [openRes]
      exact closeTail_eq (s1.updConn x.id (fun y => { y with mailbox := some mb })) { x with mailbox := some mb } app side mb
        t msg pick draws fresh mood _
        (by rw [findConn_updConn s1 x.id (f := fun y => { y with mailbox := some mb }) (fun _ => rfl), findConn_congr hc1, hx]; rfl)
        (uniq_updConn (f := fun y => { y with mailbox := some mb }) (fun _ => rfl) (by rw [hc1]; exact huniq)) ha hs rfl hmood

theorem handle_close_eq (s : Sys) (c : Nat) (x : Conn) (app side : String) (t : Time) (msg : JObj) (pick : Nat)
    (draws : List Nat) (fresh : String) (m mood : Option String)
    (hx : s.findConn c = some x) (huniq : ∀ y ∈ s.conns, y.id = c → y = x)
    (ha : x.app = some app) (hs : x.side = some side)
    (hm : fieldStr (jget msg "mailbox") = some m) (hmood : fieldMood (jget msg "mood") = some mood) (body : List PS)
    (hb : GenWsBody.handle_close = some body) :
    runHandler body ⟨c, t, msg, pick, draws, fresh⟩ s = s.handleClose x app side t m mood := by
  rw [handle_close_split] at hb
  obtain rfl : _ = body := Option.some.inj hb
  obtain rfl := Sys.findConn_id hx
  have hj := fieldStr_inv hm
  have go := fun mb => close_go s x app side mb t msg pick draws fresh mood hx huniq ha hs hmood
  rw [runHandler_eq, execL_append _ _ _ _ rfl, Sys.handleClose_eq]
  cases m <;> cases hmi : x.mailboxId <;> simp [closeHead, getPV, ofJson, hj, hmi, hx, go]

/-! ### the hypotheses `GenWsBody.handle_x = some body` above are not vacuous: all nine handlers ARE translated -/

theorem translated_handlers :
    GenWsBody.handle_ping.isSome = true ∧ GenWsBody.handle_bind.isSome = true ∧ GenWsBody.handle_allocate.isSome = true ∧
    GenWsBody.handle_claim.isSome = true ∧ GenWsBody.handle_release.isSome = true ∧ GenWsBody.handle_close.isSome = true ∧
    GenWsBody.handle_add.isSome = true ∧ GenWsBody.handle_list.isSome = true ∧ GenWsBody.handle_open.isSome = true :=
  ⟨rfl, rfl, rfl, rfl, rfl, rfl, rfl, rfl, rfl⟩

/-- non-vacuity on a concrete state: a bound connection claims nameplate "7" through the generated body -/
example :
    let s0 : Sys := { conns := [{ id := 2, app := some "a", side := some "s" }] }
    (GenWsBody.handle_claim.map (fun b => (runHandler b ⟨2, 5, [("type", .str "claim"), ("nameplate", .str "7")], 0, [], "mb"⟩ s0).out)) =
      some [.commit .chan, .commit .chan, .frame 2 (.claimed "mb") true] := by decide +kernel

end Wormhole.Tie
