/-
  The classification and the time arithmetic of the usage summaries of the CURRENT server.py (GeneratedSumm.lean,
  regenerated on every run) are the model's `summarizeNameplate` / `summarizeMailbox` (Core.lean) - the functions
  `Props/C15.lean` (classification, times) and `Props/C16.lean` (blur) reason about - for every list of side rows, every
  deletion time, both values of `pruned` and every blur interval.

  Both bodies are straight-line: assignments, and `if`s that only assign.  Each is run once; a conditional assignment
  extends the environment conditionally, so every test of the program is still an `if` in the returned record, which is
  compared with the model's at the end.
-/
import Wormhole.GeneratedSumm

namespace Wormhole.Tie
open Wormhole Wormhole.PySum

namespace Summ
variable {inp : Inp} {env : List (String × SV)}

theorem execL_nil (st : St) : execL inp st [] = st := by rw [execL]

/-- The value is written with `getD` and not bound by a `match`: `simp` simplifies the alternatives of a `match` before its
    discriminant is known, and would run the rest of the program on an unknown value. -/
theorem execL_assign (v : String) (e : SE) (rest : List SS) :
    execL inp ⟨env, none, false⟩ (.assign v e :: rest)
      = if (eval inp env e).isSome then execL inp ⟨(v, (eval inp env e).getD .none) :: env, none, false⟩ rest
        else ⟨env, none, true⟩ := by
  rw [execL, execS]
  cases eval inp env e <;> rfl

theorem execL_ret (fields : List (String × SE)) (rest : List SS) :
    execL inp ⟨env, none, false⟩ (.ret fields :: rest)
      = ⟨env, evalFields inp env fields, (evalFields inp env fields).isNone⟩ := by
  rw [execL, execS]
  cases evalFields inp env fields <;> rfl

theorem execL_if (c : SE) (t e rest : List SS) :
    execL inp ⟨env, none, false⟩ (.if_ c t e :: rest)
      = if (eval inp env c).isSome then
          let st := if truthy ((eval inp env c).getD .none) then execL inp ⟨env, none, false⟩ t
            else execL inp ⟨env, none, false⟩ e
          if st.failed || st.ret.isSome then st else execL inp st rest
        else ⟨env, none, true⟩ := by
  rw [execL, execS]
  cases eval inp env c <;> rfl

/-- `if c: v = e`, where `e` need only evaluate when `c` holds -/
theorem execL_if_assign {c : Prop} [Decidable c] {x : SV} {ce e : SE} (v : String) (rest : List SS)
    (hc : (eval inp env ce).map truthy = some (decide c)) (hx : c → eval inp env e = some x) :
    execL inp ⟨env, none, false⟩ (.if_ ce [.assign v e] [] :: rest)
      = execL inp ⟨if c then (v, x) :: env else env, none, false⟩ rest := by
  rcases h : eval inp env ce with _ | cv
  · simp [h] at hc
  · by_cases hc' : c <;> simp_all [execL_if, execL_assign, execL_nil]

/-- `if len(tv) > 1: v = tv[1] - tv[0]` -/
theorem execL_gap {ts : List Int} {tv : String} (v : String) (rest : List SS) (h : env.lookup tv = some (.ints ts)) :
    execL inp ⟨env, none, false⟩
        (.if_ (.gt (.len (.var tv)) (.int 1)) [.assign v (.sub (.index (.var tv) 1) (.index (.var tv) 0))] [] :: rest)
      = execL inp ⟨if 1 < ts.length then (v, .int (ts.getD 1 0 - ts.getD 0 0)) :: env else env, none, false⟩ rest := by
  apply execL_if_assign
  · simp [eval, h, truthy]
    omega
  · intro hl
    rcases ts with _ | ⟨a, _ | ⟨b, r⟩⟩ <;> simp_all [eval]

/-- `if self._blur_usage: v = self._blur_usage * (v // self._blur_usage)`, for a blur interval that is not 0 -/
theorem execL_blur {t : Int} (hb : ∀ b, inp.blur = some b → b ≠ 0) (v : String) (rest : List SS)
    (h : env.lookup v = some (.int t)) :
    execL inp ⟨env, none, false⟩ (.if_ .blur [.assign v (.mul .blur (.floordiv (.var v) .blur))] [] :: rest)
      = execL inp ⟨if inp.blur.isSome then (v, .int (blurFn inp.blur t)) :: env else env, none, false⟩ rest := by
  apply execL_if_assign
  · rcases hi : inp.blur with _ | b <;> simp [eval, truthy, hi]
    exact hb b hi
  · intro hs
    obtain ⟨b, hi⟩ := Option.isSome_iff_exists.1 hs
    simp [eval, h, hi, hb b hi, blurFn]

/-- `tv[0] if tv else d` -/
theorem eval_head_or {ts : List Int} {x : Int} {tv : String} {d : SE} (h : env.lookup tv = some (.ints ts))
    (hd : eval inp env d = some (.int x)) :
    eval inp env (.ite (.var tv) (.index (.var tv) 0) d) = some (.int (ts.head?.getD x)) := by
  cases ts <;> simp [eval, h, hd, truthy]

end Summ

/- `List.lookup` is rewritten by `List.lookup_cons`, not unfolded: unfolded, `isDefEq` decides the variable names by `whnf`,
   up to a second for one comparison. -/
attribute [local simp] eval evalFields truthy List.lookup_cons Summ.execL_nil Summ.execL_assign Summ.execL_ret
-- low priority: `execL_gap` and `execL_blur` take their statements first
attribute [local simp low] Summ.execL_if

theorem nameplate_summary_eq (rows : List SRow) (dt : Int) (pruned : Bool) (blur : Option Int)
    (hb : ∀ b, blur = some b → b ≠ 0) :
    run GenSumm.nameplate ⟨rows, dt, pruned, blur⟩
      = (summarizeNameplate (blurFn blur) (rows.map (·.added)) dt pruned).map ofSummary := by
  obtain ⟨ts, hts⟩ : ∃ ts, sortInts (rows.map (·.added)) = ts := ⟨_, rfl⟩
  have hts' : sortTimes (rows.map (·.added)) = ts := hts
  rcases ts with _ | ⟨t0, rest⟩
  · simp [run, GenSumm.nameplate, hts, summarizeNameplate, hts']
  · simp [run, GenSumm.nameplate, hts, ← apply_ite (St.mk · none false), apply_ite (List.lookup _), ← apply_ite some,
      Summ.execL_gap (ts := t0 :: rest), Summ.execL_blur (inp := ⟨_, dt, pruned, blur⟩) (t := t0) hb]
    simp only [summarizeNameplate, hts', ofSummary, Option.map_some, apply_ite SV.str, Option.some.injEq, List.cons.injEq,
      Prod.mk.injEq, true_and, and_true]
    refine ⟨?_, ?_, ?_⟩
    · cases blur <;> rfl
    · cases rest <;> simp
    · norm_cast

/-- `"m" in [row["mood"] for row in side_rows if row.get("mood")]` is `any side has mood m`, for a non-empty `m` -/
theorem mood_in (sides : List MbSide) (m : String) (hm : m ≠ "") :
    ((sides.map (fun r => r.mood)).filter
        (fun x => match x with | some s => decide (s ≠ "") | none => false)).contains (some m)
      = sides.any (fun r => decide (r.mood = some m)) := by
  rw [Bool.eq_iff_iff]
  simp [hm]

theorem mailbox_summary_eq (sides : List MbSide) (dt : Int) (pruned : Bool) (blur : Option Int)
    (hb : ∀ b, blur = some b → b ≠ 0) :
    run GenSumm.mailbox ⟨sides.map (fun r => ⟨r.added, r.mood⟩), dt, pruned, blur⟩
      = some (ofSummary (summarizeMailbox (blurFn blur) sides dt pruned)) := by
  obtain ⟨ts, hts⟩ : ∃ ts, sortInts (sides.map (fun r => r.added)) = ts := ⟨_, rfl⟩
  have hts' : sortTimes (sides.map (·.added)) = ts := hts
  simp [run, GenSumm.mailbox, List.map_map, Function.comp_def, hts, ← apply_ite (St.mk · none false),
    apply_ite (List.lookup _), ← apply_ite some,
    ↓Summ.eval_head_or (ts := ts) (x := dt), Summ.execL_gap (ts := ts),
    Summ.execL_blur (inp := ⟨_, dt, pruned, blur⟩) (t := ts.head?.getD dt) hb]
  simp only [summarizeMailbox, hts', ofSummary, apply_ite SV.str, List.cons.injEq, Prod.mk.injEq, true_and, and_true]
  refine ⟨?_, ?_, ?_, ?_⟩
  · cases blur <;> cases ts <;> rfl
  · rcases ts with _ | ⟨a, _ | ⟨b, r⟩⟩ <;> simp
  · cases ts <;> rfl
  · norm_cast
    simp only [List.any_eq_true, decide_eq_true_eq, gt_iff_lt, List.length_eq_zero_iff]

/-- non-vacuity of the hypothesis (a blur interval in effect is never 0): two sides, one scary, blur 7 s = 56 ticks -/
example :
    run GenSumm.mailbox ⟨[(⟨"m", true, "a", 100, some "happy"⟩ : MbSide), ⟨"m", true, "b", 60, some "scary"⟩].map
        (fun r => ⟨r.added, r.mood⟩), 200, false, some 56⟩
      = some (ofSummary (summarizeMailbox (blurFn (some 56))
          [⟨"m", true, "a", 100, some "happy"⟩, ⟨"m", true, "b", 60, some "scary"⟩] 200 false)) :=
  mailbox_summary_eq _ 200 false (some 56) (by intro b h; cases h; decide)

end Wormhole.Tie
