/-
  The statement table of PySrv.lean (`stmtSem`: statement NAME -> primitive of Store.lean) is justified entry by entry:
  the name is the name of a statement of the regenerated GeneratedSql.lean (`GenSql.all`), the argument count is that
  statement's, and on the positional argument cells the program computed, the meaning (Sql.lean) of the regenerated
  statement is what the table says:
    * a `fetchone()` SELECT: the first row of `execSelect` (or `None`),
    * a `fetchall()` SELECT: the rows of `execSelect`,
    * a write: the target table afterwards is `execWrite …`, every other table is unchanged, the AUTOINCREMENT
      counter moves iff the statement inserts into `nameplates` (and `lastrowid` is the counter before).
  Each entry is derived from the by-expression-text theorem of its statement (Tie/MailboxOpen.lean … Tie/Prune.lean) by
  one of the `of_tie` lemmas.
  Not covered: constraint failures (PRIMARY KEY of `mailboxes.id`: the IntegrityError branch of the table is the
  model's; finding K-global-mailbox-id, dynamic tie).
-/
import Wormhole.PySrv
import Wormhole.Tie.MailboxOpen
import Wormhole.Tie.Messages
import Wormhole.Tie.Claim
import Wormhole.Tie.Release
import Wormhole.Tie.MailboxClose
import Wormhole.Tie.UsageSql
import Wormhole.Tie.Prune

namespace Wormhole.Tie
open Wormhole Wormhole.Sql Wormhole.GenSql Wormhole.PySrv

def rowOf : SV → Option Row
  | .row r => some r.toRow
  | _ => none

structure EntryOne (name : String) (st : Stmt) (args : List SV) (s : Sys) : Prop where
  named : GenSql.all.lookup name = some st
  nargs : st.args.length = args.length
  sem : ∃ v, stmtSem s name args = .ok s v ∧ rowOf v = (execSelect st (args.map SV.toCell) s.db.tables).head?

structure EntryAll (name : String) (st : Stmt) (args : List SV) (s : Sys) : Prop where
  named : GenSql.all.lookup name = some st
  nargs : st.args.length = args.length
  sem : ∃ l, stmtSem s name args = .ok s (.rows l) ∧ l.map RowV.toRow = execSelect st (args.map SV.toCell) s.db.tables

/-- `ChanWriteIs` on positional cells -/
structure ChanWritePos (st : Stmt) (ps : List Cell) (d d' : Chan) : Prop where
  isWrite : st.kind ≠ .select
  onDb : st.db = .chan
  nameplates : d'.tables "nameplates" = chanAfter st ps d "nameplates"
  npSides : d'.tables "nameplate_sides" = chanAfter st ps d "nameplate_sides"
  mailboxes : d'.tables "mailboxes" = chanAfter st ps d "mailboxes"
  mbSides : d'.tables "mailbox_sides" = chanAfter st ps d "mailbox_sides"
  messages : d'.tables "messages" = chanAfter st ps d "messages"
  seq : d'.nextNp = d.nextNp + (if st.kind = .insert ∧ st.table = "nameplates" then 1 else 0)

theorem ChanWriteIs.pos {st : Stmt} {env : List (String × Cell)} {d d' : Chan} (h : ChanWriteIs st env d d')
    {ps : List Cell} (hb : bindArgs st env = ps) : ChanWritePos st ps d d' := by
  subst hb
  exact ⟨h.isWrite, h.onDb, h.nameplates, h.npSides, h.mailboxes, h.mbSides, h.messages, h.seq⟩

structure EntryWrite (name : String) (st : Stmt) (args : List SV) (s : Sys) : Prop where
  named : GenSql.all.lookup name = some st
  nargs : st.args.length = args.length
  sem : ∃ d' v, stmtSem s name args = .ok { s with db := d' } v ∧ ChanWritePos st (args.map SV.toCell) s.db d'

theorem rowOf_optRow {α} (f : α → RowV) (o : Option α) : rowOf (optRow f o) = o.map fun r => (f r).toRow := by
  cases o <;> rfl

/-! An entry from the tie theorem of its statement (`tie`).  What an entry supplies is the place of its name in
  `GenSql.all` (`named`) and, for `fetchone()`, the first-row lemma (`one`).  The rest is found by evaluation unless given:
  `sem`, the equation of `stmtSem` at that name (its unfold lemma, then the name tests top-down: `simp [stmtSem]` would
  first generate the table's splitting equations, seconds per call); `nargs`; and `bind`, that the binding by
  expression text of `tie` yields the positional cells. -/

theorem EntryOne.of_tie {name st args s env rows} {α} (f : α → RowV) {o : Option α}
    (named : GenSql.all.lookup name = some st) (tie : SelectIs st .chan env s.db.tables rows)
    (one : rows.head? = o.map fun r => (f r).toRow)
    (sem : stmtSem s name args = .ok s (optRow f o) := by
      simp only [stmtSem.eq_def, String.reduceEq, ↓reduceIte, asNat_natCast])
    (nargs : st.args.length = args.length := by rfl) (bind : bindArgs st env = args.map SV.toCell := by rfl) :
    EntryOne name st args s :=
  ⟨named, nargs, _, sem, by rw [rowOf_optRow, ← bind, tie.result, one]⟩

theorem EntryAll.of_tie {name st args s env} {α} (f : α → RowV) {l : List α}
    (named : GenSql.all.lookup name = some st) (tie : SelectIs st .chan env s.db.tables (l.map fun r => (f r).toRow))
    (sem : stmtSem s name args = .ok s (.rows (l.map f)) := by
      simp only [stmtSem.eq_def, String.reduceEq, ↓reduceIte, asNat_natCast])
    (nargs : st.args.length = args.length := by rfl) (bind : bindArgs st env = args.map SV.toCell := by rfl) :
    EntryAll name st args s :=
  ⟨named, nargs, _, sem, by rw [← bind, tie.result, List.map_map]; rfl⟩

theorem EntryWrite.of_tie {name st args s env d'} (v : SV)
    (named : GenSql.all.lookup name = some st) (tie : ChanWriteIs st env s.db d')
    (sem : stmtSem s name args = .ok { s with db := d' } v := by
      simp only [stmtSem.eq_def, String.reduceEq, ↓reduceIte, asNat_natCast, Sys.modDb])
    (nargs : st.args.length = args.length := by rfl) (bind : bindArgs st env = args.map SV.toCell := by rfl) :
    EntryWrite name st args s :=
  ⟨named, nargs, _, _, sem, tie.pos bind⟩

/-! ### Mailbox.open / _touch -/

theorem e_open_select (s : Sys) (mb side : String) :
    EntryOne "Mailbox_open__select_mailbox_sides_0" Mailbox_open__select_mailbox_sides_0 [.str mb, .str side] s :=
  .of_tie .mbs (named_at 0 rfl) (Mailbox_open_select s.db mb side) (findMbSide_fetchone s.db mb side)

theorem e_open_insert (s : Sys) (mb side : String) (t : Time) :
    EntryWrite "Mailbox_open__insert_mailbox_sides_0" Mailbox_open__insert_mailbox_sides_0
      [.str mb, .bool true, .str side, .int t] s :=
  .of_tie .none (named_at 1 rfl) (Mailbox_open_insert s.db mb side t)

theorem e_touch_update (s : Sys) (mb : String) (t : Time) :
    EntryWrite "Mailbox__touch__update_mailboxes_0" Mailbox__touch__update_mailboxes_0 [.int t, .str mb] s :=
  .of_tie .none (named_at 2 rfl) (Mailbox_touch_update s.db mb t)

theorem e_add_message_insert (s : Sys) (app mb side : String) (phase body id : Val) (t : Time) :
    EntryWrite "Mailbox__add_message__insert_messages_0" Mailbox__add_message__insert_messages_0 [.str app, .str mb, .str side, .val phase, .val body, .int t, .val id] s :=
  .of_tie .none (named_at 4 rfl) (add_message_insert s.db app mb side phase body id t)

/-! ### _add_mailbox / open_mailbox -/

theorem e_add_mailbox_select (s : Sys) (app mb : String) :
    EntryOne "AppNamespace__add_mailbox__select_mailboxes_0" AppNamespace__add_mailbox__select_mailboxes_0 [.str app, .str mb] s :=
  .of_tie .mb (named_at 30 rfl) (add_mailbox_select s.db app mb) (findMailbox_fetchone s.db app mb)

theorem e_open_mailbox_select (s : Sys) (mb : String) :
    EntryAll "AppNamespace_open_mailbox__select_mailbox_sides_0" AppNamespace_open_mailbox__select_mailbox_sides_0 [.str mb] s :=
  .of_tie .mbs (named_at 32 rfl) (open_mailbox_select s.db mb)

/-- the INSERT of `_add_mailbox`, when no mailbox has that id (otherwise SQLite refuses: PRIMARY KEY) -/
theorem e_add_mailbox_insert (s : Sys) (app mb : String) (forNp : Bool) (t : Time) (hfree : s.db.findMailboxById mb = none) :
    EntryWrite "AppNamespace__add_mailbox__insert_mailboxes_0" AppNamespace__add_mailbox__insert_mailboxes_0
      [.str app, .str mb, .bool forNp, .int t] s :=
  .of_tie .none (named_at 31 rfl) (add_mailbox_insert s.db app mb forNp t)
    (sem := by simp only [stmtSem.eq_def, String.reduceEq, ↓reduceIte, hfree, Sys.modDb])

/-! ### claim_nameplate -/

theorem e_claim_select (s : Sys) (app name : String) :
    EntryOne "AppNamespace_claim_nameplate__select_nameplates_0" AppNamespace_claim_nameplate__select_nameplates_0 [.str app, .str name] s :=
  .of_tie .np (named_at 18 rfl) (claim_select_nameplate s.db app name) (findNameplate_fetchone s.db app name)

theorem e_claim_insert (s : Sys) (app name mb : String) :
    EntryWrite "AppNamespace_claim_nameplate__insert_nameplates_0" AppNamespace_claim_nameplate__insert_nameplates_0 [.str app, .str name, .str mb] s :=
  .of_tie (.int s.db.nextNp) (named_at 19 rfl) (claim_insert_nameplate s.db app name mb)

theorem e_claim_select_side (s : Sys) (npid : Nat) (side : String) :
    EntryOne "AppNamespace_claim_nameplate__select_nameplate_sides_0" AppNamespace_claim_nameplate__select_nameplate_sides_0 [.int npid, .str side] s :=
  .of_tie .nps (named_at 20 rfl) (claim_select_side s.db npid side) (findNpSide_fetchone s.db npid side)

theorem e_claim_insert_side (s : Sys) (npid : Nat) (side : String) (t : Time) :
    EntryWrite "AppNamespace_claim_nameplate__insert_nameplate_sides_0" AppNamespace_claim_nameplate__insert_nameplate_sides_0 [.int npid, .bool true, .str side, .int t] s :=
  .of_tie .none (named_at 21 rfl) (claim_insert_side s.db npid side t)

theorem e_claim_select_sides (s : Sys) (npid : Nat) :
    EntryAll "AppNamespace_claim_nameplate__select_nameplate_sides_1" AppNamespace_claim_nameplate__select_nameplate_sides_1 [.int npid] s :=
  .of_tie .nps (named_at 22 rfl) (claim_select_sides s.db npid)

/-! ### release_nameplate -/

theorem e_release_select (s : Sys) (app name : String) :
    EntryOne "AppNamespace_release_nameplate__select_nameplates_0" AppNamespace_release_nameplate__select_nameplates_0 [.str app, .str name] s :=
  .of_tie .np (named_at 23 rfl) (release_select_nameplate s.db app name) (findNameplate_fetchone s.db app name)

theorem e_release_select_side (s : Sys) (npid : Nat) (side : String) :
    EntryOne "AppNamespace_release_nameplate__select_nameplate_sides_0" AppNamespace_release_nameplate__select_nameplate_sides_0 [.int npid, .str side] s :=
  .of_tie .nps (named_at 24 rfl) (release_select_side s.db npid side) (findNpSide_fetchone s.db npid side)

theorem e_release_update (s : Sys) (npid : Nat) (side : String) :
    EntryWrite "AppNamespace_release_nameplate__update_nameplate_sides_0" AppNamespace_release_nameplate__update_nameplate_sides_0 [.bool false, .int npid, .str side] s :=
  .of_tie .none (named_at 25 rfl) (release_update_side s.db npid side)

theorem e_release_select_sides (s : Sys) (npid : Nat) :
    EntryAll "AppNamespace_release_nameplate__select_nameplate_sides_1" AppNamespace_release_nameplate__select_nameplate_sides_1 [.int npid] s :=
  .of_tie .nps (named_at 26 rfl) (release_select_sides s.db npid)

theorem e_release_delete_sides (s : Sys) (npid : Nat) :
    EntryWrite "AppNamespace_release_nameplate__delete_nameplate_sides_0" AppNamespace_release_nameplate__delete_nameplate_sides_0 [.int npid] s :=
  .of_tie .none (named_at 27 rfl) (release_delete_sides s.db npid)

theorem e_release_delete (s : Sys) (npid : Nat) :
    EntryWrite "AppNamespace_release_nameplate__delete_nameplates_0" AppNamespace_release_nameplate__delete_nameplates_0 [.int npid] s :=
  .of_tie .none (named_at 28 rfl) (release_delete_nameplate s.db npid)

/-! ### Mailbox.close -/

theorem e_close_select (s : Sys) (app mb : String) :
    EntryOne "Mailbox_close__select_mailboxes_0" Mailbox_close__select_mailboxes_0 [.str app, .str mb] s :=
  .of_tie .mb (named_at 5 rfl) (close_select_mailbox s.db app mb) (findMailbox_fetchone s.db app mb)

theorem e_close_select_side (s : Sys) (mb side : String) :
    EntryOne "Mailbox_close__select_mailbox_sides_0" Mailbox_close__select_mailbox_sides_0 [.str mb, .str side] s :=
  .of_tie .mbs (named_at 6 rfl) (close_select_side s.db mb side) (findMbSide_fetchone s.db mb side)

theorem e_close_update_none (s : Sys) (mb side : String) :
    EntryWrite "Mailbox_close__update_mailbox_sides_0" Mailbox_close__update_mailbox_sides_0 [.bool false, .none, .str mb, .str side] s :=
  .of_tie .none (named_at 7 rfl) (close_update_side s.db mb side none)

theorem e_close_update_some (s : Sys) (mb side mood : String) :
    EntryWrite "Mailbox_close__update_mailbox_sides_0" Mailbox_close__update_mailbox_sides_0 [.bool false, .str mood, .str mb, .str side] s :=
  .of_tie .none (named_at 7 rfl) (close_update_side s.db mb side (some mood))

theorem e_close_select_sides (s : Sys) (mb : String) :
    EntryAll "Mailbox_close__select_mailbox_sides_1" Mailbox_close__select_mailbox_sides_1 [.str mb] s :=
  .of_tie .mbs (named_at 8 rfl) (close_select_sides s.db mb)

theorem e_close_select_nameplates (s : Sys) (app mb : String) :
    EntryAll "Mailbox_close__select_nameplates_0" Mailbox_close__select_nameplates_0 [.str app, .str mb] s :=
  .of_tie .np (named_at 9 rfl) (close_select_nameplates s.db app mb)

theorem e_close_select_nameplate_sides (s : Sys) (npid : Nat) :
    EntryAll "Mailbox_close__select_nameplate_sides_0" Mailbox_close__select_nameplate_sides_0 [.int npid] s :=
  .of_tie .nps (named_at 10 rfl) (close_select_nameplate_sides s.db npid)

theorem e_close_delete_nameplate_sides (s : Sys) (app mb : String) :
    EntryWrite "Mailbox_close__delete_nameplate_sides_0" Mailbox_close__delete_nameplate_sides_0 [.str app, .str mb] s :=
  .of_tie .none (named_at 11 rfl) (close_delete_nameplate_sides s.db app mb)

theorem e_close_delete_nameplates (s : Sys) (app mb : String) :
    EntryWrite "Mailbox_close__delete_nameplates_0" Mailbox_close__delete_nameplates_0 [.str app, .str mb] s :=
  .of_tie .none (named_at 12 rfl) (close_delete_nameplates s.db app mb)

theorem e_close_delete_messages (s : Sys) (mb : String) :
    EntryWrite "Mailbox_close__delete_messages_0" Mailbox_close__delete_messages_0 [.str mb] s :=
  .of_tie .none (named_at 13 rfl) (close_delete_messages s.db mb)

theorem e_close_delete_mailbox_sides (s : Sys) (mb : String) :
    EntryWrite "Mailbox_close__delete_mailbox_sides_0" Mailbox_close__delete_mailbox_sides_0 [.str mb] s :=
  .of_tie .none (named_at 14 rfl) (close_delete_mailbox_sides s.db mb)

theorem e_close_delete_mailbox (s : Sys) (mb : String) :
    EntryWrite "Mailbox_close__delete_mailboxes_0" Mailbox_close__delete_mailboxes_0 [.str mb] s :=
  .of_tie .none (named_at 15 rfl) (close_delete_mailbox s.db mb)

/-! ### the usage database -/

/-- `UsageWriteIs` on positional cells -/
structure UsageWritePos (st : Stmt) (ps : List Cell) (u u' : Usage) : Prop where
  isWrite : st.kind ≠ .select
  onDb : st.db = .usage
  nameplates : u'.tables "nameplates" = usageAfter st ps u "nameplates"
  mailboxes : u'.tables "mailboxes" = usageAfter st ps u "mailboxes"
  current : u'.tables "current" = usageAfter st ps u "current"
  clients : u'.tables "client_versions" = usageAfter st ps u "client_versions"

theorem UsageWriteIs.pos {st : Stmt} {env : List (String × Cell)} {u u' : Usage} (h : UsageWriteIs st env u u')
    {ps : List Cell} (hb : bindArgs st env = ps) : UsageWritePos st ps u u' := by
  subst hb
  exact ⟨h.isWrite, h.onDb, h.nameplates, h.mailboxes, h.current, h.clients⟩

structure EntryUWrite (name : String) (st : Stmt) (args : List SV) (s : Sys) : Prop where
  named : GenSql.all.lookup name = some st
  nargs : st.args.length = args.length
  sem : ∃ u', stmtSem s name args = .ok { s with udb := u' } .none ∧ UsageWritePos st (args.map SV.toCell) s.udb u'

theorem EntryUWrite.of_tie {name st args s env u'}
    (named : GenSql.all.lookup name = some st) (tie : UsageWriteIs st env s.udb u')
    (sem : stmtSem s name args = .ok { s with udb := u' } .none)
    (nargs : st.args.length = args.length := by rfl) (bind : bindArgs st env = args.map SV.toCell := by rfl) :
    EntryUWrite name st args s :=
  ⟨named, nargs, _, sem, tie.pos bind⟩

def waitSV : Option Time → SV
  | none => .none
  | some w => .int w

theorem e_store_nameplate (s : Sys) (app : String) (started total : Time) (waiting : Option Time) (result : String) :
    EntryUWrite "AppNamespace__summarize_nameplate_and_store__insert_nameplates_0"
      AppNamespace__summarize_nameplate_and_store__insert_nameplates_0
      [.str app, .int started, .int total, waitSV waiting, .str result] s :=
  .of_tie (named_at 29 rfl) (store_nameplate_usage_insert s.udb app started waiting total result)
    (by cases waiting <;> simp only [stmtSem.eq_def, String.reduceEq, ↓reduceIte, waitSV, Sys.modUdb])
    (bind := by cases waiting <;> rfl)

theorem e_store_mailbox (s : Sys) (app : String) (forNp : Bool) (started total : Time) (waiting : Option Time)
    (result : String) :
    EntryUWrite "AppNamespace__summarize_mailbox_and_store__insert_mailboxes_0"
      AppNamespace__summarize_mailbox_and_store__insert_mailboxes_0
      [.str app, .bool forNp, .int started, .int total, waitSV waiting, .str result] s :=
  .of_tie (named_at 33 rfl) (store_mailbox_usage_insert s.udb app forNp started total waiting result)
    (by cases waiting <;> simp only [stmtSem.eq_def, String.reduceEq, ↓reduceIte, waitSV, Sys.modUdb])
    (bind := by cases waiting <;> rfl)

theorem e_log_client_version (s : Sys) (app side : String) (t : Time) (impl version : Option String) :
    EntryUWrite "AppNamespace_log_client_version__insert_client_versions_0"
      AppNamespace_log_client_version__insert_client_versions_0
      [.str app, .str side, .int t, optStrSV impl, optStrSV version] s :=
  .of_tie (named_at 16 rfl) (log_client_version_insert s.udb app side t impl version)
    (by simp only [stmtSem.eq_def, String.reduceEq, ↓reduceIte, logClientStmt, optOfSV_optStrSV, Sys.modUdb])
    (bind := by cases impl <;> cases version <;> rfl)

theorem e_get_messages (s : Sys) (app mb : String) :
    EntryAll "Mailbox_get_messages__select_messages_0" Mailbox_get_messages__select_messages_0 [.str app, .str mb] s :=
  .of_tie .msg (named_at 3 rfl) (get_messages_select s.db app mb)
    (sem := by simp only [stmtSem.eq_def, String.reduceEq, ↓reduceIte, getMessagesStmt])

theorem e_dump_delete (s : Sys) :
    EntryUWrite "Server_dump_stats__delete_current_0" Server_dump_stats__delete_current_0 [] s :=
  .of_tie (named_at 47 rfl) (dump_stats_delete s.udb)
    (by simp only [stmtSem.eq_def, String.reduceEq, ↓reduceIte, dumpDeleteStmt, Sys.modUdb])

def optNatSV : Option Nat → SV
  | none => .none
  | some b => .int b

theorem e_dump_insert (s : Sys) (rebooted now : Time) (blur : Option Nat) (conns : Nat) :
    EntryUWrite "Server_dump_stats__insert_current_0" Server_dump_stats__insert_current_0
      [.int rebooted, .int now, optNatSV blur, .int conns] s :=
  .of_tie (named_at 48 rfl) (dump_stats_insert s.udb rebooted now blur conns)
    (by cases blur <;> simp only [stmtSem.eq_def, String.reduceEq, ↓reduceIte, dumpInsertStmt, optNatOfSV, optNatSV,
          asNat_natCast, Sys.modUdb])
    (bind := by cases blur <;> rfl)

theorem e_all_apps_nameplates (s : Sys) :
    EntryAll "Server_get_all_apps__select_nameplates_0" Server_get_all_apps__select_nameplates_0 [] s :=
  .of_tie .app (named_at 44 rfl) (all_apps_nameplates s.db)
    (sem := by simp only [stmtSem.eq_def, String.reduceEq, ↓reduceIte, allAppsStmt])

theorem e_all_apps_mailboxes (s : Sys) :
    EntryAll "Server_get_all_apps__select_mailboxes_0" Server_get_all_apps__select_mailboxes_0 [] s :=
  .of_tie .app (named_at 45 rfl) (all_apps_mailboxes s.db)
    (sem := by simp only [stmtSem.eq_def, String.reduceEq, ↓reduceIte, allAppsStmt])

theorem e_all_apps_messages (s : Sys) :
    EntryAll "Server_get_all_apps__select_messages_0" Server_get_all_apps__select_messages_0 [] s :=
  .of_tie .app (named_at 46 rfl) (all_apps_messages s.db)
    (sem := by simp only [stmtSem.eq_def, String.reduceEq, ↓reduceIte, allAppsStmt])

theorem e_names (s : Sys) (app : String) :
    EntryAll "AppNamespace__get_nameplate_ids__select_nameplates_0" AppNamespace__get_nameplate_ids__select_nameplates_0
      [.str app] s :=
  .of_tie .name (named_at 17 rfl) (get_nameplate_ids_select s.db app)
    (sem := by simp only [stmtSem.eq_def, String.reduceEq, ↓reduceIte, namesStmt])

/-! ### coverage -/

/-- the statement names that have an entry theorem above -/
def tiedNames : List String := [
  "Mailbox_open__select_mailbox_sides_0", "Mailbox_open__insert_mailbox_sides_0", "Mailbox__touch__update_mailboxes_0",
  "Mailbox__add_message__insert_messages_0", "AppNamespace__add_mailbox__select_mailboxes_0",
  "AppNamespace__add_mailbox__insert_mailboxes_0", "AppNamespace_open_mailbox__select_mailbox_sides_0",
  "AppNamespace_claim_nameplate__select_nameplates_0", "AppNamespace_claim_nameplate__insert_nameplates_0",
  "AppNamespace_claim_nameplate__select_nameplate_sides_0", "AppNamespace_claim_nameplate__insert_nameplate_sides_0",
  "AppNamespace_claim_nameplate__select_nameplate_sides_1", "AppNamespace_release_nameplate__select_nameplates_0",
  "AppNamespace_release_nameplate__select_nameplate_sides_0", "AppNamespace_release_nameplate__update_nameplate_sides_0",
  "AppNamespace_release_nameplate__select_nameplate_sides_1", "AppNamespace_release_nameplate__delete_nameplate_sides_0",
  "AppNamespace_release_nameplate__delete_nameplates_0",
  "Mailbox_close__select_mailboxes_0", "Mailbox_close__select_mailbox_sides_0", "Mailbox_close__update_mailbox_sides_0",
  "Mailbox_close__select_mailbox_sides_1", "Mailbox_close__select_nameplates_0", "Mailbox_close__select_nameplate_sides_0",
  "Mailbox_close__delete_nameplate_sides_0", "Mailbox_close__delete_nameplates_0", "Mailbox_close__delete_messages_0",
  "Mailbox_close__delete_mailbox_sides_0", "Mailbox_close__delete_mailboxes_0",
  "AppNamespace__summarize_nameplate_and_store__insert_nameplates_0",
  "AppNamespace__summarize_mailbox_and_store__insert_mailboxes_0",
  "AppNamespace_log_client_version__insert_client_versions_0", "Mailbox_get_messages__select_messages_0",
  "Server_dump_stats__delete_current_0", "Server_dump_stats__insert_current_0",
  "Server_get_all_apps__select_nameplates_0", "Server_get_all_apps__select_mailboxes_0",
  "Server_get_all_apps__select_messages_0", "AppNamespace__get_nameplate_ids__select_nameplates_0"]

end Wormhole.Tie
