/-
  `List.lookup` on a string key, with the key compared by `=`.  The interpreters of the regenerated data
  (Sql.lean, PyWs.lean, PySrv.lean) look names up in association lists; between two string literals `simp`
  decides `a = k` from the first differing character, while a proof about `a == k` makes the kernel evaluate
  the comparison on both strings.
-/
namespace Wormhole.Tie

theorem lookup_cons_eq {β : Type _} (k a : String) (b : β) (es : List (String × β)) :
    List.lookup k ((a, b) :: es) = if k = a then some b else List.lookup k es := by
  by_cases h : k = a
  · simp [List.lookup, h]
  · simp [List.lookup, h, beq_eq_false_iff_ne.2 h]

end Wormhole.Tie
