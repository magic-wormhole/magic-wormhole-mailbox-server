/-
  server.py `Mailbox.get_messages`, `Mailbox._add_message`.
-/
import Wormhole.Tie.Defs

namespace Wormhole.Tie
open Wormhole Wormhole.Sql Wormhole.GenSql

/-- `get_messages`: the stored messages of `(app, mb)` in `server_rx` order (stable), i.e. what
    `Ws.lean` replays: `(messagesOf app mb).mergeSort (rx ≤ rx)` -/
theorem get_messages_select (d : Chan) (app mb : String) :
    SelectIs Mailbox_get_messages__select_messages_0 .chan [("self._app_id", .text app), ("self._mailbox_id", .text mb)] d.tables
      (((d.messagesOf app mb).mergeSort (fun a b => decide (a.rx ≤ b.rx))).map Message.toRow) := by
  have keeps : ∀ r : Message, rowMatches d.tables [.text app, .text mb] [.eq "app_id" 0, .eq "mailbox_id" 1] r.toRow
      = decide (r.app = app ∧ r.mailbox = mb) := fun r => by tie_simp [Message.toRow]
  refine ⟨rfl, rfl, by simp [argsBound_eq, argBound, lookup_cons_eq, Mailbox_get_messages__select_messages_0], ?_⟩
  rw [List.map_mergeSort (s := fun a b => decide ((Row.get a "server_rx").toInt ≤ (Row.get b "server_rx").toInt))
    (fun a _ b _ => by tie_simp [Message.toRow, Cell.toInt])]
  simp [execSelect, Mailbox_get_messages__select_messages_0, bindArgs, evalArg_eq, lookup_cons_eq, (d.messages_table).read,
    filter_typed keeps, Chan.messagesOf]

/-- `_add_message`: the INSERT is `insMessage` of the row with the client's scalars coerced by the
    columns' TEXT affinity (`Val.toText`): the arguments bound are the scalars AS RECEIVED -/
theorem add_message_insert (d : Chan) (app mb side : String) (phase body id : Val) (t : Time) :
    ChanWriteIs Mailbox__add_message__insert_messages_0
      [("self._app_id", .text app), ("self._mailbox_id", .text mb), ("sm.side", .text side), ("sm.phase", ofVal phase),
       ("sm.body", ofVal body), ("sm.server_rx", .int t), ("sm.msg_id", ofVal id)] d
      (d.insMessage ⟨app, mb, side, phase.toText, body.toText, t, id.toText⟩) :=
  chan_insert d.messages_table (by
    tie_simp [Message.toRow]
    refine ⟨?_, ?_, ?_⟩
    · cases phase <;> simp [ofVal, Val.toText]
    · cases body <;> simp [ofVal, Val.toText]
    · cases id <;> simp [ofVal, Val.toText])

end Wormhole.Tie
