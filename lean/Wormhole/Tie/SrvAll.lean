/-
  The methods of server.py, regenerated: every statement name the translated bodies use has an entry theorem
  (Tie/SrvStmts.lean), and every body equals the model's function (Tie/Srv.lean).
-/
import Wormhole.Tie.Srv
import Wormhole.Tie.SrvStmts
import Wormhole.Tie.SrvWs
import Wormhole.Tie.SrvSumm
import Wormhole.Tie.SrvTop
import Wormhole.Tie.SrvSweep
import Wormhole.Tie.Alloc
import Wormhole.Tie.AllocProps

namespace Wormhole.Tie
open Wormhole Wormhole.PySrv

/-- every SQL statement a translated method executes is one of the tied entries of the statement table -/
theorem bodies_use_tied_statements :
    (GenSrv.table.flatMap (fun m => XS.stmtsL m.2.body)).all (fun n => n ∈ tiedNames) = true := by decide +kernel

/-- … and is a statement of the regenerated GeneratedSql.lean -/
theorem tied_names_are_generated : tiedNames.all (fun n => (GenSql.all.lookup n).isSome) = true := by
  simp [tiedNames, GenSql.all]

end Wormhole.Tie
