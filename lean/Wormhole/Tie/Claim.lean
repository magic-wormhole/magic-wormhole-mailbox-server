/-
  server.py `AppNamespace.claim_nameplate`, `_get_nameplate_ids`.
-/
import Wormhole.Tie.Defs

namespace Wormhole.Tie
open Wormhole Wormhole.Sql Wormhole.GenSql

theorem claim_select_nameplate (d : Chan) (app name : String) :
    SelectIs AppNamespace_claim_nameplate__select_nameplates_0 .chan [("self._app_id", .text app), ("name", .text name)] d.tables
      ((d.nameplates.filter (fun r => r.app = app ∧ r.name = name)).map Nameplate.toRow) :=
  select_star d.nameplates_table fun r => by tie_simp [Nameplate.toRow]

theorem findNameplate_fetchone (d : Chan) (app name : String) :
    ((d.nameplates.filter (fun r => r.app = app ∧ r.name = name)).map Nameplate.toRow).head?
      = (d.findNameplate app name).map Nameplate.toRow := by
  simp [Chan.findNameplate, List.head?_map, List.head?_filter]

/-- the INSERT of the nameplate row is `insNameplate app name mailbox_id`; `lastrowid` is the
    AUTOINCREMENT counter `nextNp`, which the statement advances -/
theorem claim_insert_nameplate (d : Chan) (app name mb : String) :
    ChanWriteIs AppNamespace_claim_nameplate__insert_nameplates_0
      [("self._app_id", .text app), ("name", .text name), ("mailbox_id", .text mb)] d (d.insNameplate app name mb) :=
  chan_insert (d.nameplates_table _) (by tie_simp [Nameplate.toRow]) (by simp)

theorem claim_select_side (d : Chan) (npid : Nat) (side : String) :
    SelectIs AppNamespace_claim_nameplate__select_nameplate_sides_0 .chan [("npid", .int npid), ("side", .text side)] d.tables
      ((d.npSides.filter (fun r => r.npid = npid ∧ r.side = side)).map NpSide.toRow) :=
  select_star d.npSides_table fun r => by tie_simp [NpSide.toRow]

theorem findNpSide_fetchone (d : Chan) (npid : Nat) (side : String) :
    ((d.npSides.filter (fun r => r.npid = npid ∧ r.side = side)).map NpSide.toRow).head?
      = (d.findNpSide npid side).map NpSide.toRow := by
  simp [Chan.findNpSide, List.head?_map, List.head?_filter]

/-- the INSERT of the side row is `insNpSide ⟨npid, true, side, when⟩` -/
theorem claim_insert_side (d : Chan) (npid : Nat) (side : String) (t : Time) :
    ChanWriteIs AppNamespace_claim_nameplate__insert_nameplate_sides_0
      [("npid", .int npid), ("side", .text side), ("when", .int t)] d (d.insNpSide ⟨npid, true, side, t⟩) :=
  chan_insert d.npSides_table (by tie_simp [NpSide.toRow])

theorem claim_select_sides (d : Chan) (npid : Nat) :
    SelectIs AppNamespace_claim_nameplate__select_nameplate_sides_1 .chan [("npid", .int npid)] d.tables
      ((d.npSidesOf npid).map NpSide.toRow) :=
  select_star d.npSides_table fun r => by tie_simp [NpSide.toRow]

/-- `_get_nameplate_ids`: the distinct names of the app's nameplates are `namesOfApp` -/
theorem get_nameplate_ids_select (d : Chan) (app : String) :
    SelectIs AppNamespace__get_nameplate_ids__select_nameplates_0 .chan [("self._app_id", .text app)] d.tables
      ((d.namesOfApp app).map (fun n => [("name", .text n)])) :=
  select_distinct d.nameplates_table (fun r => by tie_simp [Nameplate.toRow]) fun r => by tie_simp [Nameplate.toRow]

end Wormhole.Tie
