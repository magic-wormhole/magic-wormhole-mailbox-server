/-
  `onMessage` as a whole: running the generated statement list of `onMessage`'s try block (GeneratedWs.lean) with the
  generated handler bodies (GeneratedWsBody.lean) IS the model's `Sys.onMessage`, for every state with a unique
  record for the connection, every received object of the decoder's domain and every outcome of the random choices.
  With `Props/Decode.lean` (the decoder) this makes the model's whole handling of a received message the translation
  of the current server_websocket.py.
-/
import Wormhole.Tie.WsBody
import Wormhole.Inv.Main

namespace Wormhole.Tie
open Wormhole Wormhole.WsGuards Wormhole.PyWs

/-- the statements of `onMessage`'s try block, run on the model's state (`id` = `msg.get("id")`) -/
def runItems (table : List (String × Option (List PS))) (ctx : Ctx) (id : Val) : List Item → Sys → Sys
  | [], s => s
  | .guard g :: rest, s =>
    if g.fires ((s.findConn ctx.c).getD { id := ctx.c }) ctx.msg then s.sendError ctx.c g.text
    else runItems table ctx id rest s
  | .ack :: rest, s => runItems table ctx id rest (s.send ctx.c (.ack id))
  | .dispatch ty h :: rest, s =>
    if typeIs ctx.msg ty then
      match table.lookup h with
      | some (some body) => runHandler body ctx s
      | _ => s.internalErr ctx.c "NotTranslated"
    else runItems table ctx id rest s

/-- the facts every case needs about the state after the ack -/
theorem ack_state {s : Sys} {c : Nat} {x : Conn} (id : Val) (hx : s.findConn c = some x)
    (hu : ∀ y ∈ s.conns, y.id = c → y = x) :
    (s.send c (.ack id)).findConn c = some x ∧ (∀ y ∈ (s.send c (.ack id)).conns, y.id = c → y = x) :=
  ⟨by rw [findConn_congr (Sys.send_conns s c _)]; exact hx, by simpa using hu⟩

section
attribute [local simp] runItems GenWs.onMessage typeIs Guard.fires Cond.holds GE.eval attrOf WsGuards.isTruthy
  GenWsBody.table lookup_cons_eq Sys.onMessage_dispatch Sys.handleBound

theorem onMessage_eq (s : Sys) (c : Nat) (x : Conn) (t : Time) (o : JObj) (pick : Nat) (draws : List Nat) (fresh : String)
    (cmd : Cmd) (hx : s.findConn c = some x) (hu : ∀ y ∈ s.conns, y.id = c → y = x)
    (hside : ∀ a, x.app = some a → ∃ sd, x.side = some sd)
    (hd : decodeCmd o pick draws fresh = some cmd) :
    runItems GenWsBody.table ⟨c, t, o, pick, draws, fresh⟩ (decodeId o) GenWs.onMessage s
      = s.onMessage c t (decodeId o) cmd := by
  rcases decodeCmd_inv hd with ⟨hty, rfl⟩ | ⟨ty, idv, hty, hid, hc⟩
  · simp [hty, hx]
  have hidv : decodeId o = idv := by simp [decodeId, hid]
  obtain ⟨hx', hu'⟩ := ack_state (decodeId o) hx hu
  have hb : x.app = none ∨ ∃ app side, x.app = some app ∧ x.side = some side := by
    cases hxa : x.app with
    | none => exact Or.inl rfl
    | some app =>
      obtain ⟨side, hxs⟩ := hside app hxa
      exact Or.inr ⟨app, side, rfl, hxs⟩
  -- after the walk of `onMessage`'s items (`simp [hty, hx, hx']`) both sides ask whether the connection is bound
  cases hc with
  | ping hv =>
    simpa [hty, hx, GenWsBody.handle_ping] using
      handle_ping_eq (s.send c (.ack (decodeId o))) c t o pick draws fresh _ hv _ rfl
  | bind ha hsd hcv =>
    simpa [hty, hx, GenWsBody.handle_bind] using
      handle_bind_eq (s.send c (.ack (decodeId o))) c x t o pick draws fresh _ _ _ _ hx' ha hsd hcv _ rfl
  | list =>
    simp [hty, hx, hx']
    rcases hb with hxa | ⟨app, side, hxa, hxs⟩
    · simp [hxa]
    · simpa [hxa, GenWsBody.handle_list] using
        handle_list_eq (s.send c (.ack (decodeId o))) c x app t o pick draws fresh hx' hxa _ rfl
  | allocate =>
    simp [hty, hx, hx']
    rcases hb with hxa | ⟨app, side, hxa, hxs⟩
    · simp [hxa]
    · simpa [hxa, hxs, GenWsBody.handle_allocate] using
        handle_allocate_eq (s.send c (.ack (decodeId o))) c x app side t o pick draws fresh hx' hxa hxs _ rfl
  | claim hn =>
    simp [hty, hx, hx']
    rcases hb with hxa | ⟨app, side, hxa, hxs⟩
    · simp [hxa]
    · simpa [hxa, hxs, GenWsBody.handle_claim] using
        handle_claim_eq (s.send c (.ack (decodeId o))) c x app side t o pick draws fresh _ hx' hxa hxs hn _ rfl
  | release hn =>
    simp [hty, hx, hx']
    rcases hb with hxa | ⟨app, side, hxa, hxs⟩
    · simp [hxa]
    · simpa [hxa, hxs, GenWsBody.handle_release] using
        handle_release_eq (s.send c (.ack (decodeId o))) c x app side t o pick draws fresh _ hx' hxa hxs hn _ rfl
  | open_ hm =>
    simp [hty, hx, hx']
    rcases hb with hxa | ⟨app, side, hxa, hxs⟩
    · simp [hxa]
    · simpa [hxa, hxs, GenWsBody.handle_open] using
        handle_open_eq (s.send c (.ack (decodeId o))) c x app side t o pick draws fresh _ hx' hxa hxs hm _ rfl
  | add hph hbd =>
    simp [hty, hx, hx']
    rcases hb with hxa | ⟨app, side, hxa, hxs⟩
    · simp [hxa]
    · rw [hidv] at hx' ⊢
      simpa [hxa, hxs, GenWsBody.handle_add] using
        handle_add_eq (s.send c (.ack idv)) c x app side t o pick draws fresh idv _ _ hx' hxa hxs hid hph hbd _ rfl
  | close hm hmood =>
    simp [hty, hx, hx']
    rcases hb with hxa | ⟨app, side, hxa, hxs⟩
    · simp [hxa]
    · simpa [hxa, hxs, GenWsBody.handle_close] using
        handle_close_eq (s.send c (.ack (decodeId o))) c x app side t o pick draws fresh _ _ hx' hu' hxa hxs hm hmood _ rfl
  | unknown h1 h2 h3 h4 h5 h6 h7 h8 h9 =>
    cases hxa : x.app <;> simp [hty, hx, hx', hxa, h1, h2, h3, h4, h5, h6, h7, h8, h9]

end

theorem uniq_of_pairwise : ∀ (l : List Conn) (c : Nat) (x : Conn), l.Pairwise (fun a b => ¬ a.id = b.id) →
    l.find? (fun y => decide (y.id = c)) = some x → ∀ y ∈ l, y.id = c → y = x
  | [], _, _, _, h, _, _, _ => by simp at h
  | z :: zs, c, x, hp, h, y, hy, hc => by
    rw [List.pairwise_cons] at hp
    by_cases hz : z.id = c
    · have hzx : z = x := by simpa [List.find?_cons, hz] using h
      subst hzx
      rcases List.mem_cons.1 hy with rfl | hy'
      · rfl
      · exact absurd (hz.trans hc.symm) (hp.1 y hy')
    · have h' : zs.find? (fun y => decide (y.id = c)) = some x := by simpa [List.find?_cons, hz] using h
      rcases List.mem_cons.1 hy with rfl | hy'
      · exact absurd hc hz
      · exact uniq_of_pairwise zs c x hp.2 h' y hy' hc

/-- `onMessage_eq` under the connection invariant of the model (Inv/Defs.lean) -/
theorem onMessage_eq_of_connInv (s : Sys) (hci : s.ConnInv) (c : Nat) (x : Conn) (t : Time) (o : JObj) (pick : Nat)
    (draws : List Nat) (fresh : String) (cmd : Cmd) (hx : s.findConn c = some x)
    (hd : decodeCmd o pick draws fresh = some cmd) :
    runItems GenWsBody.table ⟨c, t, o, pick, draws, fresh⟩ (decodeId o) GenWs.onMessage s
      = s.onMessage c t (decodeId o) cmd := by
  refine onMessage_eq s c x t o pick draws fresh cmd hx (uniq_of_pairwise s.conns c x hci.ids hx) ?_ hd
  intro a ha
  have hxm := Sys.findConn_mem hx
  have := (hci.bound x hxm).1 (by simp [ha])
  exact Option.isSome_iff_exists.1 this

/-- **in every reachable state** (any well-formed history, crashes included) the model handles a received object exactly as the
    translation of the current `onMessage` and handlers does -/
theorem onMessage_eq_reach (g : GSys) (hr : g.Reach) (c : Nat) (x : Conn) (t : Time) (o : JObj) (pick : Nat)
    (draws : List Nat) (fresh : String) (cmd : Cmd) (hx : g.sys.findConn c = some x)
    (hd : decodeCmd o pick draws fresh = some cmd) :
    runItems GenWsBody.table ⟨c, t, o, pick, draws, fresh⟩ (decodeId o) GenWs.onMessage g.sys
      = g.sys.onMessage c t (decodeId o) cmd :=
  onMessage_eq_of_connInv g.sys hr.ginv.conn c x t o pick draws fresh cmd hx hd

/-- the hypotheses of `onMessage_eq` hold in every reachable state (unique connection ids, a bound connection has a
    side): instance on a concrete state, run through the generated code -/
example :
    let s0 : Sys := { conns := [{ id := 1 }, { id := 2, app := some "a", side := some "s" }] }
    (runItems GenWsBody.table ⟨2, 5, [("type", .str "claim"), ("nameplate", .str "7"), ("id", .num 3)], 0, [], "mb"⟩ (.int 3)
        GenWs.onMessage s0).out
      = [.frame 2 (.ack (.int 3)) true, .commit .chan, .commit .chan, .frame 2 (.claimed "mb") true] := by decide +kernel

end Wormhole.Tie
