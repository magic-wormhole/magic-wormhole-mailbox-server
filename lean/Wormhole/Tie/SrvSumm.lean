/-
  The two primitives of PySrv.callee0 - `_summarize_nameplate_and_store`, `_summarize_mailbox_and_store` - are the
  regenerated bodies of those methods of server.py, with the summary functions they call resolved to the regenerated
  functions of GeneratedSumm.lean (translate_summ.py) run by PySum.lean:

      side rows --(generated summary function)--> Usage(…) --(generated INSERT)--> usage row

  is, for every list of side rows, exactly `Sys.storeNameplateUsage` / `Sys.storeMailboxUsage` (IndexError included).
-/
import Wormhole.Tie.Srv
import Wormhole.Tie.Summ

namespace Wormhole.PySrv
open Wormhole Wormhole.GenSrv

/-- a fetched side row as the summary functions read it: `row["added"]`, `row["mood"]` -/
def sRow : RowV → PySum.SRow
  | .nps r => ⟨r.added, none⟩
  | .mbs r => ⟨r.added, r.mood⟩
  | _ => ⟨0, none⟩

/-- the summary functions: the regenerated bodies (GeneratedSumm.lean) run on the fetched rows, with the server's
    blur interval; `none` from `PySum.run` = IndexError -/
def calleeSumm : Callee := fun meth _ctx args s =>
  match args with
  | [.rows l, .int dt, .bool pruned] =>
    let body := if meth = "AppNamespace._summarize_nameplate_usage" then some GenSumm.nameplate
      else if meth = "AppNamespace._summarize_mailbox" then some GenSumm.mailbox else none
    (match body with
     | some b => (match PySum.run b ⟨l.map sRow, dt, pruned, s.blurTicks⟩ with
        | some u => .ok s (.usage u)
        | none => .raised s "IndexError")
     | none => .raised s "NoSuchMethod")
  | _ => .raised s "TypeError"

theorem blurTime_eq (s : Sys) : s.blurTime = PySum.blurFn s.blurTicks := by
  funext t
  simp only [Sys.blurTime, PySum.blurFn]
  cases s.blurTicks <;> rfl

theorem blurTicks_ne (s : Sys) : ∀ b, s.blurTicks = some b → b ≠ 0 := by
  intro b h
  unfold Sys.blurTicks at h
  cases hb : s.cfg.blur with
  | none => simp [hb] at h
  | some x =>
    simp only [hb] at h
    by_cases hx : x = 0
    · simp [hx] at h
    · simp only [hx, if_false] at h
      cases h
      simp [Generated.ticksPerSecond, hx]

@[simp] theorem calleeSumm_nameplate (ctx : Ctx) (l : List NpSide) (t : Time) (pruned : Bool) (s : Sys) :
    calleeSumm "AppNamespace._summarize_nameplate_usage" ctx [.rows (l.map .nps), .int t, .bool pruned] s =
      (match summarizeNameplate s.blurTime (l.map (·.added)) t pruned with
       | some u => .ok s (.usage (PySum.ofSummary u))
       | none => .raised s "IndexError") := by
  have h := Tie.nameplate_summary_eq (l.map (fun r => (⟨r.added, none⟩ : PySum.SRow))) t pruned s.blurTicks (blurTicks_ne s)
  simp only [List.map_map, Function.comp_def] at h
  unfold calleeSumm
  simp only [if_true, List.map_map, Function.comp_def, sRow, h, blurTime_eq]
  cases summarizeNameplate (PySum.blurFn s.blurTicks) (l.map (·.added)) t pruned <;> rfl

@[simp] theorem calleeSumm_mailbox (ctx : Ctx) (l : List MbSide) (t : Time) (pruned : Bool) (s : Sys) :
    calleeSumm "AppNamespace._summarize_mailbox" ctx [.rows (l.map .mbs), .int t, .bool pruned] s =
      .ok s (.usage (PySum.ofSummary (summarizeMailbox s.blurTime l t pruned))) := by
  unfold calleeSumm
  simp [List.map_map, Function.comp_def, sRow, Tie.mailbox_summary_eq l t pruned s.blurTicks (blurTicks_ne s), blurTime_eq]

theorem store_nameplate_eq (ctx : Ctx) (l : List NpSide) (t : Time) (pruned : Bool) (s : Sys) :
    runMethod calleeSumm AppNamespace_summarize_nameplate_and_store ctx [.rows (l.map .nps), .int t, .bool pruned] s
      = callee0 "AppNamespace._summarize_nameplate_and_store" ctx [.rows (l.map .nps), .int t, .bool pruned] s := by
  cases hs : summarizeNameplate s.blurTime (l.map (·.added)) t pruned with
  | none => simp [runMethod, AppNamespace_summarize_nameplate_and_store, hs, Sys.storeNameplateUsage]
  | some u =>
    cases hw : u.waiting <;>
      simp [runMethod, AppNamespace_summarize_nameplate_and_store, hs, Sys.storeNameplateUsage, PySum.ofSummary, ofSummV, hw]

theorem store_mailbox_eq (ctx : Ctx) (forNp : Bool) (l : List MbSide) (t : Time) (pruned : Bool) (s : Sys) :
    runMethod calleeSumm AppNamespace_summarize_mailbox_and_store ctx
        [.bool forNp, .rows (l.map .mbs), .int t, .bool pruned] s
      = callee0 "AppNamespace._summarize_mailbox_and_store" ctx [.bool forNp, .rows (l.map .mbs), .int t, .bool pruned] s := by
  cases hw : (summarizeMailbox s.blurTime l t pruned).waiting <;>
    simp [runMethod, AppNamespace_summarize_mailbox_and_store, Sys.storeMailboxUsage, PySum.ofSummary, ofSummV, hw]

/-- the summary functions and the two store methods these theorems are about are the generated ones -/
theorem summ_methods_present :
    (GenSrv.table.lookup "AppNamespace._summarize_nameplate_and_store").isSome ∧
    (GenSrv.table.lookup "AppNamespace._summarize_mailbox_and_store").isSome := by
  simp [GenSrv.table]

end Wormhole.PySrv
