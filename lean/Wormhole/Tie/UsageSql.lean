/-
  server.py: the statements on the usage database (`log_client_version`,
  `_summarize_nameplate_and_store`, `_summarize_mailbox_and_store`, `dump_stats`).
-/
import Wormhole.Tie.Defs

namespace Wormhole.Tie
open Wormhole Wormhole.Sql Wormhole.GenSql

/-- `log_client_version`: the row appended by `Core.logClientVersion` (`server_rx` is the
    already-blurred local variable of that function) -/
theorem log_client_version_insert (u : Usage) (app side : String) (t : Time) (impl version : Option String) :
    UsageWriteIs AppNamespace_log_client_version__insert_client_versions_0
      [("self._app_id", .text app), ("side", .text side), ("server_rx", .int t), ("implementation", ofOptStr impl),
       ("version", ofOptStr version)] u
      { u with clients := u.clients ++ [⟨app, side, t, impl, version⟩] } :=
  usage_insert u.clients_table (by
    tie_simp [UClient.toRow]
    constructor
    · cases impl <;> simp
    · cases version <;> simp)

/-- `_summarize_nameplate_and_store`: the row appended by `Core.storeNameplateUsage` -/
theorem store_nameplate_usage_insert (u : Usage) (app : String) (started : Time) (waiting : Option Time) (total : Time)
    (result : String) :
    UsageWriteIs AppNamespace__summarize_nameplate_and_store__insert_nameplates_0
      [("self._app_id", .text app), ("u.started", .int started), ("u.total_time", .int total),
       ("u.waiting_time", ofOptTime waiting), ("u.result", .text result)] u
      { u with nameplates := u.nameplates ++ [⟨app, started, waiting, total, result⟩] } :=
  usage_insert u.nameplates_table (by tie_simp [UNameplate.toRow])

/-- `_summarize_mailbox_and_store`: the row appended by `Core.storeMailboxUsage` -/
theorem store_mailbox_usage_insert (u : Usage) (app : String) (forNp : Bool) (started total : Time) (waiting : Option Time)
    (result : String) :
    UsageWriteIs AppNamespace__summarize_mailbox_and_store__insert_mailboxes_0
      [("self._app_id", .text app), ("for_nameplate", .bool forNp), ("u.started", .int started), ("u.total_time", .int total),
       ("u.waiting_time", ofOptTime waiting), ("u.result", .text result)] u
      { u with mailboxes := u.mailboxes ++ [⟨app, forNp, started, total, waiting, result⟩] } :=
  usage_insert u.mailboxes_table (by tie_simp [UMailbox.toRow])

/-- `dump_stats`: `DELETE FROM current` empties the status table … -/
theorem dump_stats_delete (u : Usage) :
    UsageWriteIs Server_dump_stats__delete_current_0 [] u { u with current := [] } :=
  .of_rows (by decide) rfl rfl (u.current_table.write _) (by simp [execWrite, Server_dump_stats__delete_current_0, rowMatches])

/-- … and the INSERT writes the one status row of `Core.dumpStats` -/
theorem dump_stats_insert (u : Usage) (rebooted now : Time) (blur : Option Nat) (conns : Nat) :
    UsageWriteIs Server_dump_stats__insert_current_0
      [("rebooted", .int rebooted), ("now", .int now), ("self._blur_usage", ofOptNat blur), ("connections", .int conns)] u
      { u with current := u.current ++ [⟨rebooted, now, blur, conns⟩] } :=
  usage_insert u.current_table (by tie_simp [UCurrent.toRow])

end Wormhole.Tie
