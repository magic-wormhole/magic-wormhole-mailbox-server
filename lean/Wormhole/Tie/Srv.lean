/-
  The model's methods of Core.lean ARE the methods of the current server.py.

  `GeneratedSrv.lean` is regenerated from server.py on every run (harness/translate_srv.py); here, for every argument
  and every state, running the generated body (PySrv.lean) gives exactly what the model's function gives:

    Mailbox._touch              = Chan.touch on the live database (`s.modDb (·.touch …)`)
    Mailbox.open                = Sys.mailboxOpen
    Mailbox._add_message        = Sys.addMessage
    AppNamespace._add_mailbox   = Sys.addMailbox            (none = IntegrityError)
    AppNamespace.open_mailbox   = Sys.openMailbox           (.crowded = CrowdedError)
    AppNamespace.claim_nameplate   = Sys.claimNameplate     (.reclaimed = ReclaimedError, .crowded = CrowdedError)
    AppNamespace.release_nameplate = Sys.releaseNameplate   (false = IndexError)
    Mailbox.close               = Sys.mailboxClose          (false = IndexError)

  Calls between the methods are resolved through the generated bodies themselves (`callee1` … `callee3`: a method may
  only call methods of a lower layer; a call that leaves the layering would raise "NoSuchMethod" and the equality
  would fail).  Statement names are given their meaning by `PySrv.stmtSem` (tied to the regenerated SQL in
  Tie/SrvStmts.lean).
-/
import Wormhole.GeneratedSrv

namespace Wormhole.PySrv
open Wormhole Wormhole.GenSrv

/-- layer 1: methods that call nothing translated -/
def callee1 : Callee := fun meth ctx args s =>
  if meth = "Mailbox._touch" then runMethod callee0 Mailbox_touch ctx args s
  else if meth = "AppNamespace._add_mailbox" then runMethod callee0 AppNamespace_add_mailbox ctx args s
  else callee0 meth ctx args s

def callee2 : Callee := fun meth ctx args s =>
  if meth = "Mailbox.open" then runMethod callee1 Mailbox_open ctx args s
  else if meth = "Mailbox._add_message" then runMethod callee1 Mailbox_add_message ctx args s
  else callee1 meth ctx args s

def callee3 : Callee := fun meth ctx args s =>
  if meth = "AppNamespace.open_mailbox" then runMethod callee2 AppNamespace_open_mailbox ctx args s
  else callee2 meth ctx args s

@[simp] theorem res_match_id (r : Res) : (match r with | .normal st' => Res.normal st' | r => r) = r := by
  cases r <;> rfl

@[simp] theorem two_lt_cast (n : Nat) : ((2 : Int) < (n : Int)) ↔ 2 < n := by omega

private theorem modDb_cfg (s : Sys) (f : Chan → Chan) : (s.modDb f).cfg = s.cfg := rfl
private theorem modDb_modDb (s : Sys) (f g : Chan → Chan) : (s.modDb f).modDb g = s.modDb (fun d => g (f d)) := rfl

/-! What a call resolves to is stated per method name (`callee…_…`) as a proposition: a run rewrites
    `callee… "name" ctx args s` with it and never unfolds the layers (unfolded silently, the kernel would run the
    callee's body to check the step).  A layer hands on what it does not define: -/

@[simp] theorem callee1_other (meth : String) (h1 : meth ≠ "Mailbox._touch") (h2 : meth ≠ "AppNamespace._add_mailbox")
    (ctx : Ctx) (args : List SV) (s : Sys) : callee1 meth ctx args s = callee0 meth ctx args s := by
  simp [callee1, h1, h2]

@[simp] theorem callee2_other (meth : String) (h1 : meth ≠ "Mailbox.open") (h2 : meth ≠ "Mailbox._add_message")
    (ctx : Ctx) (args : List SV) (s : Sys) : callee2 meth ctx args s = callee1 meth ctx args s := by
  simp [callee2, h1, h2]

@[simp] theorem callee3_other (meth : String) (h : meth ≠ "AppNamespace.open_mailbox")
    (ctx : Ctx) (args : List SV) (s : Sys) : callee3 meth ctx args s = callee2 meth ctx args s := by
  simp [callee3, h]

theorem touch_eq (c : Callee) (ctx : Ctx) (t : Time) (s : Sys) :
    runMethod c Mailbox_touch ctx [.int t] s = .ok (s.modDb (·.touch ctx.mailbox t)) .none := by
  simp [runMethod, Mailbox_touch]

@[simp] theorem callee1_touch (ctx : Ctx) (t : Time) (s : Sys) :
    callee1 "Mailbox._touch" ctx [.int t] s = .ok (s.modDb (·.touch ctx.mailbox t)) .none := by
  simp [callee1, touch_eq]

theorem mailbox_open_eq (ctx : Ctx) (side : String) (t : Time) (s : Sys) :
    runMethod callee1 Mailbox_open ctx [.str side, .int t] s = .ok (s.mailboxOpen ctx.mailbox side t) .none := by
  unfold runMethod
  cases h : s.db.findMbSide ctx.mailbox side <;> simp [Mailbox_open, h, Sys.mailboxOpen]

@[simp] theorem callee2_open (ctx : Ctx) (side : String) (t : Time) (s : Sys) :
    callee2 "Mailbox.open" ctx [.str side, .int t] s = .ok (s.mailboxOpen ctx.mailbox side t) .none := by
  simp [callee2, mailbox_open_eq]

theorem add_message_eq (ctx : Ctx) (side : String) (phase body : Val) (t : Time) (id : Val) (s : Sys) :
    runMethod callee1 Mailbox_add_message ctx [.msg side phase body t id] s
      = .ok (s.addMessage ctx.app ctx.mailbox side phase body t id) .none := by
  unfold runMethod
  simp [Mailbox_add_message, Sys.addMessage]

def ofAddMailbox (s : Sys) : Option Sys → ExecRes
  | some s1 => .ok s1 .none
  | none => .raised s "IntegrityError"

theorem add_mailbox_eq (c : Callee) (ctx : Ctx) (mb : String) (forNp : Bool) (side : SV) (t : Time) (s : Sys) :
    runMethod c AppNamespace_add_mailbox ctx [.str mb, .bool forNp, side, .int t] s
      = ofAddMailbox s (s.addMailbox ctx.app mb forNp t) := by
  cases h : s.db.findMailbox ctx.app mb <;> cases h2 : s.db.findMailboxById mb <;>
    simp [runMethod, AppNamespace_add_mailbox, h, h2, Sys.addMailbox, ofAddMailbox]

@[simp] theorem callee1_add_mailbox (ctx : Ctx) (mb : String) (forNp : Bool) (side : SV) (t : Time) (s : Sys) :
    callee1 "AppNamespace._add_mailbox" ctx [.str mb, .bool forNp, side, .int t] s
      = ofAddMailbox s (s.addMailbox ctx.app mb forNp t) := by
  simp [callee1, add_mailbox_eq]

def ofOpen (mb : String) : Sys × Sys.OpenRes → ExecRes
  | (s, .ok) => .ok s (.str mb)
  | (s, .crowded) => .raised s "CrowdedError"
  | (s, .integrity) => .raised s "IntegrityError"

theorem open_mailbox_eq (ctx : Ctx) (mb side : String) (t : Time) (s : Sys) :
    runMethod callee2 AppNamespace_open_mailbox ctx [.str mb, .str side, .int t] s
      = ofOpen mb (s.openMailbox ctx.app mb side t) := by
  unfold runMethod
  cases h : s.addMailbox ctx.app mb false t with
  | none => simp [AppNamespace_open_mailbox, h, ofAddMailbox, Sys.openMailbox, ofOpen]
  | some s1 =>
    simp [AppNamespace_open_mailbox, h, ofAddMailbox, Sys.openMailbox, ofOpen]
    generalize (s1.mailboxOpen mb side t).commit = s2
    by_cases hc : 2 < (s2.db.mbSidesOf mb).length <;> simp [hc]

@[simp] theorem callee3_open_mailbox (ctx : Ctx) (mb side : String) (t : Time) (s : Sys) :
    callee3 "AppNamespace.open_mailbox" ctx [.str mb, .str side, .int t] s
      = ofOpen mb (s.openMailbox ctx.app mb side t) := by
  simp [callee3, open_mailbox_eq]

def ofClaim : Sys × Sys.ClaimRes → ExecRes
  | (s, .ok mb) => .ok s (.str mb)
  | (s, .crowded) => .raised s "CrowdedError"
  | (s, .reclaimed) => .raised s "ReclaimedError"
  | (s, .integrity) => .raised s "IntegrityError"

/-- the statements of `claim_nameplate` after `npid` and `mailbox_id` are known -/
def claimTailBody : List XS := AppNamespace_claim_nameplate.body.drop 2

/-- … and of those, the ones after the side row is in place: commit, open the mailbox, count the sides -/
def claimContBody : List XS := claimTailBody.drop 2

theorem claim_cont_eq (ctx : Ctx) (npid : Nat) (mb side : String) (t : Time) (s : Sys) (env : Env)
    (hp : ctx.params = [("name", .str name), ("side", .str side), ("when", .int t)])
    (h1 : env.lookup "npid" = some (.int npid)) (h2 : env.lookup "mailbox_id" = some (.str mb)) :
    finish (execL callee3 ctx claimContBody ⟨s, env⟩) = ofClaim
      (match s.commit.openMailbox ctx.app mb side t with
       | (s3, .integrity) => (s3, .integrity)
       | (s3, .crowded) => (s3, .crowded)
       | (s3, .ok) => if (s3.db.npSidesOf npid).length > 2 then (s3, .crowded) else (s3, .ok mb)) := by
  simp [claimContBody, claimTailBody, AppNamespace_claim_nameplate, hp, h2]
  generalize Sys.openMailbox _ ctx.app mb side t = o
  obtain ⟨s3, r3⟩ := o
  cases r3 <;> simp [ofOpen, ofClaim, h1]
  by_cases hc : 2 < (s3.db.npSidesOf npid).length <;> simp [hc, h2]

theorem claim_tail_eq (ctx : Ctx) (npid : Nat) (mb side : String) (t : Time) (s : Sys) (env : Env)
    (hp : ctx.params = [("name", .str name), ("side", .str side), ("when", .int t)])
    (h1 : env.lookup "npid" = some (.int npid)) (h2 : env.lookup "mailbox_id" = some (.str mb)) :
    finish (execL callee3 ctx claimTailBody ⟨s, env⟩) = ofClaim (s.claimTail ctx.app npid mb side t) := by
  have hb : claimTailBody = claimTailBody.take 2 ++ claimContBody := (List.take_append_drop 2 _).symm
  rw [hb, execL_append]
  cases hf : s.db.findNpSide npid side with
  | none =>
    simp [claimTailBody, AppNamespace_claim_nameplate, hp, h1, hf, Sys.claimTail]
    exact claim_cont_eq (name := name) ctx npid mb side t _ _ hp (by simp [h1]) (by simp [h2])
  | some r =>
    cases hcl : r.claimed <;>
      simp [claimTailBody, AppNamespace_claim_nameplate, hp, h1, hf, Sys.claimTail, hcl, ofClaim]
    exact claim_cont_eq (name := name) ctx npid mb side t _ _ hp (by simp [h1]) (by simp [h2])

theorem claim_nameplate_eq (ctx : Ctx) (name side : String) (t : Time) (s : Sys) :
    runMethod callee3 AppNamespace_claim_nameplate ctx [.str name, .str side, .int t] s
      = ofClaim (s.claimNameplate ctx.app name side t ctx.fresh) := by
  unfold runMethod
  have hb : AppNamespace_claim_nameplate.body = AppNamespace_claim_nameplate.body.take 2 ++ claimTailBody :=
    (List.take_append_drop 2 _).symm
  rw [hb, execL_append]
  cases hf : s.db.findNameplate ctx.app name with
  | none =>
    cases ha : s.addMailbox ctx.app ctx.fresh true t with
    | none => simp [AppNamespace_claim_nameplate, hf, ha, ofAddMailbox, Sys.claimNameplate, ofClaim]
    | some s1 =>
      simp [AppNamespace_claim_nameplate, hf, ha, ofAddMailbox, Sys.claimNameplate]
      exact claim_tail_eq (name := name) _ _ _ _ _ _ _ rfl (by simp) (by simp)
  | some row =>
    simp [AppNamespace_claim_nameplate, hf, Sys.claimNameplate]
    exact claim_tail_eq (name := name) _ _ _ _ _ _ _ rfl (by simp) (by simp)

def ofRelease : Sys × Bool → ExecRes
  | (s, true) => .ok s .none
  | (s, false) => .raised s "IndexError"

@[simp] theorem ofRelease_true (s : Sys) : ofRelease (s, true) = .ok s .none := rfl
@[simp] theorem ofRelease_false (s : Sys) : ofRelease (s, false) = .raised s "IndexError" := rfl
@[simp] theorem ofRelease_ite (c : Prop) [Decidable c] (a b : Sys × Bool) :
    ofRelease (if c then a else b) = if c then ofRelease a else ofRelease b := apply_ite ..

@[simp] theorem npSideRows_map (l : List NpSide) : npSideRows (l.map RowV.nps) = l := by
  induction l with
  | nil => rfl
  | cons a as ih => simpa [npSideRows, List.filterMap] using ih

@[simp] theorem callee0_store_nameplate (ctx : Ctx) (l : List NpSide) (t : Time) (pruned : Bool) (s : Sys) :
    callee0 "AppNamespace._summarize_nameplate_and_store" ctx [.rows (l.map .nps), .int t, .bool pruned] s
      = ofRelease (s.storeNameplateUsage ctx.app l t pruned) := by
  unfold callee0
  simp only [if_true, npSideRows_map]
  rcases s.storeNameplateUsage ctx.app l t pruned with ⟨s1, _ | _⟩ <;> rfl

theorem claims_truthy (l : List NpSide) :
    truthy (.rows ((l.map RowV.nps).filter (fun r => truthy (rowField r "claimed")))) = l.any (·.claimed) := by
  induction l with
  | nil => rfl
  | cons a as ih => cases h : a.claimed <;> simp_all [truthy]

/-- the statements of `release_nameplate` after the two early returns -/
def releaseTailBody : List XS := AppNamespace_release_nameplate.body.drop 5

theorem release_tail_eq (ctx : Ctx) (np : Nameplate) (side : String) (t : Time) (s : Sys) (env : Env) (r : NpSide)
    (hp : ctx.params = [("name", .str name), ("side", .str side), ("when", .int t)])
    (h1 : env.lookup "npid" = some (.int np.id))
    (hf : s.db.findNameplate ctx.app name = some np) (hs : s.db.findNpSide np.id side = some r) :
    finish (execL callee3 ctx releaseTailBody ⟨s, env⟩) = ofRelease (s.releaseNameplate ctx.app name side t) := by
  simp [releaseTailBody, AppNamespace_release_nameplate, hp, h1, hf, hs, Sys.releaseNameplate, claims_truthy,
    modDb_cfg, modDb_modDb]
  split
  · rfl
  · split
    · generalize Sys.storeNameplateUsage _ _ _ _ _ = o
      obtain ⟨s3, _ | _⟩ := o <;> simp [*]
    · simp [*]

theorem release_nameplate_eq (ctx : Ctx) (name side : String) (t : Time) (s : Sys) :
    runMethod callee3 AppNamespace_release_nameplate ctx [.str name, .str side, .int t] s
      = ofRelease (s.releaseNameplate ctx.app name side t) := by
  unfold runMethod
  have hb : AppNamespace_release_nameplate.body = AppNamespace_release_nameplate.body.take 5 ++ releaseTailBody :=
    (List.take_append_drop 5 _).symm
  rw [hb]
  cases hf : s.db.findNameplate ctx.app name with
  | none => simp [AppNamespace_release_nameplate, hf, Sys.releaseNameplate]
  | some np =>
    cases hs : s.db.findNpSide np.id side with
    | none => simp [AppNamespace_release_nameplate, hf, hs, Sys.releaseNameplate]
    | some r =>
      simp [AppNamespace_release_nameplate, hf, hs]
      exact release_tail_eq (name := name) _ np _ _ _ _ r rfl (by simp) hf hs

def moodSV : Option String → SV
  | none => .none
  | some m => .str m

@[simp] theorem mbSideRows_map (l : List MbSide) : mbSideRows (l.map RowV.mbs) = l := by
  induction l with
  | nil => rfl
  | cons a as ih => simpa [mbSideRows, List.filterMap] using ih

@[simp] theorem callee0_store_mailbox (ctx : Ctx) (forNp : Bool) (l : List MbSide) (t : Time) (pruned : Bool) (s : Sys) :
    callee0 "AppNamespace._summarize_mailbox_and_store" ctx [.bool forNp, .rows (l.map .mbs), .int t, .bool pruned] s
      = .ok (s.storeMailboxUsage ctx.app forNp l t pruned) .none := by
  unfold callee0
  simp

theorem opened_any (l : List MbSide) :
    (l.map RowV.mbs).any (fun r => truthy (rowField r "opened")) = l.any (·.opened) := by
  simp [List.any_map, Function.comp_def]

/-- the body of the loop over the nameplates that die with the mailbox -/
def npLoopBody : List XS :=
  [.exec (some "np_side_rows") .all "Mailbox_close__select_nameplate_sides_0" [.field (.var "np_row") "id"],
   .call none "AppNamespace._summarize_nameplate_and_store" none [.var "np_side_rows", .param "when", .false_]]

abbrev loopStep (c : Callee) (ctx : Ctx) (body : List XS) (v : String) : Res → RowV → Res :=
  loopStepWith (execL c ctx body) v

theorem np_loop_eq (ctx : Ctx) (t : Time) (hw : ctx.params.lookup "when" = some (.int t)) (l : List Nameplate) :
    ∀ (s : Sys) (env : Env),
      (∃ env', (l.map RowV.np).foldl (loopStep callee0 ctx npLoopBody "np_row") (.normal ⟨s, env⟩)
          = .normal ⟨(s.storeNameplatesOfMailbox ctx.app t l).1, env'⟩ ∧
        (s.storeNameplatesOfMailbox ctx.app t l).2 = true ∧
        ∀ w, w ≠ "np_row" → w ≠ "np_side_rows" → env'.lookup w = env.lookup w) ∨
      ((l.map RowV.np).foldl (loopStep callee0 ctx npLoopBody "np_row") (.normal ⟨s, env⟩)
          = .exc (s.storeNameplatesOfMailbox ctx.app t l).1 "IndexError" ∧
        (s.storeNameplatesOfMailbox ctx.app t l).2 = false) := by
  induction l with
  | nil => intro s env; exact .inl ⟨env, rfl, rfl, fun _ _ _ => rfl⟩
  | cons np rest ih =>
    intro s env
    have hstep : loopStep callee0 ctx npLoopBody "np_row" (.normal ⟨s, env⟩) (.np np)
        = (match s.storeNameplateUsage ctx.app (s.db.npSidesOf np.id) t false with
           | (s1, true) => .normal ⟨s1, setVar (setVar env "np_row" (.row (.np np))) "np_side_rows"
              (.rows ((s.db.npSidesOf np.id).map .nps))⟩
           | (s1, false) => .exc s1 "IndexError") := by
      simp [loopStep, npLoopBody, hw]
      rcases s.storeNameplateUsage ctx.app (s.db.npSidesOf np.id) t false with ⟨s1, _ | _⟩ <;> rfl
    simp only [List.map, List.foldl, Sys.storeNameplatesOfMailbox, hstep]
    rcases s.storeNameplateUsage ctx.app (s.db.npSidesOf np.id) t false with ⟨s1, _ | _⟩
    · exact .inr ⟨foldl_loopStepWith_exc _ _ _ _ _, rfl⟩
    · rcases ih s1 _ with ⟨env', h1, h2, h3⟩ | ⟨h1, h2⟩
      · refine .inl ⟨env', h1, h2, fun w hw1 hw2 => ?_⟩
        rw [h3 w hw1 hw2, lookup_setVar_ne _ _ _ _ hw2, lookup_setVar_ne _ _ _ _ hw1]
      · exact .inr ⟨h1, h2⟩

/-- the statements of `Mailbox.close` after the two early returns -/
def closeTailBody : List XS := Mailbox_close.body.drop 5
def closeA : List XS := closeTailBody.take 4
def closeB : XS := .if_ (.selfAttr "_usage_db")
    [.forExec "np_row" "Mailbox_close__select_nameplates_0" [.selfAttr "_app_id", .selfAttr "_mailbox_id"] npLoopBody] []
def closeCD : List XS := closeTailBody.drop 5

theorem closeTailBody_split : closeTailBody = closeA ++ ([closeB] ++ closeCD) := by rfl

/-- stage A: mark the side closed, commit, read the side rows, return if one is still open -/
theorem closeA_eq (ctx : Ctx) (side : String) (mood : Option String) (t : Time) (s : Sys) (env : Env)
    (hp : ctx.params = [("side", .str side), ("mood", moodSV mood), ("when", .int t)]) :
    execL callee0 ctx closeA ⟨s, env⟩ =
      (let s1 := (s.modDb (·.closeSide ctx.mailbox side mood)).commit
       if (s1.db.mbSidesOf ctx.mailbox).any (·.opened) then .ret s1 .none
       else .normal ⟨s1, setVar env "side_rows" (.rows ((s1.db.mbSidesOf ctx.mailbox).map .mbs))⟩) := by
  cases mood <;> simp [closeA, closeTailBody, Mailbox_close, hp, moodSV]

/-- stage B: the usage records of the nameplates that die with the mailbox (`o`: what the model computes there) -/
theorem closeB_eq (ctx : Ctx) (t : Time) (hw : ctx.params.lookup "when" = some (.int t)) (s : Sys) (env : Env)
    (o : Sys × Bool) (ho : (if s.cfg.usage then
      s.storeNameplatesOfMailbox ctx.app t (s.db.nameplatesOfMailbox ctx.app ctx.mailbox) else (s, true)) = o) :
    ∃ env', (∀ w, w ≠ "np_row" → w ≠ "np_side_rows" → env'.lookup w = env.lookup w) ∧
      execS callee0 ctx closeB ⟨s, env⟩ =
        (match o with | (s2, true) => .normal ⟨s2, env'⟩ | (s2, false) => .exc s2 "IndexError") := by
  subst ho
  cases hu : s.cfg.usage
  · exact ⟨env, fun _ _ _ => rfl, by simp [closeB, hu]⟩
  · have he : execS callee0 ctx closeB ⟨s, env⟩ =
        ((s.db.nameplatesOfMailbox ctx.app ctx.mailbox).map RowV.np).foldl (loopStep callee0 ctx npLoopBody "np_row")
          (.normal ⟨s, env⟩) := by
      simp [closeB, hu, loopStep]
    rw [he, if_pos rfl]
    generalize s.db.nameplatesOfMailbox ctx.app ctx.mailbox = l
    have h := np_loop_eq ctx t hw l s env
    generalize s.storeNameplatesOfMailbox ctx.app t l = p at h ⊢
    obtain ⟨s2, ok⟩ := p
    rcases h with ⟨env', h1, rfl, h3⟩ | ⟨h1, rfl⟩
    · exact ⟨env', h3, h1⟩
    · exact ⟨env, fun _ _ _ => rfl, h1⟩

/-- stages C and D: delete the rows, record the mailbox's usage, commit, stop the listeners -/
theorem closeCD_eq (ctx : Ctx) (t : Time) (hw : ctx.params.lookup "when" = some (.int t)) (s2 : Sys) (env : Env)
    (forNp : Bool) (sideRows : List MbSide)
    (h1 : env.lookup "for_nameplate" = some (.bool forNp))
    (h2 : env.lookup "side_rows" = some (.rows (sideRows.map .mbs))) :
    finish (execL callee0 ctx closeCD ⟨s2, env⟩) =
      .ok (let s3 := s2.modDb (fun d =>
            ((((d.delNpSidesOfMailbox ctx.app ctx.mailbox).delNameplatesOfMailbox ctx.app ctx.mailbox).delMessagesOf
              ctx.mailbox).delMbSidesOf ctx.mailbox).delMailbox ctx.mailbox)
           let s4 := if s3.cfg.usage then (s3.storeMailboxUsage ctx.app forNp sideRows t false).ucommit else s3
           (s4.commit).stopListeners ctx.app ctx.mailbox) .none := by
  simp [closeCD, closeTailBody, Mailbox_close, hw, h1, h2, modDb_cfg, modDb_modDb]
  split <;> simp [*]

theorem close_tail_eq (ctx : Ctx) (side : String) (mood : Option String) (t : Time) (s : Sys) (env : Env)
    (row : MailboxRow) (r : MbSide)
    (hp : ctx.params = [("side", .str side), ("mood", moodSV mood), ("when", .int t)])
    (h1 : env.lookup "for_nameplate" = some (.bool row.forNp))
    (hf : s.db.findMailbox ctx.app ctx.mailbox = some row) (hs : s.db.findMbSide ctx.mailbox side = some r) :
    finish (execL callee0 ctx closeTailBody ⟨s, env⟩) = ofRelease (s.mailboxClose ctx.app ctx.mailbox side mood t) := by
  have hw : ctx.params.lookup "when" = some (.int t) := by simp [hp]
  rw [closeTailBody_split, execL_append, closeA_eq ctx side mood t s env hp]
  simp only [Sys.mailboxClose, hf, hs]
  generalize (s.modDb fun x => x.closeSide ctx.mailbox side mood).commit = s1
  by_cases hany : (s1.db.mbSidesOf ctx.mailbox).any (·.opened) = true
  · simp [hany]
  · simp only [hany, if_false, Bool.false_eq_true]
    generalize ho : (if s1.cfg.usage = true then _ else (s1, true) : Sys × Bool) = o
    obtain ⟨env', henv, hB⟩ :=
      closeB_eq ctx t hw s1 (setVar env "side_rows" (.rows ((s1.db.mbSidesOf ctx.mailbox).map .mbs))) o ho
    rw [execL_append]
    simp only [execL, hB]
    obtain ⟨s2, _ | _⟩ := o
    · rfl
    · exact closeCD_eq ctx t hw _ env' row.forNp (s1.db.mbSidesOf ctx.mailbox)
        (by rw [henv _ (by decide) (by decide), lookup_setVar_ne _ _ _ _ (by decide)]; exact h1)
        (by rw [henv _ (by decide) (by decide), lookup_setVar_eq])

theorem mailbox_close_eq (ctx : Ctx) (side : String) (mood : Option String) (t : Time) (s : Sys) :
    runMethod callee0 Mailbox_close ctx [.str side, moodSV mood, .int t] s
      = ofRelease (s.mailboxClose ctx.app ctx.mailbox side mood t) := by
  unfold runMethod
  have hb : Mailbox_close.body = Mailbox_close.body.take 5 ++ closeTailBody := (List.take_append_drop 5 _).symm
  rw [hb]
  cases hf : s.db.findMailbox ctx.app ctx.mailbox with
  | none => simp [Mailbox_close, hf, Sys.mailboxClose]
  | some row =>
    cases hs : s.db.findMbSide ctx.mailbox side with
    | none => simp [Mailbox_close, hf, hs, Sys.mailboxClose]
    | some r =>
      simp [Mailbox_close, hf, hs]
      exact close_tail_eq _ side mood t s _ row r rfl (by simp) hf hs

/-- the translated methods are there, under these names -/
theorem translated_methods :
    ["Mailbox.get_messages", "Mailbox.add_listener", "Mailbox.open", "Mailbox._touch", "Mailbox._add_message",
     "Mailbox.add_message", "Mailbox.close",
     "AppNamespace._summarize_nameplate_and_store", "AppNamespace._summarize_mailbox_and_store", "AppNamespace._add_mailbox",
     "AppNamespace.open_mailbox", "AppNamespace.claim_nameplate", "AppNamespace.release_nameplate",
     "AppNamespace.allocate_nameplate", "AppNamespace.log_client_version", "Server.dump_stats", "Server.get_all_apps", "Server.prune_all_apps",
     "AppNamespace._get_nameplate_ids", "AppNamespace.get_nameplate_ids"].all
      (fun n => (GenSrv.table.lookup n).isSome) = true := by simp [GenSrv.table]

/-- what the translated bodies call: translated methods, the two summary functions (translate_summ.py, Tie/SrvSumm.lean), the two primitives of Tie/SrvTop.lean, or `AppNamespace.prune` (Tie/SrvSweep.lean) -/
theorem calls_resolved : (GenSrv.table.flatMap (fun m => XS.callsL m.2.body)).all
    (fun c => c ∈ GenSrv.table.map (·.1) ∨ c = "AppNamespace._summarize_nameplate_usage"
      ∨ c = "AppNamespace._summarize_mailbox" ∨ c = "AppNamespace._find_available_nameplate_id"
      ∨ c = "Mailbox.broadcast_message" ∨ c = "AppNamespace.prune") = true := by decide +kernel

end Wormhole.PySrv
