/-
  Where the attributes the translated methods read come from (regenerated constructors and construction sites,
  GeneratedWire.lean).  Each statement is about the source of THIS run and is proved by evaluation:

    option / database  --makeService-->  make_server parameter  --make_server-->  Server attribute
                       --Server.get_app-->  AppNamespace attribute  --open_mailbox-->  Mailbox attribute

  so that `self._db` of every Mailbox is the channel database opened from `--channel-db`, `self._usage_db` the usage
  database of `--usage-db`, `self._blur_usage` of every AppNamespace the `--blur-usage` option, `self._allow_list` the
  `--allow-list` option, `self._app_id` / `self._mailbox_id` the ids the object was asked for, and an AppNamespace's
  `_log_requests` the Server's (`blur_usage is None`).  A swapped pair of positional arguments (seed C16n: blur_usage and
  log_requests exchanged in a constructor call) or an option wired to the wrong parameter changes one of these.
-/
import Wormhole.GeneratedWire

namespace Wormhole.Tie
open Wormhole.Wire Wormhole.GenWire

/-- all four construction sites bind their arguments to existing parameters, each once -/
theorem wire_calls_well_formed :
    wellFormed make_server_params call_makeService = true ∧
    wellFormed ctor_Server.params call_make_server = true ∧
    wellFormed ctor_AppNamespace.params call_Server_get_app = true ∧
    wellFormed ctor_Mailbox.params call_AppNamespace_open_mailbox = true := by decide +kernel

/-- makeService -> make_server: which option / handle each parameter of `make_server` receives -/
theorem wire_make_server_args :
    bind make_server_params call_makeService =
      [("db", "channel_db"), ("allow_list", "config['allow-list']"), ("advertise_version", "config['advertise-version']"),
       ("signal_error", "config['signal-error']"), ("blur_usage", "config['blur-usage']"), ("usage_db", "usage_db"),
       ("log_file", "log_file"), ("welcome_motd", "config['motd']")] := by decide +kernel

/-- the two handles are the databases opened from the two path options -/
theorem wire_databases :
    opens = [("channel_db", "create_or_upgrade_channel_db", ["config['channel-db']"]),
             ("usage_db", "create_or_upgrade_usage_db", ["config['usage-db']"])] := by decide +kernel

/-- make_server -> Server: the Server's attributes are make_server's parameters of the same meaning -/
theorem wire_server_attrs :
    (["_db", "_allow_list", "_welcome", "_blur_usage", "_usage_db", "_log_requests"].map
        (fun a => attrSource ctor_Server call_make_server a)) =
      [some "db", some "allow_list", some "welcome", some "blur_usage", some "usage_db", some "blur_usage is None"] := by decide +kernel

/-- Server.get_app -> AppNamespace: every attribute of a namespace is the Server's attribute of the same name (and the app id
    asked for) -/
theorem wire_app_attrs :
    (["_db", "_usage_db", "_blur_usage", "_log_requests", "_app_id", "_allow_list"].map
        (fun a => attrSource ctor_AppNamespace call_Server_get_app a)) =
      [some "self._db", some "self._usage_db", some "self._blur_usage", some "self._log_requests", some "app_id",
       some "self._allow_list"] := by decide +kernel

/-- AppNamespace.open_mailbox -> Mailbox: the namespace's own databases and app id, the mailbox id asked for -/
theorem wire_mailbox_attrs :
    (["_app", "_db", "_usage_db", "_app_id", "_mailbox_id"].map
        (fun a => attrSource ctor_Mailbox call_AppNamespace_open_mailbox a)) =
      [some "self", some "self._db", some "self._usage_db", some "self._app_id", some "mailbox_id"] := by decide +kernel

/-- the options the wiring above reads: listing is allowed unless `--disallow-list`, no blurring / usage database / motd /
    advertised version / error unless given, `--blur-usage` and `--log-fd` are integers -/
theorem wire_option_defaults :
    (["blur-usage", "usage-db", "channel-db", "advertise-version", "signal-error", "motd"].map
        (fun k => optionDefaults.lookup k)) =
      [some "None", some "None", some "'relay.sqlite'", some "None", some "None", some "None"] ∧
    optionSetters.filter (fun s => s.2.1 = "allow-list") =
      [("__init__", "allow-list", "True"), ("opt_disallow_list", "allow-list", "False")] ∧
    optionSetters.filter (fun s => s.2.1 = "blur-usage") = [("opt_blur_usage", "blur-usage", "int(arg)")] := by decide +kernel

end Wormhole.Tie
