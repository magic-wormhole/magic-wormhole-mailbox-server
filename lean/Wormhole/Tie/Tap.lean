/-
  The periodic sweep of the CURRENT server_tap.makeService (GeneratedTap.lean, regenerated on every run) is the model's
  `Sys.expire`: same cutoff `now - CHANNEL_EXPIRATION_TIME`, pruning inside a handler that catches every `Exception`, then the
  status row - and it is the function the `TimerService` is given, with `EXPIRATION_CHECK_PERIOD` as its period.
-/
import Wormhole.GeneratedTap

namespace Wormhole.Tie
open Wormhole Wormhole.PyTap

namespace Tap
variable {now : Time} {fault : Bool} {st : St}

theorem execL_nil : execL now fault st [] = st := rfl

/-- `bif`, not `if`: on an `if`, `simp` checks its proofs for the branches against the unsimplified statement by unfolding
    `execS`, and decides the method names by `whnf`, which takes seconds. -/
theorem execL_cons (p : TS) (rest : List TS) :
    execL now fault st (p :: rest)
      = bif (execS now fault st p).escaped then execS now fault st p else execL now fault (execS now fault st p) rest := by
  rw [execL]
  cases (execS now fault st p).escaped <;> rfl

/-- `try: server.prune_all_apps(a, b)` / `except Exception: …`: nothing escapes. The outcome of the pruning is a `match`
    inside the `s` field, not around the state, so the run goes on without a case split. -/
theorem execS_prune {n o : Int} {a b : TE} (ha : eval now st.s.rebooted st.env a = some n)
    (hb : eval now st.s.rebooted st.env b = some o) :
    execS now fault st (.tryCall "prune_all_apps" [a, b] "Exception")
      = { st with s :=
            if fault then (st.s.emit (.fired n o)).emit (.internal none "OperationalError")
            else match (st.s.emit (.fired n o)).pruneApps n o (st.s.emit (.fired n o)).allApps with
              | (s1, true) => s1
              | (s1, false) => s1.emit (.internal none "IndexError") } := by
  cases fault
  · simp only [execS, List.map, ha, hb, catchesAll]
    generalize (st.s.emit (.fired n o)).pruneApps n o _ = r
    rcases r with ⟨s1, _ | _⟩ <;> rfl
  · simp [execS, ha, hb, catchesAll]

end Tap

/-- running the generated `expire()` is `Sys.expire`, and no exception escapes it (the timer loop keeps running) -/
theorem expire_eq (s : Sys) (now : Time) (fault : Bool) :
    run GenTap.expire s now fault = (s.expire now fault, false) := by
  simp [run, GenTap.expire, Tap.execL_cons, Tap.execL_nil, ↓Tap.execS_prune (n := now) (o := now - Generated.expirationTicks),
    execS, eval, constVal, List.lookup_cons, Sys.expire]
  -- equal up to the names of the two `match`es
  rfl

/-- the timer is given `expire` and the period constant that `Generated.periodTicks` is read from (C12_grace, C13's schedule) -/
theorem timer_is_expire_every_period : GenTap.timer = ("EXPIRATION_CHECK_PERIOD", "expire") := by decide

end Wormhole.Tie
