import Wormhole.Basic
import Wormhole.Store
import Wormhole.Generated
import Wormhole.Sys
import Wormhole.Core
import Wormhole.Ws
import Wormhole.Inv.Defs
import Wormhole.Inv.WsBodies
import Wormhole.Inv.Acts
import Wormhole.Props.C16
import Wormhole.Props.C15
import Wormhole.Props.C04
import Wormhole.Props.C09
import Wormhole.Reach
import Wormhole.Props.C17
import Wormhole.Inv.Main
import Wormhole.Props.C18
import Wormhole.Props.C11
import Wormhole.DbFile
import Wormhole.Props.C19
import Wormhole.Props.C20
import Wormhole.Inv.WFDec
import Wormhole.Props.C10
import Wormhole.Props.C17b
import Wormhole.Props.C09b
import Wormhole.Props.C01
import Wormhole.Props.C02
import Wormhole.Props.C12
import Wormhole.Props.C13
import Wormhole.Props.C03
import Wormhole.Props.C07
import Wormhole.Props.Final
import Wormhole.Props.C05
import Wormhole.Props.C08
import Wormhole.Props.C06
import Wormhole.Props.C14
import Wormhole.Reg
import Wormhole.Props.Reg
import Wormhole.Props.C15b
import Wormhole.Props.C16b
import Wormhole.Props.C04b
import Wormhole.Props.C10b
import Wormhole.Decode
import Wormhole.Props.Decode
import Wormhole.Inv.HandleId
import Wormhole.Props.C10c
import Wormhole.Props.Index
import Wormhole.Inv.AckDurClosed
import Wormhole.Props.C10d
import Wormhole.Props.C08b
import Wormhole.Props.C05b
import Wormhole.Props.C09c
import Wormhole.Props.C01b
import Wormhole.Props.C02b
import Wormhole.Props.C13b
import Wormhole.Props.C11b
import Wormhole.Props.C12b
import Wormhole.Props.C17c
import Wormhole.Inv.TchDefs
import Wormhole.Inv.TchCore
import Wormhole.Inv.TchWs
import Wormhole.Props.C14b
import Wormhole.Props.C08c
